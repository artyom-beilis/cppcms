import Cppcms.C05.Lemmas
/-!
# C05 — property theorems

"Whenever loading a session cookie succeeds, the data and expiry returned are exactly those of some
earlier save made with the same key material, and the expiry is not in the past; a cookie that does not
decode to a cipher text this server produced is rejected without crashing and the cookie is cleared.
Saving then loading returns the saved data for every payload."

Primitives are parameters with explicit contracts (`MacAlg.Lawful`, `CbcAlg.Lawful`); authenticity is
stated under the explicit ideal-MAC hypothesis `Spec.Unforgeable`.  `Spec.TimeOk t` is the `int64` range of `time_t`.
`Spec.SizeOk n` is `n < 2^64` (true of every `std::string`); like `M.size < 2^32` it stands in several statements and
no proof needs it: every `size_t` subtraction of the code comes after the check that keeps it from wrapping.

Confidentiality ("an encrypting backend reveals neither the payload nor whether two payloads are equal")
is a probabilistic statement no executable model expresses; only its bookkeeping is proved
(`confidentiality_partial`, DESIGN.md's iv_fresh_per_object; `encrypt_iv_independent_of_prior_decrypt`): PARTIAL.
-/
namespace Cppcms.C05.Props
open Cppcms Cppcms.C05

/-- `hmac_cipher::equal`: with `n` readable bytes behind both pointers it reads nothing else and answers
true iff ALL `n` bytes agree. -/
theorem equal_all_bytes (a b : Bytes) (n : Nat) (ha : n ≤ a.length) (hb : n ≤ b.length) :
    equal a b n = .ok (decide (a.take n = b.take n)) :=
  equal_spec a b n ha hb

theorem hmac_roundtrip (M : MacAlg) (hM : M.Lawful) (k p : Bytes) (hp : Spec.SizeOk (p.length + M.size)) :
    hmacDecrypt M k (hmacEncrypt M k p) = .ok p := by
  obtain ⟨hs, ht, hd⟩ := split_tag M hM k p
  rw [hmacEncrypt, hmacDecrypt_closed M hM, hs, ht, hd, if_pos ⟨by rw [List.length_append, hM]; omega, rfl⟩]

/-- hmac back-end: success means the cipher text is `p ‖ Mac k p` — the tag is computed over exactly the
returned message and compared in full. -/
theorem hmac_load_sound (M : MacAlg) (hM : M.Lawful) (k c p : Bytes) (h : hmacDecrypt M k c = .ok p) :
    Spec.HmacValid (M.tag k) c p := by
  rw [hmacDecrypt_closed M hM] at h
  split at h
  · rename_i hc; cases h; rw [Spec.HmacValid, hc.2, List.take_append_drop]
  · cases h

/-- hmac back-end: no undefined behaviour for ANY cipher text (truncated, empty, shorter than a digest…). -/
theorem hmac_rejects_cleanly (M : MacAlg) (hM : M.Lawful) (k c : Bytes) : hmacDecrypt M k c ≠ .ub := by
  rw [hmacDecrypt_closed M hM]
  split <;> simp

/-- The three size checks of `aes_cipher::decrypt` (as generated from the source, with the source's block
size) guarantee that `real_size - block_size - sizeof(size)` does not wrap, that the length field and the
MAC lie inside the cipher text, and that `real_size` is a whole number (≥ 2) of blocks.  (About the generated
conditions in their own right: `aesDecrypt_closed` redoes this arithmetic on the literals and does not use it.) -/
theorem aes_no_underflow (cs ds : Nat) (hcs : Spec.SizeOk cs)
    (h1 : Gen.aesDecReject1 cs ds Gen.cbcBlock = false)
    (h2 : Gen.aesDecReject2 (Gen.aesRealSize cs ds) Gen.cbcBlock = false)
    (h3 : Gen.aesDecReject3 (Gen.aesRealSize cs ds) Gen.cbcBlock = false) :
    Gen.aesRealSize cs ds + ds = cs ∧
    Gen.aesDecLenOff Gen.cbcBlock + 4 ≤ Gen.aesRealSize cs ds ∧
    Gen.wsub (Gen.wsub (Gen.aesRealSize cs ds) Gen.cbcBlock) 4 + Gen.aesDecDataOff Gen.cbcBlock = Gen.aesRealSize cs ds ∧
    2 * Gen.cbcBlock ≤ Gen.aesRealSize cs ds ∧ Gen.cbcBlock ∣ Gen.aesRealSize cs ds := by
  have h1 : ¬ cs < ds + 16 := of_decide_eq_false h1
  rw [Gen.aesRealSize, wsub_eq (by omega)] at *
  have h2 : (cs - ds) % 16 = 0 := by simpa [Gen.aesDecReject2, Gen.cbcBlock] using h2
  have h3 : ¬ (cs - ds) / 16 < 2 := of_decide_eq_false h3
  rw [Gen.cbcBlock, Gen.aesDecLenOff, Gen.aesDecDataOff, wsub_eq (a := cs - ds) (by omega), wsub_eq (by omega)]
  exact ⟨by omega, by omega, by omega, by omega, Nat.dvd_of_mod_eq_zero h2⟩

/-- aes back-end: decrypt ∘ encrypt = id for every payload of at most 4 GiB − 36, whatever the IV state of the
encrypting object (`st`) and of the decrypting object (`st2`).  (The shape of the cipher text,
`E(frame) ‖ Mac(E(frame))`, is `aesEncrypt_closed`.) -/
theorem aes_roundtrip (C : CbcAlg) (M : MacAlg) (hC : C.Lawful) (hM : M.Lawful)
    (ck mk : Bytes) (st st2 : AesSt) (p : Bytes) (hp : p.length + 36 ≤ 2 ^ 32) :
    ∃ c st', aesEncrypt C M ck mk st p = (.ok c, st') ∧ (aesDecrypt C M ck mk st2 c).1 = .ok p :=
  ⟨_, _, aesEncrypt_closed C M hC ck mk st p hp, aesDecrypt_enc C M hC hM ck mk st.ivEnc st2 p hp⟩

/-- aes back-end: success means `c = body ‖ Mac mk body` with the tag over the ENTIRE CBC text `body` (first
block and length field included), `body` a whole number ≥ 2 of blocks, and the payload is what the framing
says about the decrypted buffer; for cipher texts below 4 GiB that buffer is the CBC decryption of all of
`body` (`Spec.AesValid`).  Nothing is accepted on a prefix, on a short block, or before the length field
is authenticated. -/
theorem aes_load_sound (C : CbcAlg) (M : MacAlg) (hC : C.Lawful) (hM : M.Lawful)
    (ck mk : Bytes) (st : AesSt) (c p : Bytes) (h : (aesDecrypt C M ck mk st c).1 = .ok p) :
    ∃ body, c = body ++ M.tag mk body ∧ 16 ∣ body.length ∧ 32 ≤ body.length ∧
      Spec.aesPayload 16 (aesFull C ck st.ivDec c body.length) = some p ∧
      (c.length < 2 ^ 32 → Spec.AesValid (M.tag mk) (C.dec ck st.ivDec) 16 c body p) := by
  rw [aesDecrypt_closed C M hC hM] at h
  split at h
  case isFalse => cases h
  case isTrue accepted =>
    obtain ⟨h32, h16, htag⟩ := accepted
    have hsplit : c = c.take (c.length - M.size) ++ M.tag mk (c.take (c.length - M.size)) := by
      rw [htag, List.take_append_drop]
    have hdvd := Nat.dvd_of_mod_eq_zero h16
    refine ⟨_, hsplit, ?_⟩
    rw [Spec.AesValid, List.length_take_of_le (Nat.sub_le ..)]
    cases hq : Spec.aesPayload 16 (aesFull C ck st.ivDec c (c.length - M.size)) <;> rw [hq] at h <;> cases h
    exact ⟨hdvd, by omega, rfl, fun hs => ⟨hsplit, hdvd, by omega,
      by rw [← aesFull_small C ck _ c _ (by omega)]; exact hq⟩⟩

/-- aes back-end: no undefined behaviour for ANY cipher text: every read (`cipher.c_str()+real_size`, the
length field at `full_plain[block_size]`, the payload `assign`) is inside its buffer, no subtraction wraps. -/
theorem aes_rejects_cleanly (C : CbcAlg) (M : MacAlg) (hC : C.Lawful) (hM : M.Lawful)
    (ck mk : Bytes) (st : AesSt) (c : Bytes) : (aesDecrypt C M ck mk st c).1 ≠ .ub := by
  rw [aesDecrypt_closed C M hC hM]
  split
  · dsimp only; split <;> simp
  · simp

theorem cookieLoad_complete (dec : Bytes → Res Bytes) (now t : Int) (cookie cipher d : Bytes)
    (hc : cookieCipher cookie = some cipher) (hd : dec cipher = .ok (timeBytes t ++ d))
    (ht : Spec.TimeOk t) (hnow : now ≤ t) :
    cookieLoad dec now cookie = ⟨.ok (d, t), false⟩ := by
  rw [cookieLoad_closed, hc]
  simp only [hd, decodeBody_time t d ht]
  rw [if_neg (by omega)]

/-- Round trip of the cookie layer over any encryptor whose `decrypt` inverts its `encrypt` on this
plaintext: the cookie is `'C' ‖ base64url(cipher)`, loading it at any `now ≤ t` (`t` a `time_t`) returns exactly
`(d, t)` and does not clear the cookie. -/
theorem cookie_roundtrip (enc dec : Bytes → Res Bytes) (now t : Int) (d cipher : Bytes)
    (ht : Spec.TimeOk t) (hnow : now ≤ t)
    (he : enc (timeBytes t ++ d) = .ok cipher) (hd : dec cipher = .ok (timeBytes t ++ d)) :
    cookieSave enc false t d = .ok (67 :: C15.b64encodeStr cipher) ∧
    cookieLoad dec now (67 :: C15.b64encodeStr cipher) = ⟨.ok (d, t), false⟩ := by
  refine ⟨by rw [cookieSave, if_neg Bool.false_ne_true, he]; rfl, cookieLoad_complete dec now t _ cipher d ?_ hd ht hnow⟩
  rw [cookieCipher_cons, if_neg (fun h => h rfl), b64_decode_encode]

/-- Soundness of the cookie layer: success means the cookie is `'C' ‖ text`, `text` base64url-decodes to
a cipher text the encryptor accepts, the accepted plaintext is `time_t t ‖ d`, and `now ≤ t`; the cookie
is not cleared. -/
theorem cookie_load_sound (dec : Bytes → Res Bytes) (now t : Int) (cookie d : Bytes) (cl : Bool)
    (h : cookieLoad dec now cookie = ⟨.ok (d, t), cl⟩) :
    cl = false ∧ now ≤ t ∧ ∃ cipher plain, cookieCipher cookie = some cipher ∧ dec cipher = .ok plain ∧
      Spec.decodeBody plain = some (d, t) := by
  rw [cookieLoad_closed] at h
  split at h
  · cases h             -- no cipher text
  · rename_i cipher hc
    split at h
    · cases h           -- `ub`
    · cases h           -- `fail`
    · rename_i plain hd
      split at h
      · cases h         -- short plaintext
      · rename_i d' t' hb
        split at h <;> cases h   -- expired, or accepted
        exact ⟨rfl, by omega, cipher, plain, hc, hd, hb⟩

/-- For EVERY cookie string and every encryptor that has no undefined behaviour on
the cipher text the cookie decodes to, `session_cookies::load` has none either (no index out of bounds, no
uncaught `substr` exception); every failing path with a cookie present clears it (the empty cookie has
nothing to clear); a success never clears. -/
theorem rejects_cleanly (dec : Bytes → Res Bytes) (now : Int) (cookie : Bytes)
    (hdec : ∀ cipher, cookieCipher cookie = some cipher → dec cipher ≠ .ub) :
    (cookieLoad dec now cookie).result ≠ .ub ∧
    ((cookieLoad dec now cookie).result = .fail → (cookieLoad dec now cookie).cleared = !cookie.isEmpty) ∧
    (∀ v, (cookieLoad dec now cookie).result = .ok v → (cookieLoad dec now cookie).cleared = false) := by
  rw [cookieLoad_closed]
  split
  · simp
  · rename_i cipher hc
    have hne : cookie.isEmpty = false := by
      cases cookie with
      | nil => cases hc
      | cons _ _ => rfl
    have := hdec cipher hc
    rw [hne]
    split
    · contradiction     -- `ub`
    · simp              -- `fail`
    · split
      · simp            -- short plaintext
      · split <;> simp  -- expired, or accepted

/-- Save then load, hmac back-end (hmac-md5 … hmac-sha512: any `MacAlg`): for every payload,
every expiry in the `time_t` range and every `now ≤ t`. -/
theorem save_load_roundtrip_hmac (M : MacAlg) (hM : M.Lawful) (k d : Bytes) (now t : Int)
    (ht : Spec.TimeOk t) (hnow : now ≤ t) (hsz : Spec.SizeOk (8 + d.length + M.size)) :
    ∃ cookie, hmacSave M k t d = .ok cookie ∧ hmacLoad M k now cookie = ⟨.ok (d, t), false⟩ :=
  ⟨_, cookie_roundtrip (fun p => .ok (hmacEncrypt M k p)) (hmacDecrypt M k) now t d _ ht hnow rfl
    (hmac_roundtrip M hM k _ (by rw [List.length_append, timeBytes_length]; exact hsz))⟩

/-- Save then load, aes back-end (aes-128/192/256 + any HMAC, split or derived keys: any lawful
`CbcAlg`/`MacAlg` and any keys): for every payload of at most 4 GiB − 44 bytes, every `time_t` expiry, every `now ≤ t`, and
any IV state of the saving (`st`) and of the loading (`st2`) object. -/
theorem save_load_roundtrip_aes (C : CbcAlg) (M : MacAlg) (hC : C.Lawful) (hM : M.Lawful) (hds : M.size < 2 ^ 32)
    (ck mk : Bytes) (st st2 : AesSt) (d : Bytes) (now t : Int)
    (ht : Spec.TimeOk t) (hnow : now ≤ t) (hsz : d.length + 44 ≤ 2 ^ 32) :
    ∃ cookie, aesSave C M ck mk st t d = .ok cookie ∧
      aesLoadCookie C M ck mk st2 now cookie = ⟨.ok (d, t), false⟩ := by
  obtain ⟨c, st', h1, h3⟩ := aes_roundtrip C M hC hM ck mk st st2 (timeBytes t ++ d)
    (by rw [List.length_append, timeBytes_length]; omega)
  exact ⟨_, cookie_roundtrip (fun p => (aesEncrypt C M ck mk st p).1)
    (fun x => (aesDecrypt C M ck mk st2 x).1) now t d c ht hnow (by simp only [h1]) h3⟩

/-- hmac back-end, end to end: success ⇒ `now ≤ t`, the cookie decodes (`cookieCipher`) to a `cipher` with
`cipher = body ‖ Mac k body` and `body = time_t t ‖ d` — the MAC equation holds over the entire body. -/
theorem load_sound_hmac (M : MacAlg) (hM : M.Lawful) (k cookie d : Bytes) (now t : Int) (cl : Bool)
    (hsz : Spec.SizeOk cookie.length) (h : hmacLoad M k now cookie = ⟨.ok (d, t), cl⟩) :
    cl = false ∧ now ≤ t ∧ ∃ cipher body, cookieCipher cookie = some cipher ∧
      Spec.HmacValid (M.tag k) cipher body ∧ Spec.decodeBody body = some (d, t) := by
  obtain ⟨hcl, hnow, cipher, plain, hc, hdec, hbody⟩ := cookie_load_sound (hmacDecrypt M k) now t cookie d cl h
  exact ⟨hcl, hnow, cipher, plain, hc, hmac_load_sound M hM k cipher plain hdec, hbody⟩

/-- aes back-end, end to end: success ⇒ `now ≤ t`, the cookie decodes (`cookieCipher`) to a `cipher`,
`cipher = body ‖ Mac mk body` over the whole CBC text (≥ 2 whole blocks), and the framed payload of the
CBC decryption of `body` is `time_t t ‖ d` (`Spec.AesValid`; cookies below 4 GiB). -/
theorem load_sound_aes (C : CbcAlg) (M : MacAlg) (hC : C.Lawful) (hM : M.Lawful)
    (ck mk : Bytes) (st : AesSt) (cookie d : Bytes) (now t : Int) (cl : Bool)
    (hsz : cookie.length < 2 ^ 32) (h : aesLoadCookie C M ck mk st now cookie = ⟨.ok (d, t), cl⟩) :
    cl = false ∧ now ≤ t ∧ ∃ cipher body plain, cookieCipher cookie = some cipher ∧
      Spec.AesValid (M.tag mk) (C.dec ck st.ivDec) 16 cipher body plain ∧
      Spec.decodeBody plain = some (d, t) := by
  obtain ⟨hcl, hnow, cipher, plain, hc, hdec, hbody⟩ :=
    cookie_load_sound (fun x => (aesDecrypt C M ck mk st x).1) now t cookie d cl h
  have hlen := cookieCipher_length cookie cipher hc
  obtain ⟨body, -, -, -, -, hvalid⟩ := aes_load_sound C M hC hM ck mk st cipher plain hdec
  exact ⟨hcl, hnow, cipher, body, plain, hc, hvalid (by omega), hbody⟩

theorem rejects_cleanly_hmac (M : MacAlg) (hM : M.Lawful) (k cookie : Bytes) (now : Int)
    (hsz : Spec.SizeOk cookie.length) :
    (hmacLoad M k now cookie).result ≠ .ub ∧
    ((hmacLoad M k now cookie).result = .fail → (hmacLoad M k now cookie).cleared = !cookie.isEmpty) ∧
    (∀ v, (hmacLoad M k now cookie).result = .ok v → (hmacLoad M k now cookie).cleared = false) :=
  rejects_cleanly _ now cookie fun cipher _ => hmac_rejects_cleanly M hM k cipher

theorem rejects_cleanly_aes (C : CbcAlg) (M : MacAlg) (hC : C.Lawful) (hM : M.Lawful) (hds : M.size < 2 ^ 32)
    (ck mk : Bytes) (st : AesSt) (cookie : Bytes) (now : Int) (hsz : Spec.SizeOk cookie.length) :
    (aesLoadCookie C M ck mk st now cookie).result ≠ .ub ∧
    ((aesLoadCookie C M ck mk st now cookie).result = .fail →
      (aesLoadCookie C M ck mk st now cookie).cleared = !cookie.isEmpty) ∧
    (∀ v, (aesLoadCookie C M ck mk st now cookie).result = .ok v →
      (aesLoadCookie C M ck mk st now cookie).cleared = false) :=
  rejects_cleanly _ now cookie fun cipher _ => aes_rejects_cleanly C M hC hM ck mk st cipher

/-- Authenticity, hmac back-end.  `issued` = the `(data, `TimeOk` expiry)` pairs saved earlier under key `k`;
the bodies MAC'ed by the server are `time_t t ‖ d` for those pairs.  HYPOTHESIS `Spec.Unforgeable`: the
presented cipher text verifies only if its body is one of them.  Then a successful load returns one of the
issued pairs, unexpired. -/
theorem authenticity_hmac (M : MacAlg) (hM : M.Lawful) (k cookie cipher d : Bytes) (now t : Int) (cl : Bool)
    (issued : List (Bytes × Int)) (hissued : ∀ x ∈ issued, Spec.TimeOk x.2)
    (hsz : Spec.SizeOk cookie.length) (hc : cookieCipher cookie = some cipher)
    (hU : Spec.Unforgeable (M.tag k) (issued.map fun x => timeBytes x.2 ++ x.1) cipher)
    (h : hmacLoad M k now cookie = ⟨.ok (d, t), cl⟩) :
    (d, t) ∈ issued ∧ now ≤ t := by
  obtain ⟨-, hnow, cipher', body, hc', hvalid, hbody⟩ := load_sound_hmac M hM k cookie d now t cl hsz h
  cases hc.symm.trans hc'
  obtain ⟨x, hx, rfl⟩ := List.mem_map.1 (hU body hvalid)
  rw [decodeBody_time x.2 x.1 (hissued x hx)] at hbody
  cases hbody
  exact ⟨hx, hnow⟩

/-- Authenticity, aes back-end.  `issued` = `(iv, data, expiry)` triples: the saves made earlier with
this key material (expiries `TimeOk`, data at most 4 GiB − 44), each with whatever IV the CBC object had; the bodies MAC'ed by the server are the CBC
texts of their frames.  Under `Spec.Unforgeable`, a successful load (any IV state of the loading object)
returns the data and expiry of one of them, unexpired. -/
theorem authenticity_aes (C : CbcAlg) (M : MacAlg) (hC : C.Lawful) (hM : M.Lawful) (hds : M.size < 2 ^ 32)
    (ck mk : Bytes) (st : AesSt) (cookie cipher d : Bytes) (now t : Int) (cl : Bool)
    (issued : List (Bytes × Bytes × Int))
    (hissued : ∀ x ∈ issued, Spec.TimeOk x.2.2 ∧ x.2.1.length + 44 ≤ 2 ^ 32)
    (hsz : cookie.length < 2 ^ 32) (hc : cookieCipher cookie = some cipher)
    (hU : Spec.Unforgeable (M.tag mk)
      (issued.map fun x => C.enc ck x.1 (aesFrame (timeBytes x.2.2 ++ x.2.1))) cipher)
    (h : aesLoadCookie C M ck mk st now cookie = ⟨.ok (d, t), cl⟩) :
    (∃ iv, (iv, d, t) ∈ issued) ∧ now ≤ t := by
  obtain ⟨-, hnow, cipher', plain, hc', hdec, hbody⟩ :=
    cookie_load_sound (fun x => (aesDecrypt C M ck mk st x).1) now t cookie d cl h
  cases hc.symm.trans hc'
  obtain ⟨body, hsplit, -⟩ := aes_load_sound C M hC hM ck mk st cipher plain hdec
  obtain ⟨⟨iv, d', t'⟩, hx, rfl⟩ := List.mem_map.1 (hU body hsplit)
  obtain ⟨hto, hlen⟩ := hissued _ hx
  -- the cipher text is one this server issued: `decrypt` of it is the plaintext saved with it
  rw [hsplit, aesDecrypt_enc C M hC hM ck mk iv st _ (by rw [List.length_append, timeBytes_length]; omega)] at hdec
  cases hdec
  rw [decodeBody_time t' d' hto] at hbody
  cases hbody
  exact ⟨⟨iv, hx⟩, hnow⟩

/-- The loading side's MAC function is `M.tag k` (written `tag`; the aes back-end gets `k` as its MAC key, `ck` is its CBC
key).  `hU` and `hforeign` together say just that the presented cipher text is `body ‖ tag body` for no body (`signed` plays no further role; under the
ideal-MAC reading: a cookie made under a different key, MAC algorithm or back-end).  Then both back-ends reject,
clear the cookie, and do not crash. -/
theorem wrong_key_or_algo (C : CbcAlg) (M : MacAlg) (hC : C.Lawful) (hM : M.Lawful) (hds : M.size < 2 ^ 32)
    (k ck : Bytes) (st : AesSt) (cookie cipher : Bytes) (now : Int) (signed : List Bytes)
    (hsz : cookie.length < 2 ^ 32) (hc : cookieCipher cookie = some cipher)
    (hU : Spec.Unforgeable (M.tag k) signed cipher)
    (hforeign : ∀ body ∈ signed, cipher ≠ body ++ M.tag k body) :
    hmacLoad M k now cookie = ⟨.fail, true⟩ ∧ aesLoadCookie C M ck k st now cookie = ⟨.fail, true⟩ := by
  -- an encryptor that neither crashes nor accepts anything but `body ‖ tag body` can only reject
  have key : ∀ dec : Bytes → Res Bytes, dec cipher ≠ .ub →
      (∀ p, dec cipher = .ok p → ∃ body, cipher = body ++ M.tag k body) →
      cookieLoad dec now cookie = ⟨.fail, true⟩ := by
    intro dec hub hs
    rw [cookieLoad_closed, hc]
    dsimp only
    cases hd : dec cipher with
    | ub => exact absurd hd hub
    | fail => rfl
    | ok p =>
      obtain ⟨body, hb⟩ := hs p hd
      exact absurd hb (hforeign body (hU body hb))
  refine ⟨key (hmacDecrypt M k) (hmac_rejects_cleanly M hM k cipher) fun p hp => ⟨p, hmac_load_sound M hM k cipher p hp⟩,
    key (fun x => (aesDecrypt C M ck k st x).1) (aes_rejects_cleanly C M hC hM ck k st cipher) fun p hp => ?_⟩
  obtain ⟨body, hb, _⟩ := aes_load_sound C M hC hM ck k st cipher p hp
  exact ⟨body, hb⟩

theorem aesPayload_congr (b : Nat) (f g : Bytes) (hl : f.length = g.length) (hd : f.drop b = g.drop b) :
    Spec.aesPayload b f = Spec.aesPayload b g := by
  have h4 : f.drop (b + 4) = g.drop (b + 4) := by rw [← List.drop_drop, ← List.drop_drop, hd]
  rw [Spec.aesPayload, Spec.aesPayload, hd, hl, h4]

/-- Bookkeeping behind the confidentiality clause (the clause itself is claimed PARTIAL).
(1) the two IVs of a cipher object are the first 16+16 bytes drawn from the entropy source at its first
use, (2) a loaded object does not draw again, (3) the
first plaintext block (payloads below 4 GiB) is an all-zero dummy, so the unknown IV only garbles a block that is thrown away,
(4) hence — for a CBC whose decryption depends on the IV only in the first block — `decrypt` of a cipher text
below 4 GiB gives the same answer whatever the IV state of the decrypting object. -/
theorem confidentiality_partial (C : CbcAlg) (M : MacAlg) (hC : C.Lawful) (hM : M.Lawful) (hds : M.size < 2 ^ 32)
    (ck mk : Bytes) :
    (∀ e, aesLoad none e = ({ ivEnc := e.take 16, ivDec := (e.drop 16).take 16 }, e.drop 32)) ∧
    (∀ s e, aesLoad (some s) e = (s, e)) ∧
    (∀ p : Bytes, p.length < 2 ^ 32 → aesInput C p = some (aesFrame p) ∧ (aesFrame p).take 16 = zeros 16) ∧
    ((∀ k iv iv' x, (C.dec k iv x).drop C.block = (C.dec k iv' x).drop C.block) →
      ∀ st st' c, c.length < 2 ^ 32 → (aesDecrypt C M ck mk st c).1 = (aesDecrypt C M ck mk st' c).1) := by
  refine ⟨fun e => rfl, fun s e => rfl, fun p hp => ⟨aesInput_closed C hC.block_eq p hp, ?_⟩, fun hiv st st' c hc => ?_⟩
  · rw [aesFrame, List.append_assoc, List.append_assoc, List.take_left' (zeros_length 16)]
  · rw [aesDecrypt_closed C M hC hM, aesDecrypt_closed C M hC hM]
    split
    · have := hiv ck st.ivDec st'.ivDec (c.take (c.length - M.size))
      rw [hC.block_eq] at this
      rw [aesFull_small C ck st.ivDec c _ (by omega), aesFull_small C ck st'.ivDec c _ (by omega),
        aesPayload_congr 16 _ _ (by rw [hC.dec_len, hC.dec_len]) this]
    · rfl

theorem set_dec_ivEnc (st : AesSt) (v : Bytes) : (st.set Gen.cbcDecIvSlot v).ivEnc = st.ivEnc := rfl

/-- `aes_cipher::decrypt` never writes the encryption IV, whatever the cipher text and on every path -/
theorem decrypt_keeps_ivEnc (C : CbcAlg) (M : MacAlg) (ck mk : Bytes) (st : AesSt) (c : Bytes) :
    (aesDecrypt C M ck mk st c).2.ivEnc = st.ivEnc := by
  have hs : ∀ (n : Nat) (v : Bytes), (if n = 0 then st else st.set Gen.cbcDecIvSlot v).ivEnc = st.ivEnc :=
    fun n v => by
      split
      · rfl
      · exact set_dec_ivEnc st v
  -- every path ends in the old state or in the one after `cbc_->decrypt`
  fun_cases aesDecrypt C M ck mk st c
  all_goals first | rfl | exact hs _ _

theorem encrypt_reads_ivEnc_only (C : CbcAlg) (M : MacAlg) (ck mk : Bytes) (st st' : AesSt) (p : Bytes)
    (h : st.ivEnc = st'.ivEnc) :
    (aesEncrypt C M ck mk st p).1 = (aesEncrypt C M ck mk st' p).1 ∧
    (aesEncrypt C M ck mk st p).2.ivEnc = (aesEncrypt C M ck mk st' p).2.ivEnc := by
  unfold aesEncrypt
  simp only [get_enc_slot, set_enc_slot, h]
  by_cases hb : C.block = 0
  · rw [if_pos hb, if_pos hb]; exact ⟨rfl, h⟩
  rw [if_neg hb, if_neg hb]
  cases aesInput C p with
  | none => exact ⟨rfl, h⟩
  | some input =>
    refine ⟨rfl, ?_⟩
    dsimp only
    split
    · exact h
    · rfl

/-- Bookkeeping behind "an encrypting back-end does not reveal whether two payloads are equal".
The IV `encrypt` uses comes from the entropy source at the object's first use, and it is never a function of
data supplied to `decrypt`: after ANY sequence of decryptions of ANY (client supplied) cipher texts, `encrypt`
produces exactly the cipher text, and leaves exactly the encryption IV, it would have without them.
(The two IV members of the cbc object are modelled in C16 as well: `Cppcms.C16.Props.cbc_interleaved_calls`.)
Which IV member `encrypt`/`decrypt` use is generated from `src/aes.cpp` (`Gen.cbcEncIvSlot/cbcDecIvSlot`). -/
theorem encrypt_iv_independent_of_prior_decrypt (C : CbcAlg) (M : MacAlg) (ck mk : Bytes) (st : AesSt)
    (cs : List Bytes) (p : Bytes) :
    let st' := cs.foldl (fun s c => (aesDecrypt C M ck mk s c).2) st
    (aesEncrypt C M ck mk st' p).1 = (aesEncrypt C M ck mk st p).1 ∧
    (aesEncrypt C M ck mk st' p).2.ivEnc = (aesEncrypt C M ck mk st p).2.ivEnc ∧
    (∀ e, (aesLoad none e).1.ivEnc = e.take 16) := by
  have hfold : (cs.foldl (fun s c => (aesDecrypt C M ck mk s c).2) st).ivEnc = st.ivEnc := by
    induction cs generalizing st with
    | nil => rfl
    | cons c cs ih => rw [List.foldl_cons, ih, decrypt_keeps_ivEnc]
  obtain ⟨h1, h2⟩ := encrypt_reads_ivEnc_only C M ck mk _ st p hfold
  exact ⟨h1, h2, fun e => rfl⟩

theorem hmacCipherNew_key {a algo : String} {k key : Bytes} (h : hmacCipherNew a k = .ok (.hmac algo key)) :
    16 ≤ key.length := by
  unfold hmacCipherNew at h
  by_cases hk : Gen.hmacKeyRefused k.length = true
  · rw [if_pos hk] at h; cases h
  · rw [if_neg hk] at h
    cases hd : digestSize a <;> rw [hd] at h <;> cases h
    exact Nat.le_of_not_lt fun hlt => hk (decide_eq_true hlt)

theorem aesFactoryNew_ne_hmac (mac : String → MacAlg) (algo : String) (k : Bytes) (a : String) (key : Bytes) :
    aesFactoryNew mac algo k ≠ .ok (.hmac a key) := by
  fun_cases aesFactoryNew mac algo k <;> intro h <;> cases h

theorem aesFactory4New_ne_hmac (cbc : String) (ck : Bytes) (m : String) (mk : Bytes) (a : String) (key : Bytes) :
    aesFactory4New cbc ck m mk ≠ .ok (.hmac a key) := by
  fun_cases aesFactory4New cbc ck m mk <;> intro h <;> cases h

theorem isEmpty_false {s : String} (h : s ≠ "") : s.isEmpty = false :=
  Bool.eq_false_iff.2 fun e => h (String.isEmpty_iff.1 e)

/-- **configuration refusals** of `session_pool::init` (+ `hmac_cipher`'s constructor), conditions as
generated from the source: (1) a CBC cipher without a MAC is refused; (2) client-side storage without any
method is refused; (3) mixing the two configuration styles is refused; (4) every accepted signature-only
configuration has a key of at least 16 bytes. -/
theorem config_refusals (mac : String → MacAlg) (c : ClientCfg) :
    (c.encryptor = "" → c.hmac = "" → c.cbc ≠ "" → poolInit mac c = .error .cbcWithoutMac) ∧
    (c.encryptor = "" → c.hmac = "" → c.cbc = "" → poolInit mac c = .error .noMethod) ∧
    (c.encryptor ≠ "" → (c.hmac ≠ "" ∨ c.cbc ≠ "") → poolInit mac c = .error .bothStyles) ∧
    (∀ algo key, poolInit mac c = .ok (.hmac algo key) → 16 ≤ key.length) := by
  refine ⟨fun h1 h2 h3 => ?_, fun h1 h2 h3 => ?_, fun h1 h23 => ?_, fun algo key => ?_⟩
  · rw [poolInit, h1, h2, isEmpty_false h3]; rfl
  · rw [poolInit, h1, h2, h3]; rfl
  · rw [poolInit, isEmpty_false h1]
    rcases h23 with h | h <;> rw [isEmpty_false h]
    · cases c.cbc.isEmpty <;> rfl
    · cases c.hmac.isEmpty <;> rfl
  · -- the cases of `poolInit`, in the order of its text: 1–3 the refusals, 4 `encryptor = "hmac"`,
    -- 5 `encryptor = "hmac-…"`, 6 `encryptor = "aes…"`, 7 unknown encryptor, 8 `hmac` without `cbc`,
    -- 9 `cbc` + `hmac`. An `.hmac` result comes from `hmac_cipher`'s constructor (4, 5, 8) only.
    fun_cases poolInit mac c <;> intro h
    case case4 | case5 | case8 => exact hmacCipherNew_key h
    case case6 => exact absurd h (aesFactoryNew_ne_hmac _ _ _ _ _)
    case case9 => exact absurd h (aesFactory4New_ne_hmac _ _ _ _ _ _)
    all_goals cases h

theorem sha1_size : digestSize Gen.aesDefaultMac = some 20 := by decide +kernel

/-- **Key splitting / derivation of `aes_factory(algo,key)`**: an accepted key either has exactly the length
`cbc key ‖ 20-byte sha1 key` and is cut there, or
it is at least as long as the CBC key (itself below 512 bits) and BOTH keys are derived from it by HMAC (sha256 for
keys up to 256 bits, else sha512) over two DIFFERENT one-byte labels; a key shorter than the CBC key is refused. -/
theorem aes_factory_keys (mac : String → MacAlg) (algo : String) (k : Bytes) (cks : Nat)
    (hcks : cbcKeySize algo = some cks) :
    (k.length = cks + 20 →
      aesFactoryNew mac algo k = .ok (.aes algo (k.take cks) "sha1" (k.drop cks)) ∧ k.take cks ++ k.drop cks = k) ∧
    (k.length ≠ cks + 20 → cks ≤ k.length → cks * 8 < 512 →
      ∃ name, (name = "sha256" ∧ k.length * 8 ≤ 256 ∨ name = "sha512" ∧ 256 < k.length * 8) ∧
        aesFactoryNew mac algo k =
          .ok (.aes algo (((mac name).tag k [48]).take cks) "sha1" (((mac name).tag k [1]).take 20))) ∧
    (k.length ≠ cks + 20 → k.length < cks → aesFactoryNew mac algo k = .error .badKeyLength) ∧
    Gen.aesDeriveLabel1 ≠ Gen.aesDeriveLabel2 := by
  refine ⟨fun hl => ⟨?_, List.take_append_drop _ _⟩, fun hl hge h512 => ?_, fun hl hlt => ?_, by decide⟩
  all_goals
    rw [aesFactoryNew, hcks, sha1_size]
    simp only [Gen.aesKeySplit, Gen.aesKeyDerive, Gen.aesDeriveSmall, beq_iff_eq, decide_eq_true_eq, Bool.and_eq_true,
      ge_iff_le]
  · rw [if_pos hl, List.take_of_length_le (l := k.drop cks) (by rw [List.length_drop]; omega)]; rfl
  · rw [if_neg hl, if_pos ⟨hge, h512⟩]
    by_cases hs : k.length * 8 ≤ 256
    · exact ⟨"sha256", .inl ⟨rfl, hs⟩, by rw [if_pos hs]; rfl⟩
    · exact ⟨"sha512", .inr ⟨rfl, by omega⟩, by rw [if_neg hs]; rfl⟩
  · rw [if_neg hl, if_neg (by omega)]

/-- what the check's judge is told about a model/implementation answer -/
def acceptedOf (o : LoadOut) : Option (Int × Bytes) :=
  match o.result with
  | .ok (d, t) => some (t, d)
  | _ => none

/-- **The run-time judge is a theorem about the model.**  `saves` are the earlier saves; `bodyOf x` is what
the server MAC'ed for `x`.  For any encryptor `dec` with MAC function `tag` that (N) has no undefined
behaviour on the presented cipher text, (S) accepts only `body ‖ tag body`, (I) round-trips the issued cipher
texts; and under (U) the ideal-MAC hypothesis at the presented cipher text — the property predicate
`Spec.judgeLoad`, which the check evaluates on the IMPLEMENTATION's answers, holds of the model's answer for
EVERY cookie string and clock value. -/
theorem judge_generic {σ : Type} (dec : Bytes → Res Bytes) (tag : Bytes → Bytes) (now : Int) (cookie : Bytes)
    (saves : List σ) (bodyOf dataOf : σ → Bytes) (timeOf : σ → Int)
    (hN : ∀ c, cookieCipher cookie = some c → dec c ≠ .ub)
    (hS : ∀ c p, cookieCipher cookie = some c → dec c = .ok p → ∃ body, c = body ++ tag body)
    (hU : ∀ c, cookieCipher cookie = some c → Spec.Unforgeable tag (saves.map bodyOf) c)
    (hI : ∀ x ∈ saves, Spec.TimeOk (timeOf x) ∧
      dec (bodyOf x ++ tag (bodyOf x)) = .ok (timeBytes (timeOf x) ++ dataOf x)) :
    Spec.judgeLoad (saves.map fun x => ⟨bodyOf x ++ tag (bodyOf x), dataOf x, timeOf x⟩) now cookie.isEmpty
      (cookieCipher cookie) (acceptedOf (cookieLoad dec now cookie)) (cookieLoad dec now cookie).cleared = true := by
  obtain ⟨r1, r2, -⟩ := rejects_cleanly dec now cookie hN
  generalize ho : cookieLoad dec now cookie = o at *
  obtain ⟨res, cl⟩ := o
  cases res with
  | ub => exact absurd rfl r1
  | ok v =>
    obtain ⟨d, t⟩ := v
    obtain ⟨rfl, hnow, cipher, plain, hc, hd, hb⟩ := cookie_load_sound dec now t cookie d cl ho
    -- the accepted body verifies, so it is an issued one, and `dec` of its cipher text is what was saved
    obtain ⟨body, hsplit⟩ := hS cipher plain hc hd
    obtain ⟨x, hx, rfl⟩ := List.mem_map.1 (hU cipher hc body hsplit)
    cases (hsplit ▸ hd).symm.trans (hI x hx).2
    rw [decodeBody_time _ _ (hI x hx).1] at hb
    cases hb
    simp only [Spec.judgeLoad, acceptedOf, hc, hnow, List.any_map]
    simpa using ⟨x, hx, ⟨hsplit.symm, rfl⟩, rfl⟩
  | fail =>
    have hcl : cl = !cookie.isEmpty := r2 rfl
    cases hc : cookieCipher cookie with
    | none => simp [Spec.judgeLoad, acceptedOf, hcl]
    | some cipher =>
      -- an issued, unexpired cipher text would have been accepted
      have hno : ∀ x ∈ saves, bodyOf x ++ tag (bodyOf x) = cipher → ¬ now ≤ timeOf x := fun x hx hxc hn => by
        have := cookieLoad_complete dec now _ cookie cipher _ hc (hxc ▸ (hI x hx).2) (hI x hx).1 hn
        rw [ho] at this
        cases this
      simpa [Spec.judgeLoad, acceptedOf, hcl, List.any_map] using hno

/-- `judge_generic` for the hmac back-end: `saves` are the `(data, expiry)` pairs saved earlier under `k`;
the judge is given their cipher texts. -/
theorem judge_holds_hmac (M : MacAlg) (hM : M.Lawful) (k cookie : Bytes) (now : Int)
    (saves : List (Bytes × Int))
    (hT : ∀ x ∈ saves, Spec.TimeOk x.2 ∧ Spec.SizeOk (8 + x.1.length + M.size))
    (hsz : Spec.SizeOk cookie.length)
    (hU : ∀ c, cookieCipher cookie = some c →
      Spec.Unforgeable (M.tag k) (saves.map fun x => timeBytes x.2 ++ x.1) c) :
    Spec.judgeLoad (saves.map fun x => ⟨hmacEncrypt M k (timeBytes x.2 ++ x.1), x.1, x.2⟩) now cookie.isEmpty
      (cookieCipher cookie) (acceptedOf (hmacLoad M k now cookie)) (hmacLoad M k now cookie).cleared = true := by
  refine judge_generic (hmacDecrypt M k) (M.tag k) now cookie saves (fun x => timeBytes x.2 ++ x.1) (·.1) (·.2)
    (fun c _ => hmac_rejects_cleanly M hM k c)
    (fun c p _ hd => ⟨p, hmac_load_sound M hM k c p hd⟩) hU fun x hx => ?_
  obtain ⟨ht, hs⟩ := hT x hx
  exact ⟨ht, hmac_roundtrip M hM k _ (by rw [List.length_append, timeBytes_length]; exact hs)⟩

/-- `judge_generic` for the aes back-end: `saves` are `(iv, data, expiry)` triples (the IV the saving object
had); the loading object may be in any IV state. -/
theorem judge_holds_aes (C : CbcAlg) (M : MacAlg) (hC : C.Lawful) (hM : M.Lawful) (hds : M.size < 2 ^ 32)
    (ck mk : Bytes) (st : AesSt) (cookie : Bytes) (now : Int)
    (saves : List (Bytes × Bytes × Int))
    (hT : ∀ x ∈ saves, Spec.TimeOk x.2.2 ∧ x.2.1.length + 44 ≤ 2 ^ 32)
    (hsz : cookie.length < 2 ^ 32)
    (hU : ∀ c, cookieCipher cookie = some c → Spec.Unforgeable (M.tag mk)
      (saves.map fun x => C.enc ck x.1 (aesFrame (timeBytes x.2.2 ++ x.2.1))) c) :
    Spec.judgeLoad
      (saves.map fun x =>
        ⟨C.enc ck x.1 (aesFrame (timeBytes x.2.2 ++ x.2.1)) ++ M.tag mk (C.enc ck x.1 (aesFrame (timeBytes x.2.2 ++ x.2.1))),
         x.2.1, x.2.2⟩)
      now cookie.isEmpty (cookieCipher cookie)
      (acceptedOf (aesLoadCookie C M ck mk st now cookie)) (aesLoadCookie C M ck mk st now cookie).cleared = true := by
  refine judge_generic (fun x => (aesDecrypt C M ck mk st x).1) (M.tag mk) now cookie saves
    (fun x => C.enc ck x.1 (aesFrame (timeBytes x.2.2 ++ x.2.1))) (·.2.1) (·.2.2)
    (fun c _ => aes_rejects_cleanly C M hC hM ck mk st c)
    (fun c p _ hd => (aes_load_sound C M hC hM ck mk st c p hd).imp fun _ h => h.1) hU fun x hx => ?_
  obtain ⟨ht, hlen⟩ := hT x hx
  exact ⟨ht, aesDecrypt_enc C M hC hM ck mk x.1 st _ (by rw [List.length_append, timeBytes_length]; omega)⟩

/-! ## The full statement, and what of it is proved

The full statement (not provable in any executable model; kept here so that the gap is visible):

* for the REAL HMAC and AES-CBC, for every polynomially bounded client that has seen any number of cookies
  issued under a secret key, the probability that it presents a cookie which `load` accepts and which does
  not decode to an issued cipher text is negligible            — proved here: `authenticity_*`,
  `wrong_key_or_algo` with that event excluded by HYPOTHESIS (`Spec.Unforgeable`), and `load_sound_*`
  (acceptance ⇒ the MAC equation over the whole body) without `Spec.Unforgeable`;
* cookies of an encrypting back-end are computationally independent of the payload (IND-CPA)
                                                               — proved here: only `confidentiality_partial`
  and `encrypt_iv_independent_of_prior_decrypt`.

Everything else in the property's statement (round trip for every back-end and payload, aes up to 4 GiB − 44;
expiry not in the past, rejection without crash + cookie cleared for every cookie string) is proved for
the model, under the primitives' contracts `MacAlg.Lawful` / `CbcAlg.Lawful`. -/

/-- a toy MAC with a 2-byte tag -/
def toyMac : MacAlg :=
  { tag := fun k m => [UInt8.ofNat ((k ++ m).foldl (fun a b => a + b.toNat) 0), UInt8.ofNat m.length], size := 2 }

/-- a toy "CBC" that ignores the IV -/
def toyCbc : CbcAlg :=
  { enc := fun k _ x => x.map (· ^^^ k.headD 0), dec := fun k _ x => x.map (· ^^^ k.headD 0), block := 16, keySize := 16 }

example : toyMac.Lawful := fun _ _ => rfl

example : toyCbc.Lawful :=
  { block_eq := rfl
    enc_len := fun _ _ _ => List.length_map _
    dec_len := fun _ _ _ => List.length_map _
    dec_enc := fun k _ _ x _ => by simp [toyCbc, Function.comp_def, UInt8.xor_assoc] }

example : Spec.TimeOk 1700000000 ∧ Spec.TimeOk (-5) := by unfold Spec.TimeOk; omega

/-- the ideal-MAC hypothesis holds of an honestly issued cipher text … -/
example : Spec.Unforgeable (toyMac.tag [7]) [[1, 2, 3]] ([1, 2, 3] ++ toyMac.tag [7] [1, 2, 3]) := by
  intro body h
  have hl : body.length = 3 := by simpa [toyMac] using (congrArg List.length h).symm
  match body, hl with
  | [a, b, c], _ => simp_all [toyMac]

/-- … and is a real restriction: it fails for a forged one (so the authenticity theorems are not vacuous
implications from an unsatisfiable or a trivial hypothesis) -/
example : ¬ Spec.Unforgeable (toyMac.tag [7]) [[1, 2, 3]] ([9] ++ toyMac.tag [7] [9]) := by
  intro h
  have := h [9] rfl
  simp at this

example : hmacSave toyMac [7] 5 [104, 105] = .ok [67, 66, 81, 65, 65, 65, 65, 65, 65, 65, 65, 66, 111, 97, 100, 48, 75] := by
  decide +kernel
example : hmacLoad toyMac [7] 5 [67, 66, 81, 65, 65, 65, 65, 65, 65, 65, 65, 66, 111, 97, 100, 48, 75] = ⟨.ok ([104, 105], 5), false⟩ := by
  decide +kernel
example : hmacLoad toyMac [7] 6 [67, 66, 81, 65, 65, 65, 65, 65, 65, 65, 65, 66, 111, 97, 100, 48, 75] = ⟨.fail, true⟩ := by
  decide +kernel
example : hmacLoad toyMac [7] 5 [67, 66, 81, 65, 65, 65, 65, 65, 65, 65, 65, 66, 111, 97, 100, 48, 76] = ⟨.fail, true⟩ := by
  decide +kernel
example : hmacLoad toyMac [7] 5 [] = ⟨.fail, false⟩ := by decide +kernel

example : aesSave toyCbc toyMac [9] [7] ⟨[], []⟩ 5 [104, 105] = .ok [67, 67, 81, 107, 74, 67, 81, 107, 74, 67, 81, 107, 74, 67, 81, 107, 74, 67, 81, 107, 74, 67, 81, 77, 74, 67, 81, 107, 77, 67, 81, 107, 74, 67, 81, 107, 74, 67, 87, 70, 103, 67, 81, 110, 84, 73, 65] := by
  decide +kernel
example : aesLoadCookie toyCbc toyMac [9] [7] ⟨[1], [2]⟩ 5 [67, 67, 81, 107, 74, 67, 81, 107, 74, 67, 81, 107, 74, 67, 81, 107, 74, 67, 81, 107, 74, 67, 81, 77, 74, 67, 81, 107, 77, 67, 81, 107, 74, 67, 81, 107, 74, 67, 87, 70, 103, 67, 81, 110, 84, 73, 65] = ⟨.ok ([104, 105], 5), false⟩ := by
  decide +kernel
example : aesLoadCookie toyCbc toyMac [9] [7] ⟨[1], [2]⟩ 5 [67, 67, 81, 107, 74, 67, 81, 107, 74, 67, 81, 107, 74, 67, 81, 107, 74, 67, 81, 107, 74, 67, 81, 77, 74, 67, 81, 107, 77, 67, 81, 107, 74, 67, 81, 107, 74, 67, 87, 70, 104, 67, 81, 110, 84, 73, 65] = ⟨.fail, true⟩ := by
  decide +kernel

end Cppcms.C05.Props
