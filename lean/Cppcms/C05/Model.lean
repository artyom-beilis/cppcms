import Cppcms.Common
import Cppcms.C05.Gen
import Cppcms.C15.Model
/-!
# C05 model: client-side session cookies

Executable transcription of

* `src/hmac_encryptor.cpp` — `hmac_cipher::{encrypt,decrypt,equal}` and the constructor's key check,
* `src/aes_encryptor.cpp` — `aes_cipher::{load,encrypt,decrypt}`, `aes_factory(algo,key)` key splitting/derivation,
* `src/session_cookies.cpp` — `session_cookies::{save,load}`,
* `src/session_pool.cpp` — the configuration refusals of `session_pool::init`.

All size checks, size formulas, offsets, constants and comparison operators come from `Gen.lean`
(regenerated from the C++ source on every run).  `size_t` subtraction is `Gen.wsub` (wraps modulo
2^64, as the compiled code does), the `uint32_t`/`unsigned` conversions are explicit `% 2^32`, and every
memory read goes through `rd`, which yields `none` outside the buffer, so that undefined behaviour is an
explicit outcome (`Res.ub`) the theorems exclude, not something the model cannot express.

The cryptographic primitives are parameters: `MacAlg` (`crypto::hmac` with a fixed digest) and
`CbcAlg` (`crypto::cbc`).  base64url is the (proved, source-generated) model of C15.
-/
namespace Cppcms.C05
open Cppcms

/-- outcome of a piece of C++: value, clean rejection (`return false` / documented `throw` of a refusal),
or undefined behaviour / out-of-bounds access / uncaught library exception. -/
inductive Res (α : Type) where
  | ok (a : α)
  | fail
  | ub
deriving Repr, DecidableEq

def zeros (n : Nat) : Bytes := List.replicate n 0

/-- `k` little-endian bytes of `n` (memcpy of an integer on the little-endian host) -/
def leBytes : Nat → Nat → Bytes
  | 0, _ => []
  | k + 1, n => UInt8.ofNat (n % 256) :: leBytes k (n / 256)

def leVal : Bytes → Nat
  | [] => 0
  | b :: r => b.toNat + 256 * leVal r

/-- read `len` bytes at offset `off` of a buffer of `b.length` bytes; `none` = out of bounds -/
def rd (b : Bytes) (off len : Nat) : Option Bytes :=
  if off + len ≤ b.length then some ((b.drop off).take len) else none

/-- `memcpy(&buf[off], data, data.size())` into a buffer; `none` = out of bounds -/
def wr (buf : Bytes) (off : Nat) (data : Bytes) : Option Bytes :=
  if off + data.length ≤ buf.length then some (buf.take off ++ data ++ buf.drop (off + data.length)) else none

/-- `crypto::hmac(name,key)`: `tag key msg` is what `append(msg); readout()` writes; `size = digest_size()` -/
structure MacAlg where
  tag : Bytes → Bytes → Bytes
  size : Nat

/-- `crypto::cbc`: `enc key iv data`, `dec key iv data`, `block_size()`, `key_size()` -/
structure CbcAlg where
  enc : Bytes → Bytes → Bytes → Bytes
  dec : Bytes → Bytes → Bytes → Bytes
  block : Nat
  keySize : Nat

def two32 : Nat := 4294967296

/-! ## hmac_cipher -/

/-- the `for` loop of `hmac_cipher::equal`; `a`,`b` are the two buffers from the passed pointers on.
`fuel` only makes the definition structural (`equal` supplies enough, see `Lemmas.equal_spec`). -/
def equalLoop (a b : Bytes) (n : Nat) : (fuel i diff : Nat) → Res Nat
  | 0, _, _ => .ub
  | fuel + 1, i, diff =>
    if Gen.eqCont i n then
      match a[i]?, b[i]? with
      | some x, some y => equalLoop a b n fuel (i + 1) (if x ≠ y then diff + 1 else diff)
      | _, _ => .ub
    else .ok diff

/-- `static bool hmac_cipher::equal(void const *a,void const *b,size_t n)` -/
def equal (a b : Bytes) (n : Nat) : Res Bool :=
  match equalLoop a b n (n + 1) Gen.eqStart Gen.eqDiff0 with
  | .ok d => .ok (Gen.eqRet d)
  | .fail => .fail
  | .ub => .ub

/-- `hmac_cipher::encrypt` -/
def hmacEncrypt (M : MacAlg) (key plain : Bytes) : Bytes :=
  plain ++ M.tag key plain

/-- `hmac_cipher::decrypt` -/
def hmacDecrypt (M : MacAlg) (key cipher : Bytes) : Res Bytes :=
  let cs := cipher.length
  let ds := M.size
  if Gen.hmacDecReject cs ds then .fail else
  let ms := Gen.hmacMsgSize cs ds
  match rd cipher 0 ms with                       -- md.append(cipher.c_str(),message_size)
  | none => .ub
  | some msg =>
    let mac := M.tag key msg
    match equal mac (cipher.drop ms) ds with        -- equal(&mac[0],cipher.c_str()+message_size,digest_size)
    | .ok true => .ok (cipher.take ms)              -- cipher.substr(0,message_size)
    | .ok false => .fail
    | _ => .ub

/-! ## aes_cipher -/

/-- the two IVs kept inside the `crypto::cbc` object (`iv_enc_`, `iv_dec_`); OpenSSL's
`AES_cbc_encrypt` leaves the last cipher block in the IV it was given -/
structure AesSt where
  ivEnc : Bytes
  ivDec : Bytes
deriving Repr, DecidableEq

/-- `aes_cipher::load()` on first use: `set_nonce_iv()` draws the two IVs from the entropy source.
Returns the state and the unused entropy. -/
def aesLoad (st : Option AesSt) (entropy : Bytes) : AesSt × Bytes :=
  match st with
  | some s => (s, entropy)
  | none =>
    ({ ivEnc := entropy.take Gen.ivEncBytes,
       ivDec := (entropy.drop Gen.ivEncBytes).take Gen.ivDecBytes },
     entropy.drop (Gen.ivEncBytes + Gen.ivDecBytes))

/-- IV member `slot` of the cbc object (`0` = `iv_enc_`, anything else = `iv_dec_`); which member
`encrypt`/`decrypt` use is generated from the source (`Gen.cbcEncIvSlot`, `Gen.cbcDecIvSlot`) -/
def AesSt.get (st : AesSt) (slot : Nat) : Bytes := if slot = 0 then st.ivEnc else st.ivDec
def AesSt.set (st : AesSt) (slot : Nat) (v : Bytes) : AesSt :=
  if slot = 0 then { st with ivEnc := v } else { st with ivDec := v }

def lastBlock (bs : Nat) (x : Bytes) : Bytes := x.drop (x.length - bs)

/-- the plaintext buffer `input` of `aes_cipher::encrypt` (before CBC): a zero first block (its
content is irrelevant because of the IV), the `uint32_t` length, the data, zero padding -/
def aesInput (C : CbcAlg) (plain : Bytes) : Option Bytes :=
  let size := plain.length % 2 ^ Gen.aesLenBits
  let bsz := Gen.aesEncBufSize size C.block
  match wr (zeros bsz) (Gen.aesEncLenOff C.block) (leBytes 4 size) with
  | none => none
  | some b1 => wr b1 (Gen.aesEncDataOff C.block) plain

/-- `aes_cipher::encrypt` (object already loaded) -/
def aesEncrypt (C : CbcAlg) (M : MacAlg) (ckey mkey : Bytes) (st : AesSt) (plain : Bytes) : Res Bytes × AesSt :=
  if C.block = 0 then (.ub, st) else                   -- division by `cbc_block_size`
  match aesInput C plain with
  | none => (.ub, st)                                   -- memcpy past `input` (plain.size() ≥ 2^32)
  | some input =>
    let bsz := input.length
    let n := bsz % two32                                -- cbc_->encrypt(in,out,unsigned len)
    let enc := C.enc ckey (st.get Gen.cbcEncIvSlot) (input.take n)
    let output := enc ++ zeros (bsz - n)
    let st' := if n = 0 then st else st.set Gen.cbcEncIvSlot (lastBlock C.block enc)
    (.ok (output ++ M.tag mkey output), st')

/-- `aes_cipher::decrypt` (object already loaded) -/
def aesDecrypt (C : CbcAlg) (M : MacAlg) (ckey mkey : Bytes) (st : AesSt) (cipher : Bytes) : Res Bytes × AesSt :=
  let ds := M.size
  let bs := C.block
  let cs := cipher.length
  if Gen.aesDecReject1 cs ds bs then (.fail, st) else
  let real := Gen.aesRealSize cs ds
  if bs = 0 then (.ub, st) else                         -- `% block_size`
  if Gen.aesDecReject2 real bs then (.fail, st) else
  if Gen.aesDecReject3 real bs then (.fail, st) else
  match rd cipher 0 real with                           -- signature.append(cipher.c_str(),real_size)
  | none => (.ub, st)
  | some body =>
    let verify := M.tag mkey body
    match equal verify (cipher.drop real) ds with       -- equal(&verify[0],cipher.c_str()+real_size,digest_size)
    | .ok false => (.fail, st)
    | .ok true =>
      let n := real % two32                             -- cbc_->decrypt(in,out,unsigned len)
      match rd cipher 0 n with
      | none => (.ub, st)
      | some cin =>
        let full := C.dec ckey (st.get Gen.cbcDecIvSlot) cin ++ zeros (real - n)      -- full_plain(real_size)
        let st' := if n = 0 then st else st.set Gen.cbcDecIvSlot (lastBlock bs cin)
        match rd full (Gen.aesDecLenOff bs) 4 with      -- memcpy(&size,&full_plain[block_size],4)
        | none => (.ub, st')
        | some lb =>
          let size := leVal lb
          if Gen.aesDecReject4 size real bs then (.fail, st') else
          match rd full (Gen.aesDecDataOff bs) size with  -- plain.assign(&full_plain[0]+block_size+4,size)
          | none => (.ub, st')
          | some p => (.ok p, st')
    | _ => (.ub, st)

/-! ## session_cookies -/

def two64 : Int := 18446744073709551616

/-- `reinterpret_cast<char*>(&timeout)`, 8 bytes: two's complement little endian -/
def timeBytes (t : Int) : Bytes := leBytes 8 (t % two64).toNat

/-- `memcpy(&timeout,tmp.data(),sizeof(time_t))` into a signed 64-bit integer -/
def timeVal (b : Bytes) : Int :=
  let n : Int := (leVal b : Nat)
  if n < 9223372036854775808 then n else n - two64

/-- what `session_cookies::load` did: `result` (`ok (data, timeout)` = returned true; `fail` = returned
false), and whether `session.clear_session_cookie()` was called -/
structure LoadOut where
  result : Res (Bytes × Int)
  cleared : Bool
deriving Repr, DecidableEq

/-- `session_cookies::save`: the value passed to `set_session_cookie`; `fail` = the `on_server` throw -/
def cookieSave (encrypt : Bytes → Res Bytes) (onServer : Bool) (timeout : Int) (data : Bytes) : Res Bytes :=
  if onServer then .fail else
  match encrypt (timeBytes timeout ++ data) with
  | .ok cipher => .ok (C15.ofNats Gen.cookiePrefix ++ C15.b64encodeStr cipher)
  | .fail => .fail
  | .ub => .ub

/-- the cipher text handed to `encryptor_->decrypt` (none: `decrypt` is not reached) -/
def cookieCipher (cookie : Bytes) : Option Bytes :=
  match cookie with
  | [] => none
  | c0 :: _ =>
    if c0.toNat != Gen.cookieTag then none
    else if Gen.cookieSkip > cookie.length then none
    else C15.b64decode (cookie.drop Gen.cookieSkip) []

/-- `session_cookies::load` -/
def cookieLoad (decrypt : Bytes → Res Bytes) (now : Int) (cookie : Bytes) : LoadOut :=
  match cookie with
  | [] => ⟨.fail, false⟩                                 -- cdata.empty(): nothing to clear
  | c0 :: _ =>
    if c0.toNat != Gen.cookieTag then ⟨.fail, true⟩ else
    if Gen.cookieSkip > cookie.length then ⟨.ub, false⟩ else      -- substr throws
    match C15.b64decode (cookie.drop Gen.cookieSkip) [] with
    | none => ⟨.fail, true⟩
    | some cipher =>
      match decrypt cipher with
      | .ub => ⟨.ub, false⟩
      | .fail => ⟨.fail, true⟩
      | .ok tmp =>
        if Gen.loadShort tmp.length then ⟨.fail, true⟩ else
        match rd tmp 0 Gen.timeSize with                -- memcpy(&timeout,tmp.data(),sizeof(time_t))
        | none => ⟨.ub, false⟩
        | some tb =>
          let timeout := timeVal tb
          if Gen.loadExpired timeout now then ⟨.fail, true⟩ else
          if Gen.timeSize > tmp.length then ⟨.ub, false⟩ else     -- substr throws
          ⟨.ok (tmp.drop Gen.timeSize, timeout), false⟩

/-! ### the two back-ends as used by the theorems -/

/-- `session_cookies(hmac_cipher)`: save / load -/
def hmacSave (M : MacAlg) (key : Bytes) (timeout : Int) (data : Bytes) : Res Bytes :=
  cookieSave (fun p => .ok (hmacEncrypt M key p)) false timeout data
def hmacLoad (M : MacAlg) (key : Bytes) (now : Int) (cookie : Bytes) : LoadOut :=
  cookieLoad (hmacDecrypt M key) now cookie

/-- `session_cookies(aes_cipher)` with the CBC object in IV state `st`: save / load -/
def aesSave (C : CbcAlg) (M : MacAlg) (ckey mkey : Bytes) (st : AesSt) (timeout : Int) (data : Bytes) : Res Bytes :=
  cookieSave (fun p => (aesEncrypt C M ckey mkey st p).1) false timeout data
def aesLoadCookie (C : CbcAlg) (M : MacAlg) (ckey mkey : Bytes) (st : AesSt) (now : Int) (cookie : Bytes) : LoadOut :=
  cookieLoad (fun c => (aesDecrypt C M ckey mkey st c).1) now cookie

/-! ## configuration -/

inductive CfgErr where
  | noMethod | bothStyles | cbcWithoutMac | unknownEncryptor | keyTooSmall | unknownCbc | badKeyLength | unknownHash
deriving Repr, DecidableEq

/-- what `session_pool::init` installs as encryptor factory -/
inductive EncCfg where
  | hmac (algo : String) (key : Bytes)
  | aes (cbc : String) (ckey : Bytes) (mac : String) (mkey : Bytes)
deriving Repr, DecidableEq

def lower (s : String) : String := String.ofList (s.toList.map fun c => if 'A' ≤ c ∧ c ≤ 'Z' then Char.ofNat (c.toNat + 32) else c)

/-- `message_digest::create_by_name(name)->digest_size()` -/
def digestSize (name : String) : Option Nat := Gen.digestSizes.lookup (lower name)

/-- `cbc::create(name)->key_size()` -/
def cbcKeySize (name : String) : Option Nat := (Gen.cbcNames.lookup name).map Gen.cbcKeySize

/-- `hmac_factory::get()` → `hmac_cipher::hmac_cipher`: refuses short keys.  (An unknown hash name is
only detected by `crypto::hmac` at the first encrypt/decrypt: modelled as `unknownHash` here.) -/
def hmacCipherNew (algo : String) (key : Bytes) : Except CfgErr EncCfg :=
  if Gen.hmacKeyRefused key.length then .error .keyTooSmall
  else match digestSize algo with
    | none => .error .unknownHash
    | some _ => .ok (.hmac (lower algo) key)

/-- `aes_factory::aes_factory(algo,key)`; `mac name` is `crypto::hmac(name,·)` -/
def aesFactoryNew (mac : String → MacAlg) (algo : String) (k : Bytes) : Except CfgErr EncCfg :=
  match cbcKeySize algo, digestSize Gen.aesDefaultMac with
  | some cks, some ds =>
    if Gen.aesKeySplit k.length cks ds then
      .ok (.aes algo (k.take cks) Gen.aesDefaultMac ((k.drop cks).take ds))
    else if Gen.aesKeyDerive k.length cks then
      let name := if Gen.aesDeriveSmall k.length then Gen.aesDeriveHashSmall else Gen.aesDeriveHashLarge
      let k1 := (mac name).tag k (C15.ofNats Gen.aesDeriveLabel1)
      let k2 := (mac name).tag k (C15.ofNats Gen.aesDeriveLabel2)
      .ok (.aes algo (k1.take cks) Gen.aesDefaultMac (k2.take ds))
    else .error .badKeyLength
  | none, _ => .error .unknownCbc
  | _, none => .error .unknownHash

/-- `aes_factory(cbc,cbc_key,mac,hmac_key)`: nothing is checked at construction; at first use
`aes_cipher::load` finds an unknown CBC name, `cbc::set_key` throws on a wrong key size, then an unknown
hash name is found (in this order).  The MAC key may have any length. -/
def aesFactory4New (cbc : String) (ckey : Bytes) (mac : String) (mkey : Bytes) : Except CfgErr EncCfg :=
  match cbcKeySize cbc with
  | none => .error .unknownCbc
  | some cks =>
    if ckey.length != cks then .error .badKeyLength
    else match digestSize mac with
      | none => .error .unknownHash
      | some _ => .ok (.aes cbc ckey (lower mac) mkey)

/-- the `session.client.*` settings read by `session_pool::init` (keys already hex-decoded) -/
structure ClientCfg where
  encryptor : String
  hmac : String
  cbc : String
  key : Bytes
  hmacKey : Bytes
  cbcKey : Bytes
deriving Repr

def isPrefix (p s : String) : Bool := p.toList.isPrefixOf s.toList

/-- `session_pool::init` for `location = client`, followed by `factory->get()` (where `hmac_cipher`
checks the key length) -/
def poolInit (mac : String → MacAlg) (c : ClientCfg) : Except CfgErr EncCfg :=
  let ee := c.encryptor.isEmpty; let me := c.hmac.isEmpty; let ce := c.cbc.isEmpty
  if Gen.poolNoMethod ee me ce then .error .noMethod
  else if Gen.poolBothStyles ee me ce then .error .bothStyles
  else if Gen.poolCbcWithoutMac ee me ce then .error .cbcWithoutMac
  else if !ee then
    if c.encryptor == "hmac" then hmacCipherNew Gen.poolDefaultHmac c.key
    else if isPrefix "hmac-" c.encryptor then hmacCipherNew (String.ofList (c.encryptor.toList.drop 5)) c.key
    else if isPrefix "aes" c.encryptor then aesFactoryNew mac c.encryptor c.key
    else .error .unknownEncryptor
  else if ce then hmacCipherNew c.hmac c.hmacKey
  else aesFactory4New c.cbc c.cbcKey c.hmac c.hmacKey

end Cppcms.C05
