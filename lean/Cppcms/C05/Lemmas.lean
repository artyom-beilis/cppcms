import Cppcms.C05.Model
import Cppcms.C05.Spec
import Cppcms.C15.Props
/-! The contracts of the two primitives (`MacAlg.Lawful`, `CbcAlg.Lawful`), then closed forms of the operations of the
C05 model, with the generated conditions read as plain arithmetic. -/
namespace Cppcms.C05
open Cppcms

/-- `readout` writes exactly `digest_size()` bytes -/
def MacAlg.Lawful (M : MacAlg) : Prop := ∀ k m, (M.tag k m).length = M.size

/-- contract of `crypto::cbc` (AES-CBC): block size as in the source, length preserving, and decryption
under ANY IV recovers everything but the first block of a whole-block input (proved for CBC over a block
permutation in C16; here a hypothesis) -/
structure CbcAlg.Lawful (C : CbcAlg) : Prop where
  block_eq : C.block = Gen.cbcBlock
  enc_len : ∀ k iv x, (C.enc k iv x).length = x.length
  dec_len : ∀ k iv x, (C.dec k iv x).length = x.length
  dec_enc : ∀ k iv iv' x, C.block ∣ x.length →
    (C.dec k iv' (C.enc k iv x)).drop C.block = x.drop C.block

-- two of the three facts about C15's base64url codec the cookie layer rests on (the third: `C15.Props.b64decode_eq`)
theorem decode_writes_within (t : Bytes) (m : Nat) (h : C15.Gen.decodedSize t.length = some m) :
    (C15.b64decodeRaw t).length = m :=
  C15.Props.decode_writes_within t m h

theorem b64_decode_encode (s : Bytes) : C15.b64decode (C15.b64encodeStr s) [] = some s :=
  C15.Props.b64_decode_encode s

theorem decodedSize_le {n m : Nat} (h : C15.Gen.decodedSize n = some m) : m ≤ n := by
  simp only [C15.Gen.decodedSize, beq_iff_eq] at h
  split at h
  · cases h
  split at h
  · cases h; omega
  split at h <;> cases h <;> omega

theorem b64decode_length (r c : Bytes) (h : C15.b64decode r [] = some c) : c.length ≤ r.length := by
  rw [C15.Props.b64decode_eq] at h
  cases hds : C15.Gen.decodedSize r.length with
  | none => rw [hds] at h; cases h
  | some ds =>
    rw [hds] at h
    cases h
    rw [decode_writes_within r ds hds]
    exact decodedSize_le hds

theorem wsub_eq {a b : Nat} (h : b ≤ a) : Gen.wsub a b = a - b := if_pos h

theorem zeros_length (n : Nat) : (zeros n).length = n := List.length_replicate

theorem zeros_add (m n : Nat) : zeros (m + n) = zeros m ++ zeros n := List.replicate_append_replicate.symm

theorem leBytes_length (k n : Nat) : (leBytes k n).length = k := by
  induction k generalizing n with
  | zero => rfl
  | succ k ih => simp [leBytes, ih]

theorem leVal_leBytes (k n : Nat) : leVal (leBytes k n) = n % 256 ^ k := by
  induction k generalizing n with
  | zero => simp [leBytes, leVal, Nat.mod_one]
  | succ k ih =>
    rw [leBytes, leVal, ih, UInt8.toNat_ofNat', Nat.mod_mod_of_dvd _ (by decide : 256 ∣ 2 ^ 8), Nat.pow_succ,
      Nat.mul_comm (256 ^ k) 256, Nat.mod_mul]

theorem leVal_eq_spec (b : Bytes) : leVal b = Spec.le b := by
  induction b with
  | nil => rfl
  | cons x r ih => simp [leVal, Spec.le, ih]

theorem leVal_lt (b : Bytes) : leVal b < 256 ^ b.length := by
  induction b with
  | nil => simp [leVal]
  | cons x r ih =>
    simp only [leVal, List.length_cons, Nat.pow_succ]
    have := x.toNat_lt
    omega

theorem timeVal_eq_spec (b : Bytes) : timeVal b = Spec.signed64 (Spec.le b) := by
  unfold timeVal Spec.signed64 two64
  rw [← leVal_eq_spec]
  by_cases h : leVal b < 2 ^ 63
  · rw [if_pos (by omega), if_pos h]
  · rw [if_neg (by omega), if_neg h]; rfl

theorem timeBytes_length (t : Int) : (timeBytes t).length = 8 := leBytes_length _ _

theorem timeVal_timeBytes (t : Int) (ht : Spec.TimeOk t) : timeVal (timeBytes t) = t := by
  unfold Spec.TimeOk at ht
  unfold timeVal timeBytes two64
  rw [leVal_leBytes, show (256 : Nat) ^ 8 = 18446744073709551616 by decide]
  simp only []
  omega

theorem decodeBody_time (t : Int) (d : Bytes) (ht : Spec.TimeOk t) :
    Spec.decodeBody (timeBytes t ++ d) = some (d, t) := by
  have hl : (timeBytes t).length = 8 := timeBytes_length t
  rw [Spec.decodeBody, if_neg (by rw [List.length_append, hl]; omega), List.take_left' hl, List.drop_left' hl,
    ← timeVal_eq_spec, timeVal_timeBytes t ht]

theorem rd_some {b : Bytes} {off len : Nat} (h : off + len ≤ b.length) :
    rd b off len = some ((b.drop off).take len) := if_pos h

theorem rd_eq_some {b : Bytes} {off len : Nat} {r : Bytes} (h : rd b off len = some r) :
    off + len ≤ b.length ∧ r = (b.drop off).take len := by
  unfold rd at h
  split at h
  · exact ⟨‹_›, (Option.some.inj h).symm⟩
  · cases h

theorem rd_zero_eq_some {b : Bytes} {len : Nat} {r : Bytes} (h : rd b 0 len = some r) :
    len ≤ b.length ∧ r = b.take len := by
  simpa using rd_eq_some h

theorem wr_zeros {a : Bytes} {off : Nat} (hoff : a.length = off) (data : Bytes) {n : Nat} (h : data.length ≤ n) :
    wr (a ++ zeros n) off data = some (a ++ data ++ zeros (n - data.length)) := by
  subst hoff
  rw [wr, if_pos (by rw [List.length_append, zeros_length]; omega), List.take_left' rfl, List.drop_append,
    List.drop_of_length_le (Nat.le_add_right ..), Nat.add_sub_cancel_left, zeros, List.drop_replicate]
  rfl

/-- invariant of the loop of `equal`: `diff = 0` says that the first `i` bytes agree -/
theorem equalLoop_spec (a b : Bytes) (n : Nat) (ha : n ≤ a.length) (hb : n ≤ b.length) :
    ∀ fuel i diff, i ≤ n → n - i < fuel → (diff = 0 ↔ a.take i = b.take i) →
      ∃ d, equalLoop a b n fuel i diff = .ok d ∧ (d = 0 ↔ a.take n = b.take n) := by
  intro fuel
  induction fuel with
  | zero => intro i diff _ h; omega
  | succ fuel ih =>
    intro i diff hi hf inv
    rw [equalLoop, Gen.eqCont]
    by_cases hlt : i < n
    · have hia : i < a.length := by omega
      have hib : i < b.length := by omega
      simp only [hlt, decide_true, if_true, List.getElem?_eq_getElem hia, List.getElem?_eq_getElem hib]
      refine ih (i + 1) _ hlt (by omega) ?_
      rw [List.take_succ_eq_append_getElem hia, List.take_succ_eq_append_getElem hib, List.append_singleton_inj, ← inv]
      by_cases hxy : a[i] = b[i] <;> simp [hxy]
    · obtain rfl : i = n := by omega
      exact ⟨diff, by simp, inv⟩

theorem equal_spec (a b : Bytes) (n : Nat) (ha : n ≤ a.length) (hb : n ≤ b.length) :
    equal a b n = .ok (decide (a.take n = b.take n)) := by
  obtain ⟨d, hd, hiff⟩ := equalLoop_spec a b n ha hb (n + 1) 0 0 (Nat.zero_le n) (by omega) (by simp)
  rw [equal, Gen.eqStart, Gen.eqDiff0, hd]
  simp [Gen.eqRet, hiff]

theorem split_tag (M : MacAlg) (hM : M.Lawful) (k e : Bytes) :
    (e ++ M.tag k e).length - M.size = e.length ∧
    (e ++ M.tag k e).take e.length = e ∧ (e ++ M.tag k e).drop e.length = M.tag k e :=
  ⟨by rw [List.length_append, hM, Nat.add_sub_cancel], List.take_left' rfl, List.drop_left' rfl⟩

/-- the step both decryptors share: the read of the authenticated part is in bounds, `equal` compares the whole tag -/
theorem mac_check (M : MacAlg) (hM : M.Lawful) (k c : Bytes) (h : M.size ≤ c.length) :
    rd c 0 (c.length - M.size) = some (c.take (c.length - M.size)) ∧
    equal (M.tag k (c.take (c.length - M.size))) (c.drop (c.length - M.size)) M.size =
      .ok (decide (M.tag k (c.take (c.length - M.size)) = c.drop (c.length - M.size))) := by
  have hd : (c.drop (c.length - M.size)).length = M.size := by rw [List.length_drop]; omega
  refine ⟨rd_some (by omega), ?_⟩
  rw [equal_spec _ _ _ (Nat.le_of_eq (hM _ _).symm) (Nat.le_of_eq hd.symm),
    List.take_of_length_le (Nat.le_of_eq (hM _ _)), List.take_of_length_le (Nat.le_of_eq hd)]

theorem hmacDecrypt_closed (M : MacAlg) (hM : M.Lawful) (k c : Bytes) :
    hmacDecrypt M k c =
      if M.size ≤ c.length ∧ M.tag k (c.take (c.length - M.size)) = c.drop (c.length - M.size)
        then .ok (c.take (c.length - M.size)) else .fail := by
  unfold hmacDecrypt
  by_cases h : M.size ≤ c.length
  · obtain ⟨r, e⟩ := mac_check M hM k c h
    simp only [Gen.hmacDecReject, Gen.hmacMsgSize, wsub_eq h, r, e, decide_eq_true_eq, Nat.not_lt.2 h, if_false, h,
      true_and]
    by_cases t : M.tag k (c.take (c.length - M.size)) = c.drop (c.length - M.size) <;> simp [t]
  · simp [Gen.hmacDecReject, h, Nat.lt_of_not_le h]

theorem gen_slots : Gen.cbcEncIvSlot = 0 ∧ Gen.cbcDecIvSlot = 1 := ⟨rfl, rfl⟩

theorem get_enc_slot (st : AesSt) : st.get Gen.cbcEncIvSlot = st.ivEnc := rfl
theorem get_dec_slot (st : AesSt) : st.get Gen.cbcDecIvSlot = st.ivDec := rfl
theorem set_enc_slot (st : AesSt) (v : Bytes) : st.set Gen.cbcEncIvSlot v = { st with ivEnc := v } := rfl
theorem set_dec_slot (st : AesSt) (v : Bytes) : st.set Gen.cbcDecIvSlot v = { st with ivDec := v } := rfl

/-- the buffer `full_plain` of `aes_cipher::decrypt` after `cbc_->decrypt(cipher, full_plain, (unsigned)real_size)` -/
def aesFull (C : CbcAlg) (ckey iv c : Bytes) (real : Nat) : Bytes :=
  C.dec ckey iv (c.take (real % two32)) ++ zeros (real - real % two32)

/-- the IVs of the cbc object after that call: `AES_cbc_encrypt` leaves the last cipher block (16 = `C.block` by `block_eq`) in `iv_dec_` -/
def aesIvDecAfter (st : AesSt) (c : Bytes) (real : Nat) : AesSt :=
  if real % two32 = 0 then st else { st with ivDec := lastBlock 16 (c.take (real % two32)) }

/-- below 4 GiB the `unsigned` length conversion is the identity -/
theorem aesFull_small (C : CbcAlg) (ck iv c : Bytes) (real : Nat) (h : real < 2 ^ 32) :
    aesFull C ck iv c real = C.dec ck iv (c.take real) := by
  rw [aesFull, Nat.mod_eq_of_lt (show real < two32 from h), Nat.sub_self]
  exact List.append_nil _

/-- the last stage of `aes_cipher::decrypt`, as it stands in `aesDecrypt` (`n` is `real_size`), computes `Spec.aesPayload` -/
theorem unframe_eq_aesPayload (bs : Nat) (full : Bytes) (n : Nat) (hn : full.length = n) (h : bs + 4 ≤ n) (s : AesSt) :
    (match rd full bs 4 with
      | none => ((.ub : Res Bytes), s)
      | some lb =>
        if leVal lb > Gen.wsub (Gen.wsub n bs) 4 then (.fail, s) else
        match rd full (bs + 4) (leVal lb) with
        | none => (.ub, s)
        | some p => (.ok p, s)) =
    (match Spec.aesPayload bs full with
      | some p => .ok p
      | none => .fail, s) := by
  subst hn
  rw [rd_some h, wsub_eq (a := full.length) (by omega), wsub_eq (by omega), Spec.aesPayload, ← leVal_eq_spec]
  by_cases hb : leVal ((full.drop bs).take 4) > full.length - bs - 4
  · simp [hb, show ¬ bs + 4 + leVal ((full.drop bs).take 4) ≤ full.length by omega]
  · have hin : bs + 4 + leVal ((full.drop bs).take 4) ≤ full.length := by omega
    simp [hb, hin, rd_some hin]

/-- at `C.block = 16` (`hC.block_eq`); `M.size + 32 ≤ |c|` is the code's reject 1 (digest + one block) and reject 3 (two
blocks) together -/
theorem aesDecrypt_closed (C : CbcAlg) (M : MacAlg) (hC : C.Lawful) (hM : M.Lawful) (ck mk : Bytes) (st : AesSt)
    (c : Bytes) :
    aesDecrypt C M ck mk st c =
      if M.size + 32 ≤ c.length ∧ (c.length - M.size) % 16 = 0 ∧
          M.tag mk (c.take (c.length - M.size)) = c.drop (c.length - M.size) then
        (match Spec.aesPayload 16 (aesFull C ck st.ivDec c (c.length - M.size)) with
          | some p => .ok p
          | none => .fail,
         aesIvDecAfter st c (c.length - M.size))
      else (.fail, st) := by
  unfold aesDecrypt
  simp only [hC.block_eq, Gen.cbcBlock, Gen.aesDecReject1, Gen.aesRealSize, Gen.aesDecReject2, Gen.aesDecReject3,
    Gen.aesDecLenOff, Gen.aesDecDataOff, Gen.aesDecReject4, get_dec_slot, set_dec_slot, decide_eq_true_eq, bne_iff_ne,
    ne_eq]
  by_cases h1 : c.length < M.size + 16
  · rw [if_pos h1, if_neg (by omega)]                       -- reject 1
  have hle : M.size ≤ c.length := by omega
  obtain ⟨r, e⟩ := mac_check M hM mk c hle
  rw [if_neg h1, if_neg (by decide), wsub_eq hle, r]
  generalize hreal : c.length - M.size = real at *
  by_cases h2 : real % 16 = 0
  case neg => rw [if_pos h2, if_neg (by omega)]             -- reject 2: not whole blocks
  by_cases h3 : real / 16 < 2
  · rw [if_neg (fun h => h h2), if_pos h3, if_neg (by omega)] -- reject 3
  rw [if_neg (fun h => h h2), if_neg h3]
  simp only [e]
  by_cases t : M.tag mk (c.take real) = c.drop real
  case neg => simp [t]                                      -- the tag differs
  rw [if_pos ⟨by omega, h2, t⟩]
  -- the MAC verified: CBC-decrypt `real % 2^32` bytes into `full_plain(real_size)` and unframe
  have hm := Nat.mod_le real two32
  have hfl : (aesFull C ck st.ivDec c real).length = real := by
    rw [aesFull, List.length_append, hC.dec_len, zeros_length, List.length_take]; omega
  simp only [t, decide_true, rd_some (by omega : 0 + real % two32 ≤ c.length), List.drop_zero]
  exact unframe_eq_aesPayload 16 (aesFull C ck st.ivDec c real) real hfl (by omega) (aesIvDecAfter st c real)

/-- size of the CBC text for a payload of `n` bytes: dummy block + ⌈(n+4)/16⌉ blocks -/
def aesBuf (n : Nat) : Nat := (n + 19) / 16 * 16 + 16

/-- the framed plaintext: dummy block, little-endian `uint32` length, payload, zero padding -/
def aesFrame (plain : Bytes) : Bytes :=
  zeros 16 ++ leBytes 4 plain.length ++ plain ++ zeros (aesBuf plain.length - 20 - plain.length)

theorem aesBuf_facts (n : Nat) : 16 ∣ aesBuf n ∧ 32 ≤ aesBuf n ∧ n + 20 ≤ aesBuf n ∧ aesBuf n ≤ n + 35 := by
  unfold aesBuf
  exact ⟨⟨(n + 19) / 16 + 1, by omega⟩, by omega, by omega, by omega⟩

theorem aesFrame_length (plain : Bytes) : (aesFrame plain).length = aesBuf plain.length := by
  obtain ⟨-, -, hroom, -⟩ := aesBuf_facts plain.length
  simp only [aesFrame, List.length_append, zeros_length, leBytes_length]
  omega

theorem aesInput_closed (C : CbcAlg) (hb : C.block = 16) (plain : Bytes) (hp : plain.length < 2 ^ 32) :
    aesInput C plain = some (aesFrame plain) := by
  obtain ⟨-, -, h20, -⟩ := aesBuf_facts plain.length
  have hz : zeros (aesBuf plain.length) = zeros 16 ++ zeros (aesBuf plain.length - 16) := by
    rw [← zeros_add]; congr 1; omega
  rw [aesInput, hb, Gen.aesLenBits, Gen.aesEncLenOff, Gen.aesEncDataOff, Nat.mod_eq_of_lt hp, show Gen.aesEncBufSize plain.length 16 = aesBuf plain.length from rfl,
    hz, wr_zeros (zeros_length 16) _ (by rw [leBytes_length]; omega)]
  show wr _ _ plain = _
  rw [wr_zeros (by rw [List.length_append, zeros_length, leBytes_length]) _ (by rw [leBytes_length]; omega),
    leBytes_length, aesFrame, Nat.sub_sub _ 16 4]

theorem aesEncrypt_closed (C : CbcAlg) (M : MacAlg) (hC : C.Lawful) (ck mk : Bytes) (st : AesSt) (plain : Bytes)
    (hp : plain.length + 36 ≤ 2 ^ 32) :
    aesEncrypt C M ck mk st plain =
      (.ok (C.enc ck st.ivEnc (aesFrame plain) ++ M.tag mk (C.enc ck st.ivEnc (aesFrame plain))),
       { st with ivEnc := lastBlock 16 (C.enc ck st.ivEnc (aesFrame plain)) }) := by
  have hb : C.block = 16 := hC.block_eq
  have hl := aesFrame_length plain
  have hf := aesBuf_facts plain.length
  have hn : (aesFrame plain).length % two32 = (aesFrame plain).length := Nat.mod_eq_of_lt (by rw [hl, two32]; omega)
  have hne : ¬ (aesFrame plain).length = 0 := by omega
  rw [aesEncrypt, if_neg (by rw [hb]; decide), aesInput_closed C hb plain (by omega)]
  -- the frame is below 4 GiB and not empty: `cbc_->encrypt` gets all of it, and the IV is updated
  simp only [hn, hb, if_neg hne, List.take_length, Nat.sub_self, zeros, List.replicate_zero, List.append_nil,
    get_enc_slot, set_enc_slot]

theorem aesPayload_frame (p full : Bytes) (hp : p.length < 2 ^ 32) (hl : full.length = aesBuf p.length)
    (hd : full.drop 16 = (aesFrame p).drop 16) : Spec.aesPayload 16 full = some p := by
  have hf := aesBuf_facts p.length
  rw [aesFrame, List.append_assoc, List.append_assoc, List.drop_left' (zeros_length 16)] at hd
  have h4 : (full.drop 16).take 4 = leBytes 4 p.length := by rw [hd, List.take_left' (leBytes_length 4 p.length)]
  have h20 : full.drop (16 + 4) = p ++ zeros (aesBuf p.length - 20 - p.length) := by
    rw [← List.drop_drop, hd, List.drop_left' (leBytes_length 4 p.length)]
  have h256 : (256 : Nat) ^ 4 = 2 ^ 32 := by decide
  rw [Spec.aesPayload, h4, ← leVal_eq_spec, leVal_leBytes, Nat.mod_eq_of_lt (h256 ▸ hp),
    if_pos (by omega), h20, List.take_left' rfl]

theorem aesDecrypt_enc (C : CbcAlg) (M : MacAlg) (hC : C.Lawful) (hM : M.Lawful) (ck mk iv : Bytes) (st : AesSt)
    (p : Bytes) (hp : p.length + 36 ≤ 2 ^ 32) :
    (aesDecrypt C M ck mk st (C.enc ck iv (aesFrame p) ++ M.tag mk (C.enc ck iv (aesFrame p)))).1 = .ok p := by
  obtain ⟨h16, h32, -, h35⟩ := aesBuf_facts p.length
  have hdd := hC.dec_enc ck iv st.ivDec (aesFrame p) (by rw [hC.block_eq, aesFrame_length]; exact h16)
  rw [hC.block_eq] at hdd
  generalize he : C.enc ck iv (aesFrame p) = e at *
  have hel : e.length = aesBuf p.length := by rw [← he, hC.enc_len, aesFrame_length]
  obtain ⟨k16, hk16⟩ := h16
  obtain ⟨hsub, htake, hdrop⟩ := split_tag M hM mk e
  rw [aesDecrypt_closed C M hC hM, hsub, htake, hdrop, List.length_append, hM,
    if_pos ⟨by omega, by omega, rfl⟩, aesFull_small C ck st.ivDec _ e.length (by omega), htake,
    aesPayload_frame p _ (by omega) (by rw [hC.dec_len, hel]) hdd]

theorem cookieCipher_cons (c0 : UInt8) (rest : Bytes) :
    cookieCipher (c0 :: rest) = if c0 ≠ 67 then none else C15.b64decode rest [] := by
  by_cases hc : c0 = 67
  · subst hc; rfl
  · have hn : c0.toNat ≠ 67 := fun h => hc (UInt8.toNat_inj.1 h)
    simp [cookieCipher, Gen.cookieTag, hc, hn]

theorem cookieCipher_length (cookie cipher : Bytes) (h : cookieCipher cookie = some cipher) :
    cipher.length < cookie.length := by
  cases cookie with
  | nil => cases h
  | cons c0 rest =>
    rw [cookieCipher_cons] at h
    split at h
    · cases h
    · exact Nat.lt_succ_of_le (b64decode_length rest cipher h)

theorem cookieLoad_closed (dec : Bytes → Res Bytes) (now : Int) (cookie : Bytes) :
    cookieLoad dec now cookie =
      match cookieCipher cookie with
      | none => ⟨.fail, !cookie.isEmpty⟩
      | some cipher =>
        match dec cipher with
        | .ub => ⟨.ub, false⟩
        | .fail => ⟨.fail, true⟩
        | .ok tmp =>
          match Spec.decodeBody tmp with
          | none => ⟨.fail, true⟩
          | some (d, t) => if t < now then ⟨.fail, true⟩ else ⟨.ok (d, t), false⟩ := by
  cases cookie with
  | nil => rfl
  | cons c0 rest =>
    rw [cookieCipher_cons]
    by_cases hc : c0 = 67
    case neg =>
      have hn : c0.toNat ≠ 67 := fun h => hc (UInt8.toNat_inj.1 h)
      simp [cookieLoad, Gen.cookieTag, hc, hn]
    subst hc
    rw [if_neg (fun h => h rfl)]
    show (match C15.b64decode rest [] with | none => _ | some cipher => _) = _
    cases C15.b64decode rest [] with
    | none => rfl
    | some cipher =>
      dsimp only
      cases dec cipher with
      | ub => rfl
      | fail => rfl
      | ok tmp =>
        simp only [Gen.loadShort, Gen.timeSize, Gen.loadExpired, Spec.decodeBody, decide_eq_true_eq]
        by_cases hs : tmp.length < 8
        · rw [if_pos hs, if_pos hs]
        · rw [if_neg hs, if_neg hs, rd_some (by omega), ← timeVal_eq_spec, List.drop_zero]
          simp only [show ¬ 8 > tmp.length from hs, if_false]

end Cppcms.C05
