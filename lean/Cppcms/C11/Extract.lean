import Cppcms.C11.Model
import Cppcms.C11.Spec
/-! Typed extraction: `getInt` returns the integer a binary64 bit pattern is equal to (`Spec.DblIsInt`), if it is in range. -/
namespace Cppcms.C11
open Cppcms Spec

theorem intOf_spec (neg : Bool) (m : Nat) (e2 : Int) (n : Int) :
    F64.intOf neg m e2 = some n ↔
      ∃ a : Nat, n = (if neg then -(a : Int) else (a : Int)) ∧
        (if e2 ≥ 0 then a = m * 2 ^ e2.toNat else a * 2 ^ (-e2).toNat = m) := by
  unfold F64.intOf
  by_cases he : e2 ≥ 0
  · simp only [he, if_true, Option.some.injEq]
    constructor
    · intro h; exact ⟨_, h.symm, rfl⟩
    · rintro ⟨a, hn, rfl⟩; exact hn.symm
  · simp only [he, if_false]
    have hpos : 0 < 2 ^ (-e2).toNat := Nat.pow_pos (by decide)
    constructor
    · intro h
      split at h
      · rename_i hm
        have hm' : m % 2 ^ (-e2).toNat = 0 := by simpa using hm
        simp only [Option.some.injEq] at h
        exact ⟨m / 2 ^ (-e2).toNat, h.symm, Nat.div_mul_cancel (Nat.dvd_of_mod_eq_zero hm')⟩
      · simp at h
    · rintro ⟨a, hn, ha⟩
      have hm : m % 2 ^ (-e2).toNat = 0 := by rw [← ha]; exact Nat.mul_mod_left _ _
      have hm' : (m % 2 ^ (-e2).toNat == 0) = true := by simpa using hm
      simp only [hm', if_true, Option.some.injEq]
      have : m / 2 ^ (-e2).toNat = a := by rw [← ha]; exact Nat.mul_div_cancel _ hpos
      rw [this, hn]

theorem toInt_spec (bits : Nat) (n : Int) : F64.toInt? bits = some n ↔ DblIsInt bits n := by
  unfold F64.toInt? DblIsInt
  by_cases h : dblExpField bits = 2047
  · simp [h]
  · simp only [h, if_false, ne_eq, not_false_eq_true, true_and]
    exact intOf_spec _ _ _ _

theorem getInt_eq_some (lo hi : Int) (bits : Nat) (n : Int) :
    getInt lo hi bits = some n ↔ lo ≤ n ∧ n ≤ hi ∧ DblIsInt bits n := by
  rw [← toInt_spec, getInt]
  rcases F64.toInt? bits with _ | m
  · simp
  · by_cases hr : lo ≤ m ∧ m ≤ hi
    · simp only [hr, decide_true, Bool.and_self, if_true, Option.some.injEq]
      exact ⟨fun e => e ▸ ⟨hr.1, hr.2, rfl⟩, fun h => h.2.2⟩
    · simp only [Bool.and_eq_true, decide_eq_true_eq, hr, if_false, Option.some.injEq, reduceCtorEq, false_iff]
      exact fun h => hr (h.2.2 ▸ ⟨h.1, h.2.1⟩)


end Cppcms.C11
