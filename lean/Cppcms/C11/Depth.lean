import Cppcms.C11.Accept
/-! For the depth bound: `n` nested arrays have depth `n`; none, or over 512, do not parse. -/
namespace Cppcms.C11
open Cppcms Spec

/-- `n` nested empty arrays: `[[…[]…]]` -/
def nestText (n : Nat) : Bytes := List.replicate n 91 ++ List.replicate n 93

def nestVal {N} : Nat → Value N
  | 0 => .arr []
  | n + 1 => .arr [nestVal n]

theorem nestText_succ (n : Nat) : nestText (n + 1) = 91 :: (nestText n ++ [93]) := by
  rw [nestText, nestText, List.replicate_succ, List.replicate_succ', List.cons_append, List.append_assoc]

theorem depth_nestVal {N} (n : Nat) : depth (nestVal n : Value N) = n + 1 := by
  induction n with
  | zero => rfl
  | succ n ih => simp only [nestVal, depth, depthL, ih, Nat.max_zero]

theorem val_nest {N} (ops : NumOps N) (n : Nat) : Val ops (nestText (n + 1)) (nestVal n) := by
  induction n with
  | zero => exact Val.arr0 [] ws_nil
  | succ n ih =>
    rw [nestText_succ]
    have := Val.arr [] (nestText (n + 1)) [] [nestVal n] ws_nil ws_nil (Elems.one _ _ ih)
    simpa [nestVal] using this

/-- the entry `parse_stream` pushes for a nested array inside an array -/
def arrFrame {N} : Frame N := ⟨.arrCloseComma, [], .arr []⟩

/-- the guard `stack.size() <= json_max_depth` is tested before each token: a push starts from at most 512 entries and may leave 513 -/
theorem runC_pushes {N} (ops : NumOps N) (k : Bytes) (res : Value N) (z : Bytes) (j : Nat) :
    ∀ (S : List (Frame N)) (f : Frame N), S.length + 1 + j ≤ 513 →
    runC ⟨.arrValue, k, f :: S, res⟩ (tokens ops (List.replicate j 91 ++ z)) =
      runC ⟨.arrValue, k, List.replicate j arrFrame ++ f :: S, res⟩ (tokens ops z) := by
  induction j with
  | zero => exact fun _ _ _ => rfl
  | succ j ih =>
    intro S f h
    rw [List.replicate_succ, List.cons_append,
      runC_punct ops _ 91 _ (by simp) (running_of St.noConfusion St.noConfusion (by omega)),
      List.replicate_succ', List.append_assoc]
    exact ih (f :: S) arrFrame (by simp only [List.length_cons]; omega)

theorem not_running_of_len {N} (c : Cfg N) (h : c.stack.length = 513) : c.running = false := by
  simp [Cfg.running, h, Gen.depthGuard, Gen.jsonMaxDepth]

theorem parseStream_none {N} (ops : NumOps N) (full : Bool) (inp : Bytes)
    (h : (runC Cfg.start (tokens ops inp)).1.st ≠ .done) : parseStream ops full inp = none := by
  unfold parseStream
  rw [← (run_eq_runC _ _ inp).1] at h
  generalize run Cfg.start inp (tokens ops inp) = r at h
  simp only [beq_iff_eq, h, if_false]

theorem parse_too_deep {N} (ops : NumOps N) (full : Bool) (n : Nat) (hn : 513 ≤ n) (z : Bytes) :
    parseStream ops full (List.replicate n 91 ++ z) = none := by
  obtain ⟨m, rfl⟩ : ∃ m, n = 1 + 512 + m := ⟨n - 513, by omega⟩
  apply parseStream_none
  rw [← List.replicate_append_replicate, ← List.replicate_append_replicate, List.append_assoc, List.append_assoc, List.replicate_one,
    List.singleton_append, runC_punct ops _ 91 _ (by simp) rfl, ValueCtx.root.openArr,
    runC_pushes ops _ _ _ 512 [] _ (by simp)]
  -- 513 entries: the guard `stack.size() <= json_max_depth` fails, in a state that is not `st_done`
  cases tokens ops (List.replicate m 91 ++ z) with
  | nil => exact St.noConfusion
  | cons p toks =>
    rw [runC, not_running_of_len _ (by simp only [List.length_append, List.length_replicate, List.length_singleton])]
    exact St.noConfusion

theorem parse_empty {N} (ops : NumOps N) : parse ops [] = none := by
  rw [parse, parseStream_none ops true [] (by rw [tokens_stop ops [] .eof [] rfl rfl]; exact St.noConfusion)]
  rfl

end Cppcms.C11
