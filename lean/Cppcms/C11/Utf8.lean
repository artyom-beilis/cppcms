import Cppcms.C11.Model
import Cppcms.C11.Spec
import Cppcms.C14.Rfc
/-! The validator `utf8Valid` accepts exactly RFC 3629 (`Spec.Utf8`); the tokenizer's encoder (`utf8Enc`, the bit
operations of `utf8::encode`) is the arithmetic `Spec.encodeUtf8`, whose output is a well-formed character (read off
`C14.Rfc`, C14's lemmas about RFC 3629, which import no model of C++ code). -/
namespace Cppcms.C11
open Cppcms Spec

theorem isTail_iff (b : UInt8) : isTail b = true ↔ Tail b := by
  simp [isTail, Tail]

/-- second byte of a three- or four-byte character: a continuation byte, from `l` on after the lead `x` (no
overlong form), up to `h` after the lead `y` (no surrogate, nothing above U+10FFFF) -/
def Second (x y l h : Nat) (b0 b1 : UInt8) : Prop :=
  Tail b1 ∧ (b0.toNat = x → l ≤ b1.toNat) ∧ (b0.toNat = y → b1.toNat ≤ h)

theorem utf8Char3_iff (b0 b1 b2 : UInt8) : Utf8Char [b0, b1, b2] ↔
    (0xE0 ≤ b0.toNat ∧ b0.toNat ≤ 0xEF) ∧ Second 0xE0 0xED 0xA0 0x9F b0 b1 ∧ Tail b2 := by
  unfold Second Tail
  constructor
  · rintro ⟨⟩; rename_i hr t2; unfold Tail at hr t2; omega
  · intro h; exact .u3 _ _ _ (by unfold Tail; omega) h.2.2

theorem utf8Char4_iff (b0 b1 b2 b3 : UInt8) : Utf8Char [b0, b1, b2, b3] ↔
    (0xF0 ≤ b0.toNat ∧ b0.toNat ≤ 0xF4) ∧ Second 0xF0 0xF4 0x90 0x8F b0 b1 ∧ Tail b2 ∧ Tail b3 := by
  unfold Second Tail
  constructor
  · rintro ⟨⟩; rename_i hr t2 t3; unfold Tail at hr t2 t3; omega
  · intro h; exact .u4 _ _ _ _ (by unfold Tail; omega) h.2.2.1 h.2.2.2

/-- the left side is the validator's test as `simp` presents it -/
theorem second_iff (x y l h : Nat) (hxy : x ≠ y) (hl : 0x80 ≤ l) (hh : h ≤ 0xBF) (b0 b1 : UInt8) :
    (if b0.toNat = x then l ≤ b1.toNat ∧ b1.toNat ≤ 0xBF
     else if b0.toNat = y then 0x80 ≤ b1.toNat ∧ b1.toNat ≤ h else Tail b1) ↔ Second x y l h b0 b1 := by
  unfold Second Tail
  by_cases e0 : b0.toNat = x
  · simp [e0, hxy]; omega
  · by_cases e1 : b0.toNat = y
    · simp [e1, hxy.symm]; omega
    · simp [e0, e1]

theorem utf8Valid_sound (s : Bytes) : utf8Valid s = true → Utf8 s := by
  fun_induction utf8Valid s
  all_goals intro h
  -- the empty string, and the branches where the table answers `false`; the four accepting branches remain
  all_goals first
    | exact Utf8.nil
    | (simp at h; done)
    | skip
  -- one, two, three and four bytes: `hn`, `h2`, `h3`, `h4` are the tests on the lead byte `b0` passed so far
  · next b0 rest hn ih => exact Utf8.cons [b0] rest (.u1 b0 (by omega)) (ih h)
  · next b0 hn h2 b1 r ih =>
    simp only [Bool.and_eq_true, isTail_iff, decide_eq_true_eq] at h h2
    exact Utf8.cons [b0, b1] r (.u2 b0 b1 h2.1 h2.2 h.1) (ih h.2)
  · next b0 hn h2 h3 b1 b2 r ih =>
    simp [isTail_iff, second_iff 0xE0 0xED 0xA0 0x9F] at h h3
    exact Utf8.cons [b0, b1, b2] r ((utf8Char3_iff b0 b1 b2).mpr ⟨h3, h.1⟩) (ih h.2)
  · next b0 hn h2 h3 h4 b1 b2 b3 r ih =>
    simp [isTail_iff, second_iff 0xF0 0xF4 0x90 0x8F] at h h4
    exact Utf8.cons [b0, b1, b2, b3] r ((utf8Char4_iff b0 b1 b2 b3).mpr ⟨h4, h.1.1.1, h.1.1.2, h.1.2⟩) (ih h.2)

theorem utf8Valid_complete (s : Bytes) (h : Utf8 s) : utf8Valid s = true := by
  induction h with
  | nil => rfl
  | cons c rest hc _ ih =>
    cases hc with
    | u1 b hb => rw [List.singleton_append, utf8Valid.eq_def]; simp [Nat.lt_succ_of_le hb, ih]
    | u2 b0 b1 h1 h2 ht =>
      have hn : ¬ b0.toNat < 128 := by omega
      rw [utf8Valid.eq_def]; simp [hn, h1, h2, (isTail_iff b1).mpr ht, ih]
    | u3 b0 b1 b2 hr t2 =>
      obtain ⟨h0, hs, _⟩ := (utf8Char3_iff b0 b1 b2).mp (.u3 b0 b1 b2 hr t2)
      have hn : ¬ b0.toNat < 128 ∧ ¬ (194 ≤ b0.toNat ∧ b0.toNat ≤ 223) := by omega
      rw [utf8Valid.eq_def]
      simp [hn, h0, isTail_iff, second_iff 0xE0 0xED 0xA0 0x9F, hs, t2, ih]
    | u4 b0 b1 b2 b3 hr t2 t3 =>
      obtain ⟨h0, hs, _⟩ := (utf8Char4_iff b0 b1 b2 b3).mp (.u4 b0 b1 b2 b3 hr t2 t3)
      have hn : ¬ b0.toNat < 128 ∧ ¬ (194 ≤ b0.toNat ∧ b0.toNat ≤ 223) ∧ ¬ (224 ≤ b0.toNat ∧ b0.toNat ≤ 239) := by omega
      rw [utf8Valid.eq_def]
      simp [hn, h0, isTail_iff, second_iff 0xF0 0xF4 0x90 0x8F, hs, t2, t3, ih]

theorem Utf8Char.ascii_or_high {c : Bytes} (h : Utf8Char c) :
    (∃ b, c = [b] ∧ b.toNat ≤ 0x7F) ∨ ∀ b ∈ c, 0x80 ≤ b.toNat := by
  cases h
  case u1 b hb => exact Or.inl ⟨b, rfl, hb⟩
  all_goals
    refine Or.inr ?_
    simp only [Tail, List.forall_mem_cons, List.not_mem_nil, false_imp_iff, implies_true, and_true] at *
    omega

/-- C14 transcribes the same ABNF as a Boolean table on byte values; what that table accepts is a `Utf8Char` -/
theorem utf8Char_of_table {c : Bytes} (h : C14.Spec.utf8Char (C14.Spec.nats c) = true) : Utf8Char c := by
  rcases c with _ | ⟨b0, _ | ⟨b1, _ | ⟨b2, _ | ⟨b3, _ | ⟨b4, r⟩⟩⟩⟩⟩
  · cases h
  · exact .u1 b0 (of_decide_eq_true h)
  · obtain ⟨h1, h2, t⟩ := (C14.utf8Char2_iff ..).mp h
    exact .u2 b0 b1 h1 h2 t
  · obtain ⟨hr, t⟩ := (C14.utf8Char3_iff ..).mp h
    exact .u3 b0 b1 b2 hr t
  · obtain ⟨hr, lo2, hi2, t3⟩ := (C14.utf8Char4_iff ..).mp h
    exact .u4 b0 b1 b2 b3 hr ⟨lo2, hi2⟩ t3
  · cases h

theorem encodeUtf8_eq : encodeUtf8 = C14.Spec.encode := rfl

/-- `C14.rfc_encode` is where the second-byte rows of the ABNF meet arithmetic -/
theorem encodeUtf8_char (x : Nat) (hx : x < 0x110000) (hs : ¬ (0xD800 ≤ x ∧ x ≤ 0xDFFF)) : Utf8Char (encodeUtf8 x) := by
  rw [encodeUtf8_eq]
  exact utf8Char_of_table (C14.rfc_encode ⟨by omega, hs⟩).1

theorem or_shl (a hi i : Nat) (h : a < 2 ^ i) : a ||| (hi <<< i) = hi <<< i + a := by
  rw [Nat.or_comm]; exact (Nat.shiftLeft_add_eq_or_of_lt h hi).symm

theorem tail_or (a : Nat) : (a &&& 63) ||| 128 = 128 + a % 64 := by
  rw [Nat.and_two_pow_sub_one_eq_mod a 6]
  exact or_shl (a % 64) 1 7 (Nat.lt_trans (Nat.mod_lt _ (by decide)) (by decide))

theorem ofNat_mod (n : Nat) : UInt8.ofNat (n % 256) = UInt8.ofNat n :=
  UInt8.toNat_inj.mp (by simp)

theorem utf8Enc_eq (x : Nat) (hx : x < 0x110000) : utf8Enc x = encodeUtf8 x := by
  simp only [utf8Enc, Gen.utf8Encode, encodeUtf8, ofNats, apply_ite (List.map UInt8.ofNat), List.map_cons, List.map_nil,
    ofNat_mod, tail_or, Nat.shiftRight_eq_div_pow, Nat.reducePow]
  -- what is left is the lead byte: `110xxxxx`, `1110xxxx`, `11110xxx`
  have l2 : x ≤ 0x7FF → x / 64 ||| 192 = 192 + x / 64 := fun h => or_shl (x / 64) 3 6 (by omega)
  have l3 : x ≤ 0xFFFF → x / 4096 ||| 224 = 224 + x / 4096 := fun h => or_shl (x / 4096) 7 5 (by omega)
  have l4 : x / 262144 ||| 240 = 240 + x / 262144 := or_shl (x / 262144) 15 4 (by omega)
  split
  · rfl
  · split
    · rw [l2 ‹_›]
    · split
      · rw [l3 ‹_›]
      · rw [l4]

end Cppcms.C11
