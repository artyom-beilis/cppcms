import Cppcms.C11.Tree
import Cppcms.C11.Utf8
/-! The invariant of the `parse_stream` machine (a zipper): every value stored in a container on the
stack is good and fits the depth budget of its level; hence so is the result. -/
namespace Cppcms.C11
open Cppcms Spec

/-- what `parse_total` promises of every node of a parsed tree -/
structure GoodNode {N} (v : Value N) : Prop where
  str : StrNode v
  key : KeyNode v
  sorted : SortedNode v
  defined : DefinedNode v
def Good {N} (v : Value N) : Prop := Forall GoodNode v

/-- the container of the frame at height `lvl` of the stack: its members may be `512 - lvl` deep.  The unassigned root
(`.undef`) occurs in the start configuration only. -/
def ContInv {N} (lvl : Nat) : Cont N → Prop
  | .undef => False
  | .arr r => ∀ v ∈ r, Good v ∧ depth v + lvl ≤ 512
  | .obj ms => (∀ kv ∈ ms, Utf8 kv.1 ∧ Good kv.2 ∧ depth kv.2 + lvl ≤ 512) ∧
      (keys ms).Pairwise (fun a b => keyLt a b = true)

/-- every frame is good at its height; only the bottom frame returns to `st_done` -/
def StackInv {N} : List (Frame N) → Prop
  | [] => True
  | f :: more => ContInv (more.length + 1) f.cont ∧ Utf8 f.key ∧ f.ret ≠ .init ∧ (f.ret = .done → more = []) ∧
      StackInv more

/-- The start configuration is a case of its own: its stack holds the unassigned root, of which `ContInv` is false; the
first token leaves it for good. -/
def CfgInv {N} (c : Cfg N) : Prop :=
  c.st = .error ∨ c = Cfg.start ∨
    (c.st ≠ .init ∧ StackInv c.stack ∧ Utf8 c.key ∧ (c.st = .done → Good c.result ∧ depth c.result ≤ 512))

/-- a string token carries valid UTF-8 (`parse_string` ends with `utf8::validate`) -/
def TokOk {N} : Tok N → Prop
  | .str s => Utf8 s
  | _ => True

theorem close_good {N} (lvl : Nat) (cont : Cont N) (h : ContInv (lvl + 1) cont) (hu : lvl + 1 ≤ 512) :
    Good cont.close ∧ depth cont.close + lvl ≤ 512 := by
  cases cont with
  | undef => exact h.elim
  | arr r =>
    have hd : depthL r.reverse ≤ 511 - lvl := (depthL_le _ _).mpr fun v hv => by
      have := (h v (List.mem_reverse.mp hv)).2; omega
    exact ⟨⟨⟨trivial, trivial, trivial, trivial⟩, (forallL_iff _ _).mpr fun v hv => (h v (List.mem_reverse.mp hv)).1⟩,
      by simp only [Cont.close, depth]; omega⟩
  | obj ms =>
    have hd : depthM ms ≤ 511 - lvl := (depthM_le _ _).mpr fun kv hkv => by have := (h.1 kv hkv).2.2; omega
    refine ⟨⟨⟨?_, nodup_of_sorted _ h.2, h.2, trivial⟩, (forallM_iff _ _).mpr fun kv hkv => (h.1 kv hkv).2.1⟩,
      by simp only [Cont.close, depth]; omega⟩
    intro k hk
    obtain ⟨kv, hkv, rfl⟩ := List.mem_map.mp hk
    exact (h.1 kv hkv).1

theorem plug_inv {N} (lvl : Nat) (cont : Cont N) (v : Value N) (k : Bytes) (h : ContInv lvl cont)
    (hv : Good v) (hd : depth v + lvl ≤ 512) (hk : Utf8 k) : ContInv lvl (cont.plug v k) := by
  cases cont with
  | undef => exact h
  | arr r => exact List.forall_mem_cons.mpr ⟨⟨hv, hd⟩, h⟩
  | obj ms =>
    simp only [Cont.plug, ContInv, mapInsert_eq]
    refine ⟨fun kv hkv => ?_, sorted_insertKV k v ms h.2⟩
    rcases mem_insertKV k v ms kv hkv with rfl | hkv'
    · exact ⟨hk, hv, hd⟩
    · exact h.1 kv hkv'

theorem scalar_good {N} (t : Tok N) (v : Value N) (h : t.scalar? = some v) (ht : TokOk t) :
    Good v ∧ depth v = 0 := by
  cases t <;> cases h <;> exact ⟨⟨ht, trivial, trivial, trivial⟩, rfl⟩

theorem pop_inv {N} (c : Cfg N) (hs : StackInv c.stack) (hk : Utf8 c.key) (hg : c.stack.length ≤ 512) :
    CfgInv c.pop := by
  unfold Cfg.pop
  split
  · exact Or.inl rfl
  · rename_i f e
    rw [e] at hs
    have := close_good 0 f.cont hs.1 (by decide)
    exact Or.inr (Or.inr ⟨hs.2.2.1, trivial, hk, fun _ => this⟩)
  · rename_i f p more e
    rw [e] at hs hg
    obtain ⟨hf, hfk, hfi, hfd, hp, hpk, hprest⟩ := hs
    have hc := close_good (more.length + 1) f.cont hf hg
    exact Or.inr (Or.inr ⟨hfi, ⟨plug_inv _ _ _ _ hp hc.1 hc.2 hfk, hpk, hprest⟩, hk, fun e => nomatch hfd e⟩)

theorem put_inv {N} (c : Cfg N) (v : Value N) (st' : St) (hs : StackInv c.stack) (hk : Utf8 c.key)
    (hg : c.stack.length ≤ 512) (hv : Good v ∧ depth v = 0) (h1 : st' ≠ .init) (h2 : st' ≠ .done) :
    CfgInv (c.put v st') := by
  unfold Cfg.put
  split
  · exact Or.inl rfl
  · rename_i f more e
    rw [e] at hs hg
    exact Or.inr (Or.inr ⟨h1, ⟨plug_inv _ _ _ _ hs.1 hv.1 (by rw [hv.2]; simpa using hg) hk, hs.2⟩, hk, fun e => absurd e h2⟩)

theorem push_inv {N} (c : Cfg N) (ret : St) (k : Bytes) (cont : Cont N) (st' : St) (hs : StackInv c.stack)
    (hk : Utf8 c.key) (hc : cont = .arr [] ∨ cont = .obj []) (hfk : Utf8 k)
    (hr : ret = .arrCloseComma ∨ ret = .objCloseComma) (h1 : st' ≠ .init) (h2 : st' ≠ .done) :
    CfgInv (c.push ⟨ret, k, cont⟩ st') := by
  refine Or.inr (Or.inr ⟨h1, ⟨?_, hfk, ?_, ?_, hs⟩, hk, fun e => absurd e h2⟩)
  · rcases hc with rfl | rfl
    · exact fun _ => nofun
    · exact ⟨fun _ => nofun, List.Pairwise.nil⟩
  · rcases hr with rfl | rfl <;> exact St.noConfusion
  · rcases hr with rfl | rfl <;> exact fun e => nomatch e

theorem utf8_nil : Utf8 [] := Utf8.nil

theorem step_inv {N} (c : Cfg N) (t : Tok N) (h : CfgInv c) (hr : c.running = true) (ht : TokOk t) :
    CfgInv (step c t) := by
  simp only [Cfg.running, Bool.and_eq_true, bne_iff_ne, ne_eq] at hr
  have hg : c.stack.length ≤ 512 := of_decide_eq_true hr.2
  rcases h with he | rfl | ⟨hi, hs, hk, _⟩
  · exact absurd he hr.1.1.2
  · -- the start configuration: `[`, `{`, a scalar, anything else
    unfold step; dsimp only [Cfg.start]
    have nil : StackInv ([] : List (Frame N)) := trivial
    split
    · exact Or.inr (Or.inr ⟨St.noConfusion, ⟨fun _ => nofun, Utf8.nil, St.noConfusion, fun _ => rfl, nil⟩,
        Utf8.nil, fun e => nomatch e⟩)
    · exact Or.inr (Or.inr ⟨St.noConfusion, ⟨⟨fun _ => nofun, List.Pairwise.nil⟩, Utf8.nil, St.noConfusion,
        fun _ => rfl, nil⟩, Utf8.nil, fun e => nomatch e⟩)
    · split
      · rename_i v hv
        have := scalar_good t v hv ht
        exact Or.inr (Or.inr ⟨St.noConfusion, nil, Utf8.nil, fun _ => ⟨this.1, by rw [this.2]; decide⟩⟩)
      · exact Or.inl rfl
  · -- the cases of `step` in its order: one bullet per state, inside it one per token; `fails` is `c.fail`
    have keep : ∀ st', st' ≠ .init → st' ≠ .done → CfgInv { c with st := st' } := fun st' h1 h2 =>
      Or.inr (Or.inr ⟨h1, hs, hk, fun e => absurd e h2⟩)
    have fails : CfgInv c.fail := Or.inl rfl
    unfold step
    split
    · exact absurd ‹_› hi                                   -- init: excluded by `hi`
    · split                                                 -- objKey
      · exact pop_inv c hs hk hg                            --   `}`
      · exact Or.inr (Or.inr ⟨St.noConfusion, hs, ht, fun e => nomatch e⟩)   -- a key string becomes `c.key`
      · exact fails
    · split                                                 -- objColon
      · exact keep _ St.noConfusion St.noConfusion          --   `:`
      · exact fails
    · split                                                 -- objValue
      · exact fails                                         --   empty stack
      · split
        · split                                             --   top is an object
          · exact fails                                     --   duplicate key
          · split
            · exact push_inv c _ _ _ _ hs hk (Or.inl rfl) hk (Or.inr rfl) St.noConfusion St.noConfusion   -- `[`
            · exact push_inv c _ _ _ _ hs hk (Or.inr rfl) hk (Or.inr rfl) St.noConfusion St.noConfusion   -- `{`
            · split
              · exact put_inv c _ _ hs hk hg (scalar_good t _ ‹_› ht) St.noConfusion St.noConfusion       -- scalar
              · exact fails
        · exact fails                                       --   top is not an object
    · split                                                 -- objCloseComma
      · exact keep _ St.noConfusion St.noConfusion          --   `,`
      · exact pop_inv c hs hk hg                            --   `}`
      · exact fails
    · split                                                 -- arrValue
      · exact pop_inv c hs hk hg                            --   `]`
      · exact push_inv c _ _ _ _ hs hk (Or.inl rfl) Utf8.nil (Or.inl rfl) St.noConfusion St.noConfusion   -- `[`
      · exact push_inv c _ _ _ _ hs hk (Or.inr rfl) Utf8.nil (Or.inl rfl) St.noConfusion St.noConfusion   -- `{`
      · split
        · exact put_inv c _ _ hs hk hg (scalar_good t _ ‹_› ht) St.noConfusion St.noConfusion             -- scalar
        · exact fails
    · split                                                 -- arrCloseComma
      · exact pop_inv c hs hk hg                            --   `]`
      · exact keep _ St.noConfusion St.noConfusion          --   `,`
      · exact fails
    · exact absurd ‹_› hr.1.1.2                             -- error: not running
    · exact absurd ‹_› hr.1.2                               -- done: not running

theorem parseString_utf8 {inp s r : Bytes} (h : parseString inp = some (s, r)) : Utf8 s := by
  unfold parseString at h
  split at h
  · split at h
    · cases h; exact utf8Valid_sound _ ‹_›
    · cases h
  · cases h

theorem kwTok_ok {N} : ∀ code, TokOk (kwTok code : Tok N)
  | 0 | 1 | _ + 2 => trivial

theorem nextAux_tokOk {N} (ops : NumOps N) (b : Bool) (inp : Bytes) : TokOk (nextAux ops b inp).1 := by
  fun_induction nextAux ops b inp
  all_goals first
    | assumption                      -- blanks, comments: the token of the recursive call
    | exact True.intro                -- `eof`, `err`, punctuators, numbers
    | exact parseString_utf8 ‹_›      -- strings: `parse_string` validates
    | exact kwTok_ok _                -- keywords

theorem tokensAux_tokOk {N} (ops : NumOps N) : ∀ n inp, ∀ p ∈ tokensAux ops n inp, TokOk p.1
  | 0, _, _, hp => nomatch hp
  | n + 1, inp, p, hp => by
    rw [tokensAux] at hp
    split at hp
    · rw [List.mem_singleton.mp hp]; exact nextAux_tokOk ops false inp
    · rcases List.mem_cons.mp hp with rfl | hp
      · exact nextAux_tokOk ops false inp
      · exact tokensAux_tokOk ops n _ p hp

theorem run_inv {N} (toks : List (Tok N × Bytes)) : ∀ (c : Cfg N) (pos : Bytes), CfgInv c → (∀ p ∈ toks, TokOk p.1) →
    CfgInv (run c pos toks).1 := by
  induction toks with
  | nil => exact fun c pos h _ => h
  | cons p toks ih =>
    intro c pos h ht
    obtain ⟨htk, hrest⟩ := List.forall_mem_cons.mp ht
    simp only [run]
    split
    · exact ih _ _ (step_inv c p.1 h ‹_› htk) hrest
    · exact h

theorem parseStream_good {N} (ops : NumOps N) (full : Bool) (inp : Bytes) (v : Value N) (rest : Bytes)
    (h : parseStream ops full inp = some (v, rest)) : Good v ∧ depth v ≤ 512 := by
  unfold parseStream at h
  have hinv := run_inv (tokens ops inp) Cfg.start inp (Or.inr (Or.inl rfl)) (tokensAux_tokOk ops _ inp)
  generalize run Cfg.start inp (tokens ops inp) = res at h hinv
  obtain ⟨c, pos, more⟩ := res
  simp only at h hinv
  split at h
  · rename_i hd
    have hdone : c.st = .done := by simpa using hd
    have : Good c.result ∧ depth c.result ≤ 512 := by
      rcases hinv with he | rfl | hm
      · rw [hdone] at he; cases he
      · cases hdone
      · exact hm.2.2.2 hdone
    split at h
    · split at h
      · cases h; exact this
      · cases h
    · cases h; exact this
  · cases h

end Cppcms.C11
