import Cppcms.C11.Invariant
import Cppcms.C11.Writer
import Cppcms.C11.Depth
import Cppcms.C11.Extract
/-!
# C11 — property theorems

"JSON parsing accepts well-formed documents; serialization round-trips."  ("Accepts", not "accepts exactly": the
parser also accepts texts outside RFC 8259, see the examples below; the round trips are theorems under the hypotheses
stated with them.)

The numeric conversions of libc/libstdc++ are a parameter (`NumOps`), hypotheses about them (`NumLaw`, `NumIdem`) are
explicit.  The counterexamples use `F64.ops`, the exact binary64 arithmetic of the driver, which the correspondence run
compares bit for bit with glibc/libstdc++.
-/
namespace Cppcms.C11.Props
open Cppcms Cppcms.C11 Cppcms.C11.Spec

/-- `string_key::operator<`, as translated from `cppcms/string_key.h` on
every run (`Gen.keyLess`; `mapLt` in the model), the comparator of `std::map<string_key,value>`, is the bytewise
lexicographic order on all byte strings (`Spec.BytesLt`; NUL is a byte like any other): a strict total order whose
derived equivalence ("neither is less") is identity.  The last conjunct is the translator's record that it found
`operator==` to be length + `memcmp`; `==` itself is not modelled.  The model's map operations (`mapHasKey`, `mapInsert`)
are thereby the specification's, on which `accepts_rfc8259`, `parse_total` and the round trips rest. -/
theorem key_order_is_bytewise_lexicographic :
    (∀ a b : Bytes, mapLt a b = true ↔ BytesLt a b) ∧
    (∀ a : Bytes, mapLt a a = false) ∧
    (∀ a b c : Bytes, mapLt a b = true → mapLt b c = true → mapLt a c = true) ∧
    (∀ a b : Bytes, a ≠ b → mapLt a b = true ∨ mapLt b a = true) ∧
    (∀ a b : Bytes, mapEquiv a b = true ↔ a = b) ∧
    Gen.keyEqIsLengthAndMemcmp = true := by
  rw [show mapLt = keyLt from funext fun a => funext (mapLt_eq a)]
  exact ⟨keyLt_iff_bytesLt, keyLt_irrefl, keyLt_trans, keyLt_total, fun a b => by rw [mapEquiv_eq, beq_iff_eq], rfl⟩

/-- keys that agree up to an embedded NUL and differ after it are different keys, in order -/
example : mapLt [97, 0, 98] [97, 0, 99] = true ∧ mapEquiv [97, 0, 98] [97, 0, 99] = false ∧
    mapLt [0, 120] [0, 121] = true ∧ mapLt [107] [107, 0] = true ∧ mapLt [107, 0] [107, 0, 0] = true ∧
    mapLt [127] [128] = true := by decide +kernel

/-- `{"a\u0000b":1,"a\u0000c":2}` is accepted with two members -/
example : (parse F64.ops [123, 34, 97, 92, 117, 48, 48, 48, 48, 98, 34, 58, 49, 44, 34, 97, 92, 117, 48, 48, 48, 48, 99, 34, 58, 50, 125]).isSome = true := by
  decide +kernel

/-- On every byte string, in both `full` modes, `parse_stream` fails or yields a tree with valid UTF-8
strings and keys (RFC 3629), unique keys in `std::map` order, no undefined member and depth at most 512.  Termination is by
construction: the tokenizer and the machine are structural recursions. -/
theorem parse_total {N} (ops : NumOps N) (full : Bool) (inp : Bytes) :
    match parseStream ops full inp with
    | none => True
    | some (v, _) => AllStringsUtf8 v ∧ KeysUnique v ∧ KeysSorted v ∧ NoUndefined v ∧ depth v ≤ 512 := by
  cases h : parseStream ops full inp with
  | none => trivial
  | some p =>
    obtain ⟨v, rest⟩ := p
    obtain ⟨hg, hd⟩ := parseStream_good ops full inp v rest h
    exact ⟨forall_mono (fun _ h => h.str) v hg, forall_mono (fun _ h => h.key) v hg,
      forall_mono (fun _ h => h.sorted) v hg, forall_mono (fun _ h => h.defined) v hg, hd⟩

/-- Every document of the RFC 8259 grammar (`Spec.Doc`: insignificant whitespace, all escape
forms, properly paired surrogates, unescaped multi-byte UTF-8, unique keys, numbers the conversion accepts, i.e. finite)
within the depth bound is accepted and yields exactly the tree the grammar assigns to it (nothing left over: `parse_doc`). -/
theorem accepts_rfc8259 {N} (ops : NumOps N) (text : Bytes) (v : Value N)
    (h : Doc ops text v) (hd : depth v ≤ 512) : parse ops text = some v := by
  simp [parse, parse_doc ops h hd]

/-- `value::load`: when it returns false the target keeps its
content; when parsing succeeds the target is the parsed tree (`out.swap(result)` happens on
the success path only; the translator checks that `out` is mentioned nowhere else). -/
theorem failed_parse_leaves_target {N} (ops : NumOps N) (target : Value N) (full : Bool) (inp : Bytes) :
    ((load ops target full inp).1 = false → (load ops target full inp).2 = target) ∧
    (∀ v rest, parseStream ops full inp = some (v, rest) → load ops target full inp = (true, v)) ∧
    ((load ops target full inp).1 = false ↔ parseStream ops full inp = none) := by
  unfold load
  cases h : parseStream ops full inp with
  | none => simp
  | some p => obtain ⟨v, r⟩ := p; simp

/-- `n` nested arrays `[[…]]` parse iff `1 ≤ n ≤ 512`
(`json_max_depth`, read from the source by the translator), and then to the expected tree. -/
theorem depth_bound_exact {N} (ops : NumOps N) (n : Nat) :
    parse ops (nestText n) = if 1 ≤ n ∧ n ≤ 512 then some (nestVal (n - 1)) else none := by
  by_cases h : 1 ≤ n ∧ n ≤ 512
  · rw [if_pos h]
    obtain ⟨m, rfl⟩ : ∃ m, n = m + 1 := ⟨n - 1, by omega⟩
    refine accepts_rfc8259 ops _ _ ⟨[], _, [], ws_nil, ws_nil, val_nest ops m, by simp⟩ ?_
    rw [depth_nestVal]; omega
  · rw [if_neg h]
    by_cases h0 : n = 0
    · subst h0; exact parse_empty ops
    · have : parseStream ops true (nestText n) = none := parse_too_deep ops true n (by omega) _
      simp [parse, this]

/-- The round trip at full strength.  It is **false** of the code (three counterexamples below), so the theorem proved
is `write_parse_roundtrip_partial`. -/
def FullRoundtrip {N} (ops : NumOps N) : Prop :=
  ∀ (v : Value N) (readable : Bool), NoUndefined v → KeysSorted v → depth v ≤ 512 →
    ∃ text, save ops readable v = some text ∧ (parse ops text).isSome

/-- For a tree without undefined members, with valid UTF-8 strings and keys, numbers
in a set `fin` on which the external conversions satisfy `NumLaw` (intended for binary64: finite and not within 1.5 ulp of
`DBL_MAX`; proved for `{1.0}` only, `numLaw_one`), objects in `std::map` order (representation invariant) and depth at most
512, the text written in either form parses back to the tree with every number `x` replaced by `rt x`, its value after one
trip through text. -/
theorem write_parse_roundtrip_partial {N} (ops : NumOps N) (fin : N → Prop) (rt : N → N)
    (hlaw : NumLaw ops fin rt) (v : Value N)
    (hu : NoUndefined v) (hs : AllStringsUtf8 v) (hf : NumsFinite fin v) (hk : KeysSorted v) (hd : depth v ≤ 512)
    (readable : Bool) :
    ∃ text, save ops readable v = some text ∧ parse ops text = some (mapNum rt v) := by
  obtain ⟨t, w, e, hv, hws⟩ := writeValue_val ops fin rt hlaw v (forall_and v hu (forall_and v hs (forall_and v hf hk)))
    (if readable then some 0 else none)
  exact ⟨t ++ w, e, accepts_rfc8259 ops _ _ ⟨[], t, w, ws_nil, hws, hv, rfl⟩ (by rw [depth_mapNum]; exact hd)⟩

/-- "Exactly from the second round on": under `NumIdem`
(a second trip through text changes no number) the tree obtained by the first round is
reproduced exactly by every further round. -/
theorem write_parse_roundtrip_second {N} (ops : NumOps N) (fin : N → Prop) (rt : N → N)
    (hlaw : NumLaw ops fin rt) (hid : NumIdem fin rt) (v : Value N)
    (hu : NoUndefined v) (hs : AllStringsUtf8 v) (hf : NumsFinite fin v) (hk : KeysSorted v) (hd : depth v ≤ 512)
    (readable : Bool) :
    ∃ t1 w t2, save ops readable v = some t1 ∧ parse ops t1 = some w ∧
      save ops readable w = some t2 ∧ parse ops t2 = some w := by
  obtain ⟨t1, e1, p1⟩ := write_parse_roundtrip_partial ops fin rt hlaw v hu hs hf hk hd readable
  -- what the parser guarantees about its result
  obtain ⟨hg, hd'⟩ : Good (mapNum rt v) ∧ depth (mapNum rt v) ≤ 512 := by
    unfold parse at p1
    rcases hp : parseStream ops true t1 with _ | ⟨v', r⟩ <;> rw [hp] at p1 <;> cases p1
    exact parseStream_good ops true t1 _ r hp
  have hfix : Forall (FixNode fin rt) (mapNum rt v) := fixed_mapNum fin rt hid v hf
  obtain ⟨t2, e2, p2⟩ := write_parse_roundtrip_partial ops (fun x => fin x ∧ rt x = x) rt (fun x hx => hlaw x hx.1)
    (mapNum rt v) (forall_mono (fun _ h => h.defined) _ hg) (forall_mono (fun _ h => h.str) _ hg)
    (forall_mono (fun _ => FixNode.finNode) _ hfix) (forall_mono (fun _ h => h.sorted) _ hg) hd' readable
  rw [mapNum_fixed fin rt _ hfix] at p2
  exact ⟨t1, mapNum rt v, t2, e1, p1, e2, p2⟩

/-- "Regardless of the stream's locale": whatever `numpunct` the output stream carries,
`value::write` produces the text of the classic locale, because the source imbues `"C"` unconditionally around
`write_value` (`Gen.writeImbue`, `Gen.writeImbueUnconditional`, regenerated every run).  So the round trips hold for
`saveTo ops loc` with any `loc`. -/
theorem save_locale_independent {N} (ops : NumOps N) (loc : StreamLocale) (readable : Bool) (v : Value N) :
    saveTo ops loc readable v = save ops readable v := by
  have : effectiveLocale loc = StreamLocale.classic := by
    simp [effectiveLocale, Gen.writeImbueUnconditional, Gen.writeImbue]
  simp [saveTo, this]

/-- Known finding `json-writer-invalid-utf8`.  For
every `NumOps`: the string value `"\xFF"` is written raw, and the text is rejected by the
final `utf8::validate` of `parse_string`. -/
theorem roundtrip_counterexample_invalid_utf8 {N} (ops : NumOps N) :
    NoUndefined (.str [255] : Value N) ∧ save ops false (.str [255]) = some [34, 255, 34] ∧
    parse ops [34, 255, 34] = none := by
  refine ⟨trivial, rfl, ?_⟩
  -- the first token is `tock_err`
  have : tokens ops [34, 255, 34] = [(.err, [])] := tokens_stop ops _ .err [] (by rw [next, nextAux.eq_def]; rfl) rfl
  rw [parse, parseStream_none ops true _ (by rw [this]; exact St.noConfusion)]
  rfl

/-- Known finding `json-writer-nonfinite`.  With the
exact binary64 instance: a number value holding +inf is written as `inf`, which is not JSON
and is rejected. -/
theorem roundtrip_counterexample_nonfinite :
    NoUndefined (.num 0x7FF0000000000000 : Value Nat) ∧
    save F64.ops false (.num 0x7FF0000000000000) = some [105, 110, 102] ∧
    parse F64.ops [105, 110, 102] = none := by
  exact ⟨trivial, rfl, by decide +kernel⟩

/-- Known finding `json-writer-dbl-max`.  `DBL_MAX` = 0x7FEFFFFFFFFFFFFF is finite, but `digits10+1 = 16` significant digits
round it up to `1.797693134862316e+308`, which exceeds the double range: `num_get` reports
overflow and the text is rejected. -/
theorem roundtrip_counterexample_dbl_max :
    F64.isFinite 0x7FEFFFFFFFFFFFFF = true ∧
    save F64.ops false (.num 0x7FEFFFFFFFFFFFFF) =
      some [49, 46, 55, 57, 55, 54, 57, 51, 49, 51, 52, 56, 54, 50, 51, 49, 54, 101, 43, 51, 48, 56] ∧
    parse F64.ops [49, 46, 55, 57, 55, 54, 57, 51, 49, 51, 52, 56, 54, 50, 51, 49, 54, 101, 43, 51, 48, 56] = none := by
  exact ⟨by decide +kernel, by decide +kernel, by decide +kernel⟩

theorem full_roundtrip_false : ¬ FullRoundtrip F64.ops := by
  intro h
  obtain ⟨text, e, hp⟩ := h (.num 0x7FF0000000000000) false trivial trivial (Nat.zero_le _)
  rw [roundtrip_counterexample_nonfinite.2.1] at e
  cases e
  rw [roundtrip_counterexample_nonfinite.2.2] at hp
  cases hp

mutual
theorem writeValue_undef {N} (ops : NumOps N) : ∀ (v : Value N) (tabs : Option Nat), ¬ NoUndefined v → writeValue ops tabs v = none
  | .undef, _, _ => rfl
  | .arr items, tabs, h => by rw [writeValue, writeItems_undef ops items _ fun hl => h ⟨trivial, hl⟩]
  | .obj ms, tabs, h => by rw [writeValue, writeMembers_undef ops ms _ fun hl => h ⟨trivial, hl⟩]
  | .null, _, h | .bool _, _, h | .num _, _, h | .str _, _, h => absurd trivial h
theorem writeItems_undef {N} (ops : NumOps N) : ∀ (l : List (Value N)) (tabs : Option Nat), ¬ ForallL DefinedNode l → writeItems ops tabs l = none
  | [], _, h => absurd trivial h
  | v :: rest, tabs, h => by
    rw [writeItems]
    by_cases hv : NoUndefined v
    · rw [writeItems_undef ops rest tabs fun hl => h ⟨hv, hl⟩]; cases writeValue ops tabs v <;> rfl
    · rw [writeValue_undef ops v tabs hv]
theorem writeMembers_undef {N} (ops : NumOps N) : ∀ (l : List (Bytes × Value N)) (tabs : Option Nat), ¬ ForallM DefinedNode l → writeMembers ops tabs l = none
  | [], _, h => absurd trivial h
  | (k, v) :: rest, tabs, h => by
    rw [writeMembers]
    by_cases hv : NoUndefined v
    · rw [writeMembers_undef ops rest tabs fun hl => h ⟨hv, hl⟩]; cases writeValue ops tabs v <;> rfl
    · rw [writeValue_undef ops v tabs hv]
end

/-- A tree with an undefined member anywhere cannot be written
(`write_value` throws `bad_value_cast`), in either form. -/
theorem write_undefined_throws {N} (ops : NumOps N) (v : Value N) (readable : Bool) (h : ¬ NoUndefined v) :
    save ops readable v = none :=
  writeValue_undef ops v _ h

/-- `traits<integer>::get` modelled as "the exact integer value of the double if it
has one within `[lo, hi]`, otherwise throw" (`Spec.DblIsInt`: `(-1)^s · mant · 2^e = n` on the IEEE 754 fields).  Partial:
that the C++ `static_cast` + compare-back behaves like this out of range is undefined behaviour, observed differentially
only. -/
theorem int_extraction_exact_or_throws (lo hi : Int) (bits : Nat) :
    match getInt lo hi bits with
    | some n => lo ≤ n ∧ n ≤ hi ∧ DblIsInt bits n
    | none => ¬ ∃ n, lo ≤ n ∧ n ≤ hi ∧ DblIsInt bits n := by
  cases h : getInt lo hi bits with
  | some n => exact (getInt_eq_some lo hi bits n).mp h
  | none => exact fun ⟨n, hn⟩ => by rw [(getInt_eq_some lo hi bits n).mpr hn] at h; cases h

/-- 1.0 -/
def one : Nat := 0x3FF0000000000000

theorem number_one : Number [49] ⟨false, 1, 0⟩ :=
  Number.mk false [49] [] none (Or.inr ⟨⟨nofun, fun b hb => by rw [List.mem_singleton.mp hb]; exact ⟨by decide, by decide⟩⟩, nofun⟩)
    (Or.inl rfl) nofun

theorem ofDec_one : F64.ops.ofDec ⟨false, 1, 0⟩ = some one := by decide +kernel

/-- a document with whitespace, an escape, a surrogate pair, a nested array and a number:
`{ "k\n" : [true, 1], "\ud83d\ude00" : null }` is in the grammar -/
example : ∃ v, Doc F64.ops
    ([123, 32] ++ ([34, 107, 92, 110, 34] ++ [32] ++ 58 :: ([32] ++ (91 :: ([] ++ ([116, 114, 117, 101] ++ [] ++ 44 :: ([32] ++ [49])) ++ [] ++ [93]))) ++
      [] ++ 44 :: ([32] ++ ([34, 92, 117, 100, 56, 51, 100, 92, 117, 100, 101, 48, 48, 34] ++ [32] ++ 58 :: ([32] ++ [110, 117, 108, 108])))) ++ [32, 125] ++ [10]) v ∧
    depth v ≤ 512 := by
  have ws1 : Ws [32] := ws_cons (Or.inl rfl) ws_nil
  have ws10 : Ws [10] := ws_nl_pad 0
  have k1 : StringLex [34, 107, 92, 110, 34] [107, 10] :=
    ⟨[107, 92, 110], rfl, Chars.plain [107] _ _ (Utf8Char.u1 107 (by decide)) (by decide) (by decide)
      (fun b h => by cases h; decide) (Chars.esc 110 10 [] [] (by decide) Chars.nil)⟩
  have k2 : StringLex [34, 92, 117, 100, 56, 51, 100, 92, 117, 100, 101, 48, 48, 34] (encodeUtf8 0x1F600) :=
    ⟨[92, 117, 100, 56, 51, 100, 92, 117, 100, 101, 48, 48], rfl, by
      have := Chars.pair 100 56 51 100 100 101 48 48 [] [] (by decide) (by decide) (by decide) (by decide) (by decide) (by decide)
        (by decide) (by decide) (by decide) (by decide) (by decide) (by decide) Chars.nil
      have e : 0x10000 + (hex4Val 100 56 51 100 - 0xD800) * 0x400 + (hex4Val 100 101 48 48 - 0xDC00) = 0x1F600 := by decide
      rwa [e, List.append_nil] at this⟩
  have varr : Val F64.ops (91 :: ([] ++ ([116, 114, 117, 101] ++ [] ++ 44 :: ([32] ++ [49])) ++ [] ++ [93])) (.arr [.bool true, .num one]) :=
    Val.arr [] _ [] _ ws_nil ws_nil
      (Elems.cons _ [] [32] [49] _ _ Val.tru ws_nil ws1 (Elems.one _ _ (Val.num [49] _ one number_one ofDec_one)))
  have hm := Members.cons _ [107, 10] [32] [32] _ [] [32] _ _ _ k1 ws1 ws1 varr ws_nil ws1
      (Members.one _ (encodeUtf8 0x1F600) [32] [32] _ _ k2 ws1 ws1 (Val.null (ops := F64.ops)))
  refine ⟨_, ⟨[], _, [10], ws_nil, ws10, Val.obj [32] _ [32] _ ws1 ws1 hm (by decide), rfl⟩, ?_⟩
  decide +kernel

/-- the hypotheses of the round-trip theorems can be met: `NumLaw` for `F64.ops` on `{1.0}` with `rt = id` -/
theorem numLaw_one : NumLaw F64.ops (fun x => x = one) id := by
  intro x hx
  subst hx
  refine ⟨⟨false, 1, 0⟩, ?_, ofDec_one⟩
  have : F64.ops.print one = [49] := by decide +kernel
  rw [this]; exact number_one

example : ∃ text, save F64.ops true (.obj [([97], .arr [.num one, .str [120, 10, 195, 169], .null])]) = some text ∧
    parse F64.ops text = some (.obj [([97], .arr [.num one, .str [120, 10, 195, 169], .null])]) := by
  have h := write_parse_roundtrip_partial F64.ops (fun x => x = one) id numLaw_one
    (.obj [([97], .arr [.num one, .str [120, 10, 195, 169], .null])])
    (by simp [NoUndefined, Forall, ForallM, ForallL, DefinedNode])
    (by
      have u1 : Utf8 [97] := utf8Valid_sound _ rfl
      have u2 : Utf8 [120, 10, 195, 169] := utf8Valid_sound _ rfl
      simp [AllStringsUtf8, Forall, ForallM, ForallL, StrNode, keys, u1, u2])
    (by simp [NumsFinite, Forall, ForallM, ForallL, FinNode])
    (by simp [KeysSorted, Forall, ForallM, ForallL, SortedNode, keys])
    (by decide +kernel) true
  simpa [mapNum, mapNumM, mapNumL] using h

example : NumIdem (fun x => x = one) id := fun _ hx => ⟨hx, rfl⟩

/-- the model accepts a superset of RFC 8259 (allowed by the property): `[1,]`, `01`, `1.`, `-.5`, a `//` comment;
`+1` is rejected -/
example : (parse F64.ops [91, 49, 44, 93]).isSome = true ∧ (parse F64.ops [48, 49]).isSome = true ∧
    (parse F64.ops [49, 46]).isSome = true ∧ (parse F64.ops [45, 46, 53]).isSome = true ∧
    (parse F64.ops [47, 47, 120, 10, 49]).isSome = true ∧ (parse F64.ops [43, 49]).isSome = false := by
  decide +kernel

/-- `int_extraction_exact_or_throws` is not vacuous: 127.0 as `signed char`, 128.0 throws -/
example : getInt (-128) 127 0x405FC00000000000 = some 127 ∧ getInt (-128) 127 0x4060000000000000 = none := by
  decide +kernel

end Cppcms.C11.Props
