import Cppcms.C11.Lexing
import Cppcms.C11.Tree
/-! The writer's output is a document of the RFC 8259 grammar (denoting the tree with every number sent
through one trip to text), so that the round trip is a corollary of acceptance. -/
namespace Cppcms.C11
open Cppcms Spec

instance (e b : UInt8) : Decidable (SimpleEsc e b) := by unfold SimpleEsc; infer_instance
instance (b : UInt8) : Decidable (IsHex b) := by unfold IsHex; infer_instance

/-- what `generic_append` writes for `b`: the hex digits `nib0`, `nib1`, the escape letter `esc2` (to state `escByte_ascii`) -/
def nib0 (b : UInt8) : UInt8 := UInt8.ofNat (Gen.writerNib0 b.toNat)
def nib1 (b : UInt8) : UInt8 := UInt8.ofNat (Gen.writerNib1 b.toNat)
def esc2 (b : UInt8) : UInt8 := (escByte b).getD 1 0

theorem escByte_ascii : ∀ b : UInt8, b.toNat ≤ 0x7F →
    (escByte b = [b] ∧ 0x20 ≤ b.toNat ∧ b ≠ 0x22 ∧ b ≠ 0x5C) ∨
    (escByte b = [0x5C, esc2 b] ∧ SimpleEsc (esc2 b) b) ∨
    (escByte b = [0x5C, 0x75, 0x30, 0x30, nib0 b, nib1 b] ∧ IsHex (nib0 b) ∧ IsHex (nib1 b) ∧
      hex4Val 0x30 0x30 (nib0 b) (nib1 b) = b.toNat ∧ b.toNat < 0x20) := by
  apply forall_uint8
  decide +kernel

theorem lookup_none (n : Nat) (l : List (Nat × List Nat)) (h : ∀ p ∈ l, p.1 < n) : l.lookup n = none := by
  induction l with
  | nil => rfl
  | cons p l ih =>
    obtain ⟨hp, hl⟩ := List.forall_mem_cons.mp h
    rw [List.lookup_cons, ih hl, show (n == p.1) = false from beq_eq_false_iff_ne.mpr (Nat.ne_of_gt hp)]

/-- a byte from 0x80 on is beyond every key of the escape table and is not a control -/
theorem escByte_high (b : UInt8) (h : 0x80 ≤ b.toNat) : escByte b = [b] := by
  have l : Gen.writerEscapes.lookup b.toNat = none :=
    lookup_none _ _ fun p hp => Nat.lt_of_lt_of_le ((by decide : ∀ p ∈ Gen.writerEscapes, p.1 < 0x80) p hp) h
  have c : Gen.writerCtl b.toNat = false := decide_eq_false (by omega)
  simp only [escByte, l, c]
  rfl

theorem flatMap_escByte_high (c : Bytes) (h : ∀ b ∈ c, 0x80 ≤ b.toNat) : c.flatMap escByte = c := by
  induction c with
  | nil => rfl
  | cons b c ih =>
    obtain ⟨hb, hc⟩ := List.forall_mem_cons.mp h
    rw [List.flatMap_cons, ih hc, escByte_high b hb]; rfl

theorem chars_escape {s : Bytes} (h : Utf8 s) : Chars (s.flatMap escByte) s := by
  induction h with
  | nil => exact Chars.nil
  | cons c rest hc _ ih =>
    rw [List.flatMap_append]
    rcases Utf8Char.ascii_or_high hc with ⟨b, rfl, hb⟩ | hh
    · rw [List.flatMap_singleton]
      rcases escByte_ascii b hb with ⟨e, h1, h2, h3⟩ | ⟨e, he⟩ | ⟨e, x1, x2, hv, hlt⟩ <;> rw [e]
      · exact Chars.plain [b] _ _ hc (fun e => h2 (List.singleton_inj.mp e)) (fun e => h3 (List.singleton_inj.mp e))
          (fun b' e => List.singleton_inj.mp e ▸ h1) ih
      · exact Chars.esc (esc2 b) b _ _ he ih
      · -- `\u00XX` denotes the code point `b`, whose encoding is the byte `b`
        have := Chars.u 0x30 0x30 (nib0 b) (nib1 b) _ _ (by decide) (by decide) x1 x2 (by omega) ih
        rwa [hv, encodeUtf8, if_pos hb, UInt8.ofNat_toNat] at this
    · rw [flatMap_escByte_high c hh]
      have ne : ∀ b : UInt8, b.toNat < 0x80 → c ≠ [b] := fun b hb e => by
        have := hh b (e ▸ List.mem_singleton_self b); omega
      exact Chars.plain c _ _ hc (ne _ (by decide)) (ne _ (by decide)) (fun b e => by
        have := hh b (e ▸ List.mem_singleton_self b); omega) ih

theorem escapeString_lex {s : Bytes} (h : Utf8 s) : StringLex (escapeString s) s :=
  ⟨s.flatMap escByte, rfl, chars_escape h⟩

theorem ws_nl_pad (n : Nat) : Ws (10 :: pad n) :=
  ws_cons (Or.inr (Or.inr (Or.inl rfl))) fun b hb => by
    rw [(List.mem_replicate.mp hb).2]; exact Or.inr (Or.inl rfl)

theorem indent_after (c : UInt8) (hc : c = 91 ∨ c = 123 ∨ c = 44) (tabs : Option Nat) :
    ∃ w, (indent c tabs).1 = c :: w ∧ Ws w := by
  cases tabs with
  | none => exact ⟨[], rfl, ws_nil⟩
  | some n => rcases hc with rfl | rfl | rfl <;> exact ⟨_, rfl, ws_nl_pad _⟩

theorem indent_around (c : UInt8) (hc : c = 93 ∨ c = 125 ∨ c = 58) (tabs : Option Nat) :
    ∃ w1 w2, (indent c tabs).1 = w1 ++ c :: w2 ∧ Ws w1 ∧ Ws w2 := by
  cases tabs with
  | none => exact ⟨[], [], rfl, ws_nil, ws_nil⟩
  | some n =>
    rcases hc with rfl | rfl | rfl
    · exact ⟨_, _, rfl, ws_nl_pad _, ws_nl_pad _⟩
    · exact ⟨_, _, rfl, ws_nl_pad _, ws_nl_pad _⟩
    · exact ⟨[32], [9], rfl, ws_cons (Or.inl rfl) ws_nil, ws_cons (Or.inr (Or.inl rfl)) ws_nil⟩

/-- node conditions under which the writer's output parses back -/
def WNode {N} (fin : N → Prop) (v : Value N) : Prop := DefinedNode v ∧ StrNode v ∧ FinNode fin v ∧ SortedNode v

section
variable {N : Type} (ops : NumOps N) (fin : N → Prop) (rt : N → N) (hlaw : NumLaw ops fin rt)
include hlaw

mutual
/-- `write_value` writes a `Val` text `t` for the tree with every number mapped by `rt`, then whitespace `w` (readable
form: the newline and padding after a closing bracket) -/
theorem writeValue_val : ∀ (v : Value N), Forall (WNode fin) v → ∀ tabs : Option Nat,
    ∃ t w, writeValue ops tabs v = some (t ++ w) ∧ Val ops t (mapNum rt v) ∧ Ws w
  | .undef, ⟨hdefined, _⟩, _ => hdefined.elim
  | .null, _, _ => ⟨_, [], rfl, Val.null, ws_nil⟩
  | .bool true, _, _ => ⟨_, [], rfl, Val.tru, ws_nil⟩
  | .bool false, _, _ => ⟨_, [], rfl, Val.fls, ws_nil⟩
  | .num x, ⟨_, _, hfin, _⟩, _ =>
    have ⟨d, hn, hd⟩ := hlaw x hfin
    ⟨ops.print x, [], congrArg some (List.append_nil _).symm, Val.num _ d _ hn hd, ws_nil⟩
  | .str s, ⟨_, hutf8, _, _⟩, _ =>
    ⟨escapeString s, [], congrArg some (List.append_nil _).symm, Val.str _ s (escapeString_lex hutf8), ws_nil⟩
  | .arr items, ⟨_, hitems⟩, tabs => by
    simp only [mapNum]
    obtain ⟨w1, e1, hw1⟩ := indent_after 91 (Or.inl rfl) tabs
    obtain ⟨w2, w3, e2, hw2, hw3⟩ := indent_around 93 (Or.inl rfl) (indent 91 tabs).2
    cases items with
    | nil =>
      refine ⟨91 :: ((w1 ++ w2) ++ [93]), w3, ?_, Val.arr0 (w1 ++ w2) (ws_append hw1 hw2), hw3⟩
      simp only [writeValue, writeItems, e1, e2, List.append_assoc, List.cons_append, List.nil_append, List.append_nil]
    | cons v rest =>
      obtain ⟨tb, wb, eb, hb, hwb⟩ := wl (v :: rest) hitems (List.cons_ne_nil _ _) (indent 91 tabs).2
      refine ⟨91 :: (w1 ++ tb ++ (wb ++ w2) ++ [93]), w3, ?_, Val.arr w1 tb (wb ++ w2) _ hw1 (ws_append hwb hw2) hb, hw3⟩
      simp only [writeValue, eb, e1, e2, List.append_assoc, List.cons_append, List.nil_append]
  | .obj ms, ⟨⟨_, hkeys, _, hsorted⟩, hms⟩, tabs => by
    simp only [mapNum]
    obtain ⟨w1, e1, hw1⟩ := indent_after 123 (Or.inr (Or.inl rfl)) tabs
    obtain ⟨w2, w3, e2, hw2, hw3⟩ := indent_around 125 (Or.inr (Or.inl rfl)) (indent 123 tabs).2
    cases ms with
    | nil =>
      refine ⟨123 :: ((w1 ++ w2) ++ [125]), w3, ?_, Val.obj0 (w1 ++ w2) (ws_append hw1 hw2), hw3⟩
      simp only [writeValue, writeMembers, e1, e2, List.append_assoc, List.cons_append, List.nil_append, List.append_nil]
    | cons a rest =>
      obtain ⟨tb, wb, eb, hb, hwb⟩ := wm (a :: rest) hms hkeys (List.cons_ne_nil _ _) (indent 123 tabs).2
      refine ⟨123 :: (w1 ++ tb ++ (wb ++ w2) ++ [125]), w3, ?_, ?_, hw3⟩
      · simp only [writeValue, eb, e1, e2, List.append_assoc, List.cons_append, List.nil_append]
      · -- the members are in `std::map` order, so the object the grammar builds from them is the list itself
        have hs : (keys (mapNumM rt (a :: rest))).Pairwise (fun a b => keyLt a b = true) := by
          rw [keys_mapNumM]; exact hsorted
        have := Val.obj w1 tb (wb ++ w2) _ hw1 (ws_append hwb hw2) hb (nodup_of_sorted _ hs)
        rwa [fromMembers_of_sorted _ hs] at this
/-- `writeValue_val` for the item loop: an `Elems` derivation -/
theorem wl : ∀ (items : List (Value N)), ForallL (WNode fin) items → items ≠ [] → ∀ tabs : Option Nat,
    ∃ t w, writeItems ops tabs items = some (t ++ w) ∧ Elems ops t (mapNumL rt items) ∧ Ws w
  | [], _, hne, _ => absurd rfl hne
  | v :: rest, h, _, tabs => by
    simp only [mapNumL]
    obtain ⟨tv, wsv, ev, hv, hwv⟩ := writeValue_val v h.1 tabs
    cases rest with
    | nil => exact ⟨tv, wsv, by simp only [writeItems, ev, List.isEmpty_nil, if_true, List.append_nil], Elems.one tv _ hv, hwv⟩
    | cons v2 rest2 =>
      obtain ⟨tr, wr, er, hr, hwr⟩ := wl (v2 :: rest2) h.2 (List.cons_ne_nil _ _) tabs
      obtain ⟨w4, e4, hw4⟩ := indent_after 44 (Or.inr (Or.inr rfl)) tabs
      refine ⟨tv ++ wsv ++ 44 :: (w4 ++ tr), wr, ?_, Elems.cons tv wsv w4 tr _ _ hv hwv hw4 hr, hwr⟩
      rw [writeItems, ev, er]
      simp only [e4, List.isEmpty_cons, Bool.false_eq_true, if_false, List.append_assoc, List.cons_append]
/-- `writeValue_val` for the member loop: a `Members` derivation -/
theorem wm : ∀ (ms : List (Bytes × Value N)), ForallM (WNode fin) ms → (∀ k ∈ keys ms, Utf8 k) → ms ≠ [] →
    ∀ tabs : Option Nat, ∃ t w, writeMembers ops tabs ms = some (t ++ w) ∧ Members ops t (mapNumM rt ms) ∧ Ws w
  | [], _, _, hne, _ => absurd rfl hne
  | (k, v) :: rest, h, hk, _, tabs => by
    simp only [mapNumM]
    obtain ⟨tv, wsv, ev, hv, hwv⟩ := writeValue_val v h.1 tabs
    obtain ⟨w5, w6, e5, hw5, hw6⟩ := indent_around 58 (Or.inr (Or.inr rfl)) tabs
    obtain ⟨hk0, hkr⟩ := List.forall_mem_cons.mp hk
    have hkl : StringLex (escapeString k) k := escapeString_lex hk0
    cases rest with
    | nil =>
      refine ⟨escapeString k ++ w5 ++ 58 :: (w6 ++ tv), wsv, ?_, Members.one _ k w5 w6 tv _ hkl hw5 hw6 hv, hwv⟩
      simp only [writeMembers, ev, e5, List.isEmpty_nil, if_true, List.append_nil, List.append_assoc, List.cons_append]
    | cons a2 rest2 =>
      obtain ⟨tr, wr, er, hr, hwr⟩ := wm (a2 :: rest2) h.2 hkr (List.cons_ne_nil _ _) tabs
      obtain ⟨w4, e4, hw4⟩ := indent_after 44 (Or.inr (Or.inr rfl)) tabs
      refine ⟨escapeString k ++ w5 ++ 58 :: (w6 ++ tv) ++ wsv ++ 44 :: (w4 ++ tr), wr, ?_,
        Members.cons _ k w5 w6 tv wsv w4 tr _ _ hkl hw5 hw6 hv hwv hw4 hr, hwr⟩
      rw [writeMembers, ev, er]
      simp only [e4, e5, List.isEmpty_cons, Bool.false_eq_true, if_false, List.append_assoc, List.cons_append]
end
end

end Cppcms.C11
