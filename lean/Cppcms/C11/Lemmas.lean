import Cppcms.C11.Model
/-! Every token other than `eof`/`err` consumes input, hence the fuel of `tokens` suffices and `tokens`
unfolds along `next`. -/
namespace Cppcms.C11
open Cppcms

theorem pushBytes_some {pre : Bytes} {o : Option (Bytes × Bytes)} {s r : Bytes}
    (h : pushBytes pre o = some (s, r)) : ∃ s', o = some (s', r) := by
  cases o with
  | none => cases h
  | some p => cases h; exact ⟨_, rfl⟩

theorem strLoop_length (pend : Option Nat) (inp : Bytes) : ∀ s r,
    strLoop pend inp = some (s, r) → r.length < inp.length := by
  fun_induction strLoop pend inp <;> intro s r h
  all_goals first
    -- the loop returns at once: `none` (no case), or `some ([], rest)` at the closing quote
    | (cases h; first | done | (simp only [List.length_cons]; omega))
    -- bytes are pushed in front of the result of the loop on a shorter input
    | (obtain ⟨s', h'⟩ := pushBytes_some h; rename_i ih; have := ih _ _ h'; simp only [List.length_cons]; omega)
    -- a first surrogate: the loop goes on with the register set
    | (rename_i ih; have := ih _ _ h; simp only [List.length_cons]; omega)

theorem scanMain_length (fm fd fs : Bool) (inp : Bytes) :
    (scanMain fm fd fs inp).1.length + (scanMain fm fd fs inp).2.length = inp.length := by
  fun_induction scanMain fm fd fs inp <;> simp only [consTo, List.length_cons, List.length_nil] <;> omega

theorem scanZeros_length (fm : Bool) (inp : Bytes) :
    (scanZeros fm inp).2.1.length + (scanZeros fm inp).2.2.length ≤ inp.length := by
  fun_induction scanZeros fm inp <;> (try split) <;> simp only [List.length_cons, List.length_nil] <;> omega

theorem scanSign_length (inp : Bytes) : (scanSign inp).1.length + (scanSign inp).2.length = inp.length := by
  unfold scanSign
  split
  · split <;> simp only [List.length_cons, List.length_nil] <;> omega
  · rfl

/-- `_M_extract_float` stores no more than it consumes (leading zeros are stored once) -/
theorem scanFloat_stored (inp : Bytes) : (scanFloat inp).1.length + (scanFloat inp).2.length ≤ inp.length := by
  have h0 := scanSign_length inp
  have h1 := scanZeros_length false (scanSign inp).2
  have h2 := scanMain_length (scanZeros false (scanSign inp).2).1 false false (scanZeros false (scanSign inp).2).2.2
  simp only [scanFloat, List.length_append]; omega

theorem scanFloat_length (inp : Bytes) : (scanFloat inp).2.length ≤ inp.length :=
  Nat.le_trans (Nat.le_add_left _ _) (scanFloat_stored inp)

theorem parseString_length {inp s r : Bytes} (h : parseString inp = some (s, r)) : r.length < inp.length := by
  unfold parseString at h
  split at h
  · split at h
    · cases h; exact strLoop_length _ _ _ _ ‹_›
    · cases h
  · cases h

/-- `strtod` rejects the empty text, so an accepted number has consumed input -/
theorem parseNumber_length {N} (ops : NumOps N) {inp : Bytes} {v : N} {r : Bytes}
    (h : parseNumber ops inp = some (v, r)) : r.length < inp.length := by
  unfold parseNumber at h
  split at h
  · rename_i hd
    cases h
    have := scanFloat_stored inp
    cases hx : (scanFloat inp).1 with
    | nil => rw [hx] at hd; cases hd
    | cons _ _ => rw [hx, List.length_cons] at this; omega
  · cases h

theorem nextAux_length {N} (ops : NumOps N) (b : Bool) (inp : Bytes) :
    (nextAux ops b inp).1.isStop = false → (nextAux ops b inp).2.length < inp.length := by
  fun_induction nextAux ops b inp
  all_goals first
    -- `eof` / `err`: the premise is false
    | (intro h; cases h; done)
    -- blanks and comments: the tokenizer goes on with a shorter input
    | (rename_i ih; intro h; have := ih h; simp only [List.length_cons]; omega)
    -- a token: a punctuator or keyword leaves a suffix, a string or number what its scanner leaves
    | (intro _; simp only [List.length_cons, List.length_drop]
       first | omega | (have := parseString_length ‹_›; omega) | exact parseNumber_length ops ‹_›)

theorem next_length {N} (ops : NumOps N) (inp : Bytes) :
    (next ops inp).1.isStop = false → (next ops inp).2.length < inp.length :=
  nextAux_length ops false inp

theorem tokensAux_fuel {N} (ops : NumOps N) : ∀ (n m : Nat) (inp : Bytes), inp.length < n → inp.length < m →
    tokensAux ops n inp = tokensAux ops m inp
  | n + 1, m + 1, inp, hn, hm => by
    rw [tokensAux, tokensAux]
    split
    · rfl
    · rename_i hs
      have := next_length ops inp (by simpa using hs)
      rw [tokensAux_fuel ops n m _ (by omega) (by omega)]

theorem tokens_cons {N} (ops : NumOps N) (inp : Bytes) (t : Tok N) (r : Bytes)
    (h : next ops inp = (t, r)) (h1 : t.isStop = false) :
    tokens ops inp = (t, r) :: tokens ops r := by
  have hl := next_length ops inp
  rw [h] at hl
  unfold tokens
  rw [tokensAux, h, tokensAux_fuel ops inp.length (r.length + 1) r (hl h1) (Nat.lt_succ_self _)]
  simp only [h1, Bool.false_eq_true, if_false]

theorem tokens_stop {N} (ops : NumOps N) (inp : Bytes) (t : Tok N) (r : Bytes)
    (h : next ops inp = (t, r)) (h1 : t.isStop = true) :
    tokens ops inp = [(t, r)] := by
  unfold tokens; rw [tokensAux, h]; simp only [h1, if_true]

end Cppcms.C11
