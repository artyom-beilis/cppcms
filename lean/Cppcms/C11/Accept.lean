import Cppcms.C11.Lexing
import Cppcms.C11.Numbers
import Cppcms.C11.Tree
/-! The `parse_stream` machine accepts every derivation of the RFC 8259 grammar.  Statements have continuation
form: running on the tokens of `t ++ y` equals running the configuration reached after `t` on the tokens of `y`. -/
namespace Cppcms.C11
open Cppcms Spec

/-- `run` without the position bookkeeping -/
def runC {N} (c : Cfg N) : List (Tok N × Bytes) → Cfg N × List (Tok N × Bytes)
  | [] => (c, [])
  | (t, r) :: more => if c.running then runC (step c t) more else (c, (t, r) :: more)

theorem run_eq_runC {N} (toks : List (Tok N × Bytes)) : ∀ (c : Cfg N) (pos : Bytes),
    (run c pos toks).1 = (runC c toks).1 ∧ (run c pos toks).2.2 = (runC c toks).2 := by
  induction toks with
  | nil => exact fun c pos => ⟨rfl, rfl⟩
  | cons p toks ih =>
    intro c pos
    simp only [run, runC]
    split
    · exact ih _ _
    · exact ⟨rfl, rfl⟩

theorem running_of {N} {st : St} {k : Bytes} {f : Frame N} {more : List (Frame N)} {res : Value N}
    (h1 : st ≠ .error) (h2 : st ≠ .done) (h3 : more.length + 1 ≤ 512) :
    (⟨st, k, f :: more, res⟩ : Cfg N).running = true := by
  simp only [Cfg.running, List.isEmpty_cons, Bool.not_false, Bool.true_and, Bool.and_eq_true, bne_iff_ne, ne_eq]
  exact ⟨⟨h1, h2⟩, decide_eq_true h3⟩

section
variable {N : Type} (ops : NumOps N)

theorem runC_punct (c : Cfg N) (p : UInt8) (x : Bytes)
    (hp : p = 91 ∨ p = 93 ∨ p = 123 ∨ p = 125 ∨ p = 58 ∨ p = 44) (hr : c.running = true) :
    runC c (tokens ops (p :: x)) = runC (step c (.punct p)) (tokens ops x) := by
  rw [tokens_cons ops _ _ _ (next_punct ops p x hp) rfl, runC, if_pos hr]

end

section
variable {N : Type} (k : Bytes) (s : List (Frame N)) (res : Value N)

theorem step_key (key : Bytes) : step ⟨.objKey, k, s, res⟩ (.str key) = ⟨.objColon, key, s, res⟩ := rfl
theorem step_colon : step ⟨.objColon, k, s, res⟩ (.punct 58) = ⟨.objValue, k, s, res⟩ := rfl
theorem step_obj_comma : step ⟨.objCloseComma, k, s, res⟩ (.punct 44) = ⟨.objKey, k, s, res⟩ := rfl
theorem step_arr_comma : step ⟨.arrCloseComma, k, s, res⟩ (.punct 44) = ⟨.arrValue, k, s, res⟩ := rfl

end

theorem followOk_nil : FollowOk [] := by intro c r h; cases h

theorem followOk_ws_delim (w : Bytes) (c : UInt8) (y : Bytes) (hw : Ws w) (hc : c = 44 ∨ c = 93 ∨ c = 125 ∨ c = 58) :
    FollowOk (w ++ c :: y) := by
  intro d r h
  cases w with
  | nil => cases h; rcases hc with rfl | rfl | rfl | rfl <;> decide
  | cons b w => cases h; rcases hw d List.mem_cons_self with rfl | rfl | rfl | rfl <;> decide

theorem followOk_ws (w : Bytes) (hw : Ws w) : FollowOk w := by
  intro d r h
  subst h
  rcases hw d List.mem_cons_self with rfl | rfl | rfl | rfl <;> decide

/-- the state in which `parse_stream` expects a value inside this container -/
def expectSt {N} : Cont N → St
  | .obj _ => .objValue
  | _ => .arrValue
/-- the state after that value was stored -/
def afterSt {N} : Cont N → St
  | .obj _ => .objCloseComma
  | _ => .arrCloseComma
/-- the key remembered in a nested container's stack entry -/
def slotKey {N} : Cont N → Bytes → Bytes
  | .obj _, k => k
  | _, _ => []
/-- a value may be stored into `cont` under `k`: any array, an object without `k` (a duplicate key fails), never the unassigned root -/
def CtxOk {N} : Cont N → Bytes → Prop
  | .arr _, _ => True
  | .obj ms, k => hasKey k ms = false
  | .undef, _ => False

/-- A value is expected in `c`: a scalar `v` leads to `K v c.key`; a bracket puts the frame `⟨ret, fk, _⟩` on top of
`below`, and popping it with container `v` leads to `K v k'` (`k'` the key register then). -/
structure ValueCtx {N} (c : Cfg N) (ret : St) (fk : Bytes) (below : List (Frame N)) (K : Value N → Bytes → Cfg N) :
    Prop where
  running : c.running = true
  scalar : ∀ tok v, tok.scalar? = some v → step c tok = K v c.key
  openArr : step c (.punct 91) = ⟨.arrValue, c.key, ⟨ret, fk, .arr []⟩ :: below, c.result⟩
  openObj : step c (.punct 123) = ⟨.objKey, c.key, ⟨ret, fk, .obj []⟩ :: below, c.result⟩
  pop : ∀ st k' cont, Cfg.pop ⟨st, k', ⟨ret, fk, cont⟩ :: below, c.result⟩ = K cont.close k'

theorem ValueCtx.nested {N} (cont : Cont N) (k : Bytes) (hc : CtxOk cont k) (ret : St) (fk : Bytes)
    (more : List (Frame N)) (res : Value N) (hl : more.length + 1 ≤ 512) :
    ValueCtx ⟨expectSt cont, k, ⟨ret, fk, cont⟩ :: more, res⟩ (afterSt cont) (slotKey cont k) (⟨ret, fk, cont⟩ :: more)
      (fun v k' => ⟨afterSt cont, k', ⟨ret, fk, cont.plug v k⟩ :: more, res⟩) := by
  cases cont with
  | undef => exact hc.elim
  | arr r =>
    exact ⟨running_of St.noConfusion St.noConfusion hl, fun tok v hv => by cases tok <;> cases hv <;> rfl,
      rfl, rfl, fun _ _ _ => rfl⟩
  | obj ms =>
    have hk : ¬ mapHasKey k ms = true := by rw [mapHasKey_eq, hc]; exact Bool.false_ne_true
    refine ⟨running_of St.noConfusion St.noConfusion hl, fun tok v hv => ?_, ?_, ?_, fun _ _ _ => rfl⟩
    all_goals show (if mapHasKey k ms = true then _ else _) = _
    all_goals rw [if_neg hk]
    · cases tok <;> cases hv <;> rfl
    · rfl
    · rfl

theorem ValueCtx.root {N} : ValueCtx (Cfg.start : Cfg N) .done [] [] (fun v k' => ⟨.done, k', [], v⟩) :=
  ⟨rfl, fun tok v hv => by cases tok <;> cases hv <;> rfl, rfl, rfl, fun _ _ _ => rfl⟩

section
variable {N : Type} (ops : NumOps N)

/-- reading `t` in any configuration that expects a value delivers `v` there (`y`: what follows `t`; `k'`: the key register afterwards) -/
def ReadsValue (t : Bytes) (v : Value N) : Prop :=
  ∀ (y : Bytes) (c : Cfg N) (ret : St) (fk : Bytes) (below : List (Frame N)) (K : Value N → Bytes → Cfg N),
    FollowOk y → ValueCtx c ret fk below K → below.length + depth v ≤ 512 →
    ∃ k', runC c (tokens ops (t ++ y)) = runC (K v k') (tokens ops y)

/-- `ReadsValue` for a value inside a container `cont`: reading `t` stores `v` into it -/
def PV (t : Bytes) (v : Value N) : Prop :=
  ∀ (y k : Bytes) (cont : Cont N) (ret : St) (fk : Bytes) (more : List (Frame N)) (res : Value N),
    FollowOk y → CtxOk cont k → more.length + 1 + depth v ≤ 512 →
    ∃ k', runC ⟨expectSt cont, k, ⟨ret, fk, cont⟩ :: more, res⟩ (tokens ops (t ++ y)) =
          runC ⟨afterSt cont, k', ⟨ret, fk, cont.plug v k⟩ :: more, res⟩ (tokens ops y)

/-- reading the elements text `t` appends `vs` to the array on top of the stack -/
def ReadsElems (t : Bytes) (vs : List (Value N)) : Prop :=
  ∀ (y k : Bytes) (ret : St) (fk : Bytes) (r : List (Value N)) (more : List (Frame N)) (res : Value N),
    FollowOk y → more.length + 1 + depthL vs ≤ 512 →
    ∃ k', runC ⟨.arrValue, k, ⟨ret, fk, .arr r⟩ :: more, res⟩ (tokens ops (t ++ y)) =
          runC ⟨.arrCloseComma, k', ⟨ret, fk, .arr (vs.reverse ++ r)⟩ :: more, res⟩ (tokens ops y)

/-- reading the members text `t` inserts `ms` (fresh, pairwise different keys) into the object on top of the stack -/
def ReadsMembers (t : Bytes) (ms : List (Bytes × Value N)) : Prop :=
  ∀ (y k : Bytes) (ret : St) (fk : Bytes) (acc : List (Bytes × Value N)) (more : List (Frame N)) (res : Value N),
    FollowOk y → (∀ k2 ∈ keys ms, hasKey k2 acc = false) → (keys ms).Nodup → more.length + 1 + depthM ms ≤ 512 →
    ∃ k', runC ⟨.objKey, k, ⟨ret, fk, .obj acc⟩ :: more, res⟩ (tokens ops (t ++ y)) =
          runC ⟨.objCloseComma, k', ⟨ret, fk, .obj (ms.foldl (fun a kv => insertKV kv.1 kv.2 a) acc)⟩ :: more, res⟩ (tokens ops y)

theorem ReadsValue.nested {t : Bytes} {v : Value N} (h : ReadsValue ops t v) : PV ops t v :=
  fun y k cont ret fk more res hy hc hd =>
    h y _ _ _ _ _ hy (ValueCtx.nested cont k hc ret fk more res (by omega)) (by simp only [List.length_cons]; omega)

theorem readsValue_scalar (t : Bytes) (tok : Tok N) (v : Value N) (hv : tok.scalar? = some v)
    (hn : ∀ y, FollowOk y → next ops (t ++ y) = (tok, y)) : ReadsValue ops t v := by
  intro y c ret fk below K hy hc _
  have hstop : tok.isStop = false := by cases tok <;> first | rfl | cases hv
  exact ⟨c.key, by rw [tokens_cons ops _ tok y (hn y hy) hstop, runC, if_pos hc.running, hc.scalar tok v hv]⟩

theorem ValueCtx.close {c : Cfg N} {ret : St} {fk : Bytes} {below : List (Frame N)} {K : Value N → Bytes → Cfg N}
    (hc : ValueCtx c ret fk below K) (hb : below.length + 1 ≤ 512) (cl : UInt8) (st : St)
    (hst : cl = 93 ∧ (st = .arrValue ∨ st = .arrCloseComma) ∨ cl = 125 ∧ (st = .objKey ∨ st = .objCloseComma))
    (k' : Bytes) (cont : Cont N) (w y : Bytes) (hw : Ws w) :
    runC ⟨st, k', ⟨ret, fk, cont⟩ :: below, c.result⟩ (tokens ops (w ++ cl :: y)) =
      runC (K cont.close k') (tokens ops y) := by
  -- in each of the four (bracket, state) pairs the bracket is a punctuator, the state is neither `error` nor
  -- `done`, and `step` on the bracket is `pop`
  have hcl : cl = 91 ∨ cl = 93 ∨ cl = 123 ∨ cl = 125 ∨ cl = 58 ∨ cl = 44 := by
    rcases hst with ⟨rfl, _⟩ | ⟨rfl, _⟩ <;> simp
  have hne : st ≠ .error ∧ st ≠ .done := by
    rcases hst with ⟨_, rfl | rfl⟩ | ⟨_, rfl | rfl⟩ <;> exact ⟨St.noConfusion, St.noConfusion⟩
  have hs : step ⟨st, k', ⟨ret, fk, cont⟩ :: below, c.result⟩ (.punct cl) = K cont.close k' := by
    rw [← hc.pop st k' cont]; rcases hst with ⟨rfl, rfl | rfl⟩ | ⟨rfl, rfl | rfl⟩ <;> rfl
  rw [tokens_ws ops w _ hw, runC_punct ops _ cl _ hcl (running_of hne.1 hne.2 hb), hs]

theorem reads_member (kt key w1 w2 t : Bytes) (v : Value N) (hk : StringLex kt key) (h1 : Ws w1) (h2 : Ws w2) (hv : ReadsValue ops t v)
    (y k : Bytes) (ret : St) (fk : Bytes) (acc : List (Bytes × Value N)) (more : List (Frame N)) (res : Value N)
    (hy : FollowOk y) (hfresh : hasKey key acc = false) (hdep : more.length + 1 + depth v ≤ 512) :
    ∃ k', runC ⟨.objKey, k, ⟨ret, fk, .obj acc⟩ :: more, res⟩ (tokens ops ((kt ++ w1 ++ 58 :: (w2 ++ t)) ++ y)) =
          runC ⟨.objCloseComma, k', ⟨ret, fk, .obj (insertKV key v acc)⟩ :: more, res⟩ (tokens ops y) := by
  have hl : more.length + 1 ≤ 512 := by omega
  obtain ⟨k', h⟩ := hv.nested ops y key (.obj acc) ret fk more res hy hfresh hdep
  refine ⟨k', ?_⟩
  rw [show (kt ++ w1 ++ 58 :: (w2 ++ t)) ++ y = kt ++ (w1 ++ 58 :: (w2 ++ (t ++ y))) by simp,
    tokens_cons ops _ (.str key) _ (next_string ops kt key _ hk) rfl, runC,
    if_pos (running_of St.noConfusion St.noConfusion hl), step_key, tokens_ws ops w1 _ h1,
    runC_punct ops _ 58 _ (by simp) (running_of St.noConfusion St.noConfusion hl), step_colon,
    tokens_ws ops w2 _ h2]
  simpa only [expectSt, afterSt, Cont.plug, mapInsert_eq] using h

theorem val_readsValue {t : Bytes} {v : Value N} (h : Val ops t v) : ReadsValue ops t v := by
  refine Val.rec (motive_1 := fun t v _ => ReadsValue ops t v) (motive_2 := fun t vs _ => ReadsElems ops t vs)
    (motive_3 := fun t ms _ => ReadsMembers ops t ms) ?null ?tru ?fls ?num ?str ?arr0 ?arr ?obj0 ?obj ?elemsOne ?elemsCons ?membersOne ?membersCons h
  case null => exact readsValue_scalar ops _ .nul .null rfl (fun y _ => next_null ops y)
  case tru => exact readsValue_scalar ops _ .tru (.bool true) rfl (fun y _ => next_true ops y)
  case fls => exact readsValue_scalar ops _ .fls (.bool false) rfl (fun y _ => next_false ops y)
  case num => exact fun t d x hn hx => readsValue_scalar ops _ (.num x) (.num x) rfl (fun y hy => next_number ops t d x y hn hx hy)
  case str => exact fun t s hs => readsValue_scalar ops _ (.str s) (.str s) rfl (fun y _ => next_string ops t s y hs)
  case arr0 =>
    intro w hw y c ret fk below K hy hc hd
    refine ⟨c.key, ?_⟩
    rw [List.cons_append, List.append_assoc, List.singleton_append, runC_punct ops c 91 _ (by simp) hc.running,
      hc.openArr, hc.close ops hd 93 _ (Or.inl ⟨rfl, Or.inl rfl⟩) _ _ w y hw]
    rfl
  case obj0 =>
    intro w hw y c ret fk below K hy hc hd
    refine ⟨c.key, ?_⟩
    rw [List.cons_append, List.append_assoc, List.singleton_append, runC_punct ops c 123 _ (by simp) hc.running,
      hc.openObj, hc.close ops hd 125 _ (Or.inr ⟨rfl, Or.inl rfl⟩) _ _ w y hw]
    rfl
  case arr =>
    intro w1 t w2 vs h1 h2 _ he y c ret fk below K hy hc hd
    have hd' : below.length + 1 + depthL vs ≤ 512 := by simp only [depth] at hd; omega
    obtain ⟨k', hk'⟩ := he (w2 ++ 93 :: y) c.key ret fk [] below c.result (followOk_ws_delim w2 93 y h2 (by simp)) hd'
    refine ⟨k', ?_⟩
    rw [show (91 :: (w1 ++ t ++ w2 ++ [93])) ++ y = 91 :: (w1 ++ (t ++ (w2 ++ 93 :: y))) by simp,
      runC_punct ops c 91 _ (by simp) hc.running, hc.openArr, tokens_ws ops w1 _ h1, hk',
      hc.close ops (by omega) 93 _ (Or.inl ⟨rfl, Or.inr rfl⟩) _ _ w2 y h2, Cont.close, List.append_nil,
      List.reverse_reverse]
  case obj =>
    intro w1 t w2 ms h1 h2 _ hnd hm y c ret fk below K hy hc hd
    have hd' : below.length + 1 + depthM ms ≤ 512 := by simp only [depth, depthM_fromMembers ms hnd] at hd; omega
    obtain ⟨k', hk'⟩ := hm (w2 ++ 125 :: y) c.key ret fk [] below c.result (followOk_ws_delim w2 125 y h2 (by simp))
      (fun _ _ => rfl) hnd hd'
    refine ⟨k', ?_⟩
    rw [show (123 :: (w1 ++ t ++ w2 ++ [125])) ++ y = 123 :: (w1 ++ (t ++ (w2 ++ 125 :: y))) by simp,
      runC_punct ops c 123 _ (by simp) hc.running, hc.openObj, tokens_ws ops w1 _ h1, hk',
      hc.close ops (by omega) 125 _ (Or.inr ⟨rfl, Or.inr rfl⟩) _ _ w2 y h2]
    rfl
  case elemsOne =>
    intro t v _ hv y k ret fk r more res hy hd
    exact hv.nested ops y k (.arr r) ret fk more res hy trivial (by simp only [depthL] at hd; omega)
  case elemsCons =>
    intro t w1 w2 t' v vs _ h1 h2 _ hv he y k ret fk r more res hy hd
    simp only [depthL] at hd
    obtain ⟨k1, h⟩ := hv.nested ops (w1 ++ 44 :: (w2 ++ (t' ++ y))) k (.arr r) ret fk more res
      (followOk_ws_delim w1 44 _ h1 (by simp)) trivial (by omega)
    simp only [expectSt, afterSt, Cont.plug] at h
    obtain ⟨k2, h'⟩ := he y k1 ret fk (v :: r) more res hy (by omega)
    refine ⟨k2, ?_⟩
    rw [show (t ++ w1 ++ 44 :: (w2 ++ t')) ++ y = t ++ (w1 ++ 44 :: (w2 ++ (t' ++ y))) by simp, h,
      tokens_ws ops w1 _ h1, runC_punct ops _ 44 _ (by simp) (running_of St.noConfusion St.noConfusion (by omega)),
      step_arr_comma, tokens_ws ops w2 _ h2, h', List.reverse_cons, List.append_assoc]
    rfl
  case membersOne =>
    intro kt key w1 w2 t v hk h1 h2 _ hv y k ret fk acc more res hy hfresh _ hdep
    exact reads_member ops kt key w1 w2 t v hk h1 h2 hv y k ret fk acc more res hy (hfresh key List.mem_cons_self)
      (by simp only [depthM] at hdep; omega)
  case membersCons =>
    intro kt key w1 w2 t w3 w4 t' v ms hk h1 h2 _ h3 h4 _ hv hm y k ret fk acc more res hy hfresh hnd hdep
    simp only [depthM] at hdep
    simp only [keys, List.map_cons, List.nodup_cons, List.mem_cons, forall_eq_or_imp] at hfresh hnd
    obtain ⟨k1, h⟩ := reads_member ops kt key w1 w2 t v hk h1 h2 hv (w3 ++ 44 :: (w4 ++ (t' ++ y))) k ret fk acc more res
      (followOk_ws_delim w3 44 _ h3 (by simp)) hfresh.1 (by omega)
    obtain ⟨k2, h'⟩ := hm y k1 ret fk (insertKV key v acc) more res hy
      (fun k2 hk2 => hasKey_insertKV k2 key v acc (fun e => hnd.1 (e ▸ hk2)) (hfresh.2 k2 hk2)) hnd.2 (by omega)
    refine ⟨k2, ?_⟩
    rw [show (kt ++ w1 ++ 58 :: (w2 ++ t) ++ w3 ++ 44 :: (w4 ++ t')) ++ y =
        (kt ++ w1 ++ 58 :: (w2 ++ t)) ++ (w3 ++ 44 :: (w4 ++ (t' ++ y))) by simp, h,
      tokens_ws ops w3 _ h3, runC_punct ops _ 44 _ (by simp) (running_of St.noConfusion St.noConfusion (by omega)),
      step_obj_comma, tokens_ws ops w4 _ h4, h']
    rfl

theorem val_run : ∀ {t : Bytes} {v : Value N}, Val ops t v → PV ops t v :=
  fun h => (val_readsValue ops h).nested

theorem runC_done (k : Bytes) (v : Value N) (toks : List (Tok N × Bytes)) :
    runC ⟨.done, k, [], v⟩ toks = (⟨.done, k, [], v⟩, toks) := by
  cases toks <;> rfl

theorem tokens_only_ws (w : Bytes) (hw : Ws w) : tokens ops w = [(.eof, [])] := by
  rw [← List.append_nil w, tokens_ws ops w [] hw]
  exact tokens_stop ops [] .eof [] rfl rfl

theorem parse_doc {text : Bytes} {v : Value N} (h : Doc ops text v) (hd : depth v ≤ 512) :
    parseStream ops true text = some (v, []) := by
  obtain ⟨w1, t, w2, h1, h2, hv, rfl⟩ := h
  obtain ⟨k, hk⟩ := val_readsValue ops hv w2 _ _ _ _ _ (followOk_ws w2 h2) ValueCtx.root (by simpa using hd)
  have hr := run_eq_runC (tokens ops (w1 ++ t ++ w2)) Cfg.start (w1 ++ t ++ w2)
  rw [List.append_assoc, tokens_ws ops w1 _ h1, hk, runC_done, tokens_only_ws ops w2 h2] at hr
  unfold parseStream
  rw [List.append_assoc, tokens_ws ops w1 _ h1]
  rcases hrun : run Cfg.start (w1 ++ (t ++ w2)) (tokens ops (t ++ w2)) with ⟨c, pos, more⟩
  rw [hrun] at hr
  obtain ⟨rfl, rfl⟩ := hr
  rfl
end

end Cppcms.C11
