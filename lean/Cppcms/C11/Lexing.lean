import Cppcms.C11.Lemmas
import Cppcms.C11.Utf8
/-! Which token `next` returns on a text that starts with a lexeme of RFC 8259 (whitespace, structural
characters, keywords, strings with all escape forms). -/
namespace Cppcms.C11
open Cppcms Spec

theorem ws_nil : Ws [] := fun _ hb => nomatch hb

theorem ws_cons {b : UInt8} {a : Bytes} (hb : IsWs b) (ha : Ws a) : Ws (b :: a) :=
  List.forall_mem_cons.mpr ⟨hb, ha⟩

theorem ws_append {a b : Bytes} (ha : Ws a) (hb : Ws b) : Ws (a ++ b) :=
  fun c hc => (List.mem_append.mp hc).elim (ha c) (hb c)

theorem next_ws {N} (ops : NumOps N) (w x : Bytes) (h : Ws w) : next ops (w ++ x) = next ops x := by
  induction w with
  | nil => rfl
  | cons b w ih =>
    refine Eq.trans ?_ (ih fun c hc => h c (List.mem_cons_of_mem _ hc))
    rw [List.cons_append, next, nextAux.eq_def]
    rcases h b List.mem_cons_self with rfl | rfl | rfl | rfl <;> rfl

theorem tokens_ws {N} (ops : NumOps N) (w x : Bytes) (h : Ws w) : tokens ops (w ++ x) = tokens ops x := by
  have hn := next_ws ops w x h
  cases hs : (next ops x).1.isStop with
  | true => rw [tokens_stop ops _ _ _ hn hs, tokens_stop ops _ _ _ rfl hs]
  | false => rw [tokens_cons ops _ _ _ hn hs, tokens_cons ops _ _ _ rfl hs]

theorem next_punct {N} (ops : NumOps N) (c : UInt8) (x : Bytes)
    (h : c = 91 ∨ c = 93 ∨ c = 123 ∨ c = 125 ∨ c = 58 ∨ c = 44) : next ops (c :: x) = (.punct c, x) := by
  rw [next, nextAux.eq_def]
  rcases h with rfl | rfl | rfl | rfl | rfl | rfl <;> rfl

theorem next_null {N} (ops : NumOps N) (x : Bytes) : next ops (110 :: 117 :: 108 :: 108 :: x) = (.nul, x) := by
  rw [next, nextAux.eq_def]; rfl

theorem next_true {N} (ops : NumOps N) (x : Bytes) : next ops (116 :: 114 :: 117 :: 101 :: x) = (.tru, x) := by
  rw [next, nextAux.eq_def]; rfl

theorem next_false {N} (ops : NumOps N) (x : Bytes) : next ops (102 :: 97 :: 108 :: 115 :: 101 :: x) = (.fls, x) := by
  rw [next, nextAux.eq_def]; rfl

theorem pushBytes_append (a b : Bytes) (o : Option (Bytes × Bytes)) :
    pushBytes a (pushBytes b o) = pushBytes (a ++ b) o := by
  rcases o with _ | ⟨s, r⟩
  · rfl
  · exact congrArg (fun l => some (l, r)) (List.append_assoc a b s).symm

theorem strLoop_quote (y : Bytes) : strLoop none (34 :: y) = some ([], y) := by
  rw [strLoop.eq_def]; rfl

theorem strLoop_copy (c y : Bytes) (h : ∀ b ∈ c, 0x20 ≤ b.toNat ∧ b ≠ 34 ∧ b ≠ 92) :
    strLoop none (c ++ y) = pushBytes c (strLoop none y) := by
  induction c with
  | nil => rw [List.nil_append]; rcases strLoop none y with _ | ⟨s, r⟩ <;> rfl
  | cons b c ih =>
    obtain ⟨⟨h1, h2, h3⟩, hc⟩ := List.forall_mem_cons.mp h
    have : Gen.strCtl b.toNat = false := decide_eq_false (by omega)
    rw [List.cons_append, strLoop.eq_def]
    simp only [this, h2, h3, Option.isSome_none, Bool.false_and, beq_iff_eq, Bool.false_eq_true, if_false]
    rw [ih hc, pushBytes_append]; rfl

theorem strLoop_char (c : Bytes) (y : Bytes) (hc : Utf8Char c) (hq : c ≠ [0x22]) (hb : c ≠ [0x5C])
    (h1 : ∀ b, c = [b] → 0x20 ≤ b.toNat) : strLoop none (c ++ y) = pushBytes c (strLoop none y) := by
  refine strLoop_copy c y ?_
  rcases Utf8Char.ascii_or_high hc with ⟨b, rfl, _⟩ | h
  · intro b' hb'
    rw [List.mem_singleton] at hb'; subst hb'
    exact ⟨h1 b' rfl, fun e => hq (e ▸ rfl), fun e => hb (e ▸ rfl)⟩
  · intro b hm
    have := h b hm
    exact ⟨by omega, by rintro rfl; simp at this, by rintro rfl; simp at this⟩

theorem strLoop_esc (e b : UInt8) (y : Bytes) (h : SimpleEsc e b) :
    strLoop none (92 :: e :: y) = pushBytes [b] (strLoop none y) := by
  rw [strLoop.eq_def]
  rcases h with ⟨rfl, rfl⟩ | ⟨rfl, rfl⟩ | ⟨rfl, rfl⟩ | ⟨rfl, rfl⟩ | ⟨rfl, rfl⟩ | ⟨rfl, rfl⟩ | ⟨rfl, rfl⟩ | ⟨rfl, rfl⟩ <;> rfl

theorem simpleEsc_ascii (e b : UInt8) (h : SimpleEsc e b) : b.toNat ≤ 0x7F := by
  rcases h with ⟨_, rfl⟩ | ⟨_, rfl⟩ | ⟨_, rfl⟩ | ⟨_, rfl⟩ | ⟨_, rfl⟩ | ⟨_, rfl⟩ | ⟨_, rfl⟩ | ⟨_, rfl⟩ <;> decide

theorem hexOk_of_isHex (b : UInt8) (h : IsHex b) : Gen.hexDigitOk b.toNat = true := by
  unfold IsHex at h
  simp [Gen.hexDigitOk]; omega

theorem hexVal_spec (b : UInt8) (h : IsHex b) : hexVal b = hexDigitVal b ∧ hexVal b < 16 := by
  unfold hexVal hexDigitVal
  rcases h with h | h | h
  · rw [if_pos h, if_pos h.2]; omega
  · rw [if_neg (by omega), if_neg (by omega), if_pos h, if_neg (by omega), if_pos h.2]; omega
  · rw [if_neg (by omega), if_pos h, if_neg (by omega), if_neg (by omega)]; omega

theorem hex4_spec (h1 h2 h3 h4 : UInt8) (a : IsHex h1) (b : IsHex h2) (c : IsHex h3) (d : IsHex h4) :
    hex4 h1 h2 h3 h4 = hex4Val h1 h2 h3 h4 ∧ hex4Val h1 h2 h3 h4 < 65536 := by
  have e1 := hexVal_spec h1 a; have e2 := hexVal_spec h2 b; have e3 := hexVal_spec h3 c; have e4 := hexVal_spec h4 d
  simp only [hex4, hex4Val]
  omega

theorem strLoop_uesc (pend : Option Nat) (h1 h2 h3 h4 : UInt8) (y : Bytes)
    (a : IsHex h1) (b : IsHex h2) (c : IsHex h3) (d : IsHex h4) :
    strLoop pend (0x5C :: 0x75 :: h1 :: h2 :: h3 :: h4 :: y) =
      match pend with
      | some hi =>
        if Gen.isSecondSurrogate (hex4Val h1 h2 h3 h4) then
          pushBytes (utf8Enc (Gen.combineSurrogate hi (hex4Val h1 h2 h3 h4))) (strLoop none y)
        else none
      | none =>
        if Gen.isFirstSurrogate (hex4Val h1 h2 h3 h4) then strLoop (some (hex4Val h1 h2 h3 h4)) y
        else pushBytes (utf8Enc (hex4Val h1 h2 h3 h4)) (strLoop none y) := by
  rw [strLoop.eq_def, ← (hex4_spec h1 h2 h3 h4 a b c d).1]
  have ok : (Gen.hexDigitOk h1.toNat && Gen.hexDigitOk h2.toNat && Gen.hexDigitOk h3.toNat && Gen.hexDigitOk h4.toNat) = true := by
    rw [hexOk_of_isHex h1 a, hexOk_of_isHex h2 b, hexOk_of_isHex h3 c, hexOk_of_isHex h4 d]; rfl
  -- `\` is no control and no quote, `u` is neither in `strEscSelf` nor in `strEscMap` and is `strEscU`, and the
  -- four digits are accepted (`ok`): what is left is the branch on the register, as stated
  cases pend <;> simp [Gen.strCtl, Gen.strEscSelf, Gen.strEscMap, Gen.strEscU, List.lookup, ok]

theorem strLoop_u (h1 h2 h3 h4 : UInt8) (y : Bytes) (a : IsHex h1) (b : IsHex h2) (c : IsHex h3) (d : IsHex h4)
    (hns : ¬ (0xD800 ≤ hex4Val h1 h2 h3 h4 ∧ hex4Val h1 h2 h3 h4 ≤ 0xDFFF)) :
    strLoop none (0x5C :: 0x75 :: h1 :: h2 :: h3 :: h4 :: y) =
      pushBytes (encodeUtf8 (hex4Val h1 h2 h3 h4)) (strLoop none y) := by
  have lt := (hex4_spec h1 h2 h3 h4 a b c d).2
  have nf : Gen.isFirstSurrogate (hex4Val h1 h2 h3 h4) = false := by
    simp only [Gen.isFirstSurrogate, Bool.and_eq_false_iff, decide_eq_false_iff_not]; omega
  rw [strLoop_uesc none h1 h2 h3 h4 y a b c d, utf8Enc_eq _ (by omega)]
  simp only [nf, Bool.false_eq_true, if_false]

theorem combineSurrogate_spec (hi lo : Nat) (h1 : 0xD800 ≤ hi) (h2 : hi ≤ 0xDBFF) (l1 : 0xDC00 ≤ lo) (l2 : lo ≤ 0xDFFF) :
    Gen.combineSurrogate hi lo = 0x10000 + (hi - 0xD800) * 0x400 + (lo - 0xDC00) ∧
    Gen.combineSurrogate hi lo < 0x110000 := by
  unfold Gen.combineSurrogate
  rw [Nat.and_two_pow_sub_one_eq_mod hi 10, Nat.and_two_pow_sub_one_eq_mod lo 10, Nat.or_comm,
    or_shl (lo % 1024) (hi % 1024) 10 (Nat.mod_lt _ (by decide)), Nat.shiftLeft_eq]
  omega

theorem strLoop_pair (h1 h2 h3 h4 l1 l2 l3 l4 : UInt8) (y : Bytes)
    (a : IsHex h1) (b : IsHex h2) (c : IsHex h3) (d : IsHex h4)
    (a' : IsHex l1) (b' : IsHex l2) (c' : IsHex l3) (d' : IsHex l4)
    (hh1 : 0xD800 ≤ hex4Val h1 h2 h3 h4) (hh2 : hex4Val h1 h2 h3 h4 ≤ 0xDBFF)
    (hl1 : 0xDC00 ≤ hex4Val l1 l2 l3 l4) (hl2 : hex4Val l1 l2 l3 l4 ≤ 0xDFFF) :
    strLoop none (0x5C :: 0x75 :: h1 :: h2 :: h3 :: h4 :: 0x5C :: 0x75 :: l1 :: l2 :: l3 :: l4 :: y) =
      pushBytes (encodeUtf8 (0x10000 + (hex4Val h1 h2 h3 h4 - 0xD800) * 0x400 + (hex4Val l1 l2 l3 l4 - 0xDC00)))
        (strLoop none y) := by
  obtain ⟨ce, clt⟩ := combineSurrogate_spec _ _ hh1 hh2 hl1 hl2
  have f1 : Gen.isFirstSurrogate (hex4Val h1 h2 h3 h4) = true := by
    simp only [Gen.isFirstSurrogate, Bool.and_eq_true, decide_eq_true_eq]; omega
  have f2 : Gen.isSecondSurrogate (hex4Val l1 l2 l3 l4) = true := by
    simp only [Gen.isSecondSurrogate, Bool.and_eq_true, decide_eq_true_eq]; omega
  rw [strLoop_uesc none h1 h2 h3 h4 _ a b c d, strLoop_uesc (some _) l1 l2 l3 l4 y a' b' c' d']
  simp only [f1, f2, if_true]
  rw [utf8Enc_eq _ clt, ce]

theorem chars_utf8 {t s : Bytes} (h : Chars t s) : Utf8 s := by
  induction h with
  | nil => exact Utf8.nil
  | plain c t s hc _ _ _ _ ih => exact Utf8.cons c s hc ih
  | esc e b t s he _ ih => exact Utf8.cons [b] s (Utf8Char.u1 b (simpleEsc_ascii e b he)) ih
  | u h1 h2 h3 h4 t s a b c d hns _ ih =>
    have := (hex4_spec h1 h2 h3 h4 a b c d).2
    exact Utf8.cons _ s (encodeUtf8_char _ (by omega) hns) ih
  | pair h1 h2 h3 h4 l1 l2 l3 l4 t s a b c d a' b' c' d' hh1 hh2 hl1 hl2 _ ih =>
    exact Utf8.cons _ s (encodeUtf8_char _ (by omega) (by omega)) ih

theorem chars_strLoop {t s : Bytes} (h : Chars t s) (y : Bytes) : strLoop none (t ++ 0x22 :: y) = some (s, y) := by
  induction h with
  | nil => exact strLoop_quote y
  | plain c t s hc hq hb h1 _ ih => rw [List.append_assoc, strLoop_char c _ hc hq hb h1, ih]; rfl
  | esc e b t s he _ ih => rw [List.cons_append, List.cons_append, strLoop_esc e b _ he, ih]; rfl
  | u h1 h2 h3 h4 t s a b c d hns _ ih =>
    simp only [List.cons_append]
    rw [strLoop_u h1 h2 h3 h4 _ a b c d hns, ih]; rfl
  | pair h1 h2 h3 h4 l1 l2 l3 l4 t s a b c d a' b' c' d' hh1 hh2 hl1 hl2 _ ih =>
    simp only [List.cons_append]
    rw [strLoop_pair h1 h2 h3 h4 l1 l2 l3 l4 _ a b c d a' b' c' d' hh1 hh2 hl1 hl2, ih]; rfl

theorem next_string {N} (ops : NumOps N) (t s y : Bytes) (h : StringLex t s) : next ops (t ++ y) = (.str s, y) := by
  obtain ⟨body, rfl, hc⟩ := h
  rw [List.cons_append, List.append_assoc, List.singleton_append, next, nextAux.eq_def]
  simp only [parseString, chars_strLoop hc y, utf8Valid_complete s (chars_utf8 hc)]
  rfl

end Cppcms.C11
