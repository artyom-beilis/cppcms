import Cppcms.C11.Model
import Cppcms.C11.Spec
/-! `string_key::operator<` as translated from the header (`Gen.keyLess`, `mapLt`) is the bytewise order `keyLt`
on all byte strings (NUL included), i.e. `<` on lists of bytes; hence the map operations of the model are the
specification's `hasKey` / `insertKV`. -/
namespace Cppcms.C11
open Cppcms Spec

theorem keyLt_iff_lt (a b : Bytes) : keyLt a b = true ↔ a < b := by
  fun_induction keyLt a b with
  | case1 => simp
  | case2 => simp
  | case3 x a y b h => simp [List.cons_lt_cons_iff, UInt8.lt_iff_toNat_lt, h]
  | case4 x a y b h1 h2 =>
    simp [List.cons_lt_cons_iff, UInt8.lt_iff_toNat_lt, h1, ← UInt8.toNat_inj]; omega
  | case5 x a y b h1 h2 ih =>
    have : x = y := UInt8.toNat_inj.mp (by omega)
    simp [this, ih]

theorem keyLt_irrefl (a : Bytes) : keyLt a a = false := by
  simpa [← keyLt_iff_lt] using List.lt_irrefl a

theorem keyLt_trans (a b c : Bytes) : keyLt a b = true → keyLt b c = true → keyLt a c = true := by
  simpa only [keyLt_iff_lt] using List.lt_trans

theorem keyLt_asymm (a b : Bytes) : keyLt a b = true → keyLt b a = false := by
  simpa [← keyLt_iff_lt] using List.lt_asymm (l₁ := a) (l₂ := b)

theorem keyLt_total (a b : Bytes) (h : a ≠ b) : keyLt a b = true ∨ keyLt b a = true := by
  simp only [keyLt_iff_lt]
  rcases List.le_total a b with h' | h'
  · exact Or.inl ((List.le_iff_lt_or_eq.mp h').resolve_right h)
  · exact Or.inr ((List.le_iff_lt_or_eq.mp h').resolve_right (Ne.symm h))

theorem keyLt_iff_bytesLt (a b : Bytes) : keyLt a b = true ↔ BytesLt a b := by
  rw [keyLt_iff_lt]
  constructor
  · intro h
    induction h with
    | nil => exact ⟨[], Or.inl ⟨_, _, rfl, rfl⟩⟩
    | rel h => exact ⟨[], Or.inr ⟨_, _, _, _, rfl, rfl, UInt8.lt_iff_toNat_lt.mp h⟩⟩
    | cons _ ih =>
      -- the common prefix grows by the shared first byte
      obtain ⟨p, ⟨c, r, rfl, rfl⟩ | ⟨x, y, ra, rb, rfl, rfl, h⟩⟩ := ih
      · exact ⟨_ :: _, Or.inl ⟨c, r, rfl, rfl⟩⟩
      · exact ⟨_ :: _, Or.inr ⟨x, y, ra, rb, rfl, rfl, h⟩⟩
  · rintro ⟨p, ⟨c, r, rfl, rfl⟩ | ⟨x, y, ra, rb, rfl, rfl, h⟩⟩
    · simpa using List.append_left_lt (l₁ := a) (List.nil_lt_cons c r)
    · exact List.append_left_lt (List.cons_lt_cons_iff.mpr (Or.inl (UInt8.lt_iff_toNat_lt.mpr h)))

theorem mapLt_eq (a b : Bytes) : mapLt a b = keyLt a b := by
  unfold mapLt
  induction a generalizing b with
  | nil => cases b <;> rfl
  | cons x a ih =>
    cases b with
    | nil => rfl
    | cons y b => simp only [List.map_cons, Gen.keyLess, Gen.keyCharLt, keyLt, decide_eq_true_eq, ih]

theorem mapEquiv_eq (a b : Bytes) : mapEquiv a b = (a == b) := by
  unfold mapEquiv
  rw [mapLt_eq, mapLt_eq]
  by_cases h : a = b
  · subst h; rw [keyLt_irrefl, beq_self_eq_true]; rfl
  · rw [beq_eq_false_iff_ne.mpr h]
    rcases keyLt_total a b h with h' | h' <;> simp only [h', Bool.not_true, Bool.false_and, Bool.and_false]

@[simp] theorem mapHasKey_eq {N} (k : Bytes) (ms : List (Bytes × Value N)) : mapHasKey k ms = hasKey k ms := by
  induction ms with
  | nil => rfl
  | cons a ms ih => simp only [mapHasKey, hasKey, mapEquiv_eq, ih]

@[simp] theorem mapInsert_eq {N} (k : Bytes) (v : Value N) (ms : List (Bytes × Value N)) :
    mapInsert k v ms = insertKV k v ms := by
  induction ms with
  | nil => rfl
  | cons a ms ih =>
    simp only [mapInsert, insertKV, mapEquiv_eq, mapLt_eq, ih]
    -- an equivalent key is an equal key, so keeping the old one is the same as storing the new one
    by_cases h : k = a.1
    · simp [h]
    · simp [h]

theorem hasKey_iff {N} (k : Bytes) (ms : List (Bytes × Value N)) : hasKey k ms = true ↔ k ∈ keys ms := by
  induction ms with
  | nil => simp [hasKey, keys]
  | cons a ms ih => simp only [hasKey, Bool.or_eq_true, beq_iff_eq, ih, keys, List.map_cons, List.mem_cons]

theorem mem_insertKV {N} (k : Bytes) (v : Value N) (ms : List (Bytes × Value N)) (kv : Bytes × Value N) :
    kv ∈ insertKV k v ms → kv = (k, v) ∨ kv ∈ ms := by
  fun_induction insertKV k v ms with
  | case1 => simp
  | case2 => simp only [List.mem_cons]; exact Or.imp_right Or.inr
  | case3 => simp only [List.mem_cons]; exact id
  | case4 _ _ _ _ _ ih =>
    simp only [List.mem_cons]
    rintro (h | h)
    · exact Or.inr (Or.inl h)
    · exact (ih h).imp_right Or.inr

theorem keys_insertKV {N} (k : Bytes) (v : Value N) (ms : List (Bytes × Value N)) (k' : Bytes) :
    k' ∈ keys (insertKV k v ms) → k' = k ∨ k' ∈ keys ms := by
  simp only [keys, List.mem_map]
  rintro ⟨kv, hm, rfl⟩
  rcases mem_insertKV k v ms kv hm with rfl | h
  · exact Or.inl rfl
  · exact Or.inr ⟨kv, h, rfl⟩

theorem sorted_insertKV {N} (k : Bytes) (v : Value N) (ms : List (Bytes × Value N))
    (hs : (keys ms).Pairwise (fun a b => keyLt a b = true)) :
    (keys (insertKV k v ms)).Pairwise (fun a b => keyLt a b = true) := by
  fun_induction insertKV k v ms with
  | case1 => simp [keys]
  | case2 k' v' rest he => rw [beq_iff_eq] at he; subst he; exact hs
  | case3 k' v' rest _ hlt =>
    simp only [keys, List.map_cons, List.pairwise_cons, List.mem_cons] at hs ⊢
    refine ⟨?_, hs⟩
    rintro b (rfl | hb)
    · exact hlt
    · exact keyLt_trans _ _ _ hlt (hs.1 b hb)
  | case4 k' v' rest hne hnlt ih =>
    simp only [keys, List.map_cons, List.pairwise_cons] at hs ⊢
    refine ⟨fun b hb => ?_, ih hs.2⟩
    rcases keys_insertKV k v rest b hb with rfl | hb'
    · exact (keyLt_total b k' (by simpa using hne)).resolve_left hnlt
    · exact hs.1 b hb'

theorem nodup_of_sorted (ks : List Bytes) (h : ks.Pairwise (fun a b => keyLt a b = true)) : ks.Nodup :=
  h.imp fun hab e => by subst e; rw [keyLt_irrefl] at hab; cases hab

theorem insertKV_last {N} (k : Bytes) (v : Value N) (acc : List (Bytes × Value N))
    (h : ∀ k' ∈ keys acc, keyLt k' k = true) : insertKV k v acc = acc ++ [(k, v)] := by
  induction acc with
  | nil => rfl
  | cons a acc ih =>
    simp only [keys, List.map_cons, List.forall_mem_cons] at h
    have hne : (k == a.1) = false := by
      rw [beq_eq_false_iff_ne]; rintro rfl; rw [keyLt_irrefl] at h; cases h.1
    simp only [insertKV, hne, keyLt_asymm _ _ h.1, Bool.false_eq_true, if_false, List.cons_append, ih h.2]

theorem foldl_insertKV_of_sorted {N} (ms : List (Bytes × Value N)) : ∀ (acc : List (Bytes × Value N)),
    (keys (acc ++ ms)).Pairwise (fun a b => keyLt a b = true) →
    ms.foldl (fun a kv => insertKV kv.1 kv.2 a) acc = acc ++ ms := by
  induction ms with
  | nil => intro acc _; simp
  | cons a ms ih =>
    intro acc hs
    have h1 : ∀ k' ∈ keys acc, keyLt k' a.1 = true := fun k' hk' => by
      simp only [keys, List.map_append, List.map_cons, List.pairwise_append, List.mem_cons] at hs
      exact hs.2.2 k' hk' a.1 (Or.inl rfl)
    rw [List.foldl_cons, insertKV_last _ _ acc h1, ih _ (by simpa using hs), List.append_assoc]
    rfl

theorem fromMembers_of_sorted {N} (ms : List (Bytes × Value N)) (h : (keys ms).Pairwise (fun a b => keyLt a b = true)) :
    fromMembers ms = ms :=
  foldl_insertKV_of_sorted ms [] h

theorem hasKey_insertKV {N} (k2 k : Bytes) (v : Value N) (acc : List (Bytes × Value N))
    (hne : k2 ≠ k) (h : hasKey k2 acc = false) : hasKey k2 (insertKV k v acc) = false := by
  rw [← Bool.not_eq_true, hasKey_iff] at h ⊢
  exact fun hm => (keys_insertKV k v acc k2 hm).elim hne h

end Cppcms.C11
