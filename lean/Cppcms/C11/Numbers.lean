import Cppcms.C11.Model
import Cppcms.C11.Spec
import Cppcms.Lib.Scan
/-! An RFC 8259 number is one number token: the `_M_extract_float` automaton consumes exactly the number
(when followed by something that cannot continue it) and `strtod`'s syntax accepts what was accumulated. -/
namespace Cppcms.C11
open Cppcms Spec

def AllDigits (ds : Bytes) : Prop := ∀ b ∈ ds, isDigit b = true

/-- what may follow a number token: nothing, or a byte that cannot continue it -/
def FollowOk (y : Bytes) : Prop := ∀ c r, y = c :: r → isDigit c = false ∧ c ≠ 46 ∧ c ≠ 101 ∧ c ≠ 69

theorem isDigit_iff (b : UInt8) : isDigit b = true ↔ IsDigit b := by simp [isDigit, IsDigit]

theorem allDigits_of {t : Bytes} (h : Digits t) : AllDigits t := fun b hb => (isDigit_iff b).mpr (h.2 b hb)

theorem digit_not_sign (d : UInt8) (h : isDigit d = true) : (d == 43 || d == 45) = false := by
  have : 48 ≤ d.toNat := by simp [isDigit] at h; omega
  have a : d ≠ 43 := by rintro rfl; simp at this
  have b : d ≠ 45 := by rintro rfl; simp at this
  simp [a, b]

theorem scanMain_digits (ds : Bytes) (h : AllDigits ds) : ∀ (fm fd fs : Bool) (z : Bytes),
    scanMain fm fd fs (ds ++ z) =
      (ds ++ (scanMain (fm || !ds.isEmpty) fd fs z).1, (scanMain (fm || !ds.isEmpty) fd fs z).2) := by
  induction ds with
  | nil => intro fm fd fs z; rw [List.isEmpty_nil, Bool.not_true, Bool.or_false]; rfl
  | cons d ds ih =>
    intro fm fd fs z
    obtain ⟨hd, hds⟩ := List.forall_mem_cons.mp h
    rw [List.cons_append, scanMain.eq_def]
    simp only [hd, if_true, ih hds, consTo, List.isEmpty_cons, Bool.not_false, Bool.or_true, Bool.true_or, List.cons_append]

theorem scanMain_stop (fd fs : Bool) (y : Bytes) (h : FollowOk y) : scanMain true fd fs y = ([], y) := by
  cases y with
  | nil => rfl
  | cons c r =>
    obtain ⟨h1, h2, h3, h4⟩ := h c r rfl
    rw [scanMain.eq_def]
    simp [h1, h2, h3, h4]

/-- the exponent part as accumulated in `__xtrc` (`E` becomes `e`) -/
def expNorm (ex : Option (UInt8 × Option Bool × Bytes)) : Bytes :=
  match ex with
  | none => []
  | some (_, sg, ep) => 101 :: ((match sg with | none => [] | some true => [45] | some false => [43]) ++ ep)

theorem scanMain_e (fd : Bool) (e s : UInt8) (ds y : Bytes) (he : e = 101 ∨ e = 69)
    (hs : (s == 43 || s == 45) = true ∨ isDigit s = true) (hds : AllDigits ds) (hy : FollowOk y) :
    scanMain true fd false (e :: s :: (ds ++ y)) = (101 :: s :: ds, y) := by
  have tail : scanMain true fd true (ds ++ y) = (ds, y) := by
    rw [scanMain_digits ds hds, Bool.true_or, scanMain_stop fd true y hy, List.append_nil]
  rw [scanMain.eq_def]
  -- `e` is not a digit and not `.`, and `found_sci` is unset: the `e` branch, which looks at `s`;
  -- a sign and a digit take different branches of it with the same result
  rcases he with rfl | rfl
  all_goals
    rcases hs with hs | hs
    all_goals simp only [hs, tail, consTo, if_true, ite_self]; rfl

theorem scanMain_exp (fd : Bool) (ex : Option (UInt8 × Option Bool × Bytes)) (y : Bytes)
    (hex : ∀ e sg ep, ex = some (e, sg, ep) → (e = 101 ∨ e = 69) ∧ Digits ep) (hy : FollowOk y) :
    scanMain true fd false (expText ex ++ y) = (expNorm ex, y) := by
  rcases ex with _ | ⟨e, sg, ep⟩
  · exact scanMain_stop fd false y hy
  · obtain ⟨he, hne, hdig⟩ := hex e sg ep rfl
    have hall : AllDigits ep := allDigits_of ⟨hne, hdig⟩
    rcases sg with _ | _ | _
    · rcases ep with _ | ⟨d, ds⟩
      · exact absurd rfl hne
      · obtain ⟨hd, hds⟩ := List.forall_mem_cons.mp hall
        exact scanMain_e fd e d ds y he (Or.inr hd) hds hy
    · exact scanMain_e fd e 43 ep y he (Or.inl rfl) hall hy
    · exact scanMain_e fd e 45 ep y he (Or.inl rfl) hall hy

theorem scanMain_frac (fp : Bytes) (ex : Option (UInt8 × Option Bool × Bytes)) (y : Bytes)
    (hfp : fp = [] ∨ Digits fp)
    (hex : ∀ e sg ep, ex = some (e, sg, ep) → (e = 101 ∨ e = 69) ∧ Digits ep) (hy : FollowOk y) :
    scanMain true false false (fracText fp ++ expText ex ++ y) = (fracText fp ++ expNorm ex, y) := by
  unfold fracText
  split
  · exact scanMain_exp false ex y hex hy
  · rename_i hf
    have := scanMain_digits fp (allDigits_of (hfp.resolve_left hf)) true true false (expText ex ++ y)
    rw [Bool.true_or, scanMain_exp true ex y hex hy] at this
    rw [List.cons_append, List.cons_append, scanMain.eq_def, List.append_assoc]
    simp only [this, consTo]
    rfl

theorem frac_exp_head (fp : Bytes) (ex : Option (UInt8 × Option Bool × Bytes)) (y : Bytes)
    (hex : ∀ e sg ep, ex = some (e, sg, ep) → (e = 101 ∨ e = 69) ∧ Digits ep) (hy : FollowOk y) :
    ∀ c r, fracText fp ++ expText ex ++ y = c :: r → isDigit c = false := by
  intro c r h
  unfold fracText at h
  split at h
  · rcases ex with _ | ⟨e, sg, ep⟩
    · exact (hy c r h).1
    · cases h; rcases (hex _ _ _ rfl).1 with rfl | rfl <;> rfl
  · cases h; rfl

theorem intPart_cases {ip : Bytes} (h : IntPart ip) :
    ip = [48] ∨ (∃ d ds, ip = d :: ds ∧ isDigit d = true ∧ d ≠ 48 ∧ AllDigits ds) := by
  rcases h with h | ⟨hd, hh⟩
  · exact Or.inl h
  · rcases ip with _ | ⟨d, ds⟩
    · exact absurd rfl hd.1
    · obtain ⟨h0, hds⟩ := List.forall_mem_cons.mp (allDigits_of hd)
      exact Or.inr ⟨d, ds, rfl, h0, fun e => hh (by rw [e]; rfl), hds⟩

theorem scanFloat_eq (inp : Bytes) {s1 s2 z1 z2 m1 m2 : Bytes} {fm : Bool}
    (hs : scanSign inp = (s1, s2)) (hz : scanZeros false s2 = (fm, z1, z2))
    (hm : scanMain fm false false z2 = (m1, m2)) : scanFloat inp = (s1 ++ z1 ++ m1, m2) := by
  simp only [scanFloat, hs, hz, hm]

theorem scanSign_minus (neg : Bool) (d : UInt8) (r : Bytes) (hd : isDigit d = true) :
    scanSign (minusText neg ++ d :: r) = (minusText neg, d :: r) := by
  cases neg
  · rw [minusText, if_neg Bool.false_ne_true, List.nil_append, scanSign, digit_not_sign d hd]; rfl
  · rfl

theorem scanZeros_stop (fm : Bool) (c : UInt8) (r : Bytes) (h : c ≠ 48) : scanZeros fm (c :: r) = (fm, [], c :: r) := by
  rw [scanZeros, beq_eq_false_iff_ne.mpr h]; rfl

theorem scanFloat_int (neg : Bool) (ip rest rest' y : Bytes) (hip : IntPart ip)
    (hz : ∀ c r, rest = c :: r → isDigit c = false) (hmain : scanMain true false false rest = (rest', y)) :
    scanFloat (minusText neg ++ ip ++ rest) = (minusText neg ++ ip ++ rest', y) := by
  rcases intPart_cases hip with rfl | ⟨d, ds, rfl, hd, hd0, hds⟩
  · -- a single zero is stored by the zeros loop
    have z : scanZeros false (48 :: rest) = (true, [48], rest) := by
      rcases rest with _ | ⟨c, r⟩
      · rfl
      · rw [scanZeros, scanZeros_stop true c r (by rintro rfl; exact absurd (hz _ _ rfl) (by decide))]; rfl
    exact scanFloat_eq _ (by rw [List.append_assoc]; exact scanSign_minus neg 48 _ rfl) z hmain
  · have m : scanMain false false false (d :: ds ++ rest) = (d :: ds ++ rest', y) := by
      rw [scanMain_digits (d :: ds) (List.forall_mem_cons.mpr ⟨hd, hds⟩), List.isEmpty_cons, Bool.not_false,
        Bool.or_true, hmain]
    rw [show minusText neg ++ (d :: ds) ++ rest' = minusText neg ++ [] ++ (d :: ds ++ rest') by
      rw [List.append_nil, List.append_assoc]]
    exact scanFloat_eq _ (by rw [List.append_assoc]; exact scanSign_minus neg d _ hd) (scanZeros_stop false d _ hd0) m

theorem scanFloat_number (neg : Bool) (ip fp : Bytes) (ex : Option (UInt8 × Option Bool × Bytes)) (y : Bytes)
    (hip : IntPart ip) (hfp : fp = [] ∨ Digits fp)
    (hex : ∀ e sg ep, ex = some (e, sg, ep) → (e = 101 ∨ e = 69) ∧ Digits ep) (hy : FollowOk y) :
    scanFloat (minusText neg ++ ip ++ fracText fp ++ expText ex ++ y) =
      (minusText neg ++ ip ++ fracText fp ++ expNorm ex, y) := by
  have := scanFloat_int neg ip _ _ y hip (frac_exp_head fp ex y hex hy) (scanMain_frac fp ex y hfp hex hy)
  simpa only [List.append_assoc] using this

/-- by `rfl`: `digitsVal` and `Spec.natOf` are the same fold -/
theorem digitsVal_eq (t : Bytes) : digitsVal t = natOf t := rfl

theorem stripSign_minus (neg : Bool) (d : UInt8) (r : Bytes) (hd : isDigit d = true) :
    stripSign (minusText neg ++ d :: r) = (neg, d :: r) := by
  cases neg
  · have := digit_not_sign d hd
    simp only [Bool.or_eq_false_iff, beq_eq_false_iff_ne] at this
    rw [minusText, if_neg Bool.false_ne_true, List.nil_append]
    unfold stripSign
    split
    · rename_i h; cases h; exact absurd rfl this.2
    · rename_i h; cases h; exact absurd rfl this.1
    · rfl
  · rfl

theorem expNorm_head (ex : Option (UInt8 × Option Bool × Bytes)) :
    ∀ c r, expNorm ex = c :: r → isDigit c = false ∧ c ≠ 46 := by
  intro c r h
  rcases ex with _ | ⟨e, sg, ep⟩
  · cases h
  · cases h; exact ⟨rfl, by decide⟩

theorem splitFrac_frac (fp : Bytes) (ex : Option (UInt8 × Option Bool × Bytes)) (hfp : fp = [] ∨ Digits fp) :
    splitFrac (fracText fp ++ expNorm ex) = (fp, expNorm ex) := by
  unfold fracText
  split
  · rename_i hf
    subst hf
    unfold splitFrac
    split
    · rename_i r h; exact absurd rfl (expNorm_head ex 46 r h).2
    · rfl
  · rename_i hf
    obtain ⟨a, b⟩ := Scan.takeWhile_append (allDigits_of (hfp.resolve_left hf))
      (Scan.stops_of_cons fun c r h => (expNorm_head ex c r h).1)
    rw [List.cons_append, splitFrac, a, b]

theorem parseDec_number (neg : Bool) (ip fp : Bytes) (ex : Option (UInt8 × Option Bool × Bytes))
    (hip : IntPart ip) (hfp : fp = [] ∨ Digits fp)
    (hex : ∀ e sg ep, ex = some (e, sg, ep) → (e = 101 ∨ e = 69) ∧ Digits ep) :
    parseDec (minusText neg ++ ip ++ fracText fp ++ expNorm ex) =
      some ⟨neg, natOf (ip ++ fp), expVal ex - (fp.length : Int)⟩ := by
  obtain ⟨d, ds, rfl, hd, hds⟩ : ∃ d ds, ip = d :: ds ∧ isDigit d = true ∧ AllDigits ds := by
    rcases intPart_cases hip with rfl | ⟨d, ds, rfl, hd, _, hds⟩
    · exact ⟨48, [], rfl, rfl, fun _ => nofun⟩
    · exact ⟨d, ds, rfl, hd, hds⟩
  have hsign : stripSign (minusText neg ++ (d :: ds) ++ fracText fp ++ expNorm ex) =
      (neg, (d :: ds) ++ (fracText fp ++ expNorm ex)) := by
    rw [List.append_assoc, List.append_assoc]; exact stripSign_minus neg d _ hd
  obtain ⟨tw, dw⟩ := Scan.takeWhile_append (b := fracText fp ++ expNorm ex) (List.forall_mem_cons.mpr ⟨hd, hds⟩)
    (Scan.stops_of_cons fun c r h => by
      unfold fracText at h
      split at h
      · exact (expNorm_head ex c r h).1
      · cases h; rfl)
  unfold parseDec
  simp only [hsign, tw, dw, splitFrac_frac fp ex hfp, List.length_cons, Nat.add_right_comm _ 1, Nat.succ_ne_zero, beq_iff_eq,
    if_false]
  rcases ex with _ | ⟨e, sg, ep⟩
  · exact congrArg (fun x => some (Dec.mk neg _ x)) (Int.zero_sub _).symm
  · obtain ⟨_, hne, hdig⟩ := hex e sg ep rfl
    have hall := allDigits_of ⟨hne, hdig⟩
    have h : (ep.isEmpty || !ep.all isDigit) = false := by
      rw [List.isEmpty_eq_false_iff.mpr hne, List.all_eq_true.mpr hall]; rfl
    rcases sg with _ | _ | _
    · rcases ep with _ | ⟨d', ds'⟩
      · exact absurd rfl hne
      · have hs : stripSign (d' :: ds') = (false, d' :: ds') := stripSign_minus false d' ds' (hall d' List.mem_cons_self)
        simp only [expNorm, List.nil_append, hs, h, Bool.false_eq_true, if_false]; rfl
    all_goals
      show (if (List.isEmpty ep || !List.all ep isDigit) = true then none else _) = _
      rw [h]; rfl

/-- how `tockenizer::next` dispatches on `-` and the digits -/
theorem numStart_dispatch : ∀ n < 58, n = 45 ∨ 48 ≤ n →
    Gen.tokPunct.contains n = false ∧ (Gen.tokBlank.contains n || n == Gen.tokNewline) = false ∧
    (n == Gen.tokQuote) = false ∧ Gen.tokKeywords.find? (fun k => k.1 == n) = none ∧
    Gen.tokNumStart.contains n = true := by
  decide

theorem nextAux_number {N} (ops : NumOps N) (c : UInt8) (rest : Bytes) (hc : c = 45 ∨ isDigit c = true)
    {x : N} {r : Bytes} (hp : parseNumber ops (c :: rest) = some (x, r)) :
    nextAux ops false (c :: rest) = (.num x, r) := by
  obtain ⟨h1, h2, h3, h4, h5⟩ := numStart_dispatch c.toNat
    (by rcases hc with rfl | h; decide; simp [isDigit] at h; omega)
    (by rcases hc with rfl | h; exact Or.inl rfl; simp [isDigit] at h; omega)
  rw [nextAux.eq_def]
  simp only [h1, h2, h3, h4, h5, hp, Bool.false_eq_true, if_false, if_true]

theorem next_number {N} (ops : NumOps N) (t : Bytes) (d : Dec) (x : N) (y : Bytes)
    (h : Number t d) (hx : ops.ofDec d = some x) (hy : FollowOk y) : next ops (t ++ y) = (.num x, y) := by
  obtain ⟨neg, ip, fp, ex, hip, hfp, hex⟩ := h
  have hpn : parseNumber ops (minusText neg ++ ip ++ fracText fp ++ expText ex ++ y) = some (x, y) := by
    rw [parseNumber, scanFloat_number neg ip fp ex y hip hfp hex hy, parseDec_number neg ip fp ex hip hfp hex]
    simp only [Option.bind, hx]
  obtain ⟨c, rest, e, hc⟩ : ∃ c rest, minusText neg ++ ip ++ fracText fp ++ expText ex ++ y = c :: rest ∧
      (c = 45 ∨ isDigit c = true) := by
    cases neg
    · rcases intPart_cases hip with rfl | ⟨d, ds, rfl, hd, _, _⟩
      · exact ⟨48, _, rfl, Or.inr rfl⟩
      · exact ⟨d, _, rfl, Or.inr hd⟩
    · exact ⟨45, _, rfl, Or.inl rfl⟩
  rw [e] at hpn ⊢
  exact nextAux_number ops c rest hc hpn

end Cppcms.C11
