import Cppcms.C11.KeyOrder
/-! Lemmas about trees: `Forall`, `depth` and `mapNum` over the three mutually recursive layers
(value, array items, object members). -/
namespace Cppcms.C11
open Cppcms Spec

theorem forallL_iff {N} (P : Value N → Prop) (l : List (Value N)) : ForallL P l ↔ ∀ v ∈ l, Forall P v := by
  induction l with
  | nil => simp [ForallL]
  | cons a l ih => simp [ForallL, ih]

theorem forallM_iff {N} (P : Value N → Prop) (l : List (Bytes × Value N)) : ForallM P l ↔ ∀ kv ∈ l, Forall P kv.2 := by
  induction l with
  | nil => simp [ForallM]
  | cons a l ih => simp [ForallM, ih]

theorem depthL_le {N} (l : List (Value N)) (d : Nat) : depthL l ≤ d ↔ ∀ v ∈ l, depth v ≤ d := by
  induction l with
  | nil => simp [depthL]
  | cons a l ih => simp [depthL, Nat.max_le, ih]

theorem depthM_le {N} (l : List (Bytes × Value N)) (d : Nat) : depthM l ≤ d ↔ ∀ kv ∈ l, depth kv.2 ≤ d := by
  induction l with
  | nil => simp [depthM]
  | cons a l ih => simp [depthM, Nat.max_le, ih]

mutual
theorem forall_mono {N} {P Q : Value N → Prop} (hpq : ∀ v, P v → Q v) : ∀ v : Value N, Forall P v → Forall Q v
  | .arr items, h => ⟨hpq _ h.1, forallL_mono hpq items h.2⟩
  | .obj ms, h => ⟨hpq _ h.1, forallM_mono hpq ms h.2⟩
  | .undef, h | .null, h | .bool _, h | .num _, h | .str _, h => hpq _ h
theorem forallL_mono {N} {P Q : Value N → Prop} (hpq : ∀ v, P v → Q v) : ∀ l : List (Value N), ForallL P l → ForallL Q l
  | [], _ => trivial
  | v :: rest, h => ⟨forall_mono hpq v h.1, forallL_mono hpq rest h.2⟩
theorem forallM_mono {N} {P Q : Value N → Prop} (hpq : ∀ v, P v → Q v) : ∀ l : List (Bytes × Value N), ForallM P l → ForallM Q l
  | [], _ => trivial
  | (_, v) :: rest, h => ⟨forall_mono hpq v h.1, forallM_mono hpq rest h.2⟩
end

mutual
theorem forall_and {N} {P Q : Value N → Prop} : ∀ v : Value N, Forall P v → Forall Q v → Forall (fun v => P v ∧ Q v) v
  | .arr items, h1, h2 => ⟨⟨h1.1, h2.1⟩, forallL_and items h1.2 h2.2⟩
  | .obj ms, h1, h2 => ⟨⟨h1.1, h2.1⟩, forallM_and ms h1.2 h2.2⟩
  | .undef, h1, h2 | .null, h1, h2 | .bool _, h1, h2 | .num _, h1, h2 | .str _, h1, h2 => ⟨h1, h2⟩
theorem forallL_and {N} {P Q : Value N → Prop} : ∀ l : List (Value N), ForallL P l → ForallL Q l → ForallL (fun v => P v ∧ Q v) l
  | [], _, _ => trivial
  | v :: rest, h1, h2 => ⟨forall_and v h1.1 h2.1, forallL_and rest h1.2 h2.2⟩
theorem forallM_and {N} {P Q : Value N → Prop} : ∀ l : List (Bytes × Value N), ForallM P l → ForallM Q l → ForallM (fun v => P v ∧ Q v) l
  | [], _, _ => trivial
  | (_, v) :: rest, h1, h2 => ⟨forall_and v h1.1 h2.1, forallM_and rest h1.2 h2.2⟩
end

mutual
theorem depth_mapNum {N} (f : N → N) : ∀ v : Value N, depth (mapNum f v) = depth v
  | .arr items => congrArg (· + 1) (depthL_mapNum f items)
  | .obj ms => congrArg (· + 1) (depthM_mapNum f ms)
  | .undef | .null | .bool _ | .num _ | .str _ => rfl
theorem depthL_mapNum {N} (f : N → N) : ∀ l : List (Value N), depthL (mapNumL f l) = depthL l
  | [] => rfl
  | v :: rest => by show max _ _ = max _ _; rw [depth_mapNum f v, depthL_mapNum f rest]
theorem depthM_mapNum {N} (f : N → N) : ∀ l : List (Bytes × Value N), depthM (mapNumM f l) = depthM l
  | [] => rfl
  | (_, v) :: rest => by show max _ _ = max _ _; rw [depth_mapNum f v, depthM_mapNum f rest]
end

theorem keys_mapNumM {N} (rt : N → N) (ms : List (Bytes × Value N)) : keys (mapNumM rt ms) = keys ms := by
  induction ms with
  | nil => rfl
  | cons a ms ih => exact congrArg (a.1 :: ·) ih

/-- node condition: a number lies in `fin` and is fixed by `rt` (true after one trip under `NumIdem`: `fixed_mapNum`) -/
def FixNode {N} (fin : N → Prop) (rt : N → N) : Value N → Prop
  | .num x => fin x ∧ rt x = x
  | _ => True

theorem FixNode.finNode {N} {fin : N → Prop} {rt : N → N} {v : Value N} (h : FixNode fin rt v) :
    FinNode (fun x => fin x ∧ rt x = x) v := by
  cases v <;> exact h

mutual
theorem fixed_mapNum {N} (fin : N → Prop) (rt : N → N) (hid : NumIdem fin rt) :
    ∀ v : Value N, Forall (FinNode fin) v → Forall (FixNode fin rt) (mapNum rt v)
  | .num x, h => hid x h
  | .arr items, h => ⟨trivial, fixedL_mapNum fin rt hid items h.2⟩
  | .obj ms, h => ⟨trivial, fixedM_mapNum fin rt hid ms h.2⟩
  | .undef, _ | .null, _ | .bool _, _ | .str _, _ => trivial
theorem fixedL_mapNum {N} (fin : N → Prop) (rt : N → N) (hid : NumIdem fin rt) :
    ∀ l : List (Value N), ForallL (FinNode fin) l → ForallL (FixNode fin rt) (mapNumL rt l)
  | [], _ => trivial
  | v :: rest, h => ⟨fixed_mapNum fin rt hid v h.1, fixedL_mapNum fin rt hid rest h.2⟩
theorem fixedM_mapNum {N} (fin : N → Prop) (rt : N → N) (hid : NumIdem fin rt) :
    ∀ l : List (Bytes × Value N), ForallM (FinNode fin) l → ForallM (FixNode fin rt) (mapNumM rt l)
  | [], _ => trivial
  | (_, v) :: rest, h => ⟨fixed_mapNum fin rt hid v h.1, fixedM_mapNum fin rt hid rest h.2⟩
end

mutual
theorem mapNum_fixed {N} (fin : N → Prop) (rt : N → N) : ∀ v : Value N, Forall (FixNode fin rt) v → mapNum rt v = v
  | .num _, h => congrArg Value.num h.2
  | .arr items, h => congrArg Value.arr (mapNumL_fixed fin rt items h.2)
  | .obj ms, h => congrArg Value.obj (mapNumM_fixed fin rt ms h.2)
  | .undef, _ | .null, _ | .bool _, _ | .str _, _ => rfl
theorem mapNumL_fixed {N} (fin : N → Prop) (rt : N → N) : ∀ l : List (Value N), ForallL (FixNode fin rt) l → mapNumL rt l = l
  | [], _ => rfl
  | v :: rest, h => by show _ :: _ = _; rw [mapNum_fixed fin rt v h.1, mapNumL_fixed fin rt rest h.2]
theorem mapNumM_fixed {N} (fin : N → Prop) (rt : N → N) : ∀ l : List (Bytes × Value N), ForallM (FixNode fin rt) l → mapNumM rt l = l
  | [], _ => rfl
  | (k, v) :: rest, h => by show (k, _) :: _ = _; rw [mapNum_fixed fin rt v h.1, mapNumM_fixed fin rt rest h.2]
end

theorem depthM_insertKV {N} (k : Bytes) (v : Value N) (acc : List (Bytes × Value N)) (h : hasKey k acc = false) :
    depthM (insertKV k v acc) = max (depth v) (depthM acc) := by
  induction acc with
  | nil => rfl
  | cons a acc ih =>
    simp only [hasKey, Bool.or_eq_false_iff] at h
    simp only [insertKV, h.1, Bool.false_eq_true, if_false]
    split
    · rfl
    · simp only [depthM, ih h.2, Nat.max_left_comm]

theorem depthM_foldl {N} (ms : List (Bytes × Value N)) : ∀ (acc : List (Bytes × Value N)),
    (∀ k2 ∈ keys ms, hasKey k2 acc = false) → (keys ms).Nodup →
    depthM (ms.foldl (fun a kv => insertKV kv.1 kv.2 a) acc) = max (depthM ms) (depthM acc) := by
  induction ms with
  | nil => intro acc _ _; simp [depthM]
  | cons a ms ih =>
    intro acc hdis hnd
    simp only [keys, List.map_cons, List.nodup_cons, List.mem_cons, forall_eq_or_imp] at hdis hnd
    rw [List.foldl_cons, ih (insertKV a.1 a.2 acc) ?_ hnd.2, depthM_insertKV _ _ acc hdis.1]
    · simp only [depthM, Nat.max_assoc, Nat.max_left_comm]
    · exact fun k2 hk2 => hasKey_insertKV k2 _ _ acc (fun e => hnd.1 (e ▸ hk2)) (hdis.2 k2 hk2)

theorem depthM_fromMembers {N} (ms : List (Bytes × Value N)) (hnd : (keys ms).Nodup) :
    depthM (fromMembers ms) = depthM ms := by
  unfold fromMembers
  rw [depthM_foldl ms [] (fun _ _ => rfl) hnd]
  exact Nat.max_eq_left (Nat.zero_le _)

end Cppcms.C11
