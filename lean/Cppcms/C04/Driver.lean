import Cppcms.Common
import Cppcms.C04.Model
import Cppcms.C04.Spec
import Cppcms.C04.Uri
/-! Line-protocol driver for C04.

`C flags entities tags props preds input table enc` : run the model of validate / validate_and_filter_if_invalid /
filter (both methods) on `input` under the rule set described by the line; `enc` is `-` or what the harness recorded
from the validator of the declared encoding (`parseEnc`).
`J flags entities tags props preds text table` : judge — is every markup candidate the lenient tokenizer of
`Spec.lean` finds in `text` allowed by the rules?
`table` carries the verdicts of the external regular expressions (PCRE: attribute patterns, and the scheme expression of
the URI validators, under id + 1000) computed by the harness: `id:valuehex:0|1,…`.  URI verdicts are computed here by
`Uri.validator`; those recorded from the real validator are only compared with it (`uriConsistent`).  A verdict that is
needed but absent is reported, never guessed.
`U kind _ value table` : the URI validator model on `value`.  `W text` : `Spec.utf8WellFormed`.
`B name text` : `Spec.singleByteTextOk` for the code page `name`. -/
open Cppcms Cppcms.C04

def listOf (s : String) (sep : String) : List String :=
  if s == "-" || s == "" then [] else s.splitOn sep

def parseKind : String → Option TagKind
  | "0" => some .invalidTag
  | "1" => some .openingAndClosing
  | "2" => some .standAlone
  | "3" => some .anyTag
  | _ => none

def parseSpec (s : String) : Option PropSpec :=
  if s == "b" then some .boolean
  else if s == "i" then some .integer
  else if s.startsWith "o" then (s.drop 1).toString.toNat?.map PropSpec.oracle
  else none

/-- what the harness recorded from the external encoding validator -/
structure EncOracle where
  utf8 : Bool
  mask : List Bool
  valid : List (Bytes × Bool)
  pre : List (Bytes × Bytes)

def parseMask (s : String) : Option (List Bool) :=
  s.toList.mapM hexDigit |>.map fun ds => ds.flatMap fun d => [d / 8 % 2 == 1, d / 4 % 2 == 1, d / 2 % 2 == 1, d % 2 == 1]

def parseEnc (s : String) : Option (Option EncOracle) :=
  if s == "-" then some none
  else
    let items := s.splitOn ","
    items.foldlM (fun (acc : Option EncOracle) (it : String) =>
      match acc, it.splitOn ":" with
      | none, ["U"] => some (some ⟨true, [], [], []⟩)
      | none, ["M", m] => (parseMask m).map fun mk => some ⟨false, mk, [], []⟩
      | some o, ["V", h, v] => (parseHex h).map fun b => some { o with valid := o.valid ++ [(b, v == "1")] }
      | some o, ["P", h, out] => do
        let b ← parseHex h
        let ob ← parseHex out
        some (some { o with pre := o.pre ++ [(b, ob)] })
      | _, _ => none) none

/-- a UTF-8 verdict that is needed but was not recorded is `dflt` (the caller runs both and reports a difference) -/
def encOf (o : EncOracle) (repl : UInt8) (dflt : Bool) : Enc :=
  if o.utf8 then
    { valid := fun x => match o.valid.find? (·.1 == x) with | some p => p.2 | none => dflt
      prefilter := fun x => match o.pre.find? (·.1 == x) with | some p => p.2 | none => if dflt then x else [] }
  else byteEnc (fun c => o.mask.getD c.toNat false) repl

/-- the single-byte model must agree with every recorded verdict -/
def encConsistent (o : EncOracle) (repl : UInt8) : Bool :=
  o.utf8 ||
    (o.valid.all (fun p => (byteEnc (fun c => o.mask.getD c.toNat false) repl).valid p.1 == p.2) &&
     o.pre.all (fun p => (byteEnc (fun c => o.mask.getD c.toNat false) repl).prefilter p.1 == p.2))

def parseFlags (flags : String) : Option (String × Option UInt8) :=
  match flags.splitOn ":" with
  | [f] => some (f, none)
  | [f, _, rp] => rp.toNat?.map fun n => (f, some (UInt8.ofNat n))
  | _ => none

def parseDesc (flags0 ents tags props : String) : Option RuleDesc := do
  let flags := (flags0.splitOn ":").headD ""
  let fl := flags.toList
  if fl.length ≠ 3 then none
  let b (c : Char) : Bool := c == '1'
  let es ← (listOf ents ",").mapM parseHex
  let ts ← (listOf tags ",").mapM fun t =>
    match t.splitOn ":" with
    | [n, k] => do some ((← parseHex n), (← parseKind k))
    | _ => none
  let ps ← (listOf props ",").mapM fun t =>
    match t.splitOn ":" with
    | [tn, pn, sp] => do some ((← parseHex tn), (← parseHex pn), (← parseSpec sp))
    | _ => none
  some { xhtml := b (fl.getD 0 '1'), comments := b (fl.getD 1 '0'), numeric := b (fl.getD 2 '0'),
         entities := es, tags := ts, props := ps }

def parseTable (s : String) : Option (List (Nat × Bytes × Bool)) :=
  (listOf s ",").mapM fun t =>
    match t.splitOn ":" with
    | [i, v, b] => do some ((← i.toNat?), (← parseHex v), b == "1")
    | _ => none

def tableOf (tbl : List (Nat × Bytes × Bool)) (dflt : Bool) (id : Nat) (v : Bytes) : Bool :=
  match tbl.find? (fun t => t.1 == id && t.2.1 == v) with
  | some t => t.2.2
  | none => dflt

/-- `id:type:arghex,…` → (id, type) -/
def parsePreds (s : String) : List (Nat × String) :=
  (listOf s ",").filterMap fun t =>
    match t.splitOn ":" with
    | i :: ty :: _ => i.toNat?.map fun n => (n, ty)
    | _ => none

def uriKind : String → Option Uri.Kind
  | "uri" => some .both
  | "absuri" => some .full
  | "reluri" => some .relative
  | _ => none

/-- regex predicates: recorded verdicts; URI predicates: the model of `uri_parser`, with the scheme regex verdicts
(recorded under id + 1000) as its parameter -/
def oracleP (preds : List (Nat × String)) (tbl : List (Nat × Bytes × Bool)) (dflt : Bool) (id : Nat) (v : Bytes) : Bool :=
  match (preds.find? (·.1 == id)).bind (fun p => uriKind p.2) with
  | some k => Uri.validator k (tableOf tbl dflt (id + 1000)) v
  | none => tableOf tbl dflt id v

/-- every recorded verdict of a URI validator must be what the URI model computes -/
def uriConsistent (preds : List (Nat × String)) (tbl : List (Nat × Bytes × Bool)) : Option (Nat × Bytes) :=
  (tbl.find? fun t =>
    match (preds.find? (·.1 == t.1)).bind (fun p => uriKind p.2) with
    | some k => Uri.validator k (tableOf tbl false (t.1 + 1000)) t.2.1 != t.2.2 ||
                Uri.validator k (tableOf tbl true (t.1 + 1000)) t.2.1 != t.2.2
    | none => false).map fun t => (t.1, t.2.1)

def oracleOf (tbl : List (Nat × Bytes × Bool)) (dflt : Bool) (id : Nat) (v : Bytes) : Bool := tableOf tbl dflt id v

def optOut : Option Bytes → String
  | none => "1:-"
  | some o => "0:" ++ toHex o

def isMarkupTy : Ty → Bool
  | .plain => false
  | _ => true

def runCase (d : RuleDesc) (preds : List (Nat × String)) (tbl : List (Nat × Bytes × Bool)) (E : Bool → Option Enc) (dflt : Bool) (x : Bytes) : String :=
  let r := mkRules d (oracleP preds tbl dflt)
  let e := E dflt
  let frm := filterE e r .remove x
  let fesc := filterE e r .escape x
  s!"v={boolStr (validateE e r x)} rm={optOut (validateAndFilterE e r .remove x)} esc={optOut (validateAndFilterE e r .escape x)} frm={toHex frm} fesc={toHex fesc} vrm={boolStr (validateE e r frm)} vesc={boolStr (validateE e r fesc)}"

def stats (d : RuleDesc) (preds : List (Nat × String)) (tbl : List (Nat × Bytes × Bool)) (e : Option Enc) (x0 : Bytes) : String :=
  let r := mkRules d (oracleP preds tbl false)
  let x := match e with
    | some en => if en.valid x0 then x0 else en.prefilter x0
    | none => x0
  let a := analyse r x
  let n := a.1.length
  let mk := (a.1.filter fun e => isMarkupTy e.ty).length
  let parsedMk := ((parseAll x).filter fun e => isMarkupTy e.ty && !isInvalid e).length
  let inv := (a.1.filter isInvalid).length
  s!"st={n}:{parsedMk}:{mk}:{inv}"

/-- oracle verdicts the judge would need but the table lacks -/
def missing (d : RuleDesc) (tbl : List (Nat × Bytes × Bool)) (ms : List Spec.Markup) : List (Nat × Bytes) :=
  ms.flatMap fun m =>
    match m with
    | .tag _ name attrs _ _ =>
      attrs.filterMap fun a =>
        match a.2, lookupProp d name a.1 with
        | some v, some (.oracle id) =>
          if (tbl.find? (fun t => t.1 == id && t.2.1 == v)).isSome then none else some (id, v)
        | _, _ => none
    | _ => []

def judge (d : RuleDesc) (preds : List (Nat × String)) (tbl : List (Nat × Bytes × Bool)) (x : Bytes) : String :=
  let ms := Spec.lenientMarkup x
  let miss := (missing d tbl ms).eraseDups
  if !miss.isEmpty then
    "miss " ++ ",".intercalate (miss.map fun p => s!"{p.1}:{toHex p.2}")
  else
    let r := mkRules d (oracleP preds tbl false)
    match ms.find? (fun m => !Spec.allowed r m) with
    | none => s!"1 {ms.length}"
    | some m => "0 " ++ (reprStr m).replace "\n" " "

def step (_ : Unit) (line : String) : Unit × String :=
  let r : String :=
    match words line with
    | ["B", n, h] => match parseHex n, parseHex h with
      | some nm, some x => (match Spec.singleByteTextOk nm x with
        | some b => boolStr b
        | none => "unknown")
      | _, _ => "bad-op"
    | ["W", h] => match parseHex h with
      | some x => boolStr (Spec.utf8WellFormed x)
      | none => "bad-op"
    | ["U", k, _, v, tb] =>
      match uriKind k, parseHex v, parseTable tb with
      | some kind, some v, some tbl =>
        let a := Uri.validator kind (tableOf tbl false 1000) v
        let b := Uri.validator kind (tableOf tbl true 1000) v
        if a == b then boolStr a else "oracle-miss"
      | _, _, _ => "bad-op"
    | ["C", fl, es, ts, ps, pr, x, tb, eb] =>
      match parseDesc fl es ts ps, parseHex x, parseTable tb, parseEnc eb, parseFlags fl with
      | some d, some x, some tbl, some eo, some (_, repl) =>
        let rp := repl.getD 0
        let E : Bool → Option Enc := fun dflt => eo.map fun o => encOf o rp dflt
        let preds := parsePreds pr
        if !(eo.map (encConsistent · rp)).getD true then "enc-model-mismatch"
        else match uriConsistent preds tbl with
        | some (i, v) => s!"uri-model-mismatch {i} {toHex v}"
        | none =>
          let a := runCase d preds tbl E false x
          let b := runCase d preds tbl E true x
          if a == b then a ++ " " ++ stats d preds tbl (E false) x else "oracle-miss"
      | _, _, _, _, _ => "bad-op"
    | ["J", fl, es, ts, ps, pr, x, tb] =>
      match parseDesc fl es ts ps, parseHex x, parseTable tb with
      | some d, some x, some tbl => judge d (parsePreds pr) tbl x
      | _, _, _ => "bad-op"
    | _ => "bad-op"
  ((), r)

def main : IO Unit := lineLoop () step
