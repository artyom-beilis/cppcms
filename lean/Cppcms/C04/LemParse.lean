import Cppcms.C04.LemBytes
import Cppcms.Lib.Scan
/-! C04: what `parse_html_entity`, `parse_properties` and `parse_html_tag` accept, as explicit shapes of the text. -/
namespace Cppcms.C04
open Cppcms

/-- `AttrList sf s ps`: `parse_properties`, entered with `space_found = sf`, accepts `s` and collects `ps`:
white space, `name` + white space, `name='value'` / `name="value"` followed by white space or the end. -/
inductive AttrList : Bool → Bytes → List Attr → Prop
  | nil (sf : Bool) : AttrList sf [] []
  | space (sf : Bool) {c : UInt8} {s : Bytes} {ps : List Attr} :
      isSpace c = true → AttrList true s ps → AttrList sf (c :: s) ps
  | flag {c d : UInt8} {t s : Bytes} {ps : List Attr} :
      isAlpha c = true → (∀ x ∈ c :: t, isAlnum x = true) → isSpace d = true → AttrList true s ps →
      AttrList true (c :: t ++ d :: s) (⟨c :: t, none⟩ :: ps)
  | valued {c q : UInt8} {t v s : Bytes} {ps : List Attr} :
      isAlpha c = true → (∀ x ∈ c :: t, isAlnum x = true) → (q = 34 ∨ q = 39) → (∀ b ∈ v, b ≠ q) →
      validatePropertyValue v = true → AttrList false s ps →
      AttrList true (c :: t ++ 61 :: q :: (v ++ q :: s)) (⟨c :: t, some v⟩ :: ps)

theorem parsePropsAux_sound : ∀ (n : Nat) (sf : Bool) (s : Bytes) (acc ps : List Attr),
    parsePropsAux n sf s acc = some ps → ∃ ps', ps = acc ++ ps' ∧ AttrList sf s ps'
  | 0, _, _, _, _, h => nomatch h
  | _ + 1, sf, [], acc, ps, h => ⟨[], by simpa [parsePropsAux] using h.symm, .nil sf⟩
  | n + 1, sf, c :: rest, acc, ps, h => by
    unfold parsePropsAux at h
    by_cases hc : isSpace c = true
    · rw [if_pos hc] at h
      obtain ⟨ps', e, hl⟩ := parsePropsAux_sound n true rest acc ps h
      exact ⟨ps', e, .space sf hc hl⟩
    rw [if_neg hc] at h
    cases sf with
    | false => cases h
    | true =>
    by_cases hal : isAlpha c = true
    case neg => rw [if_neg (by simp), if_pos (by simp [hal])] at h; cases h
    rw [if_neg (by simp), if_neg (by simp [hal])] at h
    cases hdw : (c :: rest).dropWhile isAlnum with
    | nil => simp only [hdw] at h; cases h
    | cons d s2 =>
    simp only [hdw] at h
    obtain ⟨hrest, hd⟩ := Scan.dropWhile_eq_cons hdw
    -- the name is not empty: `_` (alpha, not alnum) is neither white space nor `=`
    have hcn : isAlnum c = true := by
      rcases (alpha_facts c hal).alnum_or_underscore with h1 | rfl
      · exact h1
      · rw [List.dropWhile_cons_of_neg (by decide)] at hdw
        obtain ⟨rfl, rfl⟩ := List.cons.inj hdw
        simp [show isSpace 95 = false by decide, show (95 : UInt8) ≠ cEq by decide] at h
    rw [List.takeWhile_cons_of_pos hcn] at h hrest
    have hname : ∀ x ∈ c :: rest.takeWhile isAlnum, isAlnum x = true := by
      intro x hx
      rcases List.mem_cons.mp hx with rfl | hx
      · exact hcn
      · exact Scan.mem_takeWhile hx
    rw [hrest]
    by_cases hds : isSpace d = true
    · rw [if_pos hds] at h
      obtain ⟨ps', e, hl⟩ := parsePropsAux_sound n true s2 _ ps h
      exact ⟨_ :: ps', by simp [e], .flag hal hname hds hl⟩
    rw [if_neg hds] at h
    by_cases hdeq : d = cEq
    case neg => rw [if_pos hdeq] at h; cases h
    obtain rfl : d = 61 := hdeq
    rw [if_neg (by decide)] at h
    cases s2 with
    | nil => cases h
    | cons q s3 =>
    simp only at h
    cases hq : (bytesOf Gen.propQuotes).contains q with
    | false => simp only [hq, Bool.not_false, if_true] at h; cases h
    | true =>
    simp only [hq, Bool.not_true, Bool.false_eq_true, if_false] at h
    cases hk : findByte q s3 with
    | none => simp only [hk] at h; cases h
    | some k =>
    simp only [hk] at h
    obtain ⟨v, s4, rfl, hvq, rfl⟩ := findByte_eq_some hk
    have e2 : (v ++ q :: s4).drop (v.length + 1) = s4 := by rw [List.append_cons]; exact List.drop_left' (by simp)
    rw [List.take_left' rfl, e2] at h
    cases hv : validatePropertyValue v with
    | false => simp only [hv, Bool.not_false, if_true] at h; cases h
    | true =>
    simp only [hv, Bool.not_true, Bool.false_eq_true, if_false] at h
    obtain ⟨ps', e, hl⟩ := parsePropsAux_sound n false s4 _ ps h
    exact ⟨_ :: ps', by simp [e], .valued hal hname (quote_facts q hq).1 hvq hv hl⟩

theorem parseProps_sound {body : Bytes} {ps : List Attr} (h : parseProps body = some ps) : AttrList true body ps := by
  obtain ⟨ps', e, hl⟩ := parsePropsAux_sound _ _ _ _ _ h
  rw [e]; exact hl

/-- What the rejection condition regenerated from xss.cpp leaves lies within the ranges of `xmlChar`; a value that
`strtol` saturated at `LONG_MAX > 0x10FFFF` is rejected as too large.  Both conditions unfolded, linear arithmetic. -/
theorem accepted_is_xmlChar (v : Nat) (h : Gen.numericRejected (min v longMax) = false) : Spec.xmlChar v = true := by
  have hl : longMax = 9223372036854775807 := by decide
  rw [hl] at h
  simp [Gen.numericRejected] at h
  simp [Spec.xmlChar]
  omega

theorem foldl_hexVal (B : Nat) (l : Bytes) : l.foldl (fun acc c => acc * B + Spec.hexVal c) 0 = digitsValue B l := by
  simp only [digitsValue, hexVal_eq]

open Spec in
theorem parseEntity_cases (body : Bytes) :
    (parseEntity (38 :: body ++ [59])).1 = .invalid ∨
    (parseEntity (38 :: body ++ [59]) = (.entity, body) ∧ ∀ b ∈ body, isAlnum b = true) ∨
    ((parseEntity (38 :: body ++ [59])).1 = .numeric ∧ numericForm body = true ∧ xmlChar (numericValue body) = true ∧
      ∀ b ∈ body, entityChar b = true) := by
  unfold parseEntity
  rw [show ((38 :: body ++ [59] : Bytes).drop 1).dropLast = body from List.dropLast_concat]
  cases body with
  | nil => exact .inl rfl
  | cons c ds =>
  simp only
  by_cases hc : c = cHash
  case neg =>
    rw [if_neg hc]
    by_cases hall : (c :: ds).all isAlnum = true
    · rw [if_pos hall]; exact .inr (.inl ⟨rfl, by simpa using hall⟩)
    · rw [if_neg hall]; exact .inl rfl
  rw [if_pos hc]
  have hc : c = 35 := hc
  subst hc
  cases ds with
  | nil => exact .inl rfl
  | cons d hs =>
  simp only [show bytesOf Gen.numericHexMarks = [120, 88] from rfl]
  by_cases hd : d = 120 ∨ d = 88
  · rw [if_pos (by simpa using hd)]
    by_cases h1 : hs.isEmpty = true
    · rw [if_pos h1]; exact .inl rfl
    rw [if_neg h1]
    cases h2 : hs.all isXdigit with
    | false => exact .inl rfl
    | true =>
    by_cases h3 : Gen.numericRejected (strtolNat 16 hs) = true
    · rw [if_neg (by decide), if_pos h3]; exact .inl rfl
    rw [if_neg (by decide), if_neg h3]
    have hx : ∀ b ∈ hs, isXdigit b = true := List.all_eq_true.mp h2
    refine .inr (.inr ⟨rfl, ?_, ?_, ?_⟩)
    · simp only [numericForm, hd, if_true, Bool.and_eq_true, Bool.not_eq_true', List.all_eq_true]
      exact ⟨by simpa using h1, fun b hb => ((digit_facts b).2 (hx b hb)).1⟩
    · simp only [numericValue, hd, if_true, foldl_hexVal]
      exact accepted_is_xmlChar _ (by simpa [strtolNat] using h3)
    · intro b hb
      rcases List.mem_cons.mp hb with rfl | hb
      · decide
      rcases List.mem_cons.mp hb with rfl | hb
      · rcases hd with rfl | rfl <;> decide
      · exact ((digit_facts b).2 (hx b hb)).2
  · rw [if_neg (by simpa using hd)]
    cases h2 : (d :: hs).all isDigit with
    | false => exact .inl rfl
    | true =>
    by_cases h3 : Gen.numericRejected (strtolNat 10 (d :: hs)) = true
    · rw [if_neg (by decide), if_pos h3]; exact .inl rfl
    rw [if_neg (by decide), if_neg h3]
    have hx : ∀ b ∈ d :: hs, isDigit b = true := List.all_eq_true.mp h2
    refine .inr (.inr ⟨rfl, ?_, ?_, ?_⟩)
    · simp only [numericForm, hd, if_false, List.all_eq_true]
      exact fun b hb => ((digit_facts b).1 (hx b hb)).1
    · simp only [numericValue, hd, if_false, foldl_hexVal]
      exact accepted_is_xmlChar _ (by simpa [strtolNat] using h3)
    · intro b hb
      rcases List.mem_cons.mp hb with rfl | hb
      · decide
      · exact ((digit_facts b).1 (hx b hb)).2

/-- the self-closing slash is not part of the name -/
theorem getLast?_dropWhile_alnum {a : UInt8} {t : Bytes} (ha : a ≠ 47) (h : (a :: t).getLast? = some 47) :
    ∃ body, t.dropWhile isAlnum = body ++ [47] := by
  have ht : t.getLast? = some 47 := by
    cases t with
    | nil => exact absurd (Option.some.inj h) ha
    | cons b u => rwa [List.getLast?_cons_cons] at h
  rw [← List.takeWhile_append_dropWhile (p := isAlnum) (l := t), List.getLast?_append] at ht
  cases hg : (t.dropWhile isAlnum).getLast? with
  | none =>
    rw [hg, Option.none_or] at ht
    exact absurd (Scan.mem_takeWhile (List.mem_of_getLast? ht)) (by decide)
  | some z =>
    rw [hg] at ht
    exact List.getLast?_eq_some_iff.mp (hg.trans ht)

def closerOf (sc : Bool) : Bytes := if sc then [47, 62] else [62]

theorem attrList_spaces (sf : Bool) : ∀ {sp : Bytes}, (∀ x ∈ sp, isSpace x = true) → AttrList sf sp []
  | [], _ => .nil sf
  | c :: _, h => .space sf (h c (List.mem_cons_self ..)) (attrList_spaces true fun x hx => h x (List.mem_cons_of_mem _ hx))

/-- the text of a tag that is not rejected: `[/] a nm abody closer` -/
structure TagShape (body : Bytes) (closing : Bool) (a : UInt8) (nm abody : Bytes) (sc : Bool) (ps : List Attr) : Prop where
  text : body ++ [62] = (if closing then [47] else []) ++ (a :: nm ++ (abody ++ closerOf sc))
  alpha : isAlpha a = true
  name : ∀ x ∈ nm, isAlnum x = true
  nameEnds : ∀ x, abody.head? = some x → isAlnum x = false
  attrs : AttrList true abody ps
  closingBare : closing = true → sc = false ∧ ps = []

theorem parseTag_cases (body : Bytes) : (parseTag (60 :: body ++ [62])).1 = .invalid ∨
    ∃ closing a nm abody sc ps, TagShape body closing a nm abody sc ps ∧ parseTag (60 :: body ++ [62]) =
      (if closing then .closeTag else if sc then .openClose else .openTag, a :: nm, ps) := by
  unfold parseTag
  rw [show ((60 :: body ++ [62] : Bytes).drop 1).dropLast = body from List.dropLast_concat]
  cases body with
  | nil => exact .inl rfl
  | cons a t =>
  simp only
  by_cases ha : a = cSlash
  · rw [if_pos ha]
    cases t with
    | nil => exact .inl rfl
    | cons b u =>
    simp only
    cases hb : isAlpha b with
    | false => exact .inl rfl
    | true =>
    rw [if_neg (by decide)]
    cases hsp : ((u.dropWhile isAlnum).dropWhile isSpace).isEmpty with
    | false => exact .inl rfl
    | true =>
    have hsp : ∀ x ∈ u.dropWhile isAlnum, isSpace x = true := Scan.dropWhile_eq_nil (by simpa using hsp)
    refine .inr ⟨true, b, u.takeWhile isAlnum, u.dropWhile isAlnum, false, [], ⟨?_, hb, fun x => Scan.mem_takeWhile,
      fun x hx => ?_, attrList_spaces true hsp, fun _ => ⟨rfl, rfl⟩⟩, rfl⟩
    · rw [ha, show cSlash = 47 from rfl]; simp [closerOf, ← List.append_assoc]
    · have := List.head?_dropWhile_not isAlnum u
      rwa [hx] at this
  · rw [if_neg ha]
    cases hal : isAlpha a with
    | false => exact .inl rfl
    | true =>
    rw [if_neg (by decide)]
    have hhead : ∀ x, (t.dropWhile isAlnum).head? = some x → isAlnum x = false := by
      intro x hx
      have := List.head?_dropWhile_not isAlnum t
      rwa [hx] at this
    by_cases hsc : (a :: t).getLast? = some cSelfClose
    · simp only [hsc, if_true]
      cases hpp : parseProps (t.dropWhile isAlnum).dropLast with
      | none => exact .inl rfl
      | some ps =>
      obtain ⟨abody, hb⟩ := getLast?_dropWhile_alnum ha hsc
      rw [hb, List.dropLast_concat] at hpp
      refine .inr ⟨false, a, t.takeWhile isAlnum, abody, true, ps, ⟨?_, hal, fun x => Scan.mem_takeWhile, ?_,
        parseProps_sound hpp, (fun h => nomatch h)⟩, rfl⟩
      · conv => lhs; rw [← List.takeWhile_append_dropWhile (p := isAlnum) (l := t), hb]
        simp [closerOf]
      · intro x hx
        exact hhead x (by rw [hb, List.head?_append, hx]; rfl)
    · simp only [hsc, if_false]
      cases hpp : parseProps (t.dropWhile isAlnum) with
      | none => exact .inl rfl
      | some ps =>
      refine .inr ⟨false, a, t.takeWhile isAlnum, t.dropWhile isAlnum, false, ps, ⟨?_, hal, fun x => Scan.mem_takeWhile, hhead,
        parseProps_sound hpp, (fun h => nomatch h)⟩, rfl⟩
      simp [closerOf, ← List.append_assoc]
end Cppcms.C04
