import Cppcms.C04.Lemmas
/-!
C04 — property theorems.

Property: "For every input text and every rule set, the text returned by the filter passes
validation under the same rules, and every tag, attribute, attribute value, URI scheme, entity and
comment in it is one the rules allow — nothing that opens markup survives outside such an allowed
construct, in both remove and escape modes.  Input that validates is returned unchanged, and
validation never accepts text that is not well-formed in the declared character encoding."

Model: `Model.lean` (faithful transcription of src/xss.cpp; constants from `Gen.lean`).
Spec:  `Spec.lean` (`lenientMarkup`, `Allowed`), independent of the model.
`Rules` carries arbitrary attribute-value predicates (regex / URI validators are instances).
A declared encoding (`rules::encoding()`) enters as a parameter `Enc`; the UTF-8 instance is C14's model, see design.d/C04.md.
-/
namespace Cppcms.C04.Props
open Cppcms Cppcms.C04

/-- (1) the filter's output validates: every rule set a `rules` object can represent (`RulesOk`: the four
default entities are present; in HTML mode `HtmlCaseOk`: tag lookups do not depend on ASCII case, as with the
`icompare_c_string`-ordered map), every method, every input. -/
def FilterValidates : Prop :=
  ∀ (r : Rules) (m : Method) (x : Bytes), RulesOk r → (r.xhtml = false → HtmlCaseOk r) →
    validate r (filter r m x) = true

/-- (1)+(3) the filter's output contains only white-listed markup -/
def FilterOutputWhitelisted : Prop :=
  ∀ (r : Rules) (m : Method) (x : Bytes), RulesOk r → (r.xhtml = false → HtmlCaseOk r) →
    Spec.OnlyWhitelisted r (filter r m x)

/-- (2) input that validates is returned unchanged (both methods) -/
theorem valid_is_fixed_point (r : Rules) (m : Method) (x : Bytes) (h : validate r x = true) :
    filter r m x = x :=
  Cppcms.C04.valid_is_fixed_point r m x h

/-- the three entry points agree: `validate_and_filter_if_invalid` returns true (leaving its
output argument untouched) exactly when `validate` does -/
theorem validateAndFilter_none_iff (r : Rules) (m : Method) (x : Bytes) :
    validateAndFilter r m x = none ↔ validate r x = true :=
  Cppcms.C04.validateAndFilter_none_iff r m x

/-- (3) whatever validates contains only white-listed markup, as cut by the independent lenient
tokenizer: every item of `Spec.lenientMarkup y` is a tag / entity / comment the rules allow, with
allowed attributes whose values pass their predicates and contain no markup bytes.  (That the lenient
tokenizer attributes every `<`, `>`, `&` of `y` to some item is how `Spec.lenientMarkup` is written; no theorem
states it.) -/
theorem whitelist_only (r : Rules) (y : Bytes) (h : validate r y = true) :
    ∀ m ∈ Spec.lenientMarkup y, Spec.Allowed r m :=
  Cppcms.C04.whitelist_only r y h

/-- (1) **the filter's output validates** (`FilterValidates` above) -/
theorem filter_validates : FilterValidates :=
  fun r m x hr hc => filter_validates_all r hr hc m x

/-- (1)+(3) the filter's output contains only white-listed markup -/
theorem filter_output_whitelisted : FilterOutputWhitelisted :=
  fun r m x hr hc => whitelist_only r _ (filter_validates r m x hr hc)

/-- the filter is idempotent (also across methods) -/
theorem filter_idempotent (r : Rules) (m m' : Method) (x : Bytes) (hr : RulesOk r) (hc : r.xhtml = false → HtmlCaseOk r) :
    filter r m' (filter r m x) = filter r m x :=
  valid_is_fixed_point r m' _ (filter_validates r m x hr hc)

/-- the XHTML instance (no side condition beyond `RulesOk`) -/
theorem filter_validates_xhtml (r : Rules) (m : Method) (x : Bytes) (hr : RulesOk r) (hx : r.xhtml = true) :
    validate r (filter r m x) = true :=
  filter_validates r m x hr (fun h => by rw [hx] at h; cases h)

/-- the hypotheses are those of real `rules` objects: every rule set the `add_*` calls build satisfies them -/
theorem mkRules_hypotheses (d : RuleDesc) (oracle : Nat → Bytes → Bool) :
    RulesOk (mkRules d oracle) ∧ ((mkRules d oracle).xhtml = false → HtmlCaseOk (mkRules d oracle)) :=
  ⟨mkRules_rulesOk d oracle, fun h => mkRules_htmlCaseOk d oracle h⟩

/-- hence for every rule set the `add_*` calls can build, with any verdicts of the external validators -/
theorem filter_validates_mkRules (d : RuleDesc) (oracle : Nat → Bytes → Bool) (m : Method) (x : Bytes) :
    validate (mkRules d oracle) (filter (mkRules d oracle) m x) = true :=
  filter_validates _ m x (mkRules_hypotheses d oracle).1 (mkRules_hypotheses d oracle).2

/-! With a declared encoding (`rules::encoding()`), ASCII-compatible case: `Enc` = the external `encoding::valid` /
`encoding::validate_or_filter` (property C14) for the declared encoding and replacement character. -/

/-- (4) validation never accepts text the encoding validator rejects -/
theorem validate_implies_encoding_ok (e : Enc) (r : Rules) (x : Bytes) (h : validateE (some e) r x = true) :
    e.valid x = true :=
  validateE_encoding e r x h

/-- (1) with a declared encoding, for every validator `e` satisfying `EncOk e r` (its pre-filter yields valid text;
removing tokens / inserting the ASCII escapes keeps valid text valid) -/
theorem filter_validates_encoded (r : Rules) (e : Enc) (m : Method) (x : Bytes) (hr : RulesOk r)
    (hc : r.xhtml = false → HtmlCaseOk r) (he : EncOk e r) :
    validateE (some e) r (filterE (some e) r m x) = true :=
  filterE_validates_all r hr hc e he m x

/-- every single-byte charset validator (a per-byte test that accepts the bytes of `&lt; &gt; &amp; &quot;`, used
with replacement character NUL = "remove" or an accepted byte) satisfies `EncOk` — ISO-8859-x, windows-125x, koi8,
US-ASCII in `encoding_validators.h` are of this form. -/
theorem single_byte_encOk (ok : UInt8 → Bool) (repl : UInt8) (r : Rules) (hesc : ∀ b ∈ escAlphabet, ok b = true)
    (hrepl : repl = 0 ∨ ok repl = true) : EncOk (byteEnc ok repl) r :=
  byteEnc_ok ok repl r hesc hrepl

/-- multi-byte validators (UTF-8): `EncOk` follows from `AsciiSync e` — the empty text is valid, valid texts can be
joined, and a valid text can be cut at any of the ASCII bytes `< > & ; "` and the letters of the escape strings, each
of which is valid on its own ("an accepted ASCII byte is a character on its own") — together with "the pre-filter
yields valid text".  Both are statements about the encoding validator alone (property C14); `LemUtf8.lean` derives them
for the real UTF-8 validator from C14's theorems. -/
theorem ascii_sync_encOk (e : Enc) (r : Rules) (hs : AsciiSync e)
    (hp : ∀ x, e.valid x = false → e.valid (e.prefilter x) = true) : EncOk e r :=
  asciiSync_encOk e r hs hp

/-- **UTF-8** (`rules::encoding("UTF-8")`): `utf8Enc repl` is the model of `encoding::valid_utf8` /
`validate_or_filter_utf8` that property C14 proves exact (`Cppcms.C14.Props.validate_accepts_iff`,
`filter_yields_valid`).  Clause 1 holds for it with no hypothesis beyond the replacement-character precondition
`ReplOk repl` (NUL = delete, or a byte that is itself valid HTML-safe UTF-8). -/
theorem filter_validates_utf8 (r : Rules) (repl : UInt8) (m : Method) (x : Bytes) (hr : RulesOk r)
    (hc : r.xhtml = false → HtmlCaseOk r) (hrepl : Cppcms.C14.Spec.ReplOk repl) :
    validateE (some (utf8Enc repl)) r (filterE (some (utf8Enc repl)) r m x) = true :=
  filterE_validates_all r hr hc (utf8Enc repl) (utf8Enc_ok repl r hrepl) m x

/-- clause 4 for UTF-8, in terms of RFC 3629: what `validate` accepts under a declared UTF-8 encoding is a concatenation
of RFC 3629 encodings of HTML-safe code points (C14's `WellFormed true`) -/
theorem validate_implies_utf8_wellformed (r : Rules) (repl : UInt8) (x : Bytes)
    (h : validateE (some (utf8Enc repl)) r x = true) : ∃ n, Cppcms.C14.Spec.WellFormed true x n :=
  (utf8_valid_iff x).1 (validateE_encoding (utf8Enc repl) r x h)

example : Cppcms.C14.Spec.ReplOk 0 := Or.inl rfl
/-- non-vacuity: `aé` (valid UTF-8) and `a \xff` (invalid UTF-8) -/
example : (utf8Enc 0).valid [97, 0xC3, 0xA9] = true ∧ (utf8Enc 0).valid [97, 0xFF] = false := by decide +kernel

/-- "every URI scheme is one the rules allow": for the model of `uri_parser`/`uri_validator_functor`, with the scheme
expression an arbitrary predicate — if an accepted text has a scheme (letter, then letters/digits/`+-.`, then `:`),
the validator is not the relative one and the scheme expression matched exactly that scheme; an `absolute_uri`
validator accepts only texts that have one. -/
theorem uri_validator_scheme_whitelist (k : Uri.Kind) (schemeOk : Bytes → Bool) (v : Bytes)
    (h : Uri.validator k schemeOk v = true) :
    (∀ sch, Uri.schemeOf v = some sch → k ≠ .relative ∧ schemeOk sch = true) ∧
    (k = .full → ∃ sch, Uri.schemeOf v = some sch ∧ schemeOk sch = true) :=
  Uri.validator_scheme k schemeOk v h

/-- the byte alphabet of accepted URI texts: every byte of a text any of the three validators accepts is a byte
in 0x21–0x7E other than `"  <  >  \  [  ]  ^  \`  {  |  }` (so: no space, no control character, no byte ≥ 0x7F, no double
quote, no angle bracket), and every `&` in it starts `&amp;` or `&apos;`.  (The single quote is an RFC 3986 sub-delim and
is admitted.) -/
theorem uri_accepted_bytes_safe (k : Uri.Kind) (schemeOk : Bytes → Bool) (v : Bytes)
    (h : Uri.validator k schemeOk v = true) :
    (∀ b ∈ v, Uri.byteOk b = true) ∧ Uri.refsOk v = true :=
  ⟨Uri.safe_bytes (Uri.validator_safe k schemeOk v h), Uri.safe_refs (Uri.validator_safe k schemeOk v h)⟩

/-- the scheme white list as a browser sees it: decode the character references of the accepted attribute value
(`&amp;` → `&`, `&apos;` → `'`), apply the first steps of WHATWG URL parsing (strip leading/trailing C0-and-space,
drop TAB/LF/CR, read letter (letter|digit|+|-|.)* `:`): if that yields a scheme, the validator is not the relative
one and the scheme expression matched exactly these bytes.  This closes the lax spot of `relative_part()` /
`authority()` (no `//` required, no backtracking after `userinfo()`): texts like `x_javascript:alert(1)`,
`%6Aavascript:…`, `:x`, `1javascript:…` are accepted as relative references, and none of them has a scheme for a browser. -/
theorem uri_browser_scheme_allowed (k : Uri.Kind) (schemeOk : Bytes → Bool) (v : Bytes)
    (h : Uri.validator k schemeOk v = true) :
    ∀ sch, Uri.browserScheme (Uri.decodeRefs v) = some sch → k ≠ .relative ∧ schemeOk sch = true := by
  intro sch hs
  rw [Uri.browserScheme_decode (uri_accepted_bytes_safe k schemeOk v h).1] at hs
  exact (Uri.validator_scheme k schemeOk v h).1 sch hs

/-- non-vacuity: `x_javascript:alert(1)` is accepted by the `uri` validator (as a relative reference) and has no scheme for a browser -/
example : Uri.validator .both (fun _ => false) [120, 95, 106, 97, 118, 97, 115, 99, 114, 105, 112, 116, 58, 97, 108, 101, 114, 116, 40, 49, 41] = true ∧
    Uri.browserScheme (Uri.decodeRefs [120, 95, 106, 97, 118, 97, 115, 99, 114, 105, 112, 116, 58, 97, 108, 101, 114, 116, 40, 49, 41]) = none := by
  decide +kernel

/-- non-vacuity: `http://a/?x=1&amp;y=2#f` is accepted when `http` is allowed, and has that scheme -/
example : Uri.validator .full (fun s => s == [104, 116, 116, 112])
    [104, 116, 116, 112, 58, 47, 47, 97, 47, 63, 120, 61, 49, 38, 97, 109, 112, 59, 121, 61, 50, 35, 102] = true := by decide +kernel
example : Uri.schemeOf [104, 116, 116, 112, 58, 47, 47, 97, 47] = some [104, 116, 116, 112] := by decide +kernel

/-! `HtmlCaseOk` cannot be dropped for the *abstract* `Rules` type (whose `tagKind` is an arbitrary function):
with `b` opening_and_closing but `B` stand_alone (impossible for a real HTML-mode `rules` object, whose map is
keyed case-insensitively) the output `<b><B></b>` of `<b><x><B></x></b>` does not validate.  (The theorem states `RulesOk` and the failing
validation; that `HtmlCaseOk caseSplitRules` is what fails follows with `filter_validates`.) -/

def caseSplitRules : Rules where
  xhtml := false
  tagKind := fun n => if n = [98] then .openingAndClosing else if n = [66] then .standAlone else .invalidTag
  prop := fun _ _ => none
  entity := fun n => (Gen.defaultEntities.map bytesOf).contains n
  comments := false
  numeric := false

theorem htmlCaseOk_needed_counterexample :
    RulesOk caseSplitRules ∧
    validate caseSplitRules (filter caseSplitRules .remove
      [60, 98, 62, 60, 120, 62, 60, 66, 62, 60, 47, 120, 62, 60, 47, 98, 62]) = false :=
  ⟨⟨by decide, by decide, by decide, by decide⟩, by decide +kernel⟩

/-- `<a href="…">` (opening_and_closing, href = alphanumerics), `<br/>` (stand_alone) -/
def exRules (xhtml : Bool) : Rules where
  xhtml := xhtml
  tagKind := fun n => if n = [97] then .openingAndClosing else if n = [98, 114] then .standAlone else .invalidTag
  prop := fun t p => if t = [97] ∧ p = [104, 114, 101, 102] then some (.pred fun v => v.all isAlnum) else none
  entity := fun n => (Gen.defaultEntities.map bytesOf).contains n
  comments := true
  numeric := false

theorem exRules_ok (x : Bool) : RulesOk (exRules x) := by
  cases x <;> exact ⟨by decide, by decide, by decide, by decide⟩

/-- `<a href='x1'>t&amp;</a><br/><!-- c -->` -/
def exValid : Bytes :=
  [60, 97, 32, 104, 114, 101, 102, 61, 39, 120, 49, 39, 62, 116, 38, 97, 109, 112, 59, 60, 47, 97, 62, 60, 98, 114, 47, 62,
   60, 33, 45, 45, 32, 99, 32, 45, 45, 62]

/-- `<a href='x 1'>t</a><b>&foo;` : bad attribute value, unknown tag, unknown entity -/
def exInvalid : Bytes :=
  [60, 97, 32, 104, 114, 101, 102, 61, 39, 120, 32, 49, 39, 62, 116, 60, 47, 97, 62, 60, 98, 62, 38, 102, 111, 111, 59]

example : validate (exRules true) exValid = true := by decide +kernel
example : (Spec.lenientMarkup exValid).length = 5 := by decide +kernel
example : validate (exRules true) exInvalid = false := by decide +kernel
/-- remove: `t`; escape: `&lt;a href='x 1'&gt;t&lt;/a&gt;&lt;b&gt;&amp;foo;` -/
example : filter (exRules true) .remove exInvalid = [116] := by decide +kernel
example : validate (exRules true) (filter (exRules true) .escape exInvalid) = true := by decide +kernel
example : filter (exRules true) .escape exInvalid ≠ exInvalid := by decide +kernel
example : (exRules true).xhtml = true := rfl
/-- the conclusion of `filter_validates` is not vacuous: the filter really changes this input -/
example : filter (exRules true) .remove exInvalid ≠ exInvalid ∧
    validate (exRules true) (filter (exRules true) .remove exInvalid) = true :=
  ⟨by decide +kernel, filter_validates_xhtml _ _ _ (exRules_ok true) rfl⟩

/-- an HTML-mode rule description; `mkRules exHtml` meets both hypotheses (`mkRules_hypotheses`) -/
def exHtml : RuleDesc :=
  { xhtml := false, comments := true, numeric := true, entities := [],
    tags := [([112], .anyTag), ([98], .openingAndClosing), ([104, 114], .standAlone)], props := [] }

/-- `<b><P>x</B>y<hr>&#65;</q>` in HTML mode: `</B>` closes `<b>` over the unclosed `<P>`; `</q>` is dropped -/
def exHtmlInput : Bytes :=
  [60, 98, 62, 60, 80, 62, 120, 60, 47, 66, 62, 121, 60, 104, 114, 62, 38, 35, 54, 53, 59, 60, 47, 113, 62]

example : validate (mkRules exHtml fun _ _ => false) exHtmlInput = false := by decide +kernel
example : filter (mkRules exHtml fun _ _ => false) .remove exHtmlInput =
    [60, 98, 62, 60, 80, 62, 120, 60, 47, 66, 62, 121, 60, 104, 114, 62, 38, 35, 54, 53, 59] := by decide +kernel
/-- `AsciiSync` is satisfiable: a single-byte validator accepting printable ASCII -/
example : AsciiSync (byteEnc (fun c => 32 ≤ c && c ≤ 126) 0) := byteEnc_asciiSync _ _ (by decide)
example : validate (mkRules exHtml fun _ _ => false) (filter (mkRules exHtml fun _ _ => false) .escape exHtmlInput) = true :=
  filter_validates_mkRules exHtml _ .escape exHtmlInput

end Cppcms.C04.Props
