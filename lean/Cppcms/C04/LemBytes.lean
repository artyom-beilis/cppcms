import Cppcms.C04.Model
import Cppcms.C04.Spec
/-! C04: the byte classes of xss.cpp (`Gen.lean`) against those of the lenient tokenizer, the escape
table, and the scan `findByte` (= the specification's `indexOf`) as a decomposition `s = a ++ c :: t`. -/
namespace Cppcms.C04
open Cppcms

theorem isSpecial_iff (c : UInt8) : isSpecial c = true ↔ c = 60 ∨ c = 62 ∨ c = 38 := by
  simp [isSpecial, Gen.isSpecial, ← UInt8.toNat_inj, or_assoc]

structure NotSpecial (c : UInt8) : Prop where
  ne_lt : c ≠ 60
  ne_gt : c ≠ 62
  ne_amp : c ≠ 38

theorem special_facts (c : UInt8) (h : isSpecial c = false) : NotSpecial c := by
  have := mt (isSpecial_iff c).mpr (by simp [h])
  exact ⟨fun e => this (.inl e), fun e => this (.inr (.inl e)), fun e => this (.inr (.inr e))⟩

theorem commentForbidden_eq (b : UInt8) : Gen.commentForbidden b.toNat = isSpecial b := by
  simp [isSpecial, Gen.isSpecial, Gen.commentForbidden, Bool.or_comm]

section
open Spec

abbrev AlnumFacts (c : UInt8) : Prop := isAlnum c = true →
  entityChar c = true ∧ nameChar c = true ∧ attrNameChar c = true ∧ ws c = false ∧ c ≠ 59

abbrev AlphaFacts (c : UInt8) : Prop := isAlpha c = true →
  nameChar c = true ∧ tagStart c = true ∧ attrNameChar c = true ∧ ws c = false ∧ c ≠ 33 ∧ c ≠ 63 ∧ c ≠ 47 ∧ c ≠ 62 ∧ c ≠ 61 ∧
    (isAlnum c = true ∨ c = 95)

abbrev SpaceFacts (c : UInt8) : Prop := isSpace c = true → ws c = true

abbrev DigitFacts (c : UInt8) : Prop := (isDigit c = true → digit c = true ∧ entityChar c = true) ∧
  (isXdigit c = true → hexdigit c = true ∧ entityChar c = true)

/-- one table, checked byte by byte -/
theorem byte_classes : ∀ c : UInt8,
    AlnumFacts c ∧ AlphaFacts c ∧ SpaceFacts c ∧ DigitFacts c ∧ cstrLower c = asciiLower c := by
  apply forall_uint8; decide +kernel

/-- the row `AlnumFacts`, by name -/
structure AlnumByte (c : UInt8) : Prop where
  entityChar : entityChar c = true
  nameChar : nameChar c = true
  attrNameChar : attrNameChar c = true
  noWs : ws c = false
  ne_semi : c ≠ 59

/-- the row `AlphaFacts`, by name -/
structure AlphaByte (c : UInt8) : Prop where
  nameChar : nameChar c = true
  tagStart : tagStart c = true
  attrNameChar : attrNameChar c = true
  noWs : ws c = false
  ne_excl : c ≠ 33
  ne_quest : c ≠ 63
  ne_slash : c ≠ 47
  ne_gt : c ≠ 62
  ne_eq : c ≠ 61
  alnum_or_underscore : isAlnum c = true ∨ c = 95

theorem alnum_facts (c : UInt8) (h : isAlnum c = true) : AlnumByte c :=
  let ⟨h1, h2, h3, h4, h5⟩ := (byte_classes c).1 h
  ⟨h1, h2, h3, h4, h5⟩

theorem alpha_facts (c : UInt8) (h : isAlpha c = true) : AlphaByte c :=
  let ⟨h1, h2, h3, h4, h5, h6, h7, h8, h9, h10⟩ := (byte_classes c).2.1 h
  ⟨h1, h2, h3, h4, h5, h6, h7, h8, h9, h10⟩

theorem space_facts (c : UInt8) : SpaceFacts c := (byte_classes c).2.2.1
theorem digit_facts (c : UInt8) : DigitFacts c := (byte_classes c).2.2.2.1
theorem lower_eq (c : UInt8) : cstrLower c = asciiLower c := (byte_classes c).2.2.2.2
end

theorem hexVal_eq (c : UInt8) : Spec.hexVal c = digitVal c := by
  have : Spec.digit c = isDigit c := by simp [Spec.digit, isDigit, Gen.isDigit, UInt8.le_iff_toNat_le]
  simp [Spec.hexVal, digitVal, this, UInt8.le_iff_toNat_le]

theorem forbidden_iff (c : UInt8) : (Gen.propValueForbidden.contains c.toNat = true ↔ (c = 60 ∨ c = 62)) ∧
    (c.toNat = Gen.propValueAmp ↔ c = 38) := by
  simp [Gen.propValueForbidden, Gen.propValueAmp, ← UInt8.toNat_inj]

theorem quote_facts (q : UInt8) (h : (bytesOf Gen.propQuotes).contains q = true) : (q = 34 ∨ q = 39) ∧ Spec.ws q = false := by
  have : q = 39 ∨ q = 34 := by simpa [show bytesOf Gen.propQuotes = [39, 34] from rfl] using h
  rcases this with rfl | rfl <;> decide

theorem escapeByte_cases (c : UInt8) : (escapeByte c = [c] ∧ isSpecial c = false) ∨
    ∃ p ∈ Gen.escapeTable, c = UInt8.ofNat p.1 ∧ escapeByte c = bytesOf p.2 := by
  unfold escapeByte
  cases h : Gen.escapeTable.find? (fun p => p.1 = c.toNat) with
  | some p =>
    have hp : p.1 = c.toNat := by simpa using List.find?_some h
    exact .inr ⟨p, List.mem_of_find?_eq_some h, by rw [hp, UInt8.ofNat_toNat], rfl⟩
  | none =>
    refine .inl ⟨rfl, ?_⟩
    have := List.find?_eq_none.mp h
    simp only [Gen.escapeTable, List.mem_cons, List.not_mem_nil, or_false, decide_eq_true_eq, forall_eq_or_imp,
      forall_eq] at this
    simp only [isSpecial, Gen.isSpecial, Bool.or_eq_false_iff, decide_eq_false_iff_not, beq_iff_eq]
    omega

theorem findByte_eq_some {c : UInt8} : ∀ {s : Bytes} {k : Nat}, findByte c s = some k →
    ∃ a t, s = a ++ c :: t ∧ (∀ b ∈ a, b ≠ c) ∧ a.length = k
  | [], _, h => nomatch h
  | x :: xs, k, h => by
    by_cases hx : x = c
    · exact ⟨[], xs, by simp [hx], by simp, by simpa [findByte, hx] using h⟩
    · simp only [findByte, if_neg hx, Option.map_eq_some_iff] at h
      obtain ⟨j, hj, rfl⟩ := h
      obtain ⟨a, t, rfl, ha, rfl⟩ := findByte_eq_some hj
      exact ⟨x :: a, t, rfl, by simpa [hx] using ha, rfl⟩

theorem findByte_append_cons {c : UInt8} {a : Bytes} (t : Bytes) (h : ∀ b ∈ a, b ≠ c) :
    findByte c (a ++ c :: t) = some a.length := by
  induction a with
  | nil => simp [findByte]
  | cons x a ih => simp [findByte, h x (List.mem_cons_self ..), ih (fun b hb => h b (List.mem_cons_of_mem _ hb))]

theorem indexOf_eq_findByte (c : UInt8) (s : Bytes) : Spec.indexOf c s = findByte c s := by
  induction s with
  | nil => rfl
  | cons x s ih => simp [Spec.indexOf, findByte, ih]

end Cppcms.C04
