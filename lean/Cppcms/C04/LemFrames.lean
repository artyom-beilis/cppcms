import Cppcms.C04.Frames
/-! C04: `validate_nesting` (index/stack form of the model) computes exactly the entry components of the frames form
`runF`: simulation of the two loops, including HTML's pop-until-found.  A big-step description (`Good`) of the frames
run: finished segments, partners decided together; the frames run on entries without `pair` is `Good`. -/
namespace Cppcms.C04
open Cppcms

theorem flatF_append (fs : List Frame) (a b : List FEntry) : flatF fs (a ++ b) = flatF fs a ++ b := by
  induction fs generalizing a with
  | nil => rfl
  | cons f fs ih =>
    show flatF fs (f.before ++ (f.opn, false) :: (a ++ b)) = flatF fs (f.before ++ (f.opn, false) :: a) ++ b
    simpa using ih (f.before ++ (f.opn, false) :: a)

theorem flatF_cons (f : Frame) (fs : List Frame) (cur : List FEntry) :
    flatF (f :: fs) cur = flatF fs f.before ++ (f.opn, false) :: cur :=
  flatF_append fs f.before ((f.opn, false) :: cur)

@[simp] theorem flatF_nil (cur : List FEntry) : flatF [] cur = cur := rfl

theorem length_flat_cons (f : Frame) (fs : List Frame) (cur : List FEntry) :
    (flatF (f :: fs) cur).length = (flatF fs f.before).length + 1 + cur.length := by
  rw [flatF_cons]; simp; omega

theorem finalEntry_fst_ty (p : FEntry) (h : p.2 = false) : finalEntry p = p.1 := by
  simp [finalEntry, h]

theorem modify_append_cons {α : Type} (A : List α) (x : α) (B : List α) (g : α → α) :
    (A ++ x :: B).modify A.length g = A ++ g x :: B := by
  induction A with
  | nil => simp
  | cons a A ih => simp [ih]

theorem modify_append_right {α : Type} (A B : List α) (k : Nat) (g : α → α) :
    (A ++ B).modify (A.length + k) g = A ++ B.modify k g := by
  induction A with
  | nil => simp
  | cons a A ih => rw [show (a :: A).length + k = (A.length + k) + 1 by simp; omega]; simp [ih]

theorem getElem?_append_cons_length {α : Type} (A : List α) (x : α) (B : List α) :
    (A ++ x :: B)[A.length]? = some x := by
  simp

/-- absolute positions of the pending open tags, innermost first -/
def posList : List Frame → List Nat
  | [] => []
  | f :: fs => (flatF fs f.before).length :: posList fs

/-- the entries of the model's array at a point where the frames are `frames`/`cur` and `todo` is unprocessed -/
def arrOf (frames : List Frame) (cur : List FEntry) (todo : List Entry) : List Entry :=
  (flatF frames cur).map Prod.fst ++ todo

section
variable (r : Rules) {xhtml : Bool} {f : Frame} {fs : List Frame} {cur : List FEntry} {e : Entry} {todo : List Entry}

/-- finished entries may be counted as unprocessed -/
theorem arrOf_append (b : List FEntry) : arrOf fs (cur ++ b) todo = arrOf fs cur (b.map Prod.fst ++ todo) := by
  simp [arrOf, flatF_append]

/-- so may the innermost pending open tag -/
theorem arrOf_cons : arrOf (f :: fs) cur todo = arrOf fs f.before (f.opn :: (cur.map Prod.fst ++ todo)) := by
  simp [arrOf, flatF_cons]

theorem arrOf_get : (arrOf fs cur (e :: todo))[(flatF fs cur).length]? = some e := by
  simp [arrOf]

theorem arrOf_modify (g : Entry → Entry) :
    (arrOf fs cur (e :: todo)).modify (flatF fs cur).length g = arrOf fs cur (g e :: todo) := by
  simpa [arrOf] using modify_append_cons ((flatF fs cur).map Prod.fst) e todo g

theorem nameAt_top : nameAt (arrOf (f :: fs) cur todo) (flatF fs f.before).length = f.opn.name := by
  rw [nameAt, arrOf_cons, arrOf_get]; rfl

theorem setPair_sim {i : Nat} (hi : i = (flatF (f :: fs) cur).length) :
    setPair (setPair (arrOf (f :: fs) cur (e :: todo)) i (flatF fs f.before).length) (flatF fs f.before).length i =
      arrOf fs (f.before ++ (pairF r f.opn e (flatF fs f.before).length i).1 :: cur ++
        [(pairF r f.opn e (flatF fs f.before).length i).2]) todo := by
  subst hi
  rw [setPair, setPair, arrOf_modify, arrOf_cons, arrOf_modify]
  simp [arrOf_append, pairF]

theorem setTy_sim (t : Ty) :
    setTy (arrOf (f :: fs) cur todo) (flatF fs f.before).length t =
      arrOf fs (f.before ++ leafF r { f.opn with ty := t } :: cur) todo := by
  rw [setTy, arrOf_cons, arrOf_modify]
  simp [arrOf_append, leafF]

theorem popUntil_sim (e : Entry) (todo : List Entry) :
    ∀ (frames : List Frame) (cur : List FEntry) (i : Nat), i = (flatF frames cur).length →
    popUntil (arrOf frames cur (e :: todo)) i e.name (posList frames) =
      (arrOf (popF r e i frames cur).1 (popF r e i frames cur).2 todo, posList (popF r e i frames cur).1)
  | [], cur, i, hi => by
    subst hi
    simp only [posList, popUntil, popF, setTy, arrOf_modify]
    simp [arrOf_append, leafF]
  | f :: fs, cur, i, hi => by
    simp only [posList, popUntil, popF, nameAt_top]
    split
    · rw [setPair_sim r hi]
    · rw [setTy_sim r]
      exact popUntil_sim e todo fs _ i (by rw [hi, flatF_cons, flatF_append]; simp)

theorem nestStep_sim (xhtml : Bool) (frames : List Frame) (cur : List FEntry) (e : Entry) (todo : List Entry) :
    nestStep xhtml (arrOf frames cur (e :: todo), posList frames) (flatF frames cur).length =
      (arrOf (stepF r xhtml (frames, cur) e).1 (stepF r xhtml (frames, cur) e).2 todo,
        posList (stepF r xhtml (frames, cur) e).1) := by
  have leaf : ∀ t : Ty, setTy (arrOf frames cur (e :: todo)) (flatF frames cur).length t =
      arrOf frames (cur ++ [leafF r { e with ty := t }]) todo := fun t => by
    simp [setTy, arrOf_modify, arrOf_append, leafF]
  unfold nestStep stepF
  simp only [arrOf_get]
  cases hty : e.ty
  case openTag => simp [posList, arrOf_cons]
  case closeTag =>
    cases xhtml with
    | false => exact popUntil_sim r e todo frames cur _ rfl
    | true =>
      cases frames with
      | nil => simp only [posList, if_true, leaf]
      | cons f fs =>
        simp only [posList, nameAt_top, if_true]
        split
        · rw [setPair_sim r rfl]
        · rw [leaf, setTy_sim r]
          simp
  all_goals simp [arrOf_append, leafF]

theorem popUntil_length (i : Nat) (cur : Bytes) : ∀ (st : List Nat) (es : List Entry),
    (popUntil es i cur st).1.length = es.length
  | [], es => by simp [popUntil, setTy]
  | top :: st, es => by
    unfold popUntil
    split
    · simp [setPair]
    · rw [popUntil_length i cur st]; simp [setTy]

theorem nestStep_length (xhtml : Bool) (s : List Entry × List Nat) (i : Nat) :
    (nestStep xhtml s i).1.length = s.1.length := by
  unfold nestStep
  split
  · rfl
  · split
    · split
      · split
        · simp [setTy]
        · split <;> simp [setTy, setPair]
      · exact popUntil_length _ _ _ _
    · rfl
    · rfl

/-- a step of the frames form finishes or pends exactly one more entry (as a step of the model keeps the array length) -/
theorem stepF_length (xhtml : Bool) (frames : List Frame) (cur : List FEntry) (e : Entry) :
    (flatF (stepF r xhtml (frames, cur) e).1 (stepF r xhtml (frames, cur) e).2).length = (flatF frames cur).length + 1 := by
  have h := congrArg (fun s => s.1.length) (nestStep_sim r xhtml frames cur e [])
  simp only [nestStep_length, arrOf, List.length_append, List.length_map, List.length_cons, List.length_nil] at h
  omega

theorem nestFold_sim (xhtml : Bool) : ∀ (todo : List Entry) (frames : List Frame) (cur : List FEntry),
    (List.range' (flatF frames cur).length todo.length).foldl (nestStep xhtml) (arrOf frames cur todo, posList frames) =
      (arrOf (todo.foldl (stepF r xhtml) (frames, cur)).1 (todo.foldl (stepF r xhtml) (frames, cur)).2 [],
        posList (todo.foldl (stepF r xhtml) (frames, cur)).1)
  | [], _, _ => rfl
  | e :: todo, frames, cur => by
    rw [List.length_cons, List.range'_succ, List.foldl_cons, List.foldl_cons, nestStep_sim r,
      ← stepF_length r xhtml frames cur e]
    exact nestFold_sim xhtml todo _ _

theorem finish_sim (t : Ty) : ∀ (frames : List Frame) (cur : List FEntry),
    (posList frames).foldl (fun es top => setTy es top t) (arrOf frames cur []) =
      (frames.foldl (fun acc f => f.before ++ leafF r { f.opn with ty := t } :: acc) cur).map Prod.fst
  | [], cur => by simp [posList, arrOf]
  | f :: fs, cur => by
    rw [posList, List.foldl_cons, List.foldl_cons, setTy_sim r]
    exact finish_sim t fs _

theorem validateNesting_eq_runF (xhtml : Bool) (es : List Entry) :
    validateNesting xhtml es = (runF r xhtml es).map Prod.fst := by
  have h := nestFold_sim r xhtml es [] []
  rw [show arrOf [] [] es = es by simp [arrOf]] at h
  simp only [flatF_nil, List.length_nil, posList] at h
  unfold validateNesting runF finishF
  rw [List.range_eq_range', h]
  exact finish_sim r _ _ _
end

/-- what an entry without partner turns into (`rejected`: a close tag that finds no open tag; XHTML: the open tag of a
mismatch, or one pending at the end) -/
inductive LeafOut (r : Rules) (xhtml : Bool) : Entry → FEntry → Prop
  | neutral (e : Entry) : e.ty ≠ .openTag → e.ty ≠ .closeTag → LeafOut r xhtml e (leafF r e)
  | rejected (e : Entry) : (e.ty = .openTag ∨ e.ty = .closeTag) → LeafOut r xhtml e (leafF r { e with ty := .invalid })
  | noSlash (e : Entry) : xhtml = false → e.ty = .openTag → LeafOut r xhtml e (leafF r { e with ty := .openCloseNoSlash })

/-- `Good r xhtml base ins outs`: the entries `ins`, starting at absolute position `base`, form a finished
segment (every close tag in it met its open tag or was rejected), and `outs` is what the frames run
produces for them. -/
inductive Good (r : Rules) (xhtml : Bool) : Nat → List Entry → List FEntry → Prop
  | nil (b : Nat) : Good r xhtml b [] []
  | leaf (b : Nat) (ins : List Entry) (outs : List FEntry) (e : Entry) (x : FEntry) :
      Good r xhtml b ins outs → e.pair = none → LeafOut r xhtml e x → Good r xhtml b (ins ++ [e]) (outs ++ [x])
  | pair (b : Nat) (i1 : List Entry) (o1 : List FEntry) (i2 : List Entry) (o2 : List FEntry) (eo ec : Entry) :
      Good r xhtml b i1 o1 → Good r xhtml (b + o1.length + 1) i2 o2 →
      eo.ty = .openTag → ec.ty = .closeTag → eo.pair = none → ec.pair = none → streq xhtml eo.name ec.name = true →
      Good r xhtml b (i1 ++ eo :: i2 ++ [ec])
        (o1 ++ (pairF r eo ec (b + o1.length) (b + o1.length + 1 + o2.length)).1 :: o2 ++
          [(pairF r eo ec (b + o1.length) (b + o1.length + 1 + o2.length)).2])

theorem Good.length_eq {r : Rules} {xhtml : Bool} {b : Nat} {ins : List Entry} {outs : List FEntry}
    (h : Good r xhtml b ins outs) : outs.length = ins.length := by
  induction h with
  | nil => rfl
  | leaf b ins outs e x _ _ _ ih => simp [ih]
  | pair b i1 o1 i2 o2 eo ec _ _ _ _ _ _ _ ih1 ih2 => simp [ih1, ih2]

theorem Good.append {r : Rules} {xhtml : Bool} {b : Nat} {i1 : List Entry} {o1 : List FEntry}
    (h1 : Good r xhtml b i1 o1) {i2 : List Entry} {o2 : List FEntry} {b2 : Nat}
    (h2 : Good r xhtml b2 i2 o2) (hb : b2 = b + o1.length) : Good r xhtml b (i1 ++ i2) (o1 ++ o2) := by
  induction h2 generalizing b i1 o1 with
  | nil => simpa using h1
  | leaf b2 ins outs e x _ hp hl ih =>
    rw [← List.append_assoc, ← List.append_assoc]
    exact Good.leaf _ _ _ _ _ (ih h1 hb) hp hl
  | pair b2 j1 p1 j2 p2 eo ec g1 g2 ho hc hpo hpc hs ih1 ih2 =>
    subst hb
    have := Good.pair b (i1 ++ j1) (o1 ++ p1) j2 p2 eo ec (ih1 h1 rfl)
      (by simpa [Nat.add_assoc] using g2) ho hc hpo hpc hs
    simpa [Nat.add_assoc] using this

/-- absolute position at which the current segment begins: right behind the innermost pending open tag -/
def startOf : List Frame → Nat
  | [] => 0
  | f :: fs => (flatF fs f.before).length + 1

theorem startOf_add (fs : List Frame) (cur : List FEntry) : startOf fs + cur.length = (flatF fs cur).length := by
  cases fs with
  | nil => simp [startOf]
  | cons f fs => rw [flatF_cons]; simp [startOf]; omega

/-- Invariant of the frames run: the consumed input decomposes along the frames, each piece a finished segment.  For the
innermost frame `f`: `io` was consumed before `f.opn` (the invariant again, below, with `f.before` as current segment),
`ic` with outputs `cur` is the finished segment since. -/
def FG (r : Rules) (xhtml : Bool) : List Frame → List FEntry → List Entry → Prop
  | [], cur, ins => Good r xhtml 0 ins cur
  | f :: fs, cur, ins => ∃ io ic, ins = io ++ f.opn :: ic ∧ f.opn.ty = .openTag ∧ f.opn.pair = none ∧
      FG r xhtml fs f.before io ∧ Good r xhtml ((flatF fs f.before).length + 1) ic cur

/-- the innermost finished segment can be replaced -/
theorem FG.context {r : Rules} {xhtml : Bool} {fs : List Frame} {cur : List FEntry} {ins : List Entry}
    (h : FG r xhtml fs cur ins) :
    ∃ io ic, ins = io ++ ic ∧ Good r xhtml (startOf fs) ic cur ∧
      ∀ ic' cur', Good r xhtml (startOf fs) ic' cur' → FG r xhtml fs cur' (io ++ ic') := by
  cases fs with
  | nil => exact ⟨[], ins, by simp, h, fun ic' cur' g => by simpa [FG, startOf] using g⟩
  | cons f fs =>
    obtain ⟨io, ic, hins, hopen, hnopair, houter, hseg⟩ := h
    refine ⟨io ++ [f.opn], ic, by simp [hins], hseg, ?_⟩
    intro ic' cur' g
    exact ⟨io, ic', by simp, hopen, hnopair, houter, g⟩

section
variable {r : Rules} {xhtml : Bool} {f : Frame} {fs : List Frame} {cur : List FEntry} {ins : List Entry}

theorem FG.opn_ty (h : FG r xhtml (f :: fs) cur ins) : f.opn.ty = .openTag :=
  let ⟨_, _, _, hopen, _⟩ := h; hopen

theorem FG.absorb (h : FG r xhtml (f :: fs) cur ins) (x : FEntry) (hx : LeafOut r xhtml f.opn x) :
    FG r xhtml fs (f.before ++ x :: cur) ins := by
  obtain ⟨io, ic, hins, hopen, hnopair, houter, hseg⟩ := h
  obtain ⟨jo, jc, hio, hprev, hrepl⟩ := houter.context
  have g := (Good.leaf _ _ _ _ _ hprev hnopair hx).append hseg (by simp; have := startOf_add fs f.before; omega)
  rw [hins, hio]
  simpa using hrepl _ _ g

theorem FG.leaf (h : FG r xhtml fs cur ins) (e : Entry) (x : FEntry) (hp : e.pair = none) (hx : LeafOut r xhtml e x) :
    FG r xhtml fs (cur ++ [x]) (ins ++ [e]) := by
  obtain ⟨jo, jc, hio, hprev, hrepl⟩ := h.context
  rw [hio]
  simpa using hrepl _ _ (Good.leaf _ _ _ _ _ hprev hp hx)

theorem FG.close (h : FG r xhtml (f :: fs) cur ins) (e : Entry) (hty : e.ty = .closeTag) (hp : e.pair = none)
    (hs : streq xhtml f.opn.name e.name = true) (i : Nat) (hi : i = (flatF (f :: fs) cur).length) :
    FG r xhtml fs (f.before ++ (pairF r f.opn e (flatF fs f.before).length i).1 :: cur ++
      [(pairF r f.opn e (flatF fs f.before).length i).2]) (ins ++ [e]) := by
  obtain ⟨io, ic, hins, hopen, hnopair, houter, hseg⟩ := h
  obtain ⟨jo, jc, hio, hprev, hrepl⟩ := houter.context
  have hpo : startOf fs + f.before.length = (flatF fs f.before).length := startOf_add fs f.before
  have := hrepl _ _ (Good.pair (startOf fs) jc f.before ic cur f.opn e hprev (by rw [hpo]; exact hseg) hopen hty hnopair hp hs)
  rw [hins, hio, hi, length_flat_cons]
  rw [hpo] at this
  simpa using this
end

variable (r : Rules)

theorem popF_FG (e : Entry) (hty : e.ty = .closeTag) (hp : e.pair = none) :
    ∀ (frames : List Frame) (cur : List FEntry) (ins : List Entry) (i : Nat), i = (flatF frames cur).length →
    FG r false frames cur ins → FG r false (popF r e i frames cur).1 (popF r e i frames cur).2 (ins ++ [e])
  | [], _, _, _, _, h => h.leaf e _ hp (.rejected e (.inr hty))
  | f :: fs, cur, ins, i, hi, h => by
    simp only [popF]
    split
    · rename_i hs
      exact h.close e hty hp hs i hi
    · exact popF_FG e hty hp fs _ ins i (by rw [hi, flatF_cons, flatF_append]; simp)
        (h.absorb _ (.noSlash f.opn rfl h.opn_ty))

theorem stepF_FG (xhtml : Bool) (frames : List Frame) (cur : List FEntry) (ins : List Entry) (e : Entry)
    (hp : e.pair = none) (h : FG r xhtml frames cur ins) :
    FG r xhtml (stepF r xhtml (frames, cur) e).1 (stepF r xhtml (frames, cur) e).2 (ins ++ [e]) := by
  unfold stepF
  cases hty : e.ty
  case closeTag =>
    cases xhtml with
    | false => exact popF_FG r e hty hp frames cur ins _ rfl h
    | true =>
      cases frames with
      | nil => exact h.leaf e _ hp (.rejected e (.inr hty))
      | cons f fs =>
        simp only [if_true]
        split
        · rename_i hs
          exact h.close e hty hp hs _ rfl
        · simpa using ((h.absorb _ (.rejected f.opn (.inl h.opn_ty))).leaf e _ hp (.rejected e (.inr hty)))
  case openTag => exact ⟨ins, [], by simp, hty, hp, h, .nil _⟩
  all_goals exact h.leaf e _ hp (.neutral e (by simp [hty]) (by simp [hty]))

theorem foldF_FG (xhtml : Bool) : ∀ (todo : List Entry) (frames : List Frame) (cur : List FEntry) (ins : List Entry),
    (∀ e ∈ todo, e.pair = none) → FG r xhtml frames cur ins →
    FG r xhtml (todo.foldl (stepF r xhtml) (frames, cur)).1 (todo.foldl (stepF r xhtml) (frames, cur)).2 (ins ++ todo)
  | [], _, _, _, _, h => by simpa using h
  | e :: todo, frames, cur, ins, hp, h => by
    simpa using foldF_FG xhtml todo _ _ (ins ++ [e]) (fun x hx => hp x (List.mem_cons_of_mem _ hx))
      (stepF_FG r xhtml frames cur ins e (hp e (List.mem_cons_self ..)) h)

theorem finishF_FG (xhtml : Bool) : ∀ (frames : List Frame) (cur : List FEntry) (ins : List Entry),
    FG r xhtml frames cur ins → Good r xhtml 0 ins (finishF r xhtml frames cur)
  | [], _, _, h => h
  | f :: fs, cur, ins, h => by
    simp only [finishF, List.foldl_cons]
    apply finishF_FG xhtml fs
    cases xhtml with
    | true => exact h.absorb _ (.rejected f.opn (.inl h.opn_ty))
    | false => exact h.absorb _ (.noSlash f.opn rfl h.opn_ty)

theorem runF_good (xhtml : Bool) (es : List Entry) (hp : ∀ e ∈ es, e.pair = none) :
    Good r xhtml 0 es (runF r xhtml es) :=
  finishF_FG r xhtml _ _ _ (by simpa using foldF_FG r xhtml es [] [] [] hp (.nil 0))
end Cppcms.C04
