import Cppcms.Common
import Cppcms.C04.Rules
/-!
C04 — independent specification: a deliberately *lenient*, browser-style tokenizer
(`lenientMarkup`) and the white-list predicate `Allowed`.

Nothing here refers to the filter's own tokenizer (no `Gen`/`Model` import).  Every `<`, `>` and
`&` of a text starts a markup candidate; candidates are cut the way a tolerant HTML parser would
cut them (tags end at the first `>` *outside* quotes, attribute values may be unquoted, form feed
is white space, entity references need not be terminated, `<!…>` / `<?…>` are bogus comments,
unterminated constructs run to the end of the text).  The property "the output contains only
white-listed markup" is `∀ m ∈ lenientMarkup out, Allowed r m`.

This tokenizer is this project's specification of "what a browser might see", not a browser.
-/
namespace Cppcms.C04.Spec
open Cppcms

inductive Markup
  /-- a `<`, `>` that is not part of any construct -/
  | stray (c : UInt8)
  /-- `&name` (+ `;` iff `terminated`); `name` may start with `#` -/
  | entity (name : Bytes) (terminated : Bool)
  /-- `<!--body-->` (`closed`) or `<!--body` running to the end of the text -/
  | comment (body : Bytes) (closed : Bool)
  /-- `<!…>`, `<?…>`, `</` + non-name: bogus comment / doctype / processing instruction -/
  | bogus (text : Bytes)
  /-- start or end tag -/
  | tag (closing : Bool) (name : Bytes) (attrs : List (Bytes × Option Bytes)) (selfClosing : Bool) (terminated : Bool)
  deriving DecidableEq, Repr

/-! ### byte classes (own definitions) -/

def ws (c : UInt8) : Bool := c = 32 || c = 9 || c = 10 || c = 13 || c = 12
def letter (c : UInt8) : Bool := (65 ≤ c && c ≤ 90) || (97 ≤ c && c ≤ 122)
def digit (c : UInt8) : Bool := 48 ≤ c && c ≤ 57
def hexdigit (c : UInt8) : Bool := digit c || (65 ≤ c && c ≤ 70) || (97 ≤ c && c ≤ 102)
/-- bytes an entity reference name may consist of, leniently -/
def entityChar (c : UInt8) : Bool := letter c || digit c || c = 35
/-- a tag name runs up to white space, `/` or `>` -/
def nameChar (c : UInt8) : Bool := !ws c && c != 47 && c != 62
/-- an attribute name runs up to white space, `/`, `>` or `=` -/
def attrNameChar (c : UInt8) : Bool := !ws c && c != 47 && c != 62 && c != 61
/-- an unquoted attribute value runs up to white space or `>` -/
def unquotedChar (c : UInt8) : Bool := !ws c && c != 62
/-- what may follow `<` to open a tag (after `!`, `?`, `/` were dealt with): anything but white
space and the three markup bytes -/
def tagStart (c : UInt8) : Bool := !ws c && c != 60 && c != 62 && c != 38

def indexOf (c : UInt8) : Bytes → Option Nat
  | [] => none
  | x :: xs => if x = c then some 0 else (indexOf c xs).map (· + 1)

/-- offset of the first occurrence of `-->` -/
def findCommentEnd : Bytes → Option Nat
  | [] => none
  | x :: xs =>
    if x = 45 ∧ xs.take 2 = [45, 62] then some 0 else (findCommentEnd xs).map (· + 1)

/-! ### the lenient tokenizer -/

structure TagTail where
  attrs : List (Bytes × Option Bytes)
  selfClosing : Bool
  terminated : Bool
  rest : Bytes

/-- attributes of a tag, up to and including the closing `>` -/
def lenientAttrs : Nat → Bytes → List (Bytes × Option Bytes) → TagTail
  | 0, _, acc => ⟨acc, false, false, []⟩
  | _ + 1, [], acc => ⟨acc, false, false, []⟩
  | n + 1, c :: rest, acc =>
    if ws c then lenientAttrs n rest acc
    else if c = 62 then ⟨acc, false, true, rest⟩
    else if c = 47 then
      match rest with
      | 62 :: more => ⟨acc, true, true, more⟩
      | _ => lenientAttrs n rest acc
    else
      let aname := c :: rest.takeWhile attrNameChar
      let s1 := (rest.dropWhile attrNameChar).dropWhile ws
      match s1 with
      | 61 :: s2 =>
        match s2.dropWhile ws with
        | [] => ⟨acc ++ [(aname, some [])], false, false, []⟩
        | q :: s4 =>
          if q = 34 ∨ q = 39 then
            match indexOf q s4 with
            | some k => lenientAttrs n (s4.drop (k + 1)) (acc ++ [(aname, some (s4.take k))])
            | none => ⟨acc ++ [(aname, some s4)], false, false, []⟩
          else
            lenientAttrs n ((q :: s4).dropWhile unquotedChar) (acc ++ [(aname, some ((q :: s4).takeWhile unquotedChar))])
      | _ => lenientAttrs n s1 (acc ++ [(aname, none)])

/-- a tag whose name starts at the head of `s` (after `<` or `</`) -/
def lenientTag (closing : Bool) (s : Bytes) : Markup × Bytes :=
  let name := s.takeWhile nameChar
  let t := lenientAttrs (s.length + 1) (s.dropWhile nameChar) []
  (.tag closing name t.attrs t.selfClosing t.terminated, t.rest)

def lenientAux : Nat → Bytes → List Markup
  | 0, _ => []
  | _ + 1, [] => []
  | n + 1, c :: rest =>
    if c = 38 then
      let name := rest.takeWhile entityChar
      match rest.dropWhile entityChar with
      | 59 :: more => .entity name true :: lenientAux n more
      | after => .entity name false :: lenientAux n after
    else if c = 62 then .stray 62 :: lenientAux n rest
    else if c = 60 then
      match rest with
      | [] => [.stray 60]
      | 33 :: 45 :: 45 :: more =>
        match findCommentEnd more with
        | some k => .comment (more.take k) true :: lenientAux n (more.drop (k + 3))
        | none => [.comment more false]
      | d :: more =>
        if d = 33 ∨ d = 63 then
          match indexOf 62 more with
          | some k => .bogus (c :: d :: more.take (k + 1)) :: lenientAux n (more.drop (k + 1))
          | none => [.bogus (c :: rest)]
        else if d = 47 then
          match more with
          | [] => [.stray 60]
          | e :: _ =>
            if tagStart e then
              let r := lenientTag true more
              r.1 :: lenientAux n r.2
            else
              match indexOf 62 more with
              | some k => .bogus (c :: d :: more.take (k + 1)) :: lenientAux n (more.drop (k + 1))
              | none => [.bogus (c :: rest)]
        else if tagStart d then
          let r := lenientTag false rest
          r.1 :: lenientAux n r.2
        else .stray 60 :: lenientAux n rest
    else lenientAux n rest

/-- all markup candidates of a text, in order -/
def lenientMarkup (x : Bytes) : List Markup := lenientAux (x.length + 1) x

/-! ### the white list -/

def asciiLower (c : UInt8) : UInt8 := if 65 ≤ c && c ≤ 90 then c + 32 else c

/-- names are compared exactly in XHTML and ASCII-case-insensitively in HTML -/
def sameName (xhtml : Bool) (a b : Bytes) : Bool :=
  if xhtml then a == b else a.map asciiLower == b.map asciiLower

/-- `#` digits+  |  `#x` hexdigits+ -/
def numericForm : Bytes → Bool
  | 35 :: d :: ds =>
    if d = 120 ∨ d = 88 then !ds.isEmpty && ds.all hexdigit else (d :: ds).all digit
  | _ => false

/-- the value of one digit; `numericValue` below: the mathematical value of the digit string of a numeric reference
(`0` if it is not of numeric form) -/
def hexVal (c : UInt8) : Nat :=
  if digit c then c.toNat - 48 else if 97 ≤ c then c.toNat - 87 else c.toNat - 55

def numericValue : Bytes → Nat
  | 35 :: d :: ds =>
    if d = 120 ∨ d = 88 then ds.foldl (fun acc c => acc * 16 + hexVal c) 0
    else (d :: ds).foldl (fun acc c => acc * 10 + hexVal c) 0
  | _ => 0

/-- XML 1.0 `Char`: `#x9 | #xA | #xD | [#x20-#xD7FF] | [#xE000-#xFFFD] | [#x10000-#x10FFFF]` — what a numeric
character reference may denote (no control characters, no surrogates, no non-characters FFFE/FFFF, nothing beyond
U+10FFFF), stated on the mathematical value of the digit string, however long -/
def xmlChar (v : Nat) : Bool :=
  v = 0x9 || v = 0xA || v = 0xD || (0x20 ≤ v && v ≤ 0xD7FF) || (0xE000 ≤ v && v ≤ 0xFFFD) || (0x10000 ≤ v && v ≤ 0x10FFFF)

/-- the character references an attribute value may contain: what may follow `&` -/
def valueEntities : List Bytes :=
  [[97, 109, 112, 59], [108, 116, 59], [103, 116, 59], [113, 117, 111, 116, 59], [97, 112, 111, 115, 59],
   [35, 120, 50, 55, 59], [35, 88, 50, 55, 59], [35, 51, 57, 59]]

/-- no `<`, `>`; every `&` starts one of `valueEntities` (the bytes of a recognised reference are
skipped) -/
def valueCleanAux : Nat → Bytes → Bool
  | _, [] => true
  | k + 1, _ :: rest => valueCleanAux k rest
  | 0, c :: rest =>
    if c = 60 ∨ c = 62 then false
    else if c = 38 then
      match valueEntities.find? (fun e => e.isPrefixOf rest) with
      | some e => valueCleanAux e.length rest
      | none => false
    else valueCleanAux 0 rest

def valueClean (v : Bytes) : Bool := valueCleanAux 0 v

def hasDashDash : Bytes → Bool
  | 45 :: 45 :: _ => true
  | _ :: rest => hasDashDash rest
  | [] => false

/-- the form of the tag must fit the kind registered for its name -/
def kindOk (xhtml closing selfClosing : Bool) : TagKind → Bool
  | .invalidTag => false
  | .anyTag => true
  | .openingAndClosing => !selfClosing
  | .standAlone => !closing && (selfClosing || !xhtml)

def attrOk (r : Rules) (tag : Bytes) (a : Bytes × Option Bytes) : Bool :=
  match a.2, r.prop tag a.1 with
  | _, none => false
  | none, some .boolean => !r.xhtml
  | none, some (.pred _) => false
  | some v, some .boolean => r.xhtml && a.1 == v
  | some v, some (.pred f) => valueClean v && f v

def attrsOk (r : Rules) (tag : Bytes) : List (Bytes × Option Bytes) → List Bytes → Bool
  | [], _ => true
  | a :: rest, seen =>
    !seen.any (sameName r.xhtml a.1) && attrOk r tag a && attrsOk r tag rest (a.1 :: seen)

def allowed (r : Rules) : Markup → Bool
  | .stray _ => false
  | .bogus _ => false
  | .entity name terminated =>
    terminated && (r.entity name || (r.numeric && numericForm name && xmlChar (numericValue name)))
  | .comment body closed =>
    closed && r.comments && body.all (fun c => c != 60 && c != 62 && c != 38) && !hasDashDash body
  | .tag closing name attrs selfClosing terminated =>
    terminated && kindOk r.xhtml closing selfClosing (r.tagKind name)
      && (if closing then attrs.isEmpty && !selfClosing else attrsOk r name attrs [])

/-- the markup item is one the rules allow -/
def Allowed (r : Rules) (m : Markup) : Prop := allowed r m = true

/-- the text contains only white-listed markup -/
def OnlyWhitelisted (r : Rules) (x : Bytes) : Prop := ∀ m ∈ lenientMarkup x, Allowed r m

/-! ### well-formed UTF-8 (RFC 3629, section 4), independent of the library's validator

```
UTF8-1 = %x00-7F
UTF8-2 = %xC2-DF UTF8-tail
UTF8-3 = %xE0 %xA0-BF UTF8-tail / %xE1-EC 2( UTF8-tail ) / %xED %x80-9F UTF8-tail / %xEE-EF 2( UTF8-tail )
UTF8-4 = %xF0 %x90-BF 2( UTF8-tail ) / %xF1-F3 3( UTF8-tail ) / %xF4 %x80-8F 2( UTF8-tail )
```
Used by the judge: whatever `validate` accepts under `encoding("UTF-8")`, and whatever the filter returns, must
satisfy this (the library's validator is stricter: it also rejects control characters). -/

def tail (c : UInt8) : Bool := 0x80 ≤ c && c ≤ 0xBF

def utf8WellFormed : Bytes → Bool
  | [] => true
  | a :: rest =>
    if a ≤ 0x7F then utf8WellFormed rest
    else match rest with
      | b :: rest1 =>
        if 0xC2 ≤ a && a ≤ 0xDF then tail b && utf8WellFormed rest1
        else match rest1 with
          | c :: rest2 =>
            if a = 0xE0 then 0xA0 ≤ b && b ≤ 0xBF && tail c && utf8WellFormed rest2
            else if (0xE1 ≤ a && a ≤ 0xEC) || a = 0xEE || a = 0xEF then tail b && tail c && utf8WellFormed rest2
            else if a = 0xED then 0x80 ≤ b && b ≤ 0x9F && tail c && utf8WellFormed rest2
            else match rest2 with
              | d :: rest3 =>
                if a = 0xF0 then 0x90 ≤ b && b ≤ 0xBF && tail c && tail d && utf8WellFormed rest3
                else if 0xF1 ≤ a && a ≤ 0xF3 then tail b && tail c && tail d && utf8WellFormed rest3
                else if a = 0xF4 then 0x80 ≤ b && b ≤ 0x8F && tail c && tail d && utf8WellFormed rest3
                else false
              | [] => false
          | [] => false
      | [] => false

/-! ### single-byte code pages, independent of the library's validators

Which bytes are text in a code page: TAB, LF, CR, the printable ASCII range 20–7E, and the bytes ≥ 80 the code page
assigns a graphic character to.  C0 controls, DEL and (for ISO-8859-x) the C1 range 80–9F are not text; unassigned
positions are listed per page (transcribed from the Unicode mapping tables MAPPINGS/ISO8859 and
MAPPINGS/VENDORS/MICSFT/WINDOWS, ISO-8859-7 in its 2003 edition).  Pages covered: ISO-8859-1…11, 13…16, windows-1250…1258,
KOI8-R/U, US-ASCII, with the aliases latin1, cp125x, ascii. -/

/-- encoding names are compared on their letters and digits, ASCII-case-insensitively -/
def normName (n : Bytes) : String :=
  String.ofList ((n.filter fun c => letter c || digit c).map fun c => Char.ofNat (asciiLower c).toNat)

/-- `none` = page not covered; `some (c1IsControl, unassigned)` -/
def codePage (n : String) : Option (Bool × List UInt8) :=
  let iso (l : List UInt8) := some (true, l)
  let win (l : List UInt8) := some (false, l)
  match n with
  | "latin1" | "iso88591" | "iso88592" | "iso88594" | "iso88595" | "iso88599" | "iso885910" | "iso885913"
  | "iso885914" | "iso885915" | "iso885916" => iso []
  | "iso88593" => iso [0xA5, 0xAE, 0xBE, 0xC3, 0xD0, 0xE3, 0xF0]
  | "iso88596" => iso ([0xA1, 0xA2, 0xA3, 0xA5, 0xA6, 0xA7, 0xA8, 0xA9, 0xAA, 0xAB, 0xAE, 0xAF, 0xB0, 0xB1, 0xB2, 0xB3, 0xB4, 0xB5,
      0xB6, 0xB7, 0xB8, 0xB9, 0xBA, 0xBC, 0xBD, 0xBE, 0xC0, 0xDB, 0xDC, 0xDD, 0xDE, 0xDF, 0xF3, 0xF4, 0xF5, 0xF6, 0xF7, 0xF8, 0xF9,
      0xFA, 0xFB, 0xFC, 0xFD, 0xFE, 0xFF])
  | "iso88597" => iso [0xAE, 0xD2, 0xFF]
  | "iso88598" => iso ([0xA1, 0xFB, 0xFC, 0xFF] ++ (List.range 32).map fun i => UInt8.ofNat (0xBF + i))
  | "iso885911" => iso [0xDB, 0xDC, 0xDD, 0xDE, 0xFC, 0xFD, 0xFE, 0xFF]
  | "windows1250" | "cp1250" => win [0x81, 0x83, 0x88, 0x90, 0x98]
  | "windows1251" | "cp1251" => win [0x98]
  | "windows1252" | "cp1252" => win [0x81, 0x8D, 0x8F, 0x90, 0x9D]
  | "windows1253" | "cp1253" => win [0x81, 0x88, 0x8A, 0x8C, 0x8D, 0x8E, 0x8F, 0x90, 0x98, 0x9A, 0x9C, 0x9D, 0x9E, 0x9F, 0xAA, 0xD2, 0xFF]
  | "windows1254" | "cp1254" => win [0x81, 0x8D, 0x8E, 0x8F, 0x90, 0x9D, 0x9E]
  | "windows1255" | "cp1255" => win [0x81, 0x8A, 0x8C, 0x8D, 0x8E, 0x8F, 0x90, 0x9A, 0x9C, 0x9D, 0x9E, 0x9F, 0xCA, 0xD9, 0xDA, 0xDB,
      0xDC, 0xDD, 0xDE, 0xDF, 0xFB, 0xFC, 0xFF]
  | "windows1256" | "cp1256" => win []
  | "windows1257" | "cp1257" => win [0x81, 0x83, 0x88, 0x8A, 0x8C, 0x90, 0x98, 0x9A, 0x9C, 0x9F, 0xA1, 0xA5]
  | "windows1258" | "cp1258" => win [0x81, 0x8A, 0x8D, 0x8E, 0x8F, 0x90, 0x9A, 0x9D, 0x9E]
  | "koi8r" | "koi8u" => win []
  | "usascii" | "ascii" => some (true, (List.range 96).map fun i => UInt8.ofNat (0xA0 + i))
  | _ => none

def pageByteOk (p : Bool × List UInt8) (c : UInt8) : Bool :=
  c = 9 || c = 10 || c = 13 || (0x20 ≤ c && c ≤ 0x7E) ||
    (0x80 ≤ c && !(p.1 && c < 0xA0) && !p.2.contains c)

/-- `none`: code page not covered by the tables -/
def singleByteTextOk (name : Bytes) (x : Bytes) : Option Bool :=
  (codePage (normName name)).map fun p => x.all (pageByteOk p)

end Cppcms.C04.Spec
