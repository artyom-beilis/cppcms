import Cppcms.C04.LemParse
import Cppcms.C04.LemLenient
/-! C04: an attribute list that `parse_properties` accepts is read by the lenient attribute scanner as the same
attributes; values and rules on attributes carry over to the specification. -/
namespace Cppcms.C04
open Cppcms

theorem propValueEntities_eq : propValueEntities = Spec.valueEntities := by decide

theorem stripFirst_spec (ps : List Bytes) (s s' : Bytes) (h : stripFirst ps s = some s') :
    ∃ p, ps.find? (fun e => e.isPrefixOf s) = some p ∧ s' = s.drop p.length := by
  induction ps with
  | nil => cases h
  | cons p ps ih =>
    simp only [stripFirst, List.findSome?_cons] at h
    cases hp : p.isPrefixOf s with
    | true => exact ⟨p, by simp [hp], by simpa [hp] using h.symm⟩
    | false =>
      obtain ⟨q, hq, hs⟩ := ih (by simpa [stripFirst, hp] using h)
      exact ⟨q, by simp [hp, hq], hs⟩

theorem valueCleanAux_skip : ∀ (s : Bytes) (k : Nat), Spec.valueCleanAux k s = Spec.valueCleanAux 0 (s.drop k)
  | [], k => by cases k <;> rfl
  | _ :: _, 0 => rfl
  | _ :: rest, k + 1 => valueCleanAux_skip rest k

theorem valueClean_of_validate : ∀ (n : Nat) (v : Bytes), validatePropertyValueAux n v = true → Spec.valueCleanAux 0 v = true
  | 0, _, h => nomatch h
  | _ + 1, [], _ => rfl
  | n + 1, c :: rest, h => by
    unfold validatePropertyValueAux at h
    unfold Spec.valueCleanAux
    obtain ⟨hf, ha⟩ := forbidden_iff c
    by_cases h1 : Gen.propValueForbidden.contains c.toNat = true
    · rw [if_pos h1] at h; cases h
    rw [if_neg h1] at h
    rw [if_neg (mt hf.mpr h1)]
    by_cases h2 : c.toNat = Gen.propValueAmp
    · rw [if_pos h2] at h
      rw [if_pos (ha.mp h2)]
      cases hs : stripFirst propValueEntities rest with
      | none => simp only [hs] at h; cases h
      | some rest' =>
        simp only [hs] at h
        obtain ⟨p, hp, hs'⟩ := stripFirst_spec _ _ _ hs
        rw [propValueEntities_eq] at hp
        simp only [hp]
        rw [valueCleanAux_skip, ← hs']
        exact valueClean_of_validate n _ h
    · rw [if_neg h2] at h
      rw [if_neg (mt ha.mpr h2)]
      exact valueClean_of_validate n _ h

def attrPair (a : Attr) : Bytes × Option Bytes := (a.name, a.value)

/-- with enough fuel the lenient attribute scanner, having collected `acc`, reads `s` as `R` -/
def Reads (s : Bytes) (acc : List (Bytes × Option Bytes)) (R : Spec.TagTail) : Prop :=
  ∀ n, s.length < n → Spec.lenientAttrs n s acc = R

theorem Reads.step {s s' : Bytes} {acc acc' : List (Bytes × Option Bytes)} {R : Spec.TagTail} (h : Reads s' acc' R)
    (hl : s'.length < s.length) (hstep : ∀ n, Spec.lenientAttrs (n + 1) s acc = Spec.lenientAttrs n s' acc') :
    Reads s acc R := by
  intro n hn
  obtain ⟨n, rfl⟩ : ∃ m, n = m + 1 := ⟨n - 1, by omega⟩
  rw [hstep, h n (by omega)]

theorem Reads.dropWhile_ws {acc : List (Bytes × Option Bytes)} {R : Spec.TagTail} :
    ∀ {s : Bytes}, Reads s acc R → Reads (s.dropWhile Spec.ws) acc R
  | [], h => h
  | c :: s, h => by
    cases hc : Spec.ws c with
    | false => rwa [List.dropWhile_cons_of_neg (by simp [hc])]
    | true =>
      rw [List.dropWhile_cons_of_pos hc]
      refine Reads.dropWhile_ws fun n hn => ?_
      rw [← Spec.lenientAttrs_ws n s acc hc]
      exact h (n + 1) (by simpa using hn)

/-- no `=` (white space aside) at the head of an accepted attribute list: a flag in front of it is read as a flag -/
theorem AttrList.no_eq {sf : Bool} {s : Bytes} {ps : List Attr} (h : AttrList sf s ps) (sc : Bool) (tail : Bytes) :
    ((s ++ (closerOf sc ++ tail)).dropWhile Spec.ws).head? ≠ some 61 := by
  have name_start : ∀ (c : UInt8) (r : Bytes), isAlpha c = true → ((c :: r).dropWhile Spec.ws).head? ≠ some 61 := by
    intro c r hc
    rw [List.dropWhile_cons_of_neg (by simp [(alpha_facts c hc).noWs])]
    simpa using (alpha_facts c hc).ne_eq
  induction h with
  | nil => cases sc <;> simp [closerOf, Spec.ws]
  | space _ hc _ ih => simpa [List.dropWhile_cons_of_pos (space_facts _ hc)] using ih
  | flag hal => exact name_start _ _ hal
  | valued hal => exact name_start _ _ hal

open Spec in
theorem AttrList.reads {sf : Bool} {s : Bytes} {ps : List Attr} (h : AttrList sf s ps) (sc : Bool) (tail : Bytes) :
    ∀ acc, Reads (s ++ (closerOf sc ++ tail)) acc ⟨acc ++ ps.map attrPair, sc, true, tail⟩ := by
  induction h with
  | nil sf =>
    intro acc n hn
    obtain ⟨n, rfl⟩ : ∃ m, n = m + 1 := ⟨n - 1, by omega⟩
    cases sc
    · simpa [closerOf] using lenientAttrs_gt n tail acc
    · simpa [closerOf] using lenientAttrs_slash_gt n tail acc
  | space sf hc _ ih =>
    intro acc
    exact (ih acc).step (by simp) fun n => lenientAttrs_ws n _ acc (space_facts _ hc)
  | @flag c d t s ps hal hname hd hl ih =>
    intro acc
    have hc := alpha_facts c hal
    have hwd := space_facts d hd
    obtain ⟨tw, dw⟩ := Scan.takeWhile_append_cons (p := attrNameChar) (s ++ (closerOf sc ++ tail))
      (fun x hx => (alnum_facts x (hname x (List.mem_cons_of_mem _ hx))).attrNameChar)
      (by simp [attrNameChar, hwd] : attrNameChar d = false)
    have := (ih (acc ++ [(c :: t, none)])).dropWhile_ws
    simp only [List.append_assoc, List.cons_append] at this ⊢
    refine Reads.step (by simpa [attrPair] using this) ?_ fun n => ?_
    · have := (List.dropWhile_sublist (l := s ++ (closerOf sc ++ tail)) ws).length_le
      simp only [List.length_cons, List.length_append] at this ⊢
      omega
    · rw [lenientAttrs_flag n _ acc hc.noWs hc.ne_gt hc.ne_slash
        (by rw [dw, List.dropWhile_cons_of_pos hwd]) (by simpa using hl.no_eq sc tail), tw]
  | @valued c q t v s ps hal hname hq hvq hv hl ih =>
    intro acc
    have hc := alpha_facts c hal
    have hwq : ws q = false := by rcases hq with rfl | rfl <;> rfl
    obtain ⟨tw, dw⟩ := Scan.takeWhile_append_cons (p := attrNameChar) (q :: (v ++ q :: (s ++ (closerOf sc ++ tail))))
      (fun x hx => (alnum_facts x (hname x (List.mem_cons_of_mem _ hx))).attrNameChar) (by decide : attrNameChar 61 = false)
    have := ih (acc ++ [(c :: t, some v)])
    simp only [List.append_assoc, List.cons_append] at this ⊢
    refine Reads.step (by simpa [attrPair] using this) (by simp; omega) fun n => ?_
    rw [lenientAttrs_quoted n _ acc hc.noWs hc.ne_gt hc.ne_slash
      (by rw [dw, List.dropWhile_cons_of_neg (by decide)]) (List.dropWhile_cons_of_neg (by simp [hwq])) hq
      (by rw [indexOf_eq_findByte]; exact findByte_append_cons _ hvq), tw, List.take_left' rfl]
    congr 1
    rw [List.append_cons]; exact List.drop_left' (by simp)

theorem sameName_eq_keyEq (x : Bool) (a b : Bytes) : Spec.sameName x a b = keyEq x a b := by
  unfold Spec.sameName keyEq
  rw [funext lower_eq]

/-- the step of `attrsOk_of_propsOk` for one attribute: `h` is the test `propsOk` makes of it -/
theorem attrOk_of_model (r : Rules) (t : Bytes) (a : Attr)
    (hv : ∀ v, a.value = some v → validatePropertyValue v = true)
    (h : (match a.value with
        | none => validBooleanProperty r t a.name
        | some v => validProperty r t a.name v) = true) :
    Spec.attrOk r t (attrPair a) = true := by
  unfold Spec.attrOk attrPair
  cases hval : a.value with
  | none =>
    simp only [hval, validBooleanProperty] at h ⊢
    cases hx : r.xhtml <;> rcases hp : r.prop t a.name with _ | _ | f <;> simp [hx, hp] at h ⊢
  | some v =>
    simp only [hval, validProperty] at h ⊢
    rcases hp : r.prop t a.name with _ | _ | f <;> simp only [hp] at h ⊢
    · cases h
    · cases hx : r.xhtml <;> simp [hx] at h ⊢
      exact h
    · rw [h, Spec.valueClean, valueClean_of_validate _ _ (hv v hval)]
      rfl

theorem attrsOk_of_propsOk (r : Rules) (t : Bytes) : ∀ (ps : List Attr) (found : List Bytes),
    (∀ a ∈ ps, ∀ v, a.value = some v → validatePropertyValue v = true) →
    propsOk r t ps found = true → Spec.attrsOk r t (ps.map attrPair) found = true
  | [], _, _, _ => rfl
  | a :: ps, found, hv, h => by
    unfold propsOk at h
    by_cases hdup : found.any (keyEq r.xhtml a.name) = true
    · rw [if_pos hdup] at h; cases h
    rw [if_neg hdup, Bool.and_eq_true] at h
    simp only [List.map_cons, Spec.attrsOk, Bool.and_eq_true]
    refine ⟨⟨?_, attrOk_of_model r t a (hv a (List.mem_cons_self ..)) h.1⟩,
      attrsOk_of_propsOk r t ps _ (fun b hb => hv b (List.mem_cons_of_mem _ hb)) h.2⟩
    rw [show Spec.sameName r.xhtml (attrPair a).1 = keyEq r.xhtml a.name from funext (sameName_eq_keyEq _ _)]
    simpa using hdup

theorem AttrList.values {sf : Bool} {s : Bytes} {ps : List Attr} (h : AttrList sf s ps) :
    ∀ a ∈ ps, ∀ v, a.value = some v → validatePropertyValue v = true := by
  induction h with
  | nil => intro a ha; cases ha
  | space _ _ _ ih => exact ih
  | flag _ _ _ _ ih =>
    intro a ha v hv
    rcases List.mem_cons.mp ha with rfl | ha
    · cases hv
    · exact ih a ha v hv
  | valued _ _ _ _ hval _ ih =>
    intro a ha v hv
    rcases List.mem_cons.mp ha with rfl | ha
    · cases hv; exact hval
    · exact ih a ha v hv
end Cppcms.C04
