import Cppcms.C04.LemSplit
import Cppcms.C04.LemAttrs
import Cppcms.C04.LemRuleLoop
/-! C04: each token of a text that validates is read by the lenient tokenizer as one allowed markup item (or, a plain
run, as none), whatever follows; hence `whitelist_only`. -/
namespace Cppcms.C04
open Cppcms

variable {r : Rules}

/-- the conclusion of `validate_entries`, at the entry a token parses to -/
def TokOk (r : Rules) (tok : Bytes × Ty) : Prop :=
  (parsePart tok).ty ≠ .invalid ∧
  (entryOk r (parsePart tok) = true ∨ (r.xhtml = false ∧ (parsePart tok).ty = .openTag ∧
    entryOk r { parsePart tok with ty := .openCloseNoSlash } = true))

theorem TokOk.ok {tok : Bytes × Ty} (h : TokOk r tok) (hne : (parsePart tok).ty ≠ .openTag) :
    entryOk r (parsePart tok) = true :=
  h.2.elim id fun h' => absurd h'.2.1 hne

/-- for every sufficient fuel (`whitelist_only` is `length + 1`), so that a step can hand the rest of its fuel on -/
def AllAllowed (r : Rules) (x : Bytes) : Prop := ∀ n, x.length < n → ∀ m ∈ Spec.lenientAux n x, Spec.allowed r m = true

theorem AllAllowed.step {s x : Bytes} {item : Spec.Markup} (h : AllAllowed r x) (hl : x.length < s.length)
    (hstep : ∀ n, Spec.lenientAux (n + 1) s = item :: Spec.lenientAux n x) (hi : Spec.allowed r item = true) :
    AllAllowed r s := by
  intro n hn m hm
  obtain ⟨n, rfl⟩ : ∃ k, n = k + 1 := ⟨n - 1, by omega⟩
  rw [hstep] at hm
  rcases List.mem_cons.mp hm with rfl | hm
  · exact hi
  · exact h n (by omega) m hm

theorem AllAllowed.plain {x : Bytes} (h : AllAllowed r x) : ∀ {p : Bytes}, (∀ b ∈ p, isSpecial b = false) →
    AllAllowed r (p ++ x)
  | [], _ => h
  | c :: p, hp => by
    have hc := special_facts c (hp c (List.mem_cons_self ..))
    intro n hn
    obtain ⟨n, rfl⟩ : ∃ k, n = k + 1 := ⟨n - 1, by omega⟩
    rw [List.cons_append, Spec.lenientAux_plain n _ hc.ne_amp hc.ne_gt hc.ne_lt]
    exact AllAllowed.plain h (fun b hb => hp b (List.mem_cons_of_mem _ hb)) n (by simpa using hn)

open Spec in
theorem AllAllowed.entity {body x : Bytes} (h : AllAllowed r x)
    (hok : TokOk r (38 :: body ++ [59], .entity)) : AllAllowed r (38 :: body ++ [59] ++ x) := by
  -- the name consists of entity-name bytes, so the lenient tokenizer cuts it at the `;`
  have hread : (∀ b ∈ body, entityChar b = true) → allowed r (.entity body true) = true →
      AllAllowed r (38 :: body ++ [59] ++ x) := by
    intro hall ha
    obtain ⟨tw, dw⟩ := Scan.takeWhile_append_cons (p := entityChar) x hall (by decide : entityChar 59 = false)
    refine h.step (by simp; omega) (fun n => ?_) ha
    show lenientAux (n + 1) (38 :: (body ++ [59] ++ x)) = _
    rw [← List.append_cons, lenientAux_entity n _ dw, tw]
  have hty := hok.1
  rcases parseEntity_cases body with hc | ⟨hc, hall⟩ | ⟨hc, hnum, hxml, hall⟩
  · exact absurd hc hty
  · have hent := hok.ok (by simp only [parsePart, hc]; decide)
    simp only [parsePart, hc, entryOk] at hent
    exact hread (fun b hb => (alnum_facts b (hall b hb)).entityChar) (by simp [allowed, hent])
  · have hent := hok.ok (by simp only [parsePart, hc]; decide)
    simp only [parsePart, hc, entryOk] at hent
    exact hread hall (by simp [allowed, hent, hnum, hxml])

/-- a comment body as the tokenizer delimits it: the lenient tokenizer finds `-->` right behind it, and no `--` in it -/
theorem comment_body {x : Bytes} : ∀ {body : Bytes}, findPair 45 45 (body ++ [45]) = none →
    Spec.findCommentEnd (body ++ 45 :: 45 :: 62 :: x) = some body.length ∧ Spec.hasDashDash body = false
  | [], _ => ⟨rfl, rfl⟩
  | [a], h => by
    have ha : a ≠ 45 := fun e => by simp [findPair, e] at h
    simp [Spec.findCommentEnd, Spec.hasDashDash, ha]
  | a :: b :: body, h => by
    rw [List.cons_append, List.cons_append, findPair_cons_cons] at h
    by_cases hab : a = 45 ∧ b = 45
    · rw [if_pos hab] at h; cases h
    rw [if_neg hab] at h
    obtain ⟨e1, e2⟩ := comment_body (x := x) (body := b :: body) (by simpa using h)
    constructor
    · rw [List.cons_append, Spec.findCommentEnd, if_neg, e1]; rfl
      exact fun hc => hab ⟨hc.1, by simpa using congrArg List.head? hc.2⟩
    · rw [← e2]
      conv => lhs; unfold Spec.hasDashDash
      split
      · rename_i heq; exact absurd ⟨(List.cons.inj heq).1, (List.cons.inj (List.cons.inj heq).2).1⟩ hab
      · rename_i heq; rw [← (List.cons.inj heq).2]
      · rename_i heq; cases heq

open Spec in
theorem AllAllowed.comment {body x : Bytes} (h : AllAllowed r x) (hb : findPair 45 45 (body ++ [45]) = none)
    (hok : TokOk r (60 :: 33 :: 45 :: 45 :: body ++ [45, 45, 62],
      if body.any (fun b => Gen.commentForbidden b.toNat) then .invalid else .comment)) :
    AllAllowed r (60 :: 33 :: 45 :: 45 :: body ++ [45, 45, 62] ++ x) := by
  obtain ⟨hty, hent⟩ := hok
  cases hforb : body.any (fun b => Gen.commentForbidden b.toNat) with
  | true => rw [hforb] at hty; exact absurd rfl hty
  | false =>
  rw [hforb] at hent
  obtain ⟨hend, hdash⟩ := comment_body (x := x) hb
  have hcom : r.comments = true := hent.elim id fun h' => nomatch h'.2.1
  refine h.step (by simp; omega) (fun n => ?_) ?_ (item := .comment body true)
  · show lenientAux (n + 1) (60 :: 33 :: 45 :: 45 :: (body ++ [45, 45, 62] ++ x)) = _
    rw [show body ++ [45, 45, 62] ++ x = body ++ 45 :: 45 :: 62 :: x by simp, lenientAux_comment n _ hend,
      List.take_left' rfl]
    congr 2
    simp
  · simp only [allowed, hcom, hdash, Bool.true_and, Bool.not_false, Bool.and_true, List.all_eq_true]
    intro b hb'
    have : isSpecial b = false := by
      rw [← commentForbidden_eq]
      simpa using (List.any_eq_false.mp hforb) b hb'
    have := special_facts b this
    simp [this.ne_lt, this.ne_gt, this.ne_amp]

theorem kindOk_of_accepts (x : Bool) (k : TagKind) :
    (kindAccepts k .closeTag = true → Spec.kindOk x true false k = true) ∧
    (kindAccepts k .openTag = true → Spec.kindOk x false false k = true) ∧
    (kindAccepts k .openClose = true → Spec.kindOk x false true k = true) ∧
    (kindAccepts k .openCloseNoSlash = true → Spec.kindOk false false false k = true) := by
  cases k <;> cases x <;> decide

theorem AttrList.head_space {c : UInt8} {s : Bytes} {ps : List Attr} (h : AttrList true (c :: s) ps)
    (hc : isAlnum c = false) : isSpace c = true := by
  cases h with
  | space _ hs => exact hs
  | flag _ hn => rw [hn c (List.mem_cons_self ..)] at hc; cases hc
  | valued _ hn => rw [hn c (List.mem_cons_self ..)] at hc; cases hc

theorem lenientTag_reads (closing : Bool) {a : UInt8} {nm abody : Bytes} {ps : List Attr} (sc : Bool) (x : Bytes)
    (ha : isAlpha a = true) (hnm : ∀ b ∈ nm, isAlnum b = true) (hhead : ∀ c, abody.head? = some c → isAlnum c = false)
    (hl : AttrList true abody ps) :
    Spec.lenientTag closing (a :: nm ++ (abody ++ (closerOf sc ++ x))) =
      (.tag closing (a :: nm) (ps.map attrPair) sc true, x) := by
  have hname : ∀ b ∈ a :: nm, Spec.nameChar b = true := by
    intro b hb
    rcases List.mem_cons.mp hb with rfl | hb
    · exact (alpha_facts b ha).nameChar
    · exact (alnum_facts b (hnm b hb)).nameChar
  -- what follows the name is white space or the closer
  have hrest : ∀ c, (abody ++ (closerOf sc ++ x)).head? = some c → Spec.nameChar c = false := by
    intro c hc
    cases abody with
    | nil => cases sc <;> (obtain rfl := Option.some.inj hc; rfl)
    | cons s abody' =>
      obtain rfl := Option.some.inj hc
      simp [Spec.nameChar, space_facts s (hl.head_space (hhead s rfl))]
  obtain ⟨tw, dw⟩ := Scan.takeWhile_append hname hrest
  unfold Spec.lenientTag
  rw [tw, dw, hl.reads sc x [] _ (by simp; omega)]
  rfl

open Spec in
theorem AllAllowed.tag {body x : Bytes} (h : AllAllowed r x) (hok : TokOk r (60 :: body ++ [62], .tag)) :
    AllAllowed r (60 :: body ++ [62] ++ x) := by
  obtain ⟨hty, hent⟩ := hok
  simp only [parsePart] at hty hent
  rcases parseTag_cases body with hc | ⟨closing, a, nm, abody, sc, ps, hs, hparsed⟩
  · exact absurd hc hty
  rw [hparsed] at hent
  have hstart := alpha_facts a hs.alpha
  have hko := kindOk_of_accepts r.xhtml (r.tagKind (a :: nm))
  have hread := lenientTag_reads closing sc x hs.alpha hs.name hs.nameEnds hs.attrs
  rw [List.cons_append] at hread
  rw [show 60 :: body ++ [62] ++ x = 60 :: ((if closing then [47] else []) ++ (a :: nm ++ (abody ++ (closerOf sc ++ x)))) by
    rw [List.cons_append, List.cons_append, hs.text]; simp]
  cases closing with
  | true =>
    obtain ⟨rfl, rfl⟩ := hs.closingBare rfl
    refine h.step (by simp; omega) (fun n => ?_) ?_ (item := .tag true (a :: nm) [] false true)
    · rw [if_pos rfl, List.singleton_append, List.cons_append, lenientAux_close n _ hstart.tagStart, hread]
      rfl
    · rcases hent with hent | ⟨_, ho, _⟩
      · simp [allowed, hko.1 hent]
      · cases ho
  | false =>
    refine h.step (by simp; omega) (fun n => ?_) ?_ (item := .tag false (a :: nm) (ps.map attrPair) sc true)
    · rw [if_neg Bool.false_ne_true, List.nil_append, List.cons_append,
        lenientAux_open n _ hstart.ne_excl hstart.ne_quest hstart.ne_slash hstart.tagStart, hread]
    · have hk : kindOk r.xhtml false sc (r.tagKind (a :: nm)) = true ∧ propsOk r (a :: nm) ps [] = true := by
        cases sc with
        | true =>
          rcases hent with hent | ⟨_, ho, _⟩
          · simp only [entryOk, if_true, Bool.false_eq_true, if_false, Bool.and_eq_true] at hent
            exact ⟨hko.2.2.1 hent.1, hent.2⟩
          · cases ho
        | false =>
          rcases hent with hent | ⟨hx, _, hent⟩ <;>
            simp only [entryOk, Bool.false_eq_true, if_false, Bool.and_eq_true] at hent
          · exact ⟨hko.2.1 hent.1, hent.2⟩
          · rw [hx]; exact ⟨hko.2.2.2 hent.1, hent.2⟩
      simp [allowed, hk.1, attrsOk_of_propsOk r _ ps [] hs.attrs.values hk.2]

theorem whitelist_toks (r : Rules) {x : Bytes} {toks : List (Bytes × Ty)} (h : Toks x toks) :
    (∀ tok ∈ toks, TokOk r tok) → AllAllowed r x := by
  induction h with
  | nil => intro _ n _ m hm; cases n <;> cases hm
  | junk x => intro hok; exact absurd rfl (hok _ (List.mem_cons_self ..)).1
  | @cons tok x toks htok _ _ ih =>
    intro hok
    have hx := ih fun t ht => hok t (List.mem_cons_of_mem _ ht)
    have hok := hok tok (List.mem_cons_self ..)
    cases htok with
    | entity body => exact hx.entity hok
    | comment body hb => exact hx.comment hb hok
    | tag body => exact hx.tag hok
    | gt => exact absurd rfl hok.1
    | plain p _ hp => exact hx.plain hp

/-- see `Props.whitelist_only` -/
theorem whitelist_only (r : Rules) (y : Bytes) (h : validate r y = true) :
    ∀ m ∈ Spec.lenientMarkup y, Spec.Allowed r m :=
  whitelist_toks r (split_toks y) 
    (fun _ htok => validate_entries h _ (List.mem_map_of_mem htok)) _ (Nat.lt_succ_self _)
end Cppcms.C04
