import Cppcms.C04.Model
/-!
C04 — an index-free reformulation of `validate_nesting` + the rules loop of
`validate_and_filter_if_invalid` ("frames" form), used only in proofs.

The C++ (and `Model.lean`) keep a stack of *indices* of pending open tags and patch entries in
place; the rules loop later invalidates partners through `tag.pair`.  Here the pending open tags
are *frames* holding the finished entries that precede them, finished entries are appended in
document order together with the verdict the rules loop will reach for them (`Bool` = "ends up
invalid_data"), and partners are decided together when the closing tag arrives.
`LemFrames.lean` (entries) and `LemRuleLoop.lean` (verdicts) tie it to the model.
-/
namespace Cppcms.C04
open Cppcms

/-- a finished entry as `validate_nesting` leaves it, and whether the rules loop invalidates it -/
abbrev FEntry := Entry × Bool

structure Frame where
  /-- finished entries between the enclosing pending open tag and this one -/
  before : List FEntry
  /-- the pending open tag, as parsed -/
  opn : Entry

/-- the entries seen so far, in document order (frames innermost first) -/
def flatF (frames : List Frame) (cur : List FEntry) : List FEntry :=
  frames.foldl (fun acc f => f.before ++ (f.opn, false) :: acc) cur

/-- an entry that has no partner: invalidated iff it fails the rules -/
def leafF (r : Rules) (e : Entry) : FEntry := (e, !entryOk r e)

/-- a matched pair at absolute positions `po`, `pc`: both invalidated iff either fails the rules -/
def pairF (r : Rules) (o c : Entry) (po pc : Nat) : FEntry × FEntry :=
  let o' := { o with pair := some pc }
  let c' := { c with pair := some po }
  let bad := !(entryOk r o' && entryOk r c')
  ((o', bad), (c', bad))

/-- HTML: pop frames until one matches the closing tag `e` (at absolute position `i`) -/
def popF (r : Rules) (e : Entry) (i : Nat) : List Frame → List FEntry → List Frame × List FEntry
  | [], cur => ([], cur ++ [leafF r { e with ty := .invalid }])
  | f :: fs, cur =>
    if streq false f.opn.name e.name then
      let p := pairF r f.opn e (flatF fs f.before).length i
      (fs, f.before ++ p.1 :: cur ++ [p.2])
    else popF r e i fs (f.before ++ leafF r { f.opn with ty := .openCloseNoSlash } :: cur)

def stepF (r : Rules) (xhtml : Bool) (s : List Frame × List FEntry) (e : Entry) : List Frame × List FEntry :=
  match e.ty with
  | .closeTag =>
    if xhtml then
      match s.1 with
      | [] => ([], s.2 ++ [leafF r { e with ty := .invalid }])
      | f :: fs =>
        if streq true f.opn.name e.name then
          let p := pairF r f.opn e (flatF fs f.before).length (flatF s.1 s.2).length
          (fs, f.before ++ p.1 :: s.2 ++ [p.2])
        else
          (fs, f.before ++ leafF r { f.opn with ty := .invalid } :: s.2 ++ [leafF r { e with ty := .invalid }])
    else popF r e (flatF s.1 s.2).length s.1 s.2
  | .openTag => (⟨s.2, e⟩ :: s.1, [])
  | _ => (s.1, s.2 ++ [leafF r e])

/-- the `while(!st.empty())` at the end of `validate_nesting` -/
def finishF (r : Rules) (xhtml : Bool) (frames : List Frame) (cur : List FEntry) : List FEntry :=
  frames.foldl (fun acc f =>
    f.before ++ leafF r { f.opn with ty := if xhtml then .invalid else .openCloseNoSlash } :: acc) cur

def runF (r : Rules) (xhtml : Bool) (es : List Entry) : List FEntry :=
  let s := es.foldl (stepF r xhtml) ([], [])
  finishF r xhtml s.1 s.2

/-- what the filter finally holds for an entry -/
def finalEntry (p : FEntry) : Entry := if p.2 then { p.1 with ty := .invalid } else p.1

end Cppcms.C04
