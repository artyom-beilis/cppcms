import Cppcms.C04.LemEnc
import Cppcms.C14.Props
/-! C04: the real UTF-8 validator and pre-filter (model and exactness theorems of property C14) satisfy
`AsciiSync` and, for `ReplOk repl`, "the pre-filter yields valid text", hence `EncOk`. -/
namespace Cppcms.C04
open Cppcms Cppcms.C14 Cppcms.C14.Spec

/-- the real UTF-8 validator and pre-filter, as modelled (and proved exact) under property C14 -/
def utf8Enc (repl : UInt8) : Enc where
  valid := fun x => (validUtf8 x 0).1
  prefilter := fun x => match (filterUtf8 x repl).2 with
    | some out => out
    | none => x

theorem utf8_valid_iff (x : Bytes) : (validUtf8 x 0).1 = true ↔ ∃ n, WellFormed true x n := by
  have : Gen.utf8ValidHtml = true := by decide
  unfold validUtf8
  rw [this]
  exact Cppcms.C14.Props.validate_accepts_iff true x

theorem rfc_shape {v : Nat} {a : UInt8} {t : Bytes} (h : Rfc3629 v (a :: t)) :
    (t = [] ∧ a.toNat ≤ 0x7F) ∨ (0xC2 ≤ a.toNat ∧ t.length ≤ 3 ∧ ∀ b ∈ t, 0x80 ≤ b.toNat) := by
  obtain ⟨hl, ht, -, -⟩ := (rfc3629_cons_iff v a t).mp h
  rcases leadClass_eq_some_iff.mp hl with ⟨h0, hn⟩ | ⟨hk, hn, _⟩ | ⟨hk, hn, _⟩ | ⟨hk, hn, _⟩
  · exact .inl ⟨List.length_eq_zero_iff.mp h0, by omega⟩
  all_goals exact .inr ⟨by omega, by omega, fun b hb => (ht b hb).1⟩

/-- `n` bounds `a.length`: the recursive call is behind the first character, not the first byte -/
theorem wf_cut_le : ∀ (n : Nat) (a : Bytes), a.length ≤ n → ∀ (c : UInt8) (b : Bytes) (m : Nat), c.toNat ≤ 0x7F →
    WellFormed true (a ++ c :: b) m → (∃ k, WellFormed true a k) ∧ (∃ k, WellFormed true b k)
  | _, [], _, c, b, m, hc, h => by
    obtain ⟨v, enc, rest, m', e, hr, hm, hw, _⟩ := wf_uncons (by simpa using h)
    cases enc with
    | nil => exact absurd rfl (rfc_nonempty hr)
    | cons e0 et =>
      obtain ⟨rfl, e2⟩ := List.cons.inj e
      rcases rfc_shape hr with ⟨rfl, _⟩ | ⟨h1, _, _⟩
      · exact ⟨⟨0, (wf_nil true 0).2 rfl⟩, ⟨m', by rwa [← (by simpa using e2 : b = rest)] at hw⟩⟩
      · omega
  | n + 1, x :: a', ha, c, b, m, hc, h => by
    obtain ⟨v, enc, rest, m', e, hr, hm, hw, _⟩ := wf_uncons (by simpa using h)
    cases enc with
    | nil => exact absurd rfl (rfc_nonempty hr)
    | cons e0 et =>
      obtain ⟨rfl, e2⟩ := List.cons.inj e
      have htail : ∀ y ∈ et, 0x80 ≤ y.toNat := by
        rcases rfc_shape hr with ⟨rfl, _⟩ | ⟨_, _, h3⟩
        · exact fun _ hy => nomatch hy
        · exact h3
      -- the encoding of the first character ends inside `a'`: `c` is not one of its trail bytes
      obtain ⟨a'', rfl, rfl⟩ : ∃ a'', a' = et ++ a'' ∧ rest = a'' ++ c :: b := by
        rcases List.append_eq_append_iff.mp e2 with ⟨a'', e3, e4⟩ | h
        · cases a'' with
          | nil => exact ⟨[], by simpa using e3.symm, by simpa using e4.symm⟩
          | cons y ys =>
            have := htail c (by rw [e3, (List.cons.inj e4).1]; simp)
            omega
        · exact h
      obtain ⟨⟨k, hk⟩, hb⟩ := wf_cut_le n a'' (by simp at ha; omega) c b m' hc hw
      exact ⟨⟨k + 1, by simpa using wf_cons hr hm hk⟩, hb⟩

/-- well-formed UTF-8 can be cut at an ASCII byte: it is no trail byte -/
theorem wf_cut {a : Bytes} {c : UInt8} {b : Bytes} {m : Nat} (hc : c.toNat ≤ 0x7F) (h : WellFormed true (a ++ c :: b) m) :
    (∃ k, WellFormed true a k) ∧ (∃ k, WellFormed true b k) :=
  wf_cut_le a.length a (Nat.le_refl _) c b m hc h

theorem sync_ascii : ∀ c ∈ syncBytes, c.toNat ≤ 0x7F ∧ ∃ n, WellFormed true [c] n := by
  intro c hc
  have h1 : c.toNat ≤ 0x7F ∧ htmlSafe c.toNat = true := by
    revert hc; revert c; decide
  refine ⟨h1.1, 1, ?_⟩
  have : Rfc3629 c.toNat [c] := ⟨by simp [nats, utf8Char1]; exact h1.1, by simp [nats, scalarOf1]⟩
  have := wf_cons (html := true) (rest := []) this (by simp [modeOk, h1.2]) ((wf_nil true 0).2 rfl)
  simpa using this

theorem utf8Enc_asciiSync (repl : UInt8) : AsciiSync (utf8Enc repl) := by
  refine ⟨?_, ?_, ?_, ?_⟩
  · exact (utf8_valid_iff []).2 ⟨0, (wf_nil true 0).2 rfl⟩
  · intro a b ha hb
    obtain ⟨n, hn⟩ := (utf8_valid_iff a).1 ha
    obtain ⟨m, hm⟩ := (utf8_valid_iff b).1 hb
    exact (utf8_valid_iff _).2 ⟨n + m, wf_append hn hm⟩
  · intro a c b hc hv
    obtain ⟨m, hm⟩ := (utf8_valid_iff _).1 hv
    obtain ⟨h1, h2⟩ := wf_cut (sync_ascii c hc).1 hm
    exact ⟨(utf8_valid_iff a).2 h1, (utf8_valid_iff b).2 h2⟩
  · intro c hc
    exact (utf8_valid_iff [c]).2 (sync_ascii c hc).2

theorem utf8Enc_ok (repl : UInt8) (r : Rules) (hr : ReplOk repl) : EncOk (utf8Enc repl) r := by
  refine asciiSync_encOk _ r (utf8Enc_asciiSync repl) fun x hx => ?_
  show (validUtf8 (match (filterUtf8 x repl).2 with | some out => out | none => x) 0).1 = true
  rcases filterUtf8_cases x repl with ⟨_, hw⟩ | ⟨_, pre, prev, n, _, _, hf⟩
  · rw [show (utf8Enc repl).valid x = (validUtf8 x 0).1 from rfl, (utf8_valid_iff x).2 hw] at hx
    cases hx
  · rw [hf]
    exact (utf8_valid_iff _).2 (Cppcms.C14.Props.filter_yields_valid x _ repl hr hf)
end Cppcms.C04
