import Cppcms.C04.LemStable
/-! C04: the composition with a declared (ASCII-compatible) encoding: clause 4, clause 1 under `EncOk`; `EncOk` for a
single-byte charset validator accepting the escape alphabet and `repl` (or 0), and for a validator synchronised
at ASCII bytes (`AsciiSync`: accepted ASCII bytes are characters on their own, as in UTF-8) whose
pre-filter yields valid text. -/
namespace Cppcms.C04
open Cppcms

variable {r : Rules}

/-- what the composition needs of the encoding validator (the markup filter only removes whole tokens, which end at ASCII
bytes, or inserts ASCII) -/
structure EncOk (e : Enc) (r : Rules) : Prop where
  prefilter_valid : ∀ x, e.valid x = false → e.valid (e.prefilter x) = true
  filter_keeps : ∀ m y, e.valid y = true → e.valid (filter r m y) = true

theorem filterE_eq (e : Enc) (r : Rules) (m : Method) (x : Bytes) :
    filterE (some e) r m x = filter r m (if e.valid x then x else e.prefilter x) := by
  unfold filterE validateAndFilterE
  by_cases hv : e.valid x = true
  · simp only [hv, if_true]
    rfl
  · simp only [hv, Bool.false_eq_true, if_false]
    exact render_eq_filter r m _

theorem validateE_encoding (e : Enc) (r : Rules) (x : Bytes) (h : validateE (some e) r x = true) : e.valid x = true := by
  simp only [validateE, Bool.and_eq_true] at h
  exact h.1

theorem filterE_validates_all (r : Rules) (hr : RulesOk r) (hc : r.xhtml = false → HtmlCaseOk r) (e : Enc) (he : EncOk e r)
    (m : Method) (x : Bytes) : validateE (some e) r (filterE (some e) r m x) = true := by
  rw [filterE_eq]
  simp only [validateE, Bool.and_eq_true]
  refine ⟨he.filter_keeps _ _ ?_, filter_validates_all r hr hc m _⟩
  cases hv : e.valid x with
  | true => exact hv
  | false => exact he.prefilter_valid x hv

/-- bytes the escape table can introduce -/
def escAlphabet : Bytes := [38, 108, 116, 59, 103, 97, 109, 112, 113, 117, 111]

theorem escapeByte_mem (c b : UInt8) (h : b ∈ escapeByte c) : b = c ∨ b ∈ escAlphabet := by
  rcases escapeByte_cases c with ⟨e, _⟩ | ⟨p, hp, _, e⟩ <;> rw [e] at h
  · exact .inl (List.mem_singleton.mp h)
  · exact .inr ((by decide : ∀ p ∈ Gen.escapeTable, ∀ b ∈ bytesOf p.2, b ∈ escAlphabet) p hp b h)

theorem render_bytes (m : Method) (F : List Entry) (b : UInt8) (h : b ∈ render m F) :
    b ∈ F.flatMap (·.text) ∨ b ∈ escAlphabet := by
  simp only [render, List.mem_flatMap] at h ⊢
  obtain ⟨e, he, hb⟩ := h
  unfold renderEntry at hb
  split at hb
  · cases m with
    | remove => cases hb
    | escape =>
      obtain ⟨c, hc, hbc⟩ := List.mem_flatMap.mp hb
      exact (escapeByte_mem c b hbc).imp (fun h => ⟨e, he, by rw [h]; exact hc⟩) id
  · exact .inl ⟨e, he, hb⟩

theorem byteEnc_ok (ok : UInt8 → Bool) (repl : UInt8) (r : Rules) (hesc : ∀ b ∈ escAlphabet, ok b = true)
    (hrepl : repl = 0 ∨ ok repl = true) : EncOk (byteEnc ok repl) r := by
  constructor
  · intro x _
    simp only [byteEnc, List.all_eq_true, List.mem_flatMap]
    intro b ⟨c, _, hb⟩
    cases hc : ok c with
    | true => rw [hc, if_pos rfl] at hb; rwa [List.mem_singleton.mp hb]
    | false =>
      rw [hc, if_neg Bool.false_ne_true] at hb
      rcases hrepl with h0 | h1
      · rw [if_pos h0] at hb; cases hb
      · split at hb
        · cases hb
        · rwa [List.mem_singleton.mp hb]
  · intro m y hy
    simp only [byteEnc, List.all_eq_true] at hy ⊢
    intro b hb
    rw [← render_eq_filter] at hb
    rcases render_bytes m _ b hb with h | h
    · rw [analyse_concat] at h; exact hy b h
    · exact hesc b h

/-- the bytes the tokenizer cuts at and the escape table deals with -/
def syncBytes : Bytes := [60, 62, 38, 59, 34] ++ escAlphabet

/-- "an accepted ASCII byte is a character on its own": valid texts can be cut and joined at these bytes -/
structure AsciiSync (e : Enc) : Prop where
  nil : e.valid [] = true
  append : ∀ a b, e.valid a = true → e.valid b = true → e.valid (a ++ b) = true
  cut : ∀ a c b, c ∈ syncBytes → e.valid (a ++ c :: b) = true → e.valid a = true ∧ e.valid b = true
  single : ∀ c ∈ syncBytes, e.valid [c] = true

section
variable {e : Enc} (hs : AsciiSync e)
include hs

theorem AsciiSync.cut_before {a b : Bytes} {c : UInt8} (hc : c ∈ syncBytes) (hv : e.valid (a ++ c :: b) = true) :
    e.valid a = true ∧ e.valid (c :: b) = true :=
  have ⟨h1, h2⟩ := hs.cut a c b hc hv
  ⟨h1, hs.append [c] b (hs.single c hc) h2⟩

theorem AsciiSync.cut_behind {a b : Bytes} {c : UInt8} (hc : c ∈ syncBytes) (hv : e.valid (a ++ [c] ++ b) = true) :
    e.valid (a ++ [c]) = true ∧ e.valid b = true :=
  have ⟨h1, h2⟩ := hs.cut a c b hc (by simpa using hv)
  ⟨hs.append a [c] h1 (hs.single c hc), h2⟩

/-- the text can be cut behind each token: it ends with `;` or `>`, or is a plain run followed by `<`, `>`, `&` -/
theorem tokens_valid {y : Bytes} {toks : List (Bytes × Ty)} (h : Toks y toks) :
    e.valid y = true → ∀ tok ∈ toks, e.valid tok.1 = true := by
  induction h with
  | nil => exact fun _ _ h => nomatch h
  | junk x => exact fun hv tok ht => List.mem_singleton.mp ht ▸ hv
  | @cons tok x toks htok hnext _ ih =>
    intro hv
    have hcut : e.valid tok.1 = true ∧ e.valid x = true := by
      by_cases hp : tok.2 = .plain
      · cases x with
        | nil => exact ⟨by simpa using hv, hs.nil⟩
        | cons c x' =>
          refine hs.cut_before ?_ hv
          rcases (isSpecial_iff c).mp (hnext hp c rfl) with rfl | rfl | rfl <;> decide
      · obtain ⟨a, d, ha, hd⟩ := htok.last hp
        rw [ha] at hv ⊢
        exact hs.cut_behind (by rcases hd with rfl | rfl <;> decide) hv
    exact List.forall_mem_cons.mpr ⟨hcut.1, ih hcut.2⟩

theorem valid_of_all_sync : ∀ s : Bytes, (∀ c ∈ s, c ∈ syncBytes) → e.valid s = true
  | [], _ => hs.nil
  | c :: s, h => hs.append [c] s (hs.single c (h c (List.mem_cons_self ..)))
      (valid_of_all_sync s fun d hd => h d (List.mem_cons_of_mem _ hd))

theorem esc_valid : ∀ (t pre : Bytes), e.valid (pre ++ t) = true → e.valid (pre ++ t.flatMap escapeByte) = true
  | [], _, h => h
  | c :: t, pre, h => by
    rw [List.flatMap_cons]
    rcases escapeByte_cases c with ⟨he, _⟩ | ⟨p, hp, hc, he⟩ <;> rw [he]
    · simpa using esc_valid t (pre ++ [c]) (by simpa using h)
    · -- an escaped byte is a sync byte, and so are the bytes of its escape string
      obtain ⟨hcs, hps⟩ := (by decide : ∀ p ∈ Gen.escapeTable, UInt8.ofNat p.1 ∈ syncBytes ∧
        ∀ d ∈ bytesOf p.2, d ∈ syncBytes) p hp
      obtain ⟨h1, h2⟩ := hs.cut pre c t (hc ▸ hcs) h
      exact hs.append _ _ h1 (hs.append _ _ (valid_of_all_sync hs _ hps) (by simpa using esc_valid t [] h2))

theorem render_valid (m : Method) : ∀ F : List Entry, (∀ f ∈ F, e.valid f.text = true) → e.valid (render m F) = true
  | [], _ => hs.nil
  | f :: F, h => by
    rw [render, List.flatMap_cons]
    refine hs.append _ _ ?_ (render_valid m F fun g hg => h g (List.mem_cons_of_mem _ hg))
    have hf := h f (List.mem_cons_self ..)
    unfold renderEntry
    split
    · cases m with
      | remove => exact hs.nil
      | escape => simpa using esc_valid hs f.text [] hf
    · exact hf
end

theorem asciiSync_encOk (e : Enc) (r : Rules) (hs : AsciiSync e)
    (hp : ∀ x, e.valid x = false → e.valid (e.prefilter x) = true) : EncOk e r := by
  refine ⟨hp, fun m y hy => ?_⟩
  rw [← render_eq_filter]
  refine render_valid hs m _ fun f hf => ?_
  -- the text of a final entry is the text of a token of `y`
  have : f.text ∈ (split y).map Prod.fst := analyse_texts r y ▸ List.mem_map_of_mem (f := Entry.text) hf
  obtain ⟨tok, htok, heq⟩ := List.mem_map.mp this
  exact heq ▸ tokens_valid hs (split_toks y) hy tok htok

theorem byteEnc_asciiSync (ok : UInt8 → Bool) (repl : UInt8) (h : ∀ c ∈ syncBytes, ok c = true) : AsciiSync (byteEnc ok repl) := by
  refine ⟨rfl, ?_, ?_, ?_⟩
  · intro a b ha hb
    simp only [byteEnc, List.all_append, Bool.and_eq_true] at *
    exact ⟨ha, hb⟩
  · intro a c b _ hv
    simp only [byteEnc, List.all_append, List.all_cons, Bool.and_eq_true] at hv ⊢
    exact ⟨hv.1, hv.2.2⟩
  · intro c hc
    simp [byteEnc, h c hc]
end Cppcms.C04
