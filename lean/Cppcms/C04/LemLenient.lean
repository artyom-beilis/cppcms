import Cppcms.C04.Spec
/-! C04: one step of the lenient tokenizer and of its attribute scanner on each form of input that well-formed markup
takes, for any fuel. -/
namespace Cppcms.C04.Spec
open Cppcms

theorem indexOf_lt {c : UInt8} {s : Bytes} {k : Nat} (h : indexOf c s = some k) : k < s.length := by
  induction s generalizing k with
  | nil => cases h
  | cons x xs ih =>
    by_cases hx : x = c
    · simp [indexOf, hx] at h; simp [← h]
    · simp only [indexOf, if_neg hx, Option.map_eq_some_iff] at h
      obtain ⟨j, hj, rfl⟩ := h
      simpa using ih hj

section
variable (n : Nat) (rest : Bytes) (acc : List (Bytes × Option Bytes))

theorem lenientAttrs_ws {c : UInt8} (h : ws c = true) : lenientAttrs (n + 1) (c :: rest) acc = lenientAttrs n rest acc := by
  show (if ws c then _ else _) = _
  rw [if_pos h]

theorem lenientAttrs_gt : lenientAttrs (n + 1) (62 :: rest) acc = ⟨acc, false, true, rest⟩ := rfl

theorem lenientAttrs_slash_gt : lenientAttrs (n + 1) (47 :: 62 :: rest) acc = ⟨acc, true, true, rest⟩ := rfl

theorem lenientAttrs_flag {c : UInt8} {s1 : Bytes} (h1 : ws c = false) (h2 : c ≠ 62) (h3 : c ≠ 47)
    (hs : (rest.dropWhile attrNameChar).dropWhile ws = s1) (hne : s1.head? ≠ some 61) :
    lenientAttrs (n + 1) (c :: rest) acc = lenientAttrs n s1 (acc ++ [(c :: rest.takeWhile attrNameChar, none)]) := by
  conv => lhs; unfold lenientAttrs
  simp only [h1, h2, h3, if_false, hs, Bool.false_eq_true]
  split
  · simp at hne
  · rfl

theorem lenientAttrs_quoted {c q : UInt8} {s2 s4 : Bytes} {k : Nat} (h1 : ws c = false) (h2 : c ≠ 62) (h3 : c ≠ 47)
    (hs : (rest.dropWhile attrNameChar).dropWhile ws = 61 :: s2) (hs2 : s2.dropWhile ws = q :: s4)
    (hq : q = 34 ∨ q = 39) (hk : indexOf q s4 = some k) :
    lenientAttrs (n + 1) (c :: rest) acc =
      lenientAttrs n (s4.drop (k + 1)) (acc ++ [(c :: rest.takeWhile attrNameChar, some (s4.take k))]) := by
  conv => lhs; unfold lenientAttrs
  simp only [h1, h2, h3, if_false, hs, hs2, hq, hk, if_true, Bool.false_eq_true]
end

section
variable (n : Nat) (rest : Bytes)

theorem lenientAux_plain {c : UInt8} (h1 : c ≠ 38) (h2 : c ≠ 62) (h3 : c ≠ 60) :
    lenientAux (n + 1) (c :: rest) = lenientAux n rest := by
  show (if c = 38 then _ else if c = 62 then _ else if c = 60 then _ else lenientAux n rest) = _
  rw [if_neg h1, if_neg h2, if_neg h3]

theorem lenientAux_entity {more : Bytes} (h : rest.dropWhile entityChar = 59 :: more) :
    lenientAux (n + 1) (38 :: rest) = .entity (rest.takeWhile entityChar) true :: lenientAux n more := by
  show (match rest.dropWhile entityChar with
    | 59 :: more => Markup.entity (rest.takeWhile entityChar) true :: lenientAux n more
    | after => _) = _
  simp only [h]

theorem lenientAux_comment {k : Nat} (h : findCommentEnd rest = some k) :
    lenientAux (n + 1) (60 :: 33 :: 45 :: 45 :: rest) = .comment (rest.take k) true :: lenientAux n (rest.drop (k + 3)) := by
  show (match findCommentEnd rest with
    | some k => Markup.comment (rest.take k) true :: lenientAux n (rest.drop (k + 3))
    | none => _) = _
  simp only [h]

theorem lenientAux_open {d : UInt8} (h0 : d ≠ 33) (h1 : d ≠ 63) (h2 : d ≠ 47) (h3 : tagStart d = true) :
    lenientAux (n + 1) (60 :: d :: rest) =
      (lenientTag false (d :: rest)).1 :: lenientAux n (lenientTag false (d :: rest)).2 := by
  conv => lhs; unfold lenientAux
  simp only [show ¬ ((60 : UInt8) = 38) by decide, show ¬ ((60 : UInt8) = 62) by decide, if_false, if_true]
  split
  · rename_i h; cases h
  · rename_i h; exact absurd (List.cons.inj h).1 h0
  · rename_i h
    obtain ⟨rfl, rfl⟩ := List.cons.inj h
    rw [if_neg (by simp [h0, h1]), if_neg h2, if_pos h3]

theorem lenientAux_close {e : UInt8} (h : tagStart e = true) :
    lenientAux (n + 1) (60 :: 47 :: e :: rest) =
      (lenientTag true (e :: rest)).1 :: lenientAux n (lenientTag true (e :: rest)).2 := by
  show (if tagStart e then (lenientTag true (e :: rest)).1 :: lenientAux n (lenientTag true (e :: rest)).2 else _) = _
  rw [if_pos h]
end
end Cppcms.C04.Spec
