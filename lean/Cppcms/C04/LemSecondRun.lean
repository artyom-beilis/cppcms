import Cppcms.C04.LemRuleLoop
/-! C04: the nesting check run again on what the filter kept.  The kept open/close tags are nested (`Kept`), and the
frames form over a nested list leaves only valid entries; in HTML mode kept open tags that were never closed stay
pending and may pair with a later close tag of an `any_tag` name (`ExtOk`). -/
namespace Cppcms.C04
open Cppcms

variable {r : Rules} {xhtml : Bool}

/-- an open or a close tag: the entries that move the nesting stack -/
def isTagEv (e : Entry) : Bool := e.ty == .openTag || e.ty == .closeTag

/-- what `validate` tests of an entry (the first follows from the second, `fine_of_ok`); `AllFineOut` and `Aligned`
(LemStable) write the same pair out -/
def Fine (r : Rules) (e : Entry) : Prop := e.ty ≠ .invalid ∧ entryOk r e = true

theorem fine_of_ok {e : Entry} (h : entryOk r e = true) : Fine r e :=
  ⟨fun ht => by simp [entryOk, ht] at h, h⟩

def AllFineOut (r : Rules) (outs : List FEntry) : Prop := ∀ p ∈ outs, p.1.ty ≠ .invalid ∧ entryOk r p.1 = true

theorem AllFineOut.append {r : Rules} {a b : List FEntry} (ha : AllFineOut r a) (hb : AllFineOut r b) : AllFineOut r (a ++ b) :=
  fun p hp => (List.mem_append.mp hp).elim (ha p) (hb p)

theorem AllFineOut.single {p : FEntry} (h : Fine r p.1) : AllFineOut r [p] :=
  fun q hq => by rw [List.mem_singleton.mp hq]; exact h

theorem fine_pair (r : Rules) (o c : Entry) (po pc : Nat) (hoo : entryOk r o = true) (hoc : entryOk r c = true) :
    AllFineOut r [(pairF r o c po pc).1] ∧ AllFineOut r [(pairF r o c po pc).2] :=
  -- `entryOk` does not look at `pair`
  ⟨.single (fine_of_ok hoo), .single (fine_of_ok hoc)⟩

theorem stepF_leaf (r : Rules) (xhtml : Bool) (frames : List Frame) (cur : List FEntry) {e : Entry} (h : isTagEv e = false) :
    stepF r xhtml (frames, cur) e = (frames, cur ++ [leafF r e]) := by
  unfold stepF
  split <;> simp_all [isTagEv]

theorem stepF_open (r : Rules) (xhtml : Bool) (frames : List Frame) (cur : List FEntry) (e : Entry) (h : e.ty = .openTag) :
    stepF r xhtml (frames, cur) e = (⟨cur, e⟩ :: frames, []) := by
  unfold stepF; simp [h]

/-- passes the rules as an unclosed open tag (open_and_close_tag_without_slash) -/
def okUnclosed (r : Rules) (e : Entry) : Prop := entryOk r { e with ty := .openCloseNoSlash } = true

theorem kind_any (k : TagKind) (h1 : kindAccepts k .closeTag = true) (h2 : kindAccepts k .openCloseNoSlash = true) :
    k = .anyTag := by
  revert h1 h2; cases k <;> decide

theorem kind_any' (k : TagKind) (h1 : kindAccepts k .openTag = true) (h2 : kindAccepts k .openCloseNoSlash = true) :
    k = .anyTag := by
  revert h1 h2; cases k <;> decide

theorem okOpen_of_okUnclosed_match (r : Rules) (hc : HtmlCaseOk r) (u c : Entry) (hu : u.ty = .openTag) (hcl : c.ty = .closeTag)
    (hn : okUnclosed r u) (hok : entryOk r c = true) (hs : streq false u.name c.name = true) :
    entryOk r u = true ∧ r.tagKind c.name = .anyTag := by
  simp only [okUnclosed, entryOk, Bool.and_eq_true, hc u.name c.name hs] at hn
  simp only [entryOk, hcl] at hok
  have := kind_any _ hok hn.1
  simp only [entryOk, hu, hc u.name c.name hs, this, hn.2]
  exact ⟨rfl, trivial⟩

theorem okUnclosed_of_okOpen_any (r : Rules) (hc : HtmlCaseOk r) (o c : Entry) (ho : o.ty = .openTag)
    (hok : entryOk r o = true) (hs : streq false o.name c.name = true) (hany : r.tagKind c.name = .anyTag) : okUnclosed r o := by
  simp only [entryOk, ho, Bool.and_eq_true] at hok
  simp only [okUnclosed, entryOk, hc o.name c.name hs, hany, hok.2]
  rfl

/-- the frames pushed by kept open tags, and the entries finished since: the open tags may stay unclosed, everything
finished is fine -/
def ExtOk (r : Rules) (ex : List Frame) (cur : List FEntry) : Prop :=
  AllFineOut r cur ∧ ∀ f ∈ ex, AllFineOut r f.before ∧ f.opn.ty = .openTag ∧ okUnclosed r f.opn

theorem fine_noslash_leaf (r : Rules) (e : Entry) (h : okUnclosed r e) :
    AllFineOut r [leafF r { e with ty := .openCloseNoSlash }] :=
  .single (fine_of_ok h)

/-- HTML: a kept close tag pops up to its (kept) partner and pairs with it, or up to a same-named `any_tag` open tag
above it -/
theorem popF_kept (hc : HtmlCaseOk r) {eo ec : Entry} (ho : eo.ty = .openTag) (hcl : ec.ty = .closeTag)
    (hoo : entryOk r eo = true) (hoc : entryOk r ec = true) (hs : streq false eo.name ec.name = true)
    {c1 : List FEntry} (h1 : AllFineOut r c1) (R : List Frame) (i : Nat) :
    ∀ (ex2 : List Frame) (c2 : List FEntry), ExtOk r ex2 c2 →
    ∃ ex' cur'', popF r ec i (ex2 ++ ⟨c1, eo⟩ :: R) c2 = (ex' ++ R, cur'') ∧ ExtOk r ex' cur''
  | [], c2, h => by
    obtain ⟨f1, f2⟩ := fine_pair r eo ec (flatF R c1).length i hoo hoc
    refine ⟨[], _, by simp only [List.nil_append, popF, hs, if_true]; rfl, ?_, fun _ hf => nomatch hf⟩
    simpa using h1.append ((f1.append h.1).append f2)
  | f :: fs, c2, h => by
    obtain ⟨hfb, hfo, hfn⟩ := h.2 f (List.mem_cons_self ..)
    have hfs := fun g hg => h.2 g (List.mem_cons_of_mem _ hg)
    simp only [List.cons_append, popF]
    by_cases hm : streq false f.opn.name ec.name = true
    · obtain ⟨huo, hany⟩ := okOpen_of_okUnclosed_match r hc f.opn ec hfo hcl hfn hoc hm
      obtain ⟨f1, f2⟩ := fine_pair r f.opn ec (flatF (fs ++ ⟨c1, eo⟩ :: R) f.before).length i huo hoc
      rw [if_pos hm]
      refine ⟨fs ++ [⟨c1, eo⟩], _, Prod.ext (by simp) rfl, by simpa using hfb.append ((f1.append h.1).append f2), ?_⟩
      intro g hg
      rcases List.mem_append.mp hg with hg | hg
      · exact hfs g hg
      · rw [List.mem_singleton.mp hg]
        exact ⟨h1, ho, okUnclosed_of_okOpen_any r hc eo ec ho hoo hs hany⟩
    · rw [if_neg hm]
      exact popF_kept hc ho hcl hoo hoc hs h1 R i fs _
        ⟨by simpa using hfb.append ((fine_noslash_leaf r f.opn hfn).append h.1), hfs⟩

/-- the open and close tags among `ins` that the filter keeps, as parsed -/
def keptTags (ins : List Entry) (outs : List FEntry) : List Entry :=
  ((ins.zip outs).filter (fun q => isTagEv q.1 && !q.2.2)).map Prod.fst

theorem keptTags_append (i1 : List Entry) (o1 : List FEntry) (i2 : List Entry) (o2 : List FEntry)
    (h : i1.length = o1.length) : keptTags (i1 ++ i2) (o1 ++ o2) = keptTags i1 o1 ++ keptTags i2 o2 := by
  unfold keptTags
  rw [List.zip_append h, List.filter_append, List.map_append]

theorem keptTags_single (e : Entry) (x : FEntry) : keptTags [e] [x] = if isTagEv e && !x.2 then [e] else [] := by
  unfold keptTags
  simp only [List.zip_cons_cons, List.zip_nil_left, List.filter_cons, List.filter_nil]
  split <;> simp

/-- entry lists in which kept pairs are nested; the other entries are no open/close tags, or (HTML) open tags that
may stay unclosed -/
inductive Kept (r : Rules) (xhtml : Bool) : List Entry → Prop
  | nil : Kept r xhtml []
  | leaf {e : Entry} : isTagEv e = false → Kept r xhtml [e]
  | unclosed {e : Entry} : xhtml = false → e.ty = .openTag → okUnclosed r e → Kept r xhtml [e]
  | pair {eo ec : Entry} {l : List Entry} : eo.ty = .openTag → ec.ty = .closeTag → entryOk r eo = true →
      entryOk r ec = true → streq xhtml eo.name ec.name = true → Kept r xhtml l → Kept r xhtml (eo :: l ++ [ec])
  | append {l1 l2 : List Entry} : Kept r xhtml l1 → Kept r xhtml l2 → Kept r xhtml (l1 ++ l2)

theorem Kept.leaves : ∀ {l : List Entry}, (∀ e ∈ l, ¬ isTagEv e = true) → Kept r xhtml l
  | [], _ => .nil
  | e :: _, h => .append (l1 := [e]) (.leaf (by simpa using h e (List.mem_cons_self ..)))
      (Kept.leaves fun x hx => h x (List.mem_cons_of_mem _ hx))

/-- kept pairs stay pairs, a dropped pair leaves its inside in place, a kept leaf that is a tag is an open tag that may
stay unclosed -/
theorem kept_of_good {b : Nat} {ins : List Entry} {outs : List FEntry}
    (h : Good r xhtml b ins outs) : ∀ (es2 : List Entry), es2.filter isTagEv = keptTags ins outs → Kept r xhtml es2 := by
  have nil : ∀ {l : List Entry}, l.filter isTagEv = [] → Kept r xhtml l := fun hf =>
    .leaves fun e he => List.filter_eq_nil_iff.mp hf e he
  induction h with
  | nil b => exact fun es2 hf => nil hf
  | leaf b ins outs e x g hp hl ih =>
    intro es2 hf
    rw [keptTags_append _ _ _ _ g.length_eq.symm, keptTags_single] at hf
    cases hk : isTagEv e && !x.2 with
    | false => exact ih es2 (by simpa [hk] using hf)
    | true =>
      have hopen : xhtml = false ∧ e.ty = .openTag ∧ okUnclosed r e := by
        cases hl with
        | neutral h1 h2 => simp [isTagEv, h1, h2] at hk
        | rejected _ => simp [leafF, entryOk] at hk
        | noSlash hx ho => exact ⟨hx, ho, by simp [leafF] at hk; exact hk.2⟩
      rw [hk, if_pos rfl] at hf
      obtain ⟨s1, t, rfl, f1, ft⟩ := List.filter_eq_append_iff.mp hf
      obtain ⟨pre, post, rfl, hpre, _, fpost⟩ := List.filter_eq_cons_iff.mp ft
      exact .append (ih s1 f1) (.append (.leaves hpre)
        (.append (l1 := [e]) (.unclosed hopen.1 hopen.2.1 hopen.2.2) (nil fpost)))
  | pair b i1 o1 i2 o2 eo ec g1 g2 ho hc hpo hpc hs ih1 ih2 =>
    intro es2 hf
    generalize hpf : pairF r eo ec (b + o1.length) (b + o1.length + 1 + o2.length) = pf at hf
    have hbad : pf.2.2 = pf.1.2 ∧ pf.1.2 = !(entryOk r eo && entryOk r ec) := by subst hpf; exact ⟨rfl, rfl⟩
    rw [show i1 ++ eo :: i2 ++ [ec] = i1 ++ ([eo] ++ (i2 ++ [ec])) by simp,
      show o1 ++ pf.1 :: o2 ++ [pf.2] = o1 ++ ([pf.1] ++ (o2 ++ [pf.2])) by simp,
      keptTags_append _ _ _ _ g1.length_eq.symm, keptTags_append [eo] [pf.1] _ _ rfl,
      keptTags_append _ _ _ _ g2.length_eq.symm, keptTags_single, keptTags_single, hbad.1,
      show isTagEv eo = true by simp [isTagEv, ho], show isTagEv ec = true by simp [isTagEv, hc]] at hf
    cases hb : pf.1.2 with
    | true =>
      -- the pair is dropped: its two halves follow one another
      simp only [hb, Bool.true_and, Bool.not_true, Bool.false_eq_true, if_false, List.nil_append, List.append_nil] at hf
      obtain ⟨s1, s2, rfl, f1, f2⟩ := List.filter_eq_append_iff.mp hf
      exact .append (ih1 s1 f1) (ih2 s2 f2)
    | false =>
      have hok : entryOk r eo = true ∧ entryOk r ec = true := by simpa [hb] using hbad.2
      simp only [hb, Bool.true_and, Bool.not_false, if_true] at hf
      obtain ⟨s1, t1, rfl, f1, ft1⟩ := List.filter_eq_append_iff.mp hf
      obtain ⟨pre, post, rfl, hpre, _, fpost⟩ := List.filter_eq_cons_iff.mp (by simpa using ft1)
      obtain ⟨s2, t2, rfl, f2, ft2⟩ := List.filter_eq_append_iff.mp fpost
      obtain ⟨pre2, post2, rfl, hpre2, _, fpost2⟩ := List.filter_eq_cons_iff.mp ft2
      simpa using Kept.append (ih1 s1 f1) (.append (.leaves hpre)
        (.append (.pair ho hc hok.1 hok.2 hs (.append (ih2 s2 f2) (.leaves hpre2))) (nil fpost2)))

/-- the close tag of a kept pair, with its open tag `eo` below frames `ex2` that may stay unclosed (`popF_kept` in HTML) -/
theorem close_kept (hc : xhtml = false → HtmlCaseOk r) {eo ec : Entry} (ho : eo.ty = .openTag)
    (hcl : ec.ty = .closeTag) (hoo : entryOk r eo = true) (hoc : entryOk r ec = true)
    (hs : streq xhtml eo.name ec.name = true) {c1 : List FEntry} (h1 : AllFineOut r c1) (R : List Frame)
    {ex2 : List Frame} {c2 : List FEntry} (h2 : ExtOk r ex2 c2) (hx2 : xhtml = true → ex2 = []) :
    ∃ ex' cur'', stepF r xhtml (ex2 ++ ⟨c1, eo⟩ :: R, c2) ec = (ex' ++ R, cur'') ∧ ExtOk r ex' cur'' ∧
      (xhtml = true → ex' = []) := by
  cases xhtml with
  | false =>
    obtain ⟨ex', cur'', e, h⟩ := popF_kept (hc rfl) ho hcl hoo hoc hs h1 R
      (flatF (ex2 ++ ⟨c1, eo⟩ :: R) c2).length ex2 c2 h2
    exact ⟨ex', cur'', by simpa [stepF, hcl] using e, h, fun h => nomatch h⟩
  | true =>
    obtain rfl := hx2 rfl
    obtain ⟨f1, f2⟩ := fine_pair r eo ec (flatF R c1).length (flatF (⟨c1, eo⟩ :: R) c2).length hoo hoc
    refine ⟨[], _, by simp only [stepF, hcl, List.nil_append, hs, if_true]; rfl, ⟨?_, fun _ hf => nomatch hf⟩, fun _ => rfl⟩
    simpa using h1.append ((f1.append h2.1).append f2)

/-- the run leaves the frames below untouched and adds only frames that may stay unclosed (none in XHTML) -/
theorem Kept.run (hc : xhtml = false → HtmlCaseOk r) {es : List Entry} (h : Kept r xhtml es) :
    (∀ e ∈ es, isTagEv e = false → Fine r e) → ∀ (frames : List Frame) (cur : List FEntry), AllFineOut r cur → ∃ ex cur',
      es.foldl (stepF r xhtml) (frames, cur) = (ex ++ frames, cur') ∧ ExtOk r ex cur' ∧ (xhtml = true → ex = []) := by
  induction h with
  | nil => exact fun _ frames cur hcur => ⟨[], cur, rfl, ⟨hcur, fun _ hf => nomatch hf⟩, fun _ => rfl⟩
  | @leaf e ht =>
    exact fun hfine frames cur hcur => ⟨[], _, by rw [List.foldl_cons, stepF_leaf r xhtml frames cur ht]; rfl,
      ⟨hcur.append (.single (hfine e (List.mem_singleton_self e) ht)), fun _ hf => nomatch hf⟩, fun _ => rfl⟩
  | @unclosed e hx ho hn =>
    exact fun _ frames cur hcur => ⟨[⟨cur, e⟩], [], by rw [List.foldl_cons, stepF_open r xhtml frames cur e ho]; rfl,
      ⟨(fun _ hp => nomatch hp), fun f hf => List.mem_singleton.mp hf ▸ ⟨hcur, ho, hn⟩⟩, fun h => by rw [hx] at h; cases h⟩
  | @pair eo ec l ho hcl hoo hoc hs _ ih =>
    intro hfine frames cur hcur
    obtain ⟨ex2, c2, r2, e2, x2⟩ := ih (fun e he => hfine e (by simp [he])) (⟨cur, eo⟩ :: frames) [] (fun _ hp => nomatch hp)
    obtain ⟨ex', cur'', rp, ep, xp⟩ := close_kept hc ho hcl hoo hoc hs hcur frames e2 x2
    exact ⟨ex', cur'', by rw [List.cons_append, List.foldl_cons, stepF_open r xhtml frames cur eo ho, List.foldl_append, r2]; exact rp, ep, xp⟩
  | append _ _ ih1 ih2 =>
    intro hfine frames cur hcur
    obtain ⟨ex1, c1, r1, e1, x1⟩ := ih1 (fun e he => hfine e (List.mem_append_left _ he)) frames cur hcur
    obtain ⟨ex2, c2, r2, e2, x2⟩ := ih2 (fun e he => hfine e (List.mem_append_right _ he)) (ex1 ++ frames) c1 e1.1
    exact ⟨ex2 ++ ex1, c2, by rw [List.foldl_append, r1, r2, List.append_assoc],
      ⟨e2.1, fun f hf => (List.mem_append.mp hf).elim (e2.2 f) (e1.2 f)⟩, fun h => by rw [x1 h, x2 h]; rfl⟩

theorem finish_fine (r : Rules) (xhtml : Bool) : ∀ (ex : List Frame) (c : List FEntry), ExtOk r ex c →
    (xhtml = true → ex = []) → AllFineOut r (finishF r xhtml ex c)
  | [], _, h, _ => h.1
  | f :: fs, c, h, hx => by
    cases xhtml with
    | true => cases hx rfl
    | false =>
      obtain ⟨hfb, _, hn⟩ := h.2 f (List.mem_cons_self ..)
      simp only [finishF, List.foldl_cons, Bool.false_eq_true, if_false]
      exact finish_fine r false fs _ ⟨by simpa using hfb.append ((fine_noslash_leaf r f.opn hn).append h.1),
        fun g hg => h.2 g (List.mem_cons_of_mem _ hg)⟩ (fun h => nomatch h)
end Cppcms.C04
