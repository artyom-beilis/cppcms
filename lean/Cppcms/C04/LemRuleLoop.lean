import Cppcms.C04.LemFrames
/-! C04: the rules loop of `validate_and_filter_if_invalid` (pair invalidation through `tag.pair`).  Its flag is
`validate`'s verdict; on a `Good` list it yields the verdicts the frames run computed: `analyse` and `validate` in terms
of the frames run. -/
namespace Cppcms.C04
open Cppcms

variable {r : Rules} {xhtml : Bool}

def okAt (r : Rules) (es : List Entry) (i : Nat) : Bool :=
  match es[i]? with
  | none => true
  | some e => entryOk r e

/-- the entries after `ruleStep`, without the flag -/
def ruleStep1 (r : Rules) (es : List Entry) (i : Nat) : List Entry :=
  match es[i]? with
  | none => es
  | some e =>
    if entryOk r e then es
    else setTy (match e.pair with
      | some j => setTy es j .invalid
      | none => es) i .invalid

theorem ruleStep_eq (r : Rules) (es : List Entry) (b : Bool) (i : Nat) :
    ruleStep r (es, b) i = (if okAt r es i then es else ruleStep1 r es i, b && okAt r es i) := by
  unfold ruleStep ruleStep1 okAt
  cases es[i]? with
  | none => simp
  | some e => cases h : entryOk r e <;> simp [h] <;> rfl

theorem ruleStep1_of_ok {es : List Entry} {i : Nat} (h : okAt r es i = true) : ruleStep1 r es i = es := by
  unfold ruleStep1
  unfold okAt at h
  split <;> simp_all

theorem ruleFold_fst (r : Rules) : ∀ (is : List Nat) (es : List Entry) (b : Bool),
    (is.foldl (ruleStep r) (es, b)).1 = is.foldl (ruleStep1 r) es
  | [], _, _ => rfl
  | i :: is, es, b => by
    rw [List.foldl_cons, List.foldl_cons, ruleStep_eq, ruleFold_fst r is]
    cases h : okAt r es i with
    | true => rw [ruleStep1_of_ok h]; rfl
    | false => rfl

theorem ruleFold_flag (r : Rules) (es : List Entry) : ∀ is : List Nat,
    (is.foldl (ruleStep r) (es, true)).2 = is.all (okAt r es)
  | [] => rfl
  | i :: is => by
    have hfalse : ∀ (is : List Nat) (es' : List Entry), (is.foldl (ruleStep r) (es', false)).2 = false := by
      intro is
      induction is with
      | nil => exact fun _ => rfl
      | cons j is ih => exact fun es' => by rw [List.foldl_cons, ruleStep_eq]; exact ih _
    rw [List.foldl_cons, ruleStep_eq, List.all_cons]
    cases h : okAt r es i with
    | true => simpa using ruleFold_flag r es is
    | false => simpa using hfalse is _

theorem ruleFold_of_ok (r : Rules) (es : List Entry) : ∀ is : List Nat, is.all (okAt r es) = true →
    is.foldl (ruleStep r) (es, true) = (es, true)
  | [], _ => rfl
  | i :: is, h => by
    rw [List.all_cons, Bool.and_eq_true] at h
    rw [List.foldl_cons, ruleStep_eq, h.1]
    exact ruleFold_of_ok r es is h.2

theorem all_range_okAt (r : Rules) (es : List Entry) :
    (List.range es.length).all (okAt r es) = es.all (entryOk r) := by
  rw [Bool.eq_iff_iff]
  simp only [List.all_eq_true, List.mem_range]
  constructor
  · intro h e he
    obtain ⟨i, hi, rfl⟩ := List.getElem_of_mem he
    simpa [okAt, List.getElem?_eq_getElem hi] using h i hi
  · intro h i hi
    simpa [okAt, List.getElem?_eq_getElem hi] using h _ (List.getElem_mem hi)

theorem analyse_flag (r : Rules) (x : Bytes) : (analyse r x).2 = validate r x := by
  unfold analyse validate
  simp only [ruleFold_flag, all_range_okAt]
  cases (parseAll x).any isInvalid <;> cases (validateNesting r.xhtml (parseAll x)).any isInvalid <;> simp

theorem validateAndFilter_none_iff (r : Rules) (m : Method) (x : Bytes) :
    validateAndFilter r m x = none ↔ validate r x = true := by
  simp only [validateAndFilter, analyse_flag]
  cases validate r x <;> simp

theorem valid_is_fixed_point (r : Rules) (m : Method) (x : Bytes) (h : validate r x = true) :
    filter r m x = x := by
  unfold filter
  rw [(validateAndFilter_none_iff r m x).2 h]

theorem filter_of_invalid (r : Rules) (m : Method) (x : Bytes) (h : ¬ validate r x = true) :
    filter r m x = render m (analyse r x).1 := by
  simp only [filter, validateAndFilter, analyse_flag, h]
  rfl

theorem map_fst_length (l : List FEntry) : (l.map Prod.fst).length = l.length := by simp
theorem map_final_length (l : List FEntry) : (l.map finalEntry).length = l.length := by simp

/-- the entry as the rules loop leaves it when it, or its partner, fails -/
def inv (e : Entry) : Entry := { e with ty := .invalid }

theorem entryOk_inv (r : Rules) (e : Entry) : entryOk r (inv e) = false := rfl
theorem inv_inv (e : Entry) : inv (inv e) = inv e := rfl
theorem inv_pair (e : Entry) : (inv e).pair = e.pair := rfl

theorem ruleStep1_at (r : Rules) {A B : List Entry} {x : Entry} {i : Nat} (hi : i = A.length) :
    ruleStep1 r (A ++ x :: B) i = if entryOk r x then A ++ x :: B else
      setTy (match x.pair with
        | some j => setTy (A ++ x :: B) j .invalid
        | none => A ++ x :: B) i .invalid := by
  subst hi
  unfold ruleStep1
  rw [getElem?_append_cons_length]

theorem setTy_at {A B : List Entry} {x : Entry} {i : Nat} (hi : i = A.length) :
    setTy (A ++ x :: B) i .invalid = A ++ inv x :: B := by
  subst hi; exact modify_append_cons _ _ _ _

theorem setTy_both {A M S : List Entry} {x y : Entry} {po pc : Nat} (hpo : po = A.length) (hpc : pc = po + 1 + M.length) :
    setTy (setTy (A ++ x :: M ++ y :: S) pc .invalid) po .invalid = A ++ inv x :: M ++ inv y :: S ∧
    setTy (setTy (A ++ x :: M ++ y :: S) po .invalid) pc .invalid = A ++ inv x :: M ++ inv y :: S := by
  have h1 : ∀ x : Entry, pc = (A ++ x :: M).length := fun x => by simp [hpc, hpo]; omega
  constructor
  · rw [setTy_at (h1 x), List.append_assoc, List.cons_append, setTy_at hpo]; simp
  · rw [List.append_assoc, List.cons_append, setTy_at hpo, ← List.cons_append, ← List.append_assoc, setTy_at (h1 _)]

/-- the rules loop over the positions of `M`, which start at `b`, turns `M` into `M'`, whatever surrounds it -/
def Loops (r : Rules) (b : Nat) (M M' : List Entry) : Prop :=
  M'.length = M.length ∧ ∀ P S : List Entry, P.length = b →
    (List.range' b M.length).foldl (ruleStep1 r) (P ++ M ++ S) = P ++ M' ++ S

theorem Loops.append {b : Nat} {M1 M1' M2 M2' : List Entry} (h1 : Loops r b M1 M1') (h2 : Loops r (b + M1.length) M2 M2') :
    Loops r b (M1 ++ M2) (M1' ++ M2') := by
  refine ⟨by simp [h1.1, h2.1], fun P S hP => ?_⟩
  have e1 := h1.2 P (M2 ++ S) hP
  have e2 := h2.2 (P ++ M1') S (by simp [hP, h1.1])
  simp only [List.append_assoc] at e1 e2 ⊢
  rw [List.length_append, ← List.range'_append_1, List.foldl_append, e1, e2]

theorem Loops.single {b : Nat} {e : Entry} (he : e.pair = none) : Loops r b [e] [if entryOk r e then e else inv e] := by
  refine ⟨rfl, fun P S hP => ?_⟩
  simp only [List.length_singleton, List.range'_one, List.foldl_cons, List.foldl_nil, List.append_assoc, List.cons_append,
    List.nil_append]
  rw [ruleStep1_at r hP.symm, he, setTy_at hP.symm]
  cases entryOk r e <;> rfl

theorem Loops.pair {po : Nat} {o c : Entry} {M M' : List Entry} (h : Loops r (po + 1) M M')
    (ho : o.pair = some (po + 1 + M.length)) (hc : c.pair = some po) :
    Loops r po (o :: M ++ [c])
      ((if entryOk r o && entryOk r c then o else inv o) :: M' ++ [if entryOk r o && entryOk r c then c else inv c]) := by
  refine ⟨by simp [h.1], fun A S hpo => ?_⟩
  have hpo := hpo.symm
  have mid : ∀ x y : Entry, (List.range' (po + 1) M.length).foldl (ruleStep1 r) (A ++ x :: M ++ y :: S) =
      A ++ x :: M' ++ y :: S := fun x y => by
    simpa using h.2 (A ++ [x]) (y :: S) (by simp [hpo])
  have at_pc : ∀ x y : Entry, ruleStep1 r (A ++ x :: M' ++ y :: S) (po + 1 + M.length) =
      if entryOk r y then A ++ x :: M' ++ y :: S else
      setTy (match y.pair with
        | some j => setTy (A ++ x :: M' ++ y :: S) j .invalid
        | none => A ++ x :: M' ++ y :: S) (po + 1 + M.length) .invalid := fun x y =>
    ruleStep1_at r (A := A ++ x :: M') (by simp [h.1, hpo]; omega)
  -- invalidating the entries at `po` and `pc`, in either order, around `M` and around `M'`
  have both : ∀ x y : Entry, _ := fun x y => setTy_both (A := A) (M := M) (S := S) (x := x) (y := y) hpo rfl
  have both' : ∀ x y : Entry, _ :=
    fun x y => setTy_both (A := A) (M := M') (S := S) (x := x) (y := y) (pc := po + 1 + M.length) hpo (by rw [h.1])
  -- the positions are `po`, then those of `M`, then `pc = po + 1 + M.length`
  rw [show (o :: M ++ [c]).length = 1 + M.length + 1 by simp; omega, List.range'_1_concat, ← List.range'_append_1,
    List.range'_one, List.foldl_append, List.foldl_append]
  simp only [List.foldl_cons, List.foldl_nil, List.append_assoc, List.cons_append, List.nil_append,
    show po + (1 + M.length) = po + 1 + M.length by omega]
  rw [ruleStep1_at r hpo]
  simp only [← List.cons_append, ← List.append_assoc]
  cases hoo : entryOk r o with
  | true =>
    -- `o` passes: nothing happens at `po`, `M` loops by itself, and at `pc` either `c` passes too or it
    -- invalidates itself and, through its `pair`, `o`
    rw [if_pos rfl, mid, at_pc]
    cases hoc : entryOk r c with
    | true => rfl
    | false => rw [if_neg Bool.false_ne_true, hc, (both' o c).2]; rfl
  | false =>
    -- `o` fails: it invalidates itself and, through its `pair`, `c`; `M` loops by itself; at `pc` the invalidated
    -- `c` fails and invalidates both once more
    rw [if_neg Bool.false_ne_true, ho, (both o c).1, mid, at_pc, entryOk_inv, if_neg Bool.false_ne_true, inv_pair, hc,
      (both' (inv o) (inv c)).2]
    rfl

theorem ruleLoop_good {b : Nat} {ins : List Entry} {outs : List FEntry}
    (h : Good r xhtml b ins outs) : Loops r b (outs.map Prod.fst) (outs.map finalEntry) := by
  induction h with
  | nil b => exact ⟨rfl, fun _ _ _ => rfl⟩
  | leaf b ins outs e x g hp hl ih =>
    -- `x` is some `leafF r e'` without partner
    obtain ⟨e', rfl, hnone⟩ : ∃ e', x = leafF r e' ∧ e'.pair = none := by
      cases hl <;> exact ⟨_, rfl, hp⟩
    have := ih.append (Loops.single (r := r) hnone)
    simp only [List.map_append, List.map_cons, List.map_nil, finalEntry, leafF]
    cases hok : entryOk r e' <;> simpa [hok, inv] using this
  | pair b i1 o1 i2 o2 eo ec g1 g2 ho hc hpo hpc hs ih1 ih2 =>
    have := ih1.append ((show Loops r (b + (o1.map Prod.fst).length + 1) _ _ by simpa using ih2).pair
      (o := { eo with pair := some (b + o1.length + 1 + o2.length) }) (c := { ec with pair := some (b + o1.length) })
      (by simp) (by simp))
    simp only [List.map_append, List.map_cons, List.map_nil, finalEntry, pairF]
    cases hok : entryOk r { eo with pair := some (b + o1.length + 1 + o2.length) } &&
      entryOk r { ec with pair := some (b + o1.length) } <;> simpa [hok, inv] using this

theorem parseAll_pair (x : Bytes) : ∀ e ∈ parseAll x, e.pair = none := by
  intro e he
  obtain ⟨p, _, rfl⟩ := List.mem_map.mp he
  unfold parsePart
  split <;> rfl

theorem analyse_eq_runF (r : Rules) (x : Bytes) :
    (analyse r x).1 = (runF r r.xhtml (parseAll x)).map finalEntry := by
  unfold analyse
  simp only
  rw [validateNesting_eq_runF r, ruleFold_fst, List.range_eq_range']
  simpa using (ruleLoop_good (runF_good r r.xhtml _ (parseAll_pair x))).2 [] [] rfl

theorem validate_iff_runF (r : Rules) (y : Bytes) :
    validate r y = true ↔
      (∀ e ∈ parseAll y, e.ty ≠ .invalid) ∧
      (∀ p ∈ runF r r.xhtml (parseAll y), p.1.ty ≠ .invalid ∧ entryOk r p.1 = true) := by
  have anyInvalid : ∀ l : List Entry, l.any isInvalid = true ↔ ¬ ∀ e ∈ l, e.ty ≠ .invalid := fun l => by
    simp [isInvalid]
  unfold validate
  simp only [validateNesting_eq_runF r]
  split
  · rename_i h1; rw [anyInvalid] at h1; exact ⟨(fun h => nomatch h), fun h => absurd h.1 h1⟩
  split
  · rename_i h2; rw [anyInvalid, List.forall_mem_map] at h2
    exact ⟨(fun h => nomatch h), fun h => absurd (fun p hp => (h.2 p hp).1) h2⟩
  · rename_i h1 h2
    rw [anyInvalid, Classical.not_not] at h1 h2
    rw [List.forall_mem_map] at h2
    simp only [List.all_eq_true, List.forall_mem_map]
    exact ⟨fun h => ⟨h1, fun p hp => ⟨h2 p hp, h p hp⟩⟩, fun h p hp => (h.2 p hp).2⟩

theorem Good.output_of_input {b : Nat} {ins : List Entry} {outs : List FEntry}
    (h : Good r xhtml b ins outs) : ∀ e ∈ ins, ∃ p ∈ outs, p.1 = { e with pair := p.1.pair } ∨ p.1.ty = .invalid ∨
      (xhtml = false ∧ e.ty = .openTag ∧ p.1 = { e with ty := .openCloseNoSlash }) := by
  induction h with
  | nil => intro e he; cases he
  | leaf b ins outs e x _ _ hl ih =>
    intro e' he'
    rcases List.mem_append.mp he' with he' | he'
    · obtain ⟨p, hp, hr⟩ := ih e' he'
      exact ⟨p, List.mem_append_left _ hp, hr⟩
    · obtain rfl := List.mem_singleton.mp he'
      refine ⟨x, by simp, ?_⟩
      cases hl with
      | neutral => exact .inl rfl
      | rejected => exact .inr (.inl rfl)
      | noSlash hx ho => exact .inr (.inr ⟨hx, ho, rfl⟩)
  | pair b i1 o1 i2 o2 eo ec _ _ _ _ _ _ _ ih1 ih2 =>
    intro e' he'
    simp only [List.mem_append, List.mem_cons, List.not_mem_nil, or_false] at he'
    rcases he' with (he' | rfl | he') | rfl
    · obtain ⟨p, hp, hr⟩ := ih1 e' he'
      exact ⟨p, by simp [hp], hr⟩
    · exact ⟨(pairF r e' ec (b + o1.length) (b + o1.length + 1 + o2.length)).1, by simp, .inl rfl⟩
    · obtain ⟨p, hp, hr⟩ := ih2 e' he'
      exact ⟨p, by simp [hp], hr⟩
    · exact ⟨(pairF r eo e' (b + o1.length) (b + o1.length + 1 + o2.length)).2, by simp, .inl rfl⟩

/-- what the white list takes from validation, entry by entry -/
theorem validate_entries {y : Bytes} (h : validate r y = true) : ∀ e ∈ parseAll y, e.ty ≠ .invalid ∧
    (entryOk r e = true ∨
      (r.xhtml = false ∧ e.ty = .openTag ∧ entryOk r { e with ty := .openCloseNoSlash } = true)) := by
  obtain ⟨h1, h2⟩ := (validate_iff_runF r y).mp h
  intro e he
  refine ⟨h1 e he, ?_⟩
  obtain ⟨p, hp, hr⟩ := (runF_good r r.xhtml _ (parseAll_pair y)).output_of_input e he
  obtain ⟨hty, hok⟩ := h2 p hp
  rcases hr with hr | hr | ⟨hx, ho, hr⟩
  · -- `entryOk` does not look at `pair`
    rw [hr] at hok; exact .inl hok
  · exact absurd hr hty
  · rw [hr] at hok; exact .inr ⟨hx, ho, hok⟩
end Cppcms.C04
