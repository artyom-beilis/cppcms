import Cppcms.C04.Uri
/-! C04: the URI validator model.  The scheme white list; the byte alphabet of what `uri_parser` accepts (`Safe`: every
parser function only ever consumes a `Safe` prefix), every `&` a reference; and the scheme a WHATWG URL parser sees in
the character-reference-decoded value is the scheme the validator checked. -/
namespace Cppcms.C04.Uri
open Cppcms

/-- the scheme of a URI text as a URL parser sees it: a letter, then letters/digits/`+`/`-`/`.`, then `:` -/
def schemeOf (v : Bytes) : Option Bytes :=
  match scheme v with
  | some (sch, 58 :: _) => some sch
  | _ => none

theorem uri_fst (v : Bytes) : (uri v).map Prod.fst = schemeOf v := by
  unfold uri schemeOf
  rcases scheme v with _ | ⟨sch, _ | ⟨c, rest⟩⟩
  · rfl
  · rfl
  · by_cases hc : c = 58 <;> simp [followsC, hc]

theorem validator_scheme (k : Kind) (schemeOk : Bytes → Bool) (v : Bytes) (h : validator k schemeOk v = true) :
    (∀ sch, schemeOf v = some sch → k ≠ .relative ∧ schemeOk sch = true) ∧
    (k = .full → ∃ sch, schemeOf v = some sch ∧ schemeOk sch = true) := by
  have hs := uri_fst v
  unfold validator parse at h
  rcases hu : uri v with _ | ⟨sch, rest⟩ <;> rw [hu] at hs h <;> rw [← hs]
  · -- a relative reference
    exact ⟨(fun _ hsch => nomatch hsch), fun hk => by subst hk; split at h <;> simp_all⟩
  · cases he : rest.isEmpty with
    | false => cases k <;> simp [he] at h
    | true =>
      simp only [he, if_true] at h
      exact ⟨fun sch' hs' => by cases hs'; cases k <;> simp_all, fun hk => by subst hk; exact ⟨sch, rfl, by simpa using h⟩⟩

/-- `javascript:x` is not accepted unless the scheme expression matches `javascript` -/
example (k : Kind) (ok : Bytes → Bool) (hj : ok [106, 97, 118, 97, 115, 99, 114, 105, 112, 116] = false) :
    validator k ok [106, 97, 118, 97, 115, 99, 114, 105, 112, 116, 58, 120] = false := by
  cases hv : validator k ok [106, 97, 118, 97, 115, 99, 114, 105, 112, 116, 58, 120] with
  | false => rfl
  | true =>
    have := (validator_scheme k ok _ hv).1 [106, 97, 118, 97, 115, 99, 114, 105, 112, 116] (by decide)
    rw [hj] at this
    exact absurd this.2 (by simp)

theorem ampAmp_eq : ampAmp = [38, 97, 109, 112, 59] := rfl
theorem ampApos_eq : ampApos = [38, 97, 112, 111, 115, 59] := rfl

/-- a byte the parser can consume on its own: RFC 3986 unreserved, `%`, the gen-delims `: @ / ? #` it admits, and the
sub-delims other than `&` (`! $ ( ) * + , ; = '`) -/
def uriPlain (c : UInt8) : Bool :=
  unreservedChar c || c = 37 || c = 58 || c = 64 || c = 47 || c = 63 || c = 35 || subDelimChar c

/-- texts made of such bytes and of the two character references `&amp;` `&apos;` -/
inductive Safe : Bytes → Prop
  | nil : Safe []
  | byte (c : UInt8) (s : Bytes) : uriPlain c = true → Safe s → Safe (c :: s)
  | amp (s : Bytes) : Safe s → Safe (ampAmp ++ s)
  | apos (s : Bytes) : Safe s → Safe (ampApos ++ s)

theorem Safe.append {a b : Bytes} (ha : Safe a) (hb : Safe b) : Safe (a ++ b) := by
  induction ha with
  | nil => simpa using hb
  | byte c s hc _ ih => exact Safe.byte c _ hc ih
  | amp s _ ih => rw [List.append_assoc]; exact Safe.amp _ ih
  | apos s _ ih => rw [List.append_assoc]; exact Safe.apos _ ih

theorem Safe.single {c : UInt8} (h : uriPlain c = true) : Safe [c] := Safe.byte c [] h Safe.nil

/-- 0x21–0x7E other than `"`, `<`, `>`, `\`, `[`, `]`, `^`, `` ` ``, `{`, `|`, `}` -/
def byteOk (c : UInt8) : Bool :=
  0x21 ≤ c && c ≤ 0x7E && c != 34 && c != 60 && c != 62 && c != 92 && c != 91 && c != 93 && c != 94 && c != 96 &&
    c != 123 && c != 124 && c != 125

/-- WHATWG "scheme start state" / "scheme state", stated independently of the parser's own classes -/
def wAlpha (c : UInt8) : Bool := (65 ≤ c && c ≤ 90) || (97 ≤ c && c ≤ 122)
def wSchemeChar (c : UInt8) : Bool := wAlpha c || (48 ≤ c && c ≤ 57) || c = 43 || c = 45 || c = 46

theorem uri_classes : ∀ c : UInt8,
    ((isHex c = true ∨ isAlpha c = true ∨ schemeChar c = true) → uriPlain c = true) ∧
    (uriPlain c = true → byteOk c = true ∧ c ≠ 38) := by
  apply forall_uint8; decide +kernel

theorem plain_classes (c : UInt8) : (isHex c = true ∨ isAlpha c = true ∨ schemeChar c = true) → uriPlain c = true :=
  (uri_classes c).1

theorem uriPlain_facts (c : UInt8) : uriPlain c = true → byteOk c = true ∧ c ≠ 38 :=
  (uri_classes c).2

/-- `t` is what is left of `s` after a `Safe` prefix -/
def Eats (s t : Bytes) : Prop := ∃ pre, s = pre ++ t ∧ Safe pre

theorem Eats.refl (s : Bytes) : Eats s s := ⟨[], rfl, .nil⟩

theorem Eats.trans {s t u : Bytes} : Eats s t → Eats t u → Eats s u
  | ⟨p1, e1, s1⟩, ⟨p2, e2, s2⟩ => ⟨p1 ++ p2, by rw [List.append_assoc, ← e2, ← e1], s1.append s2⟩

theorem Eats.byte {c : UInt8} (s : Bytes) (h : uriPlain c = true) : Eats (c :: s) s := ⟨[c], rfl, .single h⟩

/-- `Cons p` ("consumes"): `∀ s, Eats s (p s).2`, whether `p` succeeds or not; `cons_x` says it of the production `x` -/
def Cons (p : P) : Prop := ∀ s, ∃ pre, s = pre ++ (p s).2 ∧ Safe pre

theorem cons_id (f : Bytes → Bool) : Cons fun s => (f s, s) := fun s => Eats.refl s

theorem cons_ite (c : Bytes → Bool) {a b : P} (ha : Cons a) (hb : Cons b) : Cons fun s => if c s then a s else b s := by
  intro s
  show Eats s (if c s then a s else b s).2
  split
  · exact ha s
  · exact hb s

theorem cons_comp {a b : P} (ha : Cons a) (hb : Cons b) : Cons fun s => b (a s).2 := fun s => Eats.trans (ha s) (hb _)

theorem cons_flag (f : Bytes → Bool) {a : P} (ha : Cons a) : Cons fun s => (f s, (a s).2) := ha

theorem cons_manyAux {p : P} (hp : Cons p) : ∀ (n : Nat) (s : Bytes), Eats s (manyAux p n s)
  | 0, s => Eats.refl s
  | n + 1, s => by
    unfold manyAux
    split
    · exact Eats.trans (hp s) (cons_manyAux hp n _)
    · exact Eats.refl s

theorem cons_many {p : P} (hp : Cons p) : Cons (many p) := fun s => cons_manyAux hp _ s

theorem cons_orElse {a b : P} (ha : Cons a) (hb : Cons b) : Cons (orElse a b) := cons_ite _ ha hb

theorem cons_andThen {a b : P} (ha : Cons a) (hb : Cons b) : Cons (andThen a b) :=
  cons_ite _ (cons_comp ha hb) (cons_flag _ ha)

theorem cons_ifThen {a b : P} (ha : Cons a) (hb : Cons b) : Cons fun s => if (a s).1 then b (a s).2 else (false, s) :=
  cons_ite _ (cons_comp ha hb) (cons_id _)

theorem cons_followsC (c : UInt8) (hc : uriPlain c = true := by decide) : Cons (followsC c)
  | [] => Eats.refl _
  | x :: s => by
    show Eats _ (if x = c then (true, s) else (false, x :: s)).2
    split
    · rename_i hx; exact hx ▸ Eats.byte s hc
    · exact Eats.refl _

theorem followsS_fail (p s : Bytes) : (followsS p s).1 = false → (followsS p s).2 = s := by
  unfold followsS; split <;> simp

theorem cons_followsS {p : Bytes} (hp : Safe p) : Cons (followsS p) := by
  intro s
  unfold followsS
  split
  · rename_i h
    obtain ⟨t, rfl⟩ := List.isPrefixOf_iff_prefix.mp h
    exact ⟨p, by simp, hp⟩
  · exact Eats.refl s

theorem cons_subDelims : Cons subDelims
  | [] => Eats.refl _
  | c :: rest => by
    unfold subDelims
    simp only
    split
    · exact cons_followsS (by simpa using Safe.amp [] .nil) _
    split
    · exact cons_followsS (by simpa using Safe.apos [] .nil) _
    split
    · rename_i h; exact Eats.byte rest (by simp [uriPlain, h])
    · exact Eats.refl _

theorem cons_unreserved : Cons unreserved
  | [] => Eats.refl _
  | c :: s => by
    show Eats _ (if unreservedChar c then (true, s) else (false, c :: s)).2
    split
    · rename_i h; exact Eats.byte s (by simp [uriPlain, h])
    · exact Eats.refl _

theorem cons_pctEncoded : Cons pctEncoded := by
  intro s
  unfold pctEncoded
  split
  · split
    · rename_i c a b s' h
      simp only [Bool.and_eq_true, decide_eq_true_eq] at h
      obtain rfl : c = 37 := UInt8.toNat_inj.mp h.1.1
      exact (Eats.byte _ (by decide)).trans ((Eats.byte _ (plain_classes a (.inl h.1.2))).trans
        (.byte _ (plain_classes b (.inl h.2))))
    · exact Eats.refl _
  · exact Eats.refl _

theorem cons_decOctet : Cons decOctet := by
  intro s
  have : (decOctet s).2 = s := by
    unfold decOctet
    cases s with
    | nil => rfl
    | cons c s =>
      simp only
      split
      · split <;> rfl
      · rfl
  exact this.symm ▸ Eats.refl s

theorem cons_port : Cons port := by
  apply cons_many
  intro s
  cases s with
  | nil => exact Eats.refl _
  | cons c rest =>
    simp only
    split
    · rename_i h; exact Eats.byte rest (plain_classes c (.inl (by simp [isHex, Gen.uriIsHex, show Gen.uriIsDigit c.toNat = true from h])))
    · exact Eats.refl _

theorem cons_pchar : Cons pchar :=
  cons_orElse cons_unreserved (cons_orElse cons_pctEncoded (cons_orElse cons_subDelims
    (cons_orElse (cons_followsC 58) (cons_followsC 64))))

theorem cons_query : Cons query :=
  cons_many (cons_orElse cons_pchar (cons_orElse (cons_followsC 47) (cons_followsC 63)))
theorem cons_segment : Cons segment := cons_many cons_pchar
theorem cons_segmentNz : Cons segmentNz := cons_ifThen cons_pchar cons_segment
theorem cons_slashSegments : Cons slashSegments := cons_many (cons_ifThen (cons_followsC 47) cons_segment)

theorem cons_pathNoscheme : Cons pathNoscheme :=
  cons_andThen (a := segmentNzNc) (fun s => cons_manyAux (cons_orElse cons_unreserved (cons_orElse cons_pctEncoded
    (cons_orElse cons_subDelims (cons_followsC 64)))) _ s) cons_slashSegments

theorem cons_pathAbsolute : Cons pathAbsolute :=
  cons_ite _ (cons_comp (cons_followsC 47)
    (cons_ite (fun s1 => (segmentNz s1).1) (cons_comp cons_segmentNz cons_slashSegments) (cons_id fun _ => true))) (cons_id _)

theorem cons_host : Cons host :=
  cons_orElse
    (cons_ite _ (cons_andThen cons_decOctet (cons_andThen (cons_followsC 46) (cons_andThen cons_decOctet
      (cons_andThen (cons_followsC 46) (cons_andThen cons_decOctet
        (cons_andThen (cons_followsC 46) cons_decOctet)))))) (cons_id _))
    (cons_many (cons_orElse cons_unreserved (cons_orElse cons_pctEncoded cons_subDelims)))

theorem cons_authority : Cons authority := by
  have cons_userinfo : Cons userinfo := cons_many
    (cons_orElse cons_unreserved (cons_orElse cons_pctEncoded (cons_orElse cons_subDelims (cons_followsC 58))))
  intro s
  unfold authority
  simp only
  -- userinfo, then ('@' host | host), then optional ':' port
  have h2 : Eats (userinfo s).2
      (if (followsC 64 (userinfo s).2).1 then (host (followsC 64 (userinfo s).2).2).2 else (host (userinfo s).2).2) := by
    split
    · exact Eats.trans (cons_followsC 64 (by decide) _) (cons_host _)
    · exact cons_host _
  generalize (if (followsC 64 (userinfo s).2).1 then (host (followsC 64 (userinfo s).2).2).2 else (host (userinfo s).2).2) = t
    at h2 ⊢
  split
  · exact Eats.trans (cons_userinfo s) (h2.trans (Eats.trans (cons_followsC 58 (by decide) t) (cons_port _)))
  · exact Eats.trans (cons_userinfo s) h2

theorem cons_optional (c : UInt8) {p : P} (hp : Cons p) (hc : uriPlain c = true := by decide) : Cons (optional c p) :=
  cons_ite _ (cons_flag _ (cons_comp (cons_followsC c hc) hp)) (cons_id _)

theorem cons_tails {p : P} (hp : Cons p) : Cons fun s => optional 35 fragment (optional 63 query (p s).2).2 :=
  cons_comp (cons_comp hp (cons_optional 63 cons_query)) (cons_optional 35 cons_query)

theorem cons_relativeRef : Cons relativeRef := cons_tails (cons_comp cons_authority cons_slashSegments)

theorem cons_hierPart : Cons hierPart :=
  cons_ite _ (cons_comp (cons_comp (cons_followsS (.byte 47 _ (by decide) (.single (by decide)))) cons_authority) cons_slashSegments)
    (cons_ite _ cons_pathAbsolute (cons_ite _ (cons_ifThen cons_segmentNz cons_slashSegments) (cons_id _)))

theorem eats_dropWhile {q : UInt8 → Bool} (hq : ∀ c, q c = true → uriPlain c = true) : ∀ t : Bytes, Eats t (t.dropWhile q)
  | [] => Eats.refl _
  | c :: t => by
    rw [List.dropWhile_cons]
    split
    · rename_i h; exact (Eats.byte t (hq c h)).trans (eats_dropWhile hq t)
    · exact Eats.refl _

theorem scheme_eats {s sch rest : Bytes} (h : scheme s = some (sch, rest)) : Eats s rest := by
  unfold scheme at h
  cases s with
  | nil => cases h
  | cons c t =>
    simp only at h
    split at h
    · rename_i hc
      obtain ⟨rfl, rfl⟩ := Prod.mk.inj (Option.some.inj h)
      exact (Eats.byte t (plain_classes c (.inr (.inl hc)))).trans
        (eats_dropWhile (fun d hd => plain_classes d (.inr (.inr hd))) t)
    · cases h

theorem uri_eats {v sch rest : Bytes} (h : uri v = some (sch, rest)) : Eats v rest := by
  unfold uri at h
  rcases hs : scheme v with _ | ⟨sch', s1⟩ <;> rw [hs] at h
  · cases h
  · simp only at h
    split at h
    · obtain ⟨rfl, rfl⟩ := Prod.mk.inj (Option.some.inj h)
      exact (scheme_eats hs).trans (Eats.trans (cons_followsC 58 (by decide) s1) (cons_tails cons_hierPart _))
    · cases h

theorem parse_safe (v : Bytes) (r : Option Bytes) (h : parse v = some r) : Safe v := by
  have done : ∀ {t : Bytes}, Eats v t → t.isEmpty = true → Safe v := by
    intro t ⟨pre, e, sp⟩ ht
    rw [List.isEmpty_iff.mp ht, List.append_nil] at e
    exact e ▸ sp
  unfold parse at h
  rcases hu : uri v with _ | ⟨sch, rest⟩ <;> rw [hu] at h <;> simp only at h <;> split at h
  · exact done (cons_relativeRef v) ‹_›
  · cases h
  · exact done (uri_eats hu) ‹_›
  · cases h

theorem validator_safe (k : Kind) (schemeOk : Bytes → Bool) (v : Bytes) (h : validator k schemeOk v = true) : Safe v := by
  unfold validator at h
  cases hp : parse v with
  | none => simp [hp] at h
  | some r => exact parse_safe v r hp

theorem safe_bytes {v : Bytes} (h : Safe v) : ∀ b ∈ v, byteOk b = true := by
  have href : ∀ b ∈ ampAmp ++ ampApos, byteOk b = true := by decide
  induction h with
  | nil => exact fun _ hb => nomatch hb
  | byte c s hc _ ih => exact List.forall_mem_cons.mpr ⟨(uriPlain_facts c hc).1, ih⟩
  | amp s _ ih =>
    exact fun b hb => (List.mem_append.mp hb).elim (fun h => href b (List.mem_append_left _ h)) (ih b)
  | apos s _ ih =>
    exact fun b hb => (List.mem_append.mp hb).elim (fun h => href b (List.mem_append_right _ h)) (ih b)

/-- every `&` starts `&amp;` or `&apos;` -/
def refsOk : Bytes → Bool
  | [] => true
  | c :: rest => (c != 38 || ([97, 109, 112, 59] : Bytes).isPrefixOf rest || ([97, 112, 111, 115, 59] : Bytes).isPrefixOf rest) && refsOk rest

theorem safe_refs {v : Bytes} (h : Safe v) : refsOk v = true := by
  induction h with
  | nil => rfl
  | byte c s hc _ ih => simp [refsOk, (uriPlain_facts c hc).2, ih]
  | amp s _ ih => simp [ampAmp_eq, refsOk, ih]
  | apos s _ ih => simp [ampApos_eq, refsOk, ih]

/-- HTML character-reference decoding of an attribute value, for the two references the parser admits -/
def decodeRefs : Bytes → Bytes
  | 38 :: 97 :: 109 :: 112 :: 59 :: rest => 38 :: decodeRefs rest
  | 38 :: 97 :: 112 :: 111 :: 115 :: 59 :: rest => 39 :: decodeRefs rest
  | c :: rest => c :: decodeRefs rest
  | [] => []

/-- WHATWG URL parsing, first steps: strip C0 controls and spaces at both ends, remove TAB/LF/CR anywhere -/
def whatwgPre (v : Bytes) : Bytes :=
  (((v.dropWhile (· ≤ 32)).reverse.dropWhile (· ≤ 32)).reverse).filter fun c => c != 9 && c != 10 && c != 13

def wSchemeOf : Bytes → Option Bytes
  | c :: rest =>
    if wAlpha c && (rest.dropWhile wSchemeChar).head? == some 58 then some (c :: rest.takeWhile wSchemeChar) else none
  | [] => none

def browserScheme (v : Bytes) : Option Bytes := wSchemeOf (whatwgPre v)

theorem scheme_classes (c : UInt8) : isAlpha c = wAlpha c ∧ schemeChar c = wSchemeChar c := by
  have h : isAlpha c = wAlpha c := by
    rw [Bool.eq_iff_iff]
    simp only [isAlpha, wAlpha, Gen.uriIsAlpha, UInt8.le_iff_toNat_le, Bool.or_eq_true, Bool.and_eq_true, decide_eq_true_eq,
      UInt8.reduceToNat]
    omega
  refine ⟨h, ?_⟩
  rw [Bool.eq_iff_iff]
  simp only [wSchemeChar, ← h, schemeChar, Gen.uriSchemeChar, isAlpha, Gen.uriIsDigit, UInt8.le_iff_toNat_le, Bool.or_eq_true,
    Bool.and_eq_true, decide_eq_true_eq, beq_iff_eq, ← UInt8.toNat_inj, UInt8.reduceToNat]

theorem schemeOf_cons (c : UInt8) (rest : Bytes) :
    schemeOf (c :: rest) = if isAlpha c = true ∧ (rest.dropWhile schemeChar).head? = some 58 then
      some (c :: rest.takeWhile schemeChar) else none := by
  unfold schemeOf scheme
  by_cases hc : isAlpha c = true
  · simp only [hc, if_true, true_and]
    cases hd : rest.dropWhile schemeChar with
    | nil => simp
    | cons d t => by_cases h58 : d = 58 <;> simp [h58]
  · simp [hc]

theorem wSchemeOf_eq (v : Bytes) : wSchemeOf v = schemeOf v := by
  have h1 : wAlpha = isAlpha := funext fun c => ((scheme_classes c).1).symm
  have h2 : wSchemeChar = schemeChar := funext fun c => ((scheme_classes c).2).symm
  cases v with
  | nil => rfl
  | cons c rest =>
    rw [schemeOf_cons]
    simp only [wSchemeOf, h1, h2, Bool.and_eq_true, beq_iff_eq]

theorem whatwgPre_id (v : Bytes) (h : ∀ c ∈ v, 33 ≤ c) : whatwgPre v = v := by
  have h32 : ∀ l : Bytes, (∀ c ∈ l, 33 ≤ c) → l.dropWhile (· ≤ 32) = l
    | [], _ => rfl
    | a :: _, h => List.dropWhile_cons_of_neg (by
        simpa [UInt8.not_le] using UInt8.lt_of_lt_of_le (by decide : (32 : UInt8) < 33) (h a (List.mem_cons_self ..)))
  unfold whatwgPre
  rw [h32 v h, h32 _ (fun c hc => h c (List.mem_reverse.mp hc)), List.reverse_reverse]
  refine List.filter_eq_self.mpr fun c hc => ?_
  have := h c hc
  have e : ∀ k : UInt8, k < 33 → c ≠ k := fun k hk e => absurd (e ▸ this) (UInt8.not_le.mpr hk)
  simp [e 9 (by decide), e 10 (by decide), e 13 (by decide)]

theorem mem_decodeRefs (c : UInt8) (s : Bytes) : c ∈ decodeRefs s → c ∈ s ∨ c = 39 := by
  induction s using decodeRefs.induct with
  | case1 rest ih | case2 rest ih =>
    simp only [decodeRefs, List.mem_cons]
    rintro (h | h)
    · simp [h]
    · exact (ih h).imp (fun h => by simp [h]) id
  | case3 d rest h1 h2 ih =>
    rw [decodeRefs.eq_3 d rest h1 h2, List.mem_cons, List.mem_cons]
    exact fun h => h.elim (fun h => .inl (.inl h)) fun h => (ih h).imp .inr id
  | case4 => exact fun h => nomatch h

/-- `&` is not a scheme character, and neither `&` nor `'` is `:` -/
theorem decode_scheme (s : Bytes) : (decodeRefs s).takeWhile schemeChar = s.takeWhile schemeChar ∧
    (((decodeRefs s).dropWhile schemeChar).head? = some 58 ↔ (s.dropWhile schemeChar).head? = some 58) := by
  have h38 : schemeChar 38 = false := by decide
  have h39 : schemeChar 39 = false := by decide
  induction s using decodeRefs.induct with
  | case1 rest => simp [decodeRefs, h38]
  | case2 rest => simp [decodeRefs, h38, h39]
  | case3 c rest h1 h2 ih =>
    rw [decodeRefs.eq_3 c rest h1 h2]
    cases hs : schemeChar c with
    | true => simpa [List.takeWhile_cons, List.dropWhile_cons, hs] using ih
    | false => simp [hs]
  | case4 => simp [decodeRefs]

theorem schemeOf_decode (v : Bytes) : schemeOf (decodeRefs v) = schemeOf v := by
  induction v using decodeRefs.induct with
  | case1 rest => simp [decodeRefs, schemeOf_cons, show isAlpha 38 = false by decide]
  | case2 rest => simp [decodeRefs, schemeOf_cons, show isAlpha 38 = false by decide, show isAlpha 39 = false by decide]
  | case3 c rest h1 h2 =>
    rw [decodeRefs.eq_3 c rest h1 h2, schemeOf_cons, schemeOf_cons, (decode_scheme rest).1]
    simp only [(decode_scheme rest).2]
  | case4 => rfl

/-- a URL parser reads the validator's scheme off the decoded value -/
theorem browserScheme_decode {v : Bytes} (h : ∀ b ∈ v, byteOk b = true) : browserScheme (decodeRefs v) = schemeOf v := by
  -- the first test of `byteOk`
  have ge : ∀ b : UInt8, byteOk b = true → 33 ≤ b := fun b hb => by
    unfold byteOk at hb
    cases h : decide (0x21 ≤ b)
    · simp [h] at hb
    · simpa using h
  unfold browserScheme
  rw [wSchemeOf_eq, whatwgPre_id _ fun c hc =>
    (mem_decodeRefs c v hc).elim (fun hv => ge c (h c hv)) (fun e => e ▸ by decide), schemeOf_decode]
end Cppcms.C04.Uri
