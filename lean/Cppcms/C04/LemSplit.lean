import Cppcms.C04.LemBytes
import Cppcms.Lib.Scan
/-! C04: the tokenizer (`split_to_parts`): fuel independence, its unfolding equation, the comment scan `findPair`, the
tokens of a text as explicit shapes (`Token`) in sequence (`Toks`); conversely entity, comment and tag (not `<!`)
are cut off again whatever follows (`SelfDelimiting`), which is what stability needs. -/
namespace Cppcms.C04
open Cppcms

theorem splitAux_fuel : ∀ (n m : Nat) (x : Bytes), x.length < n → x.length < m → splitAux n x = splitAux m x
  | 0, _, _, h, _ => nomatch h
  | _ + 1, 0, _, _, h => nomatch h
  | _ + 1, _ + 1, [], _, _ => rfl
  | n + 1, m + 1, c :: rest, hn, hm => by
    simp only [List.length_cons] at hn hm
    have hd : ∀ k, splitAux n (rest.drop k) = splitAux m (rest.drop k) := fun k =>
      splitAux_fuel n m _ (by simp; omega) (by simp; omega)
    have hw : ∀ p : UInt8 → Bool, splitAux n (rest.dropWhile p) = splitAux m (rest.dropWhile p) := fun p =>
      have := (List.dropWhile_sublist (l := rest) p).length_le
      splitAux_fuel n m _ (by omega) (by omega)
    simp only [splitAux, hd, hw, splitAux_fuel n m rest (by omega) (by omega)]

theorem splitAux_eq_split {n : Nat} {x : Bytes} (h : x.length < n) : splitAux n x = split x :=
  splitAux_fuel _ _ _ h (Nat.lt_succ_self _)

@[simp] theorem split_nil : split [] = [] := rfl

theorem split_cons (c : UInt8) (rest : Bytes) : split (c :: rest) =
    if c = 38 then
      match findByte 59 rest with
      | none => [(c :: rest, .invalid)]
      | some k => (c :: rest.take (k + 1), .entity) :: split (rest.drop (k + 1))
    else if c = 60 then
      if 4 < (c :: rest).length ∧ rest.take 3 = [33, 45, 45] then
        match findPair 45 45 (rest.drop 3) with
        | none => [(c :: rest, .invalid)]
        | some j =>
          if (rest.drop 3)[j + 2]? = some 62 then
            (c :: rest.take (3 + j + 3),
              if ((rest.drop 3).take j).any (fun b => Gen.commentForbidden b.toNat) then Ty.invalid else Ty.comment)
              :: split (rest.drop (3 + j + 3))
          else [(c :: rest, .invalid)]
      else
        match findByte 62 rest with
        | none => [(c :: rest, .invalid)]
        | some k => (c :: rest.take (k + 1), .tag) :: split (rest.drop (k + 1))
    else if c = 62 then ([c], .invalid) :: split rest
    else (c :: rest.takeWhile (fun b => !isSpecial b), .plain) :: split (rest.dropWhile (fun b => !isSpecial b)) := by
  have hd : ∀ k, splitAux (rest.length + 1) (rest.drop k) = split (rest.drop k) := fun k =>
    splitAux_eq_split (by simp; omega)
  have hw : ∀ p : UInt8 → Bool, splitAux (rest.length + 1) (rest.dropWhile p) = split (rest.dropWhile p) := fun p =>
    have := (List.dropWhile_sublist (l := rest) p).length_le
    splitAux_eq_split (by omega)
  conv => lhs; unfold split
  simp only [List.length_cons, splitAux, hd, hw, splitAux_eq_split (Nat.lt_succ_self rest.length)]
  rfl

theorem findPair_cons_cons (a b x y : UInt8) (r : Bytes) :
    findPair a b (x :: y :: r) = if x = a ∧ y = b then some 0 else (findPair a b (y :: r)).map (· + 1) := rfl

/-- the scan stops at the first `ab`: there is none before it, not even one completed by its `a` -/
theorem findPair_eq_some {a b : UInt8} : ∀ {s : Bytes} {j : Nat}, findPair a b s = some j →
    ∃ p t, s = p ++ a :: b :: t ∧ p.length = j ∧ findPair a b (p ++ [a]) = none
  | [], _, h => nomatch h
  | [_], _, h => nomatch h
  | x :: y :: r, j, h => by
    rw [findPair_cons_cons] at h
    by_cases hxy : x = a ∧ y = b
    · rw [if_pos hxy] at h
      obtain ⟨rfl, rfl⟩ := hxy
      exact ⟨[], r, rfl, Option.some.inj h, rfl⟩
    · rw [if_neg hxy, Option.map_eq_some_iff] at h
      obtain ⟨j', hj, rfl⟩ := h
      obtain ⟨p, t, hs, rfl, hp⟩ := findPair_eq_some hj
      refine ⟨x :: p, t, by rw [hs]; rfl, rfl, ?_⟩
      cases p with
      | nil =>
        obtain ⟨rfl, _⟩ := List.cons.inj hs
        show findPair y b (x :: y :: []) = none
        rw [findPair_cons_cons, if_neg hxy]; rfl
      | cons y' p' =>
        obtain ⟨rfl, _⟩ := List.cons.inj hs
        show findPair a b (x :: y :: (p' ++ [a])) = none
        rw [findPair_cons_cons, if_neg hxy]
        exact congrArg _ hp

theorem findPair_append {a b : UInt8} (t : Bytes) : ∀ {p : Bytes}, findPair a b (p ++ [a]) = none →
    findPair a b (p ++ a :: b :: t) = some p.length
  | [], _ => by simp [findPair]
  | [x], h => by
    have hxy : ¬ (x = a ∧ a = b) := fun hc => by simp [findPair, hc] at h
    simp [findPair, hxy]
  | x :: y :: p, h => by
    rw [List.cons_append, List.cons_append, findPair_cons_cons] at h ⊢
    by_cases hxy : x = a ∧ y = b
    · rw [if_pos hxy] at h; cases h
    · rw [if_neg hxy] at h ⊢
      rw [← List.cons_append, findPair_append t (p := y :: p) (by simpa using h)]
      rfl

/-- the tokens `split_to_parts` cuts off, by their text: `&…;` with no `;` inside; `<!--…-->` closed by the first
`--`; `<…>` with no `>` inside; a lone `>`; a run of bytes other than `<`, `>`, `&` -/
inductive Token : Bytes × Ty → Prop
  | entity (body : Bytes) : (∀ b ∈ body, b ≠ 59) → Token (38 :: body ++ [59], .entity)
  | comment (body : Bytes) : findPair 45 45 (body ++ [45]) = none →
      Token (60 :: 33 :: 45 :: 45 :: body ++ [45, 45, 62],
        if body.any (fun b => Gen.commentForbidden b.toNat) then .invalid else .comment)
  | tag (body : Bytes) : (∀ b ∈ body, b ≠ 62) → Token (60 :: body ++ [62], .tag)
  | gt : Token ([62], .invalid)
  | plain (p : Bytes) : p ≠ [] → (∀ b ∈ p, isSpecial b = false) → Token (p, .plain)

/-- a text and its tokens: cut-off tokens in sequence (a plain run extends to the next `<`, `>`, `&` or to the end),
possibly ended by an unterminated construct that takes the rest of the text -/
inductive Toks : Bytes → List (Bytes × Ty) → Prop
  | nil : Toks [] []
  | junk (x : Bytes) : Toks x [(x, .invalid)]
  | cons {tok : Bytes × Ty} {x : Bytes} {toks : List (Bytes × Ty)} : Token tok →
      (tok.2 = .plain → ∀ c, x.head? = some c → isSpecial c = true) → Toks x toks → Toks (tok.1 ++ x) (tok :: toks)

theorem take_drop_append_cons {α : Type} (a : List α) (c : α) (t : List α) :
    (a ++ c :: t).take (a.length + 1) = a ++ [c] ∧ (a ++ c :: t).drop (a.length + 1) = t := by
  rw [List.append_cons]
  exact ⟨List.take_left' (by simp), List.drop_left' (by simp)⟩

theorem split_toks_le : ∀ (n : Nat) (x : Bytes), x.length ≤ n → Toks x (split x)
  | _, [], _ => .nil
  | n + 1, c :: rest, hx => by
    simp only [List.length_cons, Nat.add_le_add_iff_right] at hx
    -- a token that ends where the scan found its last byte `d`
    have found : ∀ {d : UInt8} {body rest' : Bytes} {ty : Ty}, rest = body ++ d :: rest' → Token (c :: body ++ [d], ty) → ty ≠ .plain →
        Toks (c :: rest) ((c :: rest.take (body.length + 1), ty) :: split (rest.drop (body.length + 1))) := by
      intro d body rest' ty e htok hty
      obtain ⟨e1, e2⟩ := take_drop_append_cons body d rest'
      rw [e, e1, e2]
      have := Toks.cons htok (fun h => absurd h hty) (split_toks_le n rest' (by rw [e] at hx; simp at hx; omega))
      simpa using this
    rw [split_cons]
    by_cases h38 : c = 38
    · rw [if_pos h38]
      cases hk : findByte 59 rest with
      | none => exact .junk _
      | some k =>
        obtain ⟨body, rest', e, hb, rfl⟩ := findByte_eq_some hk
        exact found e (h38 ▸ .entity body hb) (by simp)
    rw [if_neg h38]
    by_cases h60 : c = 60
    · rw [if_pos h60]
      by_cases hcom : 4 < (c :: rest).length ∧ rest.take 3 = [33, 45, 45]
      · rw [if_pos hcom]
        cases hj : findPair 45 45 (rest.drop 3) with
        | none => exact .junk _
        | some j =>
          simp only
          by_cases h62 : (rest.drop 3)[j + 2]? = some 62
          case neg => rw [if_neg h62]; exact .junk _
          rw [if_pos h62]
          obtain ⟨body, t, e, rfl, hb⟩ := findPair_eq_some hj
          have hrest : rest = (33 :: 45 :: 45 :: body ++ [45, 45]) ++ 62 :: t.drop 1 := by
            rw [← List.take_append_drop 3 rest, hcom.2, e]
            rw [e] at h62
            cases t with
            | nil => simp at h62
            | cons z t => simp at h62; simp [h62]
          have := found (ty := if (body.any fun b => Gen.commentForbidden b.toNat) then Ty.invalid else Ty.comment) hrest
            (by simpa [h60] using Token.comment body hb) (by split <;> simp)
          have e3 : (rest.drop 3).take body.length = body := by rw [e]; exact List.take_left' rfl
          rw [e3]
          simpa [Nat.add_comm, Nat.add_left_comm] using this
      · rw [if_neg hcom]
        cases hk : findByte 62 rest with
        | none => exact .junk _
        | some k =>
          obtain ⟨body, rest', e, hb, rfl⟩ := findByte_eq_some hk
          exact found e (h60 ▸ .tag body hb) (by simp)
    rw [if_neg h60]
    by_cases h62 : c = 62
    · rw [if_pos h62, h62]
      exact .cons .gt (fun h => nomatch h) (split_toks_le n rest hx)
    rw [if_neg h62]
    have hc : isSpecial c = false := by
      rw [Bool.eq_false_iff, Ne, isSpecial_iff]; simp [h38, h60, h62]
    have hlen := (List.dropWhile_sublist (l := rest) (fun b => !isSpecial b)).length_le
    have := Toks.cons (.plain (c :: rest.takeWhile (fun b => !isSpecial b)) (by simp) (by
        intro b hb
        rcases List.mem_cons.mp hb with rfl | hb
        · exact hc
        · simpa using Scan.mem_takeWhile hb))
      (fun _ d hd => by
        have := List.head?_dropWhile_not (fun b => !isSpecial b) rest
        rw [hd] at this; simpa using this)
      (split_toks_le n _ (Nat.le_trans hlen hx))
    simpa using this

theorem split_toks (x : Bytes) : Toks x (split x) := split_toks_le x.length x (Nat.le_refl _)

theorem Toks.concat {x : Bytes} {toks : List (Bytes × Ty)} (h : Toks x toks) : toks.flatMap Prod.fst = x := by
  induction h with
  | nil => rfl
  | junk x => simp
  | cons _ _ _ ih => simp [ih]

theorem Toks.token_of_mem {x : Bytes} {toks : List (Bytes × Ty)} (h : Toks x toks) :
    ∀ tok ∈ toks, tok.2 = .invalid ∨ Token tok := by
  induction h with
  | nil => intro _ h; cases h
  | junk x => intro _ h; exact .inl (by rw [List.mem_singleton.mp h])
  | cons htok _ _ ih =>
    intro tok h
    rcases List.mem_cons.mp h with rfl | h
    · exact .inr htok
    · exact ih tok h

theorem Token.plain_bytes {tok : Bytes × Ty} (h : Token tok) (hp : tok.2 = .plain) : ∀ b ∈ tok.1, isSpecial b = false := by
  cases h with
  | plain p _ hb => exact hb
  | comment => split at hp <;> cases hp
  | _ => cases hp

theorem Token.last {tok : Bytes × Ty} (h : Token tok) (hp : tok.2 ≠ .plain) : ∃ a d, tok.1 = a ++ [d] ∧ (d = 59 ∨ d = 62) := by
  cases h with
  | entity body => exact ⟨38 :: body, 59, rfl, .inl rfl⟩
  | comment body => exact ⟨60 :: 33 :: 45 :: 45 :: body ++ [45, 45], 62, by simp, .inr rfl⟩
  | tag body => exact ⟨60 :: body, 62, rfl, .inr rfl⟩
  | gt => exact ⟨[], 62, rfl, .inr rfl⟩
  | plain => exact absurd rfl hp

/-- the tokenizer cuts `tok` off the front of any text that begins with it -/
def SelfDelimiting (tok : Bytes × Ty) : Prop := ∀ rest : Bytes, split (tok.1 ++ rest) = tok :: split rest

theorem sd_entity {body : Bytes} (h : ∀ b ∈ body, b ≠ 59) : SelfDelimiting (38 :: body ++ [59], .entity) := by
  intro rest
  obtain ⟨e1, e2⟩ := take_drop_append_cons body 59 rest
  show split (38 :: (body ++ [59] ++ rest)) = _
  rw [← List.append_cons, split_cons, if_pos rfl, findByte_append_cons rest h]
  simp only [e1, e2]
  rfl

/-- `hhead`: `<!…` is where the tokenizer looks for a comment opener first -/
theorem sd_tag {body : Bytes} (h : ∀ b ∈ body, b ≠ 62) (hhead : body.head? ≠ some 33) : SelfDelimiting (60 :: body ++ [62], .tag) := by
  intro rest
  obtain ⟨e1, e2⟩ := take_drop_append_cons body 62 rest
  show split (60 :: (body ++ [62] ++ rest)) = _
  rw [← List.append_cons, split_cons, if_neg (by decide), if_pos rfl, if_neg, findByte_append_cons rest h]
  · simp only [e1, e2]
    rfl
  · intro ⟨_, h3⟩
    cases body with
    | nil => cases h3
    | cons a body => exact hhead (by rw [(List.cons.inj h3).1]; rfl)

theorem sd_comment {body : Bytes} (h : findPair 45 45 (body ++ [45]) = none) :
    SelfDelimiting (60 :: 33 :: 45 :: 45 :: body ++ [45, 45, 62],
      if body.any (fun b => Gen.commentForbidden b.toNat) then .invalid else .comment) := by
  intro rest
  have hl : (33 :: 45 :: 45 :: body ++ [45, 45, 62]).length = 3 + body.length + 3 := by
    simp only [List.length_cons, List.length_append, List.length_nil]; omega
  have hb : (33 :: 45 :: 45 :: body ++ [45, 45, 62] ++ rest).drop 3 = body ++ 45 :: 45 :: 62 :: rest := by
    simp only [List.cons_append, List.drop_succ_cons, List.drop_zero, List.append_assoc, List.nil_append]
  have h62 : (body ++ 45 :: 45 :: 62 :: rest)[body.length + 2]? = some 62 := by
    rw [List.getElem?_append_right (Nat.le_add_right ..), Nat.add_sub_cancel_left]; rfl
  show split (60 :: (33 :: 45 :: 45 :: body ++ [45, 45, 62] ++ rest)) = _
  rw [split_cons, if_neg (by decide), if_pos rfl,
    if_pos ⟨by rw [List.length_cons, List.length_append, hl]; omega, rfl⟩, hb, findPair_append _ h]
  simp only [h62, if_true, List.take_left' rfl, List.take_left' hl, List.drop_left' hl]
  rfl
end Cppcms.C04
