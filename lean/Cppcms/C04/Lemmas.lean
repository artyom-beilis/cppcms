import Cppcms.C04.LemWhitelist
import Cppcms.C04.LemUtf8
import Cppcms.C04.LemUri
