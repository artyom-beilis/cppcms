import Cppcms.Common
import Cppcms.C04.Gen
/-!
C04 — executable model of `uri_parser` and `uri_validator_functor` (src/xss.cpp), the cppcms-own URI validator
behind `rules::uri_validator`, `relative_uri_validator`, `add_uri_property`.

Every parser function up to `scheme` is `Bytes → Bool × Bytes`: the return value and the new `begin_` (`end_` is the end of the
list).  `save_point` is transcribed literally: `begin_` is restored to the last committed position when the object
goes out of scope, *not* between the branches of an `if … else if`.  Quirks kept as they are in the source:
`dec_octet` never advances `begin_` (so `ipv4addr` never succeeds and dotted quads are parsed as reg-names);
`relative_part` does not ask for the leading `//` and `authority` cannot fail, so `path_absolute`/`path_noscheme` there
are dead code; in `authority` the `else if(host())` branch runs from where `userinfo()` stopped.
(`uri_validator_functor::full` as of /repo commit 772d843: a relative reference such as `http/x` is rejected before
the scheme regex; see known_findings.txt.)
The scheme white list is a regular expression (PCRE, external): a parameter `schemeOk`.
-/
namespace Cppcms.C04.Uri
open Cppcms

abbrev P := Bytes → Bool × Bytes

/-! character classes, reference strings and the `dec_octet` conditions are regenerated from the source (`Gen.lean`) -/
def isDigit (c : UInt8) : Bool := Gen.uriIsDigit c.toNat
def isAlpha (c : UInt8) : Bool := Gen.uriIsAlpha c.toNat
def isHex (c : UInt8) : Bool := Gen.uriIsHex c.toNat

/-- `follows(char)` -/
def followsC (c : UInt8) : P
  | x :: s => if x = c then (true, s) else (false, x :: s)
  | [] => (false, [])

/-- `follows(char const*)` -/
def followsS (p : Bytes) : P := fun s => if p.isPrefixOf s then (true, s.drop p.length) else (false, s)

def ampAmp : Bytes := (Gen.uriRefs.getD 0 []).map UInt8.ofNat
def ampApos : Bytes := (Gen.uriRefs.getD 1 []).map UInt8.ofNat

def subDelimChar (c : UInt8) : Bool := Gen.uriSubDelims.contains c.toNat

def subDelims : P := fun s =>
  match s with
  | [] => (false, [])
  | c :: rest =>
    if (followsS ampAmp s).1 then followsS ampAmp s
    else if (followsS ampApos s).1 then followsS ampApos s
    else if subDelimChar c then (true, rest) else (false, s)

def unreservedChar (c : UInt8) : Bool := Gen.uriUnreserved c.toNat

def unreserved : P
  | c :: s => if unreservedChar c then (true, s) else (false, c :: s)
  | [] => (false, [])

def pctEncoded : P
  | c :: a :: b :: s => if c.toNat = Gen.uriPct && isHex a && isHex b then (true, s) else (false, c :: a :: b :: s)
  | s => (false, s)

/-- `a() || b()` for parsers that do not move `begin_` when they fail -/
def orElse (a b : P) : P := fun s => if (a s).1 then a s else b s

def pchar : P := orElse unreserved (orElse pctEncoded (orElse subDelims (orElse (followsC 58) (followsC 64))))

/-- `while(p()) ;` — fuel = length + 1 (every successful step consumes) -/
def manyAux (p : P) : Nat → Bytes → Bytes
  | 0, s => s
  | n + 1, s => if (p s).1 && (p s).2.length < s.length then manyAux p n (p s).2 else s

def many (p : P) : P := fun s => (true, manyAux p (s.length + 1) s)

def queryChar : P := orElse pchar (orElse (followsC 47) (followsC 63))
def query : P := many queryChar
def fragment : P := query
def segment : P := many pchar

def segmentNz : P := fun s => if (pchar s).1 then segment (pchar s).2 else (false, s)

def nzncChar : P := orElse unreserved (orElse pctEncoded (orElse subDelims (followsC 64)))
/-- `segment_nz_nc`: counts the iterations -/
def segmentNzNc : P := fun s =>
  let r := manyAux nzncChar (s.length + 1) s
  (r.length ≠ s.length, r)

/-- `save_point sp; while(follows('/') && segment()) sp.commit();` -/
def slashSegment : P := fun s => if (followsC 47 s).1 then segment (followsC 47 s).2 else (false, s)
def slashSegments : P := many slashSegment

def pathRootless : P := fun s => if (segmentNz s).1 then slashSegments (segmentNz s).2 else (false, s)
def pathNoscheme : P := fun s => if (segmentNzNc s).1 then slashSegments (segmentNzNc s).2 else (false, (segmentNzNc s).2)
def pathAbsolute : P := fun s =>
  if (followsC 47 s).1 then
    let s1 := (followsC 47 s).2
    if (segmentNz s1).1 then slashSegments (segmentNz s1).2 else (true, s1)
  else (false, s)
def pathAbempty : P := slashSegments

def regNameChar : P := orElse unreserved (orElse pctEncoded subDelims)
def regName : P := many regNameChar

/-- `dec_octet`: the loop never advances `begin_`, it reads the same digit up to three times -/
def decOctet : P := fun s =>
  match s with
  | c :: _ =>
    if isDigit c then
      -- `while(begin_!=end_ && is_digit((c=*begin_)) && count<3) { count++; value = value*10 + c-'0'; }`
      let count := Gen.uriDecOctetMax
      let value := (List.range count).foldl (fun v _ => Gen.uriDecOctetStep v c.toNat) 0
      if Gen.uriDecOctetReject value count then (false, s) else (true, s)
    else (false, s)
  | [] => (false, [])

def andThen (a b : P) : P := fun s => if (a s).1 then b (a s).2 else (false, (a s).2)

/-- `ipv4addr`: restores `begin_` unless all seven steps succeed -/
def ipv4addr : P := fun s =>
  let r := andThen decOctet (andThen (followsC 46) (andThen decOctet (andThen (followsC 46)
    (andThen decOctet (andThen (followsC 46) decOctet))))) s
  if r.1 then r else (false, s)

def digits : P := many fun s =>
  match s with
  | c :: rest => if isDigit c then (true, rest) else (false, s)
  | [] => (false, [])
def port : P := digits

def host : P := orElse ipv4addr regName

def userinfoChar : P := orElse unreserved (orElse pctEncoded (orElse subDelims (followsC 58)))
def userinfo : P := many userinfoChar

/-- `authority`: never fails (`host()` cannot); note where the `else if(host())` branch starts -/
def authority : P := fun s =>
  let u := (userinfo s).2
  let s1 := if (followsC 64 u).1 then (host (followsC 64 u).2).2 else (host u).2
  if (followsC 58 s1).1 then (true, (port (followsC 58 s1).2).2) else (true, s1)

/-- `relative_part`: `authority() && path_abempty()` always succeeds -/
def relativePart : P := fun s => pathAbempty (authority s).2

/-- `[ "?" query ]` / `[ "#" fragment ]` -/
def optional (c : UInt8) (p : P) : P := fun s => if (followsC c s).1 then (true, (p (followsC c s).2).2) else (true, s)

def relativeRef : P := fun s => optional 35 fragment (optional 63 query (relativePart s).2).2

def hierPart : P := fun s =>
  if (followsS [47, 47] s).1 then pathAbempty (authority (followsS [47, 47] s).2).2
  else if (pathAbsolute s).1 then pathAbsolute s
  else if (pathRootless s).1 then pathRootless s
  else (true, s)

def schemeChar (c : UInt8) : Bool := Gen.uriSchemeChar c.toNat

/-- `scheme()`: the scheme text and what follows -/
def scheme (s : Bytes) : Option (Bytes × Bytes) :=
  match s with
  | c :: rest => if isAlpha c then some (c :: rest.takeWhile schemeChar, rest.dropWhile schemeChar) else none
  | [] => none

/-- `uri()`: on success the scheme and the new `begin_` -/
def uri (s : Bytes) : Option (Bytes × Bytes) :=
  match scheme s with
  | none => none
  | some (sch, s1) =>
    if (followsC 58 s1).1 then
      some (sch, (optional 35 fragment (optional 63 query (hierPart (followsC 58 s1).2).2).2).2)
    else none

/-- `parse()` / `parse_full()`: `none` = false; `some none` = relative reference; `some (some scheme)` -/
def parse (s : Bytes) : Option (Option Bytes) :=
  match uri s with
  | some (sch, rest) => if rest.isEmpty then some (some sch) else none
  | none => if (relativeRef s).2.isEmpty then some none else none

/-- `uri_validator_functor::uri_type` -/
inductive Kind
  | both | relative | full
  deriving DecidableEq, Repr

/-- `uri_validator_functor::operator()` with the scheme regular expression as a predicate -/
def validator (k : Kind) (schemeOk : Bytes → Bool) (v : Bytes) : Bool :=
  match k, parse v with
  | _, none => false
  | .both, some none => true
  | .both, some (some sch) => schemeOk sch
  | .relative, some none => true
  | .relative, some (some _) => false
  | .full, some none => false        -- `if(!parser.has_scheme()) return false;` (commit 772d843)
  | .full, some (some sch) => schemeOk sch

end Cppcms.C04.Uri
