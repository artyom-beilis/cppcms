import Cppcms.C04.LemSecondRun
import Cppcms.C04.LemSplit
import Cppcms.C04.LemParse
/-! C04: token-level stability — kept tokens are found again when the output is re-tokenized, plain runs merge
harmlessly, escaped text re-tokenizes into plain bytes and the four always-allowed entities — and, with the second
nesting run, the theorem `filter_validates_all`.  At the end: `render_eq_filter`, `analyse_concat`, and the two
hypotheses for every rule set `mkRules` builds. -/
namespace Cppcms.C04
open Cppcms

variable {r : Rules} {xhtml : Bool}

theorem Token.sd {tok : Bytes × Ty} (h : Token tok) (hv : (parsePart tok).ty ≠ .invalid) (hp : tok.2 ≠ .plain) : SelfDelimiting tok := by
  cases h with
  | entity body hb => exact sd_entity hb
  | comment body hb => exact sd_comment hb
  | tag body hb =>
    refine sd_tag hb fun hhead => ?_
    rcases parseTag_cases body with hc | ⟨closing, a, nm, abody, sc, ps, hs, _⟩
    · exact hv hc
    · -- the inner text starts with `/` or a letter
      have : (body ++ [62]).head? = some 33 := by rw [List.head?_append, hhead]; rfl
      rw [hs.text] at this
      cases closing
      · obtain rfl : a = 33 := by simpa using this
        exact nomatch hs.alpha
      · cases this
  | gt => exact absurd rfl hv
  | plain => exact absurd rfl hp

def nonPlain (t : Bytes × Ty) : Bool := t.2 != .plain

/-- tokens other than plain runs (plain runs merge when text is removed between them) -/
def nonPlainToks (z : Bytes) : List (Bytes × Ty) := (split z).filter nonPlain

theorem nonPlainToks_skip : ∀ z : Bytes, nonPlainToks z = nonPlainToks (z.dropWhile fun b => !isSpecial b)
  | [] => rfl
  | c :: rest => by
    cases hs : isSpecial c with
    | true => rw [List.dropWhile_cons_of_neg (by simp [hs])]
    | false =>
      have hc := special_facts c hs
      rw [List.dropWhile_cons_of_pos (by simp [hs])]
      unfold nonPlainToks
      rw [split_cons, if_neg hc.ne_amp, if_neg hc.ne_lt, if_neg hc.ne_gt, List.filter_cons_of_neg (by simp [nonPlain])]

theorem nonPlainToks_plain_append (p rest : Bytes) (hp : ∀ c ∈ p, isSpecial c = false) : nonPlainToks (p ++ rest) = nonPlainToks rest := by
  rw [nonPlainToks_skip (p ++ rest), nonPlainToks_skip rest, List.dropWhile_append_of_pos fun c hc => by simp [hp c hc]]

theorem nonPlainToks_selfDelimiting {tok : Bytes × Ty} (rest : Bytes) (h : SelfDelimiting tok) (hn : tok.2 ≠ .plain) : nonPlainToks (tok.1 ++ rest) = tok :: nonPlainToks rest := by
  unfold nonPlainToks
  rw [h rest, List.filter_cons_of_pos (by simpa [nonPlain] using hn)]

theorem escapeByte_facts (r : Rules) (hr : RulesOk r) (c : UInt8) :
    (escapeByte c = [c] ∧ isSpecial c = false) ∨
    (∃ tok : Bytes × Ty, escapeByte c = tok.1 ∧ SelfDelimiting tok ∧ tok.2 ≠ .plain ∧
      Fine r (parsePart tok) ∧ isTagEv (parsePart tok) = false) := by
  have ref : ∀ name : Bytes, (∀ b ∈ name, b ≠ 59) → parseEntity (38 :: name ++ [59]) = (.entity, name) →
      r.entity name = true → ∃ tok : Bytes × Ty, 38 :: name ++ [59] = tok.1 ∧ SelfDelimiting tok ∧ tok.2 ≠ .plain ∧
        Fine r (parsePart tok) ∧ isTagEv (parsePart tok) = false := fun name h59 hp he =>
    ⟨(38 :: name ++ [59], .entity), rfl, sd_entity h59, by simp,
      fine_of_ok (by simp only [parsePart, hp]; exact he), by simp only [parsePart, hp]; rfl⟩
  rcases escapeByte_cases c with h | ⟨p, hp, _, h⟩
  · exact .inl h
  · rw [h]
    simp only [Gen.escapeTable, List.mem_cons, List.not_mem_nil, or_false] at hp
    rcases hp with rfl | rfl | rfl | rfl
    · exact .inr (ref [108, 116] (by decide) (by decide) hr.lt)
    · exact .inr (ref [103, 116] (by decide) (by decide) hr.gt)
    · exact .inr (ref [97, 109, 112] (by decide) (by decide) hr.amp)
    · exact .inr (ref [113, 117, 111, 116] (by decide) (by decide) hr.quot)

theorem nonPlainToks_escaped (r : Rules) (hr : RulesOk r) (rest : Bytes) : ∀ text : Bytes, ∃ toks : List (Bytes × Ty),
    nonPlainToks (text.flatMap escapeByte ++ rest) = toks ++ nonPlainToks rest ∧
    ∀ t ∈ toks, Fine r (parsePart t) ∧ isTagEv (parsePart t) = false
  | [] => ⟨[], rfl, fun _ h => nomatch h⟩
  | c :: text => by
    obtain ⟨toks, h1, h2⟩ := nonPlainToks_escaped r hr rest text
    rw [List.flatMap_cons, List.append_assoc]
    rcases escapeByte_facts r hr c with ⟨he, hs⟩ | ⟨tok, he, hsd, hnp, hfine⟩
    · exact ⟨toks, by rw [he, nonPlainToks_plain_append [c] _ (by simp [hs]), h1], h2⟩
    · refine ⟨tok :: toks, by rw [he, nonPlainToks_selfDelimiting _ hsd hnp, h1]; rfl, fun t ht => ?_⟩
      rcases List.mem_cons.mp ht with rfl | ht
      · exact hfine
      · exact h2 t ht

/-- an entry as parsed and its output: same text; if kept (`p.2 = false`) it is `Fine`, and unchanged unless it is an open
or close tag (whose `pair`, or in HTML type, changed) -/
def Aligned (r : Rules) (e : Entry) (p : FEntry) : Prop :=
  p.1.text = e.text ∧
  (p.2 = false → (p.1.ty ≠ .invalid ∧ entryOk r p.1 = true) ∧ (isTagEv e = false → p.1 = e))

def AlignedL (r : Rules) : List Entry → List FEntry → Prop
  | [], [] => True
  | e :: es, p :: ps => Aligned r e p ∧ AlignedL r es ps
  | _, _ => False

theorem AlignedL.append {r : Rules} : ∀ {a : List Entry} {b : List FEntry} {c : List Entry} {d : List FEntry},
    AlignedL r a b → AlignedL r c d → AlignedL r (a ++ c) (b ++ d) := by
  intro a
  induction a with
  | nil => intro b c d h1 h2; cases b <;> simp_all [AlignedL]
  | cons e a ih =>
    intro b c d h1 h2
    cases b with
    | nil => simp [AlignedL] at h1
    | cons p b => exact ⟨h1.1, ih h1.2 h2⟩

theorem aligned_leaf {e : Entry} {x : FEntry} (h : LeafOut r xhtml e x) : Aligned r e x := by
  cases h with
  | neutral h1 h2 => exact ⟨rfl, fun hm => ⟨fine_of_ok (by simpa [leafF] using hm), fun _ => rfl⟩⟩
  | rejected h1 => exact ⟨rfl, fun hm => by simp [leafF, entryOk] at hm⟩
  | noSlash hx ho =>
    exact ⟨rfl, fun hm => ⟨fine_of_ok (by simpa [leafF] using hm), fun ht => by simp [isTagEv, ho] at ht⟩⟩

theorem good_aligned {b : Nat} {ins : List Entry} {outs : List FEntry}
    (h : Good r xhtml b ins outs) : AlignedL r ins outs := by
  induction h with
  | nil => trivial
  | leaf b ins outs e x g hp hl ih => exact ih.append ⟨aligned_leaf hl, trivial⟩
  | pair b i1 o1 i2 o2 eo ec g1 g2 ho hc hpo hpc hs ih1 ih2 =>
    have ao : Aligned r eo (pairF r eo ec (b + o1.length) (b + o1.length + 1 + o2.length)).1 := by
      refine ⟨rfl, fun hm => ⟨fine_of_ok ?_, fun ht => by simp [isTagEv, ho] at ht⟩⟩
      simp only [pairF, Bool.not_eq_false', Bool.and_eq_true] at hm
      exact hm.1
    have ac : Aligned r ec (pairF r eo ec (b + o1.length) (b + o1.length + 1 + o2.length)).2 := by
      refine ⟨rfl, fun hm => ⟨fine_of_ok ?_, fun ht => by simp [isTagEv, hc] at ht⟩⟩
      simp only [pairF, Bool.not_eq_false', Bool.and_eq_true] at hm
      exact hm.2
    have := (ih1.append (show AlignedL r [eo] [_] from ⟨ao, trivial⟩)).append (ih2.append (show AlignedL r [ec] [_] from ⟨ac, trivial⟩))
    simpa using this

theorem parsePart_text (tok : Bytes × Ty) : (parsePart tok).text = tok.1 := by
  unfold parsePart; split <;> rfl

theorem parsePart_plain_ty (t : Bytes) : (parsePart (t, .plain)).ty = .plain := rfl
theorem parsePart_invalid_ty (t : Bytes) : (parsePart (t, .invalid)).ty = .invalid := rfl

/-- re-tokenizing `out` in front of any text yields, besides plain runs, entries whose open/close tags are `kept` and
whose other members are fine on their own, and then what the text yields -/
def Reparsed (r : Rules) (out : Bytes) (kept : List Entry) : Prop :=
  ∀ rest : Bytes, ∃ ents : List Entry,
    (nonPlainToks (out ++ rest)).map parsePart = ents ++ (nonPlainToks rest).map parsePart ∧
    ents.filter isTagEv = kept ∧ (∀ a ∈ ents, isTagEv a = false → Fine r a)

theorem Reparsed.append {o1 o2 : Bytes} {k1 k2 : List Entry} (h1 : Reparsed r o1 k1) (h2 : Reparsed r o2 k2) :
    Reparsed r (o1 ++ o2) (k1 ++ k2) := by
  intro rest
  obtain ⟨e2, h21, h22, h23⟩ := h2 rest
  obtain ⟨e1, h11, h12, h13⟩ := h1 (o2 ++ rest)
  refine ⟨e1 ++ e2, by rw [List.append_assoc, h11, h21, List.append_assoc], by rw [List.filter_append, h12, h22], ?_⟩
  exact fun a ha => (List.mem_append.mp ha).elim (h13 a) (h23 a)

theorem reparse_entry (hr : RulesOk r) (m : Method) {x : Bytes} {e : Entry} {p : FEntry}
    (htok : e ∈ parseAll x) (hal : Aligned r e p) : Reparsed r (renderEntry m (finalEntry p)) (keptTags [e] [p]) := by
  intro rest
  obtain ⟨tok, hmem, rfl⟩ := List.mem_map.mp htok
  obtain ⟨htext, hkept⟩ := hal
  rw [parsePart_text] at htext
  rw [keptTags_single]
  cases hm : p.2 with
  | true =>
    have hfin : finalEntry p = { p.1 with ty := .invalid } := by simp [finalEntry, hm]
    rw [hfin, Bool.not_true, Bool.and_false, if_neg Bool.false_ne_true]
    cases m with
    | remove => exact ⟨[], rfl, rfl, fun _ h => nomatch h⟩
    | escape =>
      obtain ⟨toks, h1, h2⟩ := nonPlainToks_escaped r hr rest p.1.text
      refine ⟨toks.map parsePart, by simp [renderEntry, isInvalid, h1], ?_, ?_⟩
      · rw [List.filter_eq_nil_iff]
        intro a ha
        obtain ⟨t, ht, rfl⟩ := List.mem_map.mp ha
        simp [(h2 t ht).2]
      · intro a ha _
        obtain ⟨t, ht, rfl⟩ := List.mem_map.mp ha
        exact (h2 t ht).1
  | false =>
    -- kept: the token is found again, or merges into a plain run
    obtain ⟨⟨hty, hok⟩, hsame⟩ := hkept hm
    have hvalid : (parsePart tok).ty ≠ .invalid := by
      cases hte : isTagEv (parsePart tok) with
      | true => intro hc; simp [isTagEv, hc] at hte
      | false => rw [← hsame hte]; exact hty
    have hren : renderEntry m (finalEntry p) = tok.1 := by
      simp [renderEntry, finalEntry, hm, isInvalid, hty, htext]
    have htoken : Token tok := by
      rcases (split_toks x).token_of_mem tok hmem with h | h
      · exact absurd (show (parsePart tok).ty = .invalid by obtain ⟨t, ty⟩ := tok; subst h; rfl) hvalid
      · exact h
    rw [hren, Bool.not_false, Bool.and_true]
    by_cases hp : tok.2 = .plain
    · refine ⟨[], by rw [nonPlainToks_plain_append _ _ (htoken.plain_bytes hp)]; rfl, ?_, fun _ h => nomatch h⟩
      obtain ⟨t, ty⟩ := tok
      subst hp
      rfl
    · refine ⟨[parsePart tok], by rw [nonPlainToks_selfDelimiting _ (htoken.sd hvalid hp) hp]; rfl, ?_, fun a ha hna => ?_⟩
      · cases hte : isTagEv (parsePart tok) <;> simp [hte]
      · obtain rfl := List.mem_singleton.mp ha
        rw [← hsame hna]
        exact ⟨hty, hok⟩

theorem reparse_render (hr : RulesOk r) (m : Method) {x : Bytes} : ∀ {ins : List Entry} {outs : List FEntry},
    AlignedL r ins outs → (∀ e ∈ ins, e ∈ parseAll x) → Reparsed r (render m (outs.map finalEntry)) (keptTags ins outs)
  | [], [], _, _ => fun _ => ⟨[], rfl, rfl, fun _ h => nomatch h⟩
  | [], _ :: _, h, _ => h.elim
  | _ :: _, [], h, _ => h.elim
  | e :: ins, p :: outs, hal, htok => by
    have := (reparse_entry hr m (htok e (List.mem_cons_self ..)) hal.1).append
      (reparse_render hr m hal.2 fun a ha => htok a (List.mem_cons_of_mem _ ha))
    rwa [← keptTags_append [e] [p] ins outs rfl] at this

theorem parseAll_nonPlain (r : Rules) (y : Bytes) :
    (parseAll y).filter isTagEv = ((nonPlainToks y).map parsePart).filter isTagEv ∧
    ∀ e ∈ parseAll y, e ∈ (nonPlainToks y).map parsePart ∨ (isTagEv e = false ∧ Fine r e) := by
  have hplain : ∀ tok : Bytes × Ty, nonPlain tok = false →
      isTagEv (parsePart tok) = false ∧ Fine r (parsePart tok) := by
    intro ⟨t, ty⟩ h
    obtain rfl : ty = .plain := by simpa [nonPlain] using h
    exact ⟨rfl, fine_of_ok rfl⟩
  constructor
  · unfold parseAll nonPlainToks
    rw [List.filter_map, List.filter_map, List.filter_filter]
    congr 1
    apply List.filter_congr
    intro tok _
    cases h : nonPlain tok with
    | true => simp
    | false => simp [(hplain tok h).1]
  · intro e he
    obtain ⟨tok, ht, rfl⟩ := List.mem_map.mp he
    cases h : nonPlain tok with
    | true => exact .inl (List.mem_map_of_mem (List.mem_filter.mpr ⟨ht, h⟩))
    | false => exact .inr (hplain tok h)

/-- `Props.filter_validates`.  The output, re-tokenized with nothing behind it (`reparse_render`), parses to entries whose
open/close tags are the kept tags of the first run (`h2`), the others fine (`h3`); such a list is nested (`kept_of_good`),
so the second nesting run leaves only fine entries (`Kept.run`). -/
theorem filter_validates_all (r : Rules) (hr : RulesOk r) (hc : r.xhtml = false → HtmlCaseOk r) (m : Method) (x : Bytes) :
    validate r (filter r m x) = true := by
  by_cases hv : validate r x = true
  · rw [valid_is_fixed_point r m x hv]; exact hv
  rw [filter_of_invalid r m x hv, analyse_eq_runF]
  have hgood := runF_good r r.xhtml (parseAll x) (parseAll_pair x)
  obtain ⟨ents, h1, h2, h3⟩ := reparse_render hr m (x := x) (good_aligned hgood) (fun _ h => h) []
  generalize render m ((runF r r.xhtml (parseAll x)).map finalEntry) = y at h1 ⊢
  rw [List.append_nil, show nonPlainToks [] = [] from rfl, List.map_nil, List.append_nil] at h1
  obtain ⟨hf, hmem⟩ := parseAll_nonPlain r y
  rw [h1] at hf hmem
  have hfine : ∀ e ∈ parseAll y, isTagEv e = false → Fine r e := fun e he hte =>
    (hmem e he).elim (fun hin => h3 e hin hte) (·.2)
  obtain ⟨ex, cur', hrun, hext, hx⟩ := (kept_of_good hgood (parseAll y) (hf.trans h2)).run hc hfine [] [] (fun _ hp => nomatch hp)
  rw [validate_iff_runF]
  constructor
  · intro e he
    cases hte : isTagEv e with
    | true => intro hc'; simp [isTagEv, hc'] at hte
    | false => exact (hfine e he hte).1
  · have : runF r r.xhtml (parseAll y) = finishF r r.xhtml ex cur' := by
      rw [runF, hrun, List.append_nil]
    rw [this]
    exact finish_fine r r.xhtml ex cur' hext hx

theorem alignedL_texts : ∀ {ins : List Entry} {outs : List FEntry}, AlignedL r ins outs →
    (outs.map finalEntry).map (·.text) = ins.map (·.text)
  | [], [], _ => rfl
  | [], _ :: _, h => h.elim
  | _ :: _, [], h => h.elim
  | e :: ins, p :: outs, h => by
    have : (finalEntry p).text = p.1.text := by unfold finalEntry; split <;> rfl
    simp only [List.map_cons, alignedL_texts h.2, this, h.1.1]

theorem analyse_texts (r : Rules) (y : Bytes) : (analyse r y).1.map (·.text) = (split y).map Prod.fst := by
  rw [analyse_eq_runF, alignedL_texts (good_aligned (runF_good r r.xhtml _ (parseAll_pair y))), parseAll, List.map_map]
  exact List.map_congr_left fun tok _ => parsePart_text tok

theorem analyse_concat (r : Rules) (y : Bytes) : (analyse r y).1.flatMap (·.text) = y := by
  rw [List.flatMap_def, analyse_texts, ← List.flatMap_def]
  exact (split_toks y).concat

theorem render_of_valid (r : Rules) (m : Method) (y : Bytes) (hv : validate r y = true) :
    render m (analyse r y).1 = y := by
  have hok := ((validate_iff_runF r y).mp hv).2
  -- every entry passes the rules, so the rules loop changes nothing
  have hall : (List.range ((runF r r.xhtml (parseAll y)).map Prod.fst).length).all
      (okAt r ((runF r r.xhtml (parseAll y)).map Prod.fst)) = true := by
    rw [all_range_okAt]
    simpa using fun p hp => (hok p hp).2
  have : render m (analyse r y).1 = (analyse r y).1.flatMap (·.text) := by
    unfold analyse
    simp only [ruleFold_of_ok r _ _ hall, validateNesting_eq_runF r, render, List.flatMap_def]
    congr 1
    refine List.map_congr_left fun e he => ?_
    obtain ⟨p, hp, rfl⟩ := List.mem_map.mp he
    simp [renderEntry, isInvalid, (hok p hp).1]
  rw [this, analyse_concat]

theorem render_eq_filter (r : Rules) (m : Method) (y : Bytes) : render m (analyse r y).1 = filter r m y := by
  by_cases hv : validate r y = true
  · rw [render_of_valid r m y hv, valid_is_fixed_point r m y hv]
  · rw [filter_of_invalid r m y hv]

theorem mkRules_rulesOk (d : RuleDesc) (oracle : Nat → Bytes → Bool) : RulesOk (mkRules d oracle) := by
  -- the default entities are listed first
  have h : ∀ n ∈ Gen.defaultEntities, (mkRules d oracle).entity (bytesOf n) = true := fun n hn => by
    show (Gen.defaultEntities.map bytesOf ++ d.entities).contains (bytesOf n) = true
    rw [List.contains_eq_mem, decide_eq_true_eq]
    exact List.mem_append_left _ (List.mem_map_of_mem hn)
  exact ⟨h [108, 116] (by decide), h [103, 116] (by decide), h [97, 109, 112] (by decide), h [113, 117, 111, 116] (by decide)⟩

theorem mkRules_htmlCaseOk (d : RuleDesc) (oracle : Nat → Bytes → Bool) (hx : d.xhtml = false) :
    HtmlCaseOk (mkRules d oracle) := by
  intro a b hab
  -- nesting compares names with `ascii_tolower` (xss.cpp), the tag map with `c_string::tolower` (c_string.h): the two
  -- regenerated functions are the same expression, and that is all that ties `streq` to `keyEq`
  have hl : toLower = cstrLower := rfl
  have heq : a.map cstrLower = b.map cstrLower := by
    simp only [streq, Bool.false_eq_true, if_false, hl] at hab
    simpa using hab
  show (match d.tags.reverse.find? (fun p => keyEq d.xhtml p.1 a) with | some p => p.2 | none => TagKind.invalidTag) =
    (match d.tags.reverse.find? (fun p => keyEq d.xhtml p.1 b) with | some p => p.2 | none => TagKind.invalidTag)
  have : (fun p : Bytes × TagKind => keyEq d.xhtml p.1 a) = (fun p => keyEq d.xhtml p.1 b) := by
    funext p
    simp only [keyEq, hx, Bool.false_eq_true, if_false, heq]
  rw [this]

/-- see `Props.filter_validates_xhtml` -/
theorem filter_validates_xhtml (r : Rules) (hr : RulesOk r) (hx : r.xhtml = true) (m : Method) (x : Bytes) :
    validate r (filter r m x) = true :=
  filter_validates_all r hr (fun h => by rw [hx] at h; cases h) m x
end Cppcms.C04
