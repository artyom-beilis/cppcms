import Cppcms.Common
import Cppcms.C04.Gen
import Cppcms.C04.Rules
/-!
C04 — executable model of `cppcms::xss` (src/xss.cpp): `split_to_parts`, `parse_html_entity`,
`parse_html_tag`, `parse_properties`, `validate_property_value`, `validate_nesting`,
`validate_entry_by_rules`, `validate`, `validate_and_filter_if_invalid`, `filter`.

Pointers into the input become byte lists: an `Entry` carries its own text (`[begin,end)`), the
tag/entity name (`tag.tag_begin..tag_end`) and the attributes.  Early `return false`s of
`validate` become conjunctions (the functions are pure and total, so the order of the tests is
not observable).  Byte classes, constants and tables come from `Gen.lean` (regenerated from the
source on every run); the control flow below is hand-written and tied by the correspondence run.

Scanners recurse on a fuel argument (always `length + 1` of what is left; every call is on a proper suffix.
For the tokenizer `splitAux_fuel` in `LemSplit.lean` proves that any larger fuel gives the same), so that everything
reduces by `decide`.
-/
namespace Cppcms.C04
open Cppcms

/-! ### byte classes and constants (from Gen) -/

def bytesOf (l : List Nat) : Bytes := l.map UInt8.ofNat

def isAlpha (c : UInt8) : Bool := Gen.isAlpha c.toNat
def isDigit (c : UInt8) : Bool := Gen.isDigit c.toNat
def isAlnum (c : UInt8) : Bool := Gen.isAlnum c.toNat
def isXdigit (c : UInt8) : Bool := Gen.isXdigit c.toNat
def isSpace (c : UInt8) : Bool := Gen.isSpace c.toNat
def isSpecial (c : UInt8) : Bool := Gen.isSpecial c.toNat
/-- `ascii_tolower` (nesting comparison in HTML mode) -/
def toLower (c : UInt8) : UInt8 := UInt8.ofNat (Gen.toLower c.toNat)
/-- `c_string::tolower` (icompare: map / set lookups in HTML mode) -/
def cstrLower (c : UInt8) : UInt8 := UInt8.ofNat (Gen.cstrToLower c.toNat)

def cAmp : UInt8 := UInt8.ofNat Gen.tokAmp
def cSemi : UInt8 := UInt8.ofNat Gen.tokEntityEnd
def cLt : UInt8 := UInt8.ofNat Gen.tokLt
def cGt : UInt8 := UInt8.ofNat Gen.tokGt
def cTagEnd : UInt8 := UInt8.ofNat Gen.tokTagEnd
def cSlash : UInt8 := UInt8.ofNat Gen.tagSlash
def cSelfClose : UInt8 := UInt8.ofNat Gen.tagSelfClose
def cEq : UInt8 := UInt8.ofNat Gen.propEq
def cHash : UInt8 := 35
def commentOpen : Bytes := bytesOf Gen.commentOpen
def ccA : UInt8 := UInt8.ofNat (Gen.commentClose.getD 0 0)
def ccB : UInt8 := UInt8.ofNat (Gen.commentClose.getD 1 0)
def ccC : UInt8 := UInt8.ofNat (Gen.commentClose.getD 2 0)

/-! ### entries -/

/-- `html_data_type` -/
inductive Ty
  | invalid | plain | entity | tag | openTag | closeTag | openClose | comment | numeric | openCloseNoSlash
  deriving DecidableEq, Repr, Inhabited

/-- `property_data`: `value = none` is `value_begin == 0` -/
structure Attr where
  name : Bytes
  value : Option Bytes
  deriving DecidableEq, Repr

/-- `entry` (+ `tag_data`) -/
structure Entry where
  text : Bytes
  ty : Ty
  name : Bytes := []
  pair : Option Nat := none
  props : List Attr := []
  deriving DecidableEq, Repr

/-! ### split_to_parts -/

/-- offset of the first `c` -/
def findByte (c : UInt8) : Bytes → Option Nat
  | [] => none
  | x :: xs => if x = c then some 0 else (findByte c xs).map (· + 1)

/-- `while(e<end-1){ if(e[0]==a && e[1]==b) break; e++; }`: offset of the first adjacent pair,
`none` when the loop runs to `end-1` -/
def findPair (a b : UInt8) : Bytes → Option Nat
  | x :: y :: rest => if x = a ∧ y = b then some 0 else (findPair a b (y :: rest)).map (· + 1)
  | _ => none

def splitAux : Nat → Bytes → List (Bytes × Ty)
  | 0, _ => []
  | _ + 1, [] => []
  | n + 1, c :: rest =>
    if c = cAmp then
      match findByte cSemi rest with
      | none => [(c :: rest, .invalid)]
      | some k => (c :: rest.take (k + 1), .entity) :: splitAux n (rest.drop (k + 1))
    else if c = cLt then
      -- p+4 < end && p[1]=='!' && p[2]=='-' && p[3]=='-'
      if Gen.commentLookahead < (c :: rest).length ∧ rest.take commentOpen.length = commentOpen then
        let off := Gen.commentBodyStart - 1
        let body := rest.drop off
        match findPair ccA ccB body with
        | none => [(c :: rest, .invalid)]
        | some j =>
          -- e+2 < end && e[2]=='>'
          if body[j + 2]? = some ccC then
            let ty := if (body.take j).any (fun b => Gen.commentForbidden b.toNat) then Ty.invalid else Ty.comment
            (c :: rest.take (off + j + 3), ty) :: splitAux n (rest.drop (off + j + 3))
          else [(c :: rest, .invalid)]
      else
        match findByte cTagEnd rest with
        | none => [(c :: rest, .invalid)]
        | some k => (c :: rest.take (k + 1), .tag) :: splitAux n (rest.drop (k + 1))
    else if c = cGt then
      ([c], .invalid) :: splitAux n rest
    else
      (c :: rest.takeWhile (fun b => !isSpecial b), .plain) :: splitAux n (rest.dropWhile (fun b => !isSpecial b))

def split (x : Bytes) : List (Bytes × Ty) := splitAux (x.length + 1) x

/-! ### parse_html_entity -/

def digitVal (c : UInt8) : Nat :=
  if isDigit c then c.toNat - 48 else if 97 ≤ c.toNat then c.toNat - 87 else c.toNat - 55

/-- the mathematical value of a run of digits of that base -/
def digitsValue (base : Nat) (ds : Bytes) : Nat := ds.foldl (fun acc d => acc * base + digitVal d) 0

/-- `LONG_MAX` of the LP64 targets cppcms is built for -/
def longMax : Nat := 2 ^ 63 - 1

/-- `long code_point = strtol(begin,&endptr,base)` on a run of digits of that base: the value, saturated at
`LONG_MAX` (ERANGE); `endptr` ends up at the `;` either way.  The result is kept in a `long` (no narrowing) before
the range tests. -/
def strtolNat (base : Nat) (ds : Bytes) : Nat := min (digitsValue base ds) longMax

/-- returns the new type and the name -/
def parseEntity (text : Bytes) : Ty × Bytes :=
  let inner := (text.drop 1).dropLast
  match inner with
  | [] => (.invalid, [])
  | c :: ds =>
    if c = cHash then
      match ds with
      | [] => (.invalid, [])
      | d :: hs =>
        if (bytesOf Gen.numericHexMarks).contains d then
          if hs.isEmpty then (.invalid, [])
          else if !hs.all isXdigit then (.invalid, [])
          else if Gen.numericRejected (strtolNat 16 hs) then (.invalid, [])
          else (.numeric, [])
        else if !ds.all isDigit then (.invalid, [])
        else if Gen.numericRejected (strtolNat 10 ds) then (.invalid, [])
        else (.numeric, [])
    else if inner.all isAlnum then (.entity, inner) else (.invalid, [])

/-! ### validate_property_value, parse_properties, parse_html_tag -/

/-- `ends_with` chain: the first listed string that is a prefix; returns what follows it -/
def stripFirst (ps : List Bytes) (s : Bytes) : Option Bytes :=
  ps.findSome? fun p => if p.isPrefixOf s then some (s.drop p.length) else none

def propValueEntities : List Bytes := Gen.propValueEntities.map bytesOf

def validatePropertyValueAux : Nat → Bytes → Bool
  | 0, _ => false
  | _ + 1, [] => true
  | n + 1, c :: rest =>
    if Gen.propValueForbidden.contains c.toNat then false
    else if c.toNat = Gen.propValueAmp then
      match stripFirst propValueEntities rest with
      | some rest' => validatePropertyValueAux n rest'
      | none => false
    else validatePropertyValueAux n rest

def validatePropertyValue (v : Bytes) : Bool := validatePropertyValueAux (v.length + 1) v

/-- `parse_properties` over `[begin,end)`; `*end` is `>` or `/` (neither space, alnum, `=` nor a
quote), so running off the list behaves like reading that sentinel.  `none` = `invalid_data`. -/
def parsePropsAux : Nat → Bool → Bytes → List Attr → Option (List Attr)
  | 0, _, _, _ => none
  | _ + 1, _, [], acc => some acc
  | n + 1, spaceFound, c :: rest, acc =>
    if isSpace c then parsePropsAux n true rest acc
    else if !spaceFound then none
    else if !isAlpha c then none
    else
      let name := (c :: rest).takeWhile isAlnum
      match (c :: rest).dropWhile isAlnum with
      | [] => none
      | d :: s2 =>
        -- (`_` is alpha but not alnum: empty name, `d` is that `_`, rejected by the `=` test)
        if isSpace d then parsePropsAux n spaceFound s2 (acc ++ [⟨name, none⟩])
        else if d ≠ cEq then none
        else
          match s2 with
          | [] => none
          | q :: s3 =>
            if !(bytesOf Gen.propQuotes).contains q then none
            else
              match findByte q s3 with
              | none => none
              | some k =>
                let v := s3.take k
                if !validatePropertyValue v then none
                else parsePropsAux n false (s3.drop (k + 1)) (acc ++ [⟨name, some v⟩])

def parseProps (s : Bytes) : Option (List Attr) := parsePropsAux (s.length + 1) true s []

/-- returns type, name, attributes -/
def parseTag (text : Bytes) : Ty × Bytes × List Attr :=
  let inner := (text.drop 1).dropLast
  match inner with
  | [] => (.invalid, [], [])
  | a :: t =>
    if a = cSlash then
      match t with
      | [] => (.invalid, [], [])
      | b :: u =>
        if !isAlpha b then (.invalid, [], [])
        else
          let name := b :: u.takeWhile isAlnum
          let after := (u.dropWhile isAlnum).dropWhile isSpace
          if after.isEmpty then (.closeTag, name, []) else (.invalid, [], [])
    else if !isAlpha a then (.invalid, [], [])
    else
      let name := a :: t.takeWhile isAlnum
      let rest := t.dropWhile isAlnum
      let selfClose := inner.getLast? = some cSelfClose
      let body := if selfClose then rest.dropLast else rest
      match parseProps body with
      | none => (.invalid, name, [])
      | some ps => (if selfClose then .openClose else .openTag, name, ps)

def parsePart (p : Bytes × Ty) : Entry :=
  match p.2 with
  | .entity => let r := parseEntity p.1; { text := p.1, ty := r.1, name := r.2 }
  | .tag => let r := parseTag p.1; { text := p.1, ty := r.1, name := r.2.1, props := r.2.2 }
  | t => { text := p.1, ty := t }

def parseAll (x : Bytes) : List Entry := (split x).map parsePart

/-! ### validate_nesting -/

def setTy (es : List Entry) (i : Nat) (t : Ty) : List Entry := es.modify i fun e => { e with ty := t }
def setPair (es : List Entry) (i j : Nat) : List Entry := es.modify i fun e => { e with pair := some j }
def nameAt (es : List Entry) (i : Nat) : Bytes := (es[i]?.map (·.name)).getD []

/-- `ascii_streq` -/
def streq (xhtml : Bool) (a b : Bytes) : Bool :=
  if xhtml then a == b else a.map toLower == b.map toLower

/-- Invariant of every `rules` object in HTML mode: tags live in a map ordered by `icompare_c_string`, so two
names that `ascii_streq(…, xhtml=false)` identifies are the same key and have the same kind
(`mkRules_htmlCaseOk` in `LemStable.lean` shows it for the rule sets the `add_*` calls build). -/
def HtmlCaseOk (r : Rules) : Prop := ∀ a b : Bytes, streq false a b = true → r.tagKind a = r.tagKind b

/-- HTML mode: the `for(;;)` that pops until a matching open tag is found -/
def popUntil (es : List Entry) (i : Nat) (cur : Bytes) : List Nat → List Entry × List Nat
  | [] => (setTy es i .invalid, [])
  | top :: st =>
    if streq false (nameAt es top) cur then (setPair (setPair es i top) top i, st)
    else popUntil (setTy es top .openCloseNoSlash) i cur st

def nestStep (xhtml : Bool) (s : List Entry × List Nat) (i : Nat) : List Entry × List Nat :=
  match s.1[i]? with
  | none => s
  | some cur =>
    match cur.ty with
    | .closeTag =>
      if xhtml then
        match s.2 with
        | [] => (setTy s.1 i .invalid, [])
        | top :: st =>
          if streq true (nameAt s.1 top) cur.name then (setPair (setPair s.1 i top) top i, st)
          else (setTy (setTy s.1 i .invalid) top .invalid, st)
      else popUntil s.1 i cur.name s.2
    | .openTag => (s.1, i :: s.2)
    | _ => s

def validateNesting (xhtml : Bool) (es : List Entry) : List Entry :=
  let s := (List.range es.length).foldl (nestStep xhtml) (es, [])
  s.2.foldl (fun es top => setTy es top (if xhtml then .invalid else .openCloseNoSlash)) s.1

/-! ### validate_entry_by_rules -/

def tyNum : Ty → Nat
  | .openTag => 0 | .closeTag => 1 | .openClose => 2 | .openCloseNoSlash => 3 | _ => 99

def kindAccepts (k : TagKind) (t : Ty) : Bool :=
  match k with
  | .invalidTag => false
  | .standAlone => Gen.kindStandAloneAccepts.contains (tyNum t)
  | .openingAndClosing => Gen.kindOpeningAndClosingAccepts.contains (tyNum t)
  | .anyTag => true

/-- equivalence under `compare_c_string` (XHTML) / `icompare_c_string` (HTML) -/
def keyEq (xhtml : Bool) (a b : Bytes) : Bool :=
  if xhtml then a == b else a.map cstrLower == b.map cstrLower

/-- `rules_holder::valid_boolean_property` -/
def validBooleanProperty (r : Rules) (t p : Bytes) : Bool :=
  if r.xhtml then false
  else match r.prop t p with
    | some .boolean => true
    | _ => false

/-- `rules_holder::valid_property` -/
def validProperty (r : Rules) (t p v : Bytes) : Bool :=
  match r.prop t p with
  | none => false
  | some .boolean => if r.xhtml then p == v else false
  | some (.pred f) => f v

def propsOk (r : Rules) (t : Bytes) : List Attr → List Bytes → Bool
  | [], _ => true
  | a :: rest, found =>
    if found.any (keyEq r.xhtml a.name) then false
    else
      (match a.value with
        | none => validBooleanProperty r t a.name
        | some v => validProperty r t a.name v)
      && propsOk r t rest (a.name :: found)

def entryOk (r : Rules) (e : Entry) : Bool :=
  match e.ty with
  | .invalid => false
  | .plain => true
  | .tag => false
  | .entity => r.entity e.name
  | .comment => r.comments
  | .numeric => r.numeric
  | .closeTag => kindAccepts (r.tagKind e.name) .closeTag
  | t => kindAccepts (r.tagKind e.name) t && propsOk r e.name e.props []

/-! ### validate, validate_and_filter_if_invalid, filter (encoding = "": no encoding check) -/

def isInvalid (e : Entry) : Bool := e.ty == .invalid

def validate (r : Rules) (x : Bytes) : Bool :=
  let parsed := parseAll x
  if parsed.any isInvalid then false
  else
    let nested := validateNesting r.xhtml parsed
    if nested.any isInvalid then false
    else nested.all (entryOk r)

/-- one iteration of the rules loop of `validate_and_filter_if_invalid` -/
def ruleStep (r : Rules) (s : List Entry × Bool) (i : Nat) : List Entry × Bool :=
  match s.1[i]? with
  | none => s
  | some e =>
    if entryOk r e then s
    else
      let es1 := match e.pair with
        | some j => setTy s.1 j .invalid
        | none => s.1
      (setTy es1 i .invalid, false)

def escapeByte (c : UInt8) : Bytes :=
  match Gen.escapeTable.find? (fun p => p.1 = c.toNat) with
  | some p => bytesOf p.2
  | none => [c]

/-- `filtering_method_type` -/
inductive Method
  | remove | escape
  deriving DecidableEq, Repr

def renderEntry (m : Method) (e : Entry) : Bytes :=
  if isInvalid e then
    match m with
    | .remove => []
    | .escape => e.text.flatMap escapeByte
  else e.text

def render (m : Method) (es : List Entry) : Bytes := es.flatMap (renderEntry m)

/-- the entries after the rules loop, and the `valid` flag -/
def analyse (r : Rules) (x : Bytes) : List Entry × Bool :=
  let parsed := parseAll x
  let v1 := !parsed.any isInvalid
  let nested := validateNesting r.xhtml parsed
  let v2 := !nested.any isInvalid
  let s := (List.range nested.length).foldl (ruleStep r) (nested, true)
  (s.1, v1 && v2 && s.2)

/-- `validate_and_filter_if_invalid`: `none` = returned true, output untouched -/
def validateAndFilter (r : Rules) (m : Method) (x : Bytes) : Option Bytes :=
  let a := analyse r x
  if a.2 then none else some (render m a.1)

/-- `filter` (both overloads) -/
def filter (r : Rules) (m : Method) (x : Bytes) : Bytes :=
  match validateAndFilter r m x with
  | none => x
  | some out => out

/-! ### with a declared encoding (`rules::encoding()` non-empty, ASCII-compatible)

`encoding::valid` / `encoding::validate_or_filter` are the subject of property C14; here they are
parameters.  (Encodings that are not ASCII-compatible go through iconv/ICU and are not modelled.) -/

structure Enc where
  /-- `encoding::valid(enc, begin, end, count)` -/
  valid : Bytes → Bool
  /-- the text `encoding::validate_or_filter(enc, begin, end, out, repl_ch)` leaves in `out` when it returns false -/
  prefilter : Bytes → Bytes

/-- `validate` -/
def validateE (E : Option Enc) (r : Rules) (x : Bytes) : Bool :=
  match E with
  | none => validate r x
  | some e => e.valid x && validate r x

/-- `validate_and_filter_if_invalid`: badly encoded input is replaced by the pre-filtered text, `valid` is already
false, so the output is always written -/
def validateAndFilterE (E : Option Enc) (r : Rules) (m : Method) (x : Bytes) : Option Bytes :=
  match E with
  | none => validateAndFilter r m x
  | some e => if e.valid x then validateAndFilter r m x else some (render m (analyse r (e.prefilter x)).1)

def filterE (E : Option Enc) (r : Rules) (m : Method) (x : Bytes) : Bytes :=
  match validateAndFilterE E r m x with
  | none => x
  | some out => out

/-- single-byte charsets: `tester` accepts a text iff it accepts every byte;
`validate_or_filter_single_byte_charset` keeps the accepted bytes and puts `repl` (if not NUL) for the others -/
def byteEnc (ok : UInt8 → Bool) (repl : UInt8) : Enc where
  valid := fun x => x.all ok
  prefilter := fun x => x.flatMap fun c => if ok c then [c] else if repl = 0 then [] else [repl]

/-! ### concrete rule sets (what the `add_*` calls of `rules` build) -/

/-- `integer_property_functor` -/
def integerProperty (v : Bytes) : Bool :=
  let ds := match v with
    | c :: rest => if c.toNat = Gen.intSign then rest else v
    | [] => v
  !ds.isEmpty && ds.all fun c => !Gen.intBadDigit c.toNat

inductive PropSpec
  | boolean | integer | oracle (id : Nat)
  deriving DecidableEq, Repr

/-- the calls made on a fresh `rules` object after `html(..)` was set, in order -/
structure RuleDesc where
  xhtml : Bool
  comments : Bool
  numeric : Bool
  entities : List Bytes
  tags : List (Bytes × TagKind)
  props : List (Bytes × Bytes × PropSpec)

/-- `std::map` with comparator: `operator[]` assignment overwrites the equivalent key, `find`
returns it; so a lookup sees the last assignment made under an equivalent key. -/
def lookupProp (d : RuleDesc) (t p : Bytes) : Option PropSpec :=
  (d.props.reverse.find? (fun q => keyEq d.xhtml q.1 t && keyEq d.xhtml q.2.1 p)).map (·.2.2)

def mkRules (d : RuleDesc) (oracle : Nat → Bytes → Bool) : Rules where
  xhtml := d.xhtml
  comments := d.comments
  numeric := d.numeric
  entity := fun n => (Gen.defaultEntities.map bytesOf ++ d.entities).contains n
  tagKind := fun n =>
    match d.tags.reverse.find? (fun p => keyEq d.xhtml p.1 n) with
    | some p => p.2
    | none => .invalidTag
  prop := fun t p =>
    match lookupProp d t p with
    | none => none
    | some .boolean => some .boolean
    | some .integer => some (.pred integerProperty)
    | some (.oracle id) => some (.pred (oracle id))

end Cppcms.C04
