import Cppcms.Common
/-!
# C15 specification side (independent of the model and of the generated tables)

`unescape` is what a browser does with the five character references the
escaper may emit; `ampsOk` says every `&` starts one of them.
-/
namespace Cppcms.C15.Spec
open Cppcms

/-- HTML un-escaping of exactly the five references `&lt; &gt; &amp; &quot; &#39;` -/
def unescape : Bytes → Bytes
  | 38 :: 108 :: 116 :: 59 :: rest => 60 :: unescape rest                 -- &lt;
  | 38 :: 103 :: 116 :: 59 :: rest => 62 :: unescape rest                 -- &gt;
  | 38 :: 97 :: 109 :: 112 :: 59 :: rest => 38 :: unescape rest           -- &amp;
  | 38 :: 113 :: 117 :: 111 :: 116 :: 59 :: rest => 34 :: unescape rest   -- &quot;
  | 38 :: 35 :: 51 :: 57 :: 59 :: rest => 39 :: unescape rest             -- &#39;
  | c :: rest => c :: unescape rest
  | [] => []

def entities : List Bytes :=
  [[38,108,116,59], [38,103,116,59], [38,97,109,112,59], [38,113,117,111,116,59], [38,35,51,57,59]]

/-- every `&` in the text is the first byte of one of the five references -/
def ampsOk : Bytes → Bool
  | [] => true
  | c :: rest => (c != 38 || entities.any (fun e => e.isPrefixOf (c :: rest))) && ampsOk rest

/-- none of `< > " '` occurs -/
def noMarkup (s : Bytes) : Bool := s.all fun c => c != 60 && c != 62 && c != 34 && c != 39

/-- RFC 3986 unreserved set -/
def rfcUnreserved (c : UInt8) : Bool :=
  (65 ≤ c && c ≤ 90) || (97 ≤ c && c ≤ 122) || (48 ≤ c && c ≤ 57) || c == 45 || c == 46 || c == 95 || c == 126

def isHexDigit (c : UInt8) : Bool :=
  (48 ≤ c && c ≤ 57) || (97 ≤ c && c ≤ 102) || (65 ≤ c && c ≤ 70)

/-- the text is a sequence of unreserved characters and `%XX` triples -/
def urlSafe : Bytes → Bool
  | [] => true
  | 37 :: a :: b :: rest => isHexDigit a && isHexDigit b && urlSafe rest
  | c :: rest => rfcUnreserved c && urlSafe rest

/-- base64url alphabet of RFC 4648 §5 -/
def b64urlChar (c : UInt8) : Bool :=
  (65 ≤ c && c ≤ 90) || (97 ≤ c && c ≤ 122) || (48 ≤ c && c ≤ 57) || c == 45 || c == 95

/-! ### form widget rendering -/

/-- reference escaper: the inverse of `unescape` on the five references -/
def refEscape (s : Bytes) : Bytes :=
  s.flatMap fun c =>
    if c == 60 then [38,108,116,59] else if c == 62 then [38,103,116,59]
    else if c == 38 then [38,97,109,112,59] else if c == 34 then [38,113,117,111,116,59]
    else if c == 39 then [38,35,51,57,59] else [c]

/-- every position of `o` at which `tag` starts is the start of `want` -/
def tagOnlyAs (tag want : Bytes) : Bytes → Bool
  | [] => true
  | c :: rest => (!(tag.isPrefixOf (c :: rest)) || want.isPrefixOf (c :: rest)) && tagOnlyAs tag want rest

/-- Judge for a rendered widget `o` into which user text `s` (which starts with the unique
alphanumeric 3-byte `tag`) was fed: wherever the tag shows up, the whole text follows in
escaped form — it is never emitted raw or half-escaped. -/
def userTextEscaped (o s : Bytes) : Bool := tagOnlyAs (s.take 3) (refEscape s) o

/-- stream insertions of `src/form.cpp` that are raw **by design**: identifiers and attribute
text chosen by the developer, not user input (documented in cppcms/form.h) -/
def formRawAllowed : List String :=
  ["id()", "id_", "name()", "name_", "type_", "attr_", "attributes_string()"]

end Cppcms.C15.Spec
