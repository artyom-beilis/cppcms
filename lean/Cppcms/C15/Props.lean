import Cppcms.C15.Lemmas
/-!
# C15 — property theorems

"HTML escaping neutralises all markup; URL and base64 codecs are exact inverses."
The escaping and codec statements are for **all** byte strings.  The model (`Model.lean`) is built on
tables/expressions regenerated from the C++ source (`Gen.lean`), so a change to a
table entry, a bit expression or a size formula re-runs these proofs against it.
-/
namespace Cppcms.C15.Props
open Cppcms Cppcms.C15 Cppcms.C15.Spec

/-- Escaped text contains none of `< > " '`, and every `&` in it starts one of the five
character references. -/
theorem escape_no_markup (s : Bytes) : noMarkup (escape s) = true ∧ ampsOk (escape s) = true := by
  induction s with
  | nil => simp [escape, noMarkup, ampsOk]
  | cons c s ih =>
    obtain ⟨-, ha, hn⟩ := escapeByte_spec c (escape s)
    rw [escape_cons, noMarkup_append, ha, hn]
    simpa using ih

/-- Un-escaping (independent specification) inverts escaping. -/
theorem unescape_escape (s : Bytes) : unescape (escape s) = s := by
  induction s with
  | nil => simp [escape, unescape]
  | cons c s ih => rw [escape_cons, (escapeByte_spec c _).1, ih]

/-- The stream-buffer overload against a sink that accepts only `room` more bytes: what
reaches the sink is exactly the first `room` bytes of the escaped text, and failure (-1) is
reported iff the sink refused something. -/
theorem escapeSb_spec (s : Bytes) (room : Nat) :
    escapeSb s room = ((escape s).take room, decide ((escape s).length ≤ room)) := by
  induction s generalizing room with
  | nil => simp [escapeSb, escape]
  | cons c s ih =>
    obtain ⟨-, hsb⟩ := escapeByte_cases c
    rw [escapeSb, hsb, escape_cons, List.take_append, List.length_append]
    by_cases hr : (escapeByte c).length ≤ room
    · simp only [Nat.min_eq_left hr, List.take_length, beq_self_eq_true, if_true, ih, List.take_of_length_le hr,
        Nat.add_comm, Nat.le_sub_iff_add_le hr]
    · have hlt : room < (escapeByte c).length := Nat.lt_of_not_le hr
      have hl : ((escapeByte c).take room).length = room := List.length_take_of_le (Nat.le_of_lt hlt)
      simp only [Nat.min_eq_right (Nat.le_of_lt hlt), hl, Nat.sub_eq_zero_of_le (Nat.le_of_lt hlt), List.take_zero,
        List.append_nil, beq_iff_eq, Nat.ne_of_lt hlt, if_false]
      rw [decide_eq_false (by omega)]

/-- URL-encoded text consists of RFC 3986 unreserved characters and `%XX` triples only. -/
theorem urlencode_alphabet (s : Bytes) : urlSafe (urlencode s) = true := by
  induction s with
  | nil => simp [urlencode, urlSafe]
  | cons c s ih => rw [urlencode_cons, urlSafe_urlencodeByte_append, ih]

theorem urldecode_urlencode (s : Bytes) : urldecode (urlencode s) = s := by
  induction s with
  | nil => simp [urlencode, urldecode]
  | cons c s ih => rw [urlencode_cons, urldecode_urlencodeByte_append, ih]

/-- base64url output uses only the RFC 4648 §5 alphabet (in particular no `=` padding). -/
theorem b64_alphabet (s : Bytes) : (b64encode s).all b64urlChar = true :=
  List.all_eq_true.2 (b64encode_spec s).2

/-- `encoded_size` is exact: the pointer encoder writes exactly that many bytes. -/
theorem encoded_size_exact (s : Bytes) : Gen.encodedSize s.length = some (b64encode s).length :=
  b64encode_length s

/-- the `std::string` overload (buffer of exactly `encoded_size` bytes) returns what the
pointer encoder writes -/
theorem b64encodeStr_eq (s : Bytes) : b64encodeStr s = b64encode s := by
  unfold b64encodeStr
  rw [b64encode_length s]
  cases b64encode s with
  | nil => rfl
  | cons x l => exact pad_take_length _

/-- `decoded_size` is exact for **every** input (also malformed): whenever it reports a
length `m`, the raw decoder writes exactly `m` bytes — never outside a buffer of the
advertised size. -/
theorem decode_writes_within (t : Bytes) (m : Nat) (h : Gen.decodedSize t.length = some m) :
    (b64decodeRaw t).length = m := by
  fun_induction b64decodeRaw t generalizing m with
  | case1 w x y z rest ih =>
    rw [List.length_cons, List.length_cons, List.length_cons, List.length_cons, decodedSize_step] at h
    cases hr : Gen.decodedSize rest.length with
    | none => rw [hr] at h; cases h
    | some m' => rw [hr] at h; cases h; rw [List.length_append, ih m' hr, Nat.add_comm]; rfl
  | case2 w x y => simp [Gen.decodedSize] at h; simp [dec3, ofNats, ← h]
  | case3 w x => simp [Gen.decodedSize] at h; simp [dec2, ofNats, ← h]
  | case4 w => simp [Gen.decodedSize] at h
  | case5 => simp [Gen.decodedSize] at h; simp [← h]

/-- Outside the guarded contract (recorded in DESIGN.md §6): on an input of length 1,
for which `decoded_size` reports "invalid", the raw pointer decoder still writes three bytes. -/
theorem decodeRaw_len1_writes_three (w : UInt8) :
    Gen.decodedSize [w].length = none ∧ (b64decodeRaw [w]).length = 3 := by
  simp [Gen.decodedSize, b64decodeRaw, dec1, ofNats]

theorem b64decode_eq (t : Bytes) : b64decode t [] = (Gen.decodedSize t.length).map fun _ => b64decodeRaw t := by
  unfold b64decode
  cases h : Gen.decodedSize t.length with
  | none => rfl
  | some m =>
    obtain rfl := decode_writes_within t m h
    cases b64decodeRaw t with
    | nil => rfl
    | cons x l => exact congrArg some (pad_take_length _)

/-- Decoding inverts encoding for every byte string (string overloads, fresh output string). -/
theorem b64_decode_encode (s : Bytes) : b64decode (b64encodeStr s) [] = some s := by
  rw [b64encodeStr_eq, b64decode_eq, decodedSize_b64encode, (b64encode_spec s).1]
  rfl

/-- Form widget rendering (`src/form.cpp`): every item any render function writes to the output
stream is a string literal, a number, an expression passed through `util::escape` /
`filters::escape` — whose output is characterised by `escape_no_markup` / `unescape_escape` above —
or one of the developer-chosen identifiers/attribute strings that are raw by design. In particular
message, error message, help text, values and option ids/texts are never written raw. (A statement
about the generated table of ALL stream insertions of form.cpp; the rendered output of real widgets
is judged by `Spec.userTextEscaped` in the correspondence run.) -/
theorem form_inserts_escaped :
    ∀ i ∈ Gen.formInserts, i.2 = 0 ∨ i.2 = 1 ∨ i.2 = 2 ∨ (i.2 = 3 ∧ i.1 ∈ formRawAllowed) := by
  decide +kernel

/-- the model's escaper is the reference escaper the widget judge uses -/
theorem escape_eq_refEscape (s : Bytes) : escape s = refEscape s := by
  unfold escape refEscape
  congr 1
  funext c
  -- on each of the five special bytes both sides are the same literal; on any other byte every test of
  -- `refEscape` fails
  rcases (escapeByte_cases c).1 with
    ⟨rfl, e⟩ | ⟨rfl, e⟩ | ⟨rfl, e⟩ | ⟨rfl, e⟩ | ⟨rfl, e⟩ | ⟨h60, h62, h38, h34, h39, e⟩ <;> rw [e]
  iterate 5 rfl
  simp [h60, h62, h38, h34, h39]

example : escape [60, 97, 38, 34, 39, 62] =
    [38,108,116,59, 97, 38,97,109,112,59, 38,113,117,111,116,59, 38,35,51,57,59, 38,103,116,59] := by decide
example : urlencode [32, 65, 33, 126] = [37,50,48, 65, 37,50,49, 126] := by decide
example : urldecode [43, 37, 52, 49, 37, 52, 37] = [32, 65, 52] := by   -- a stray `%` is dropped
  simp [urldecode, isXdigit, hexVal, Gen.xdigit, Gen.urldecPlus, Gen.urldecPct, Gen.urldecSpace, Gen.urldecNeed]
example : b64encode [0, 16, 131, 16, 81, 135, 32] = [65,66,67,68,69,70,71,72,73,65] := by decide
example : escapeSb [60, 97] 3 = ([38,108,116], false) := by decide

end Cppcms.C15.Props
