import Cppcms.Common
import Cppcms.C15.Model
import Cppcms.C15.Spec
/-! Line-protocol driver for C15: op-name lines evaluate the model, `J` lines evaluate the
property predicate (as defined in `Spec.lean`) on an output produced by the implementation. -/
open Cppcms Cppcms.C15

def optNat : Option Nat → String
  | none => "-1"
  | some n => toString n

def step (_ : Unit) (line : String) : Unit × String :=
  let r : String :=
    match words line with
    | ["escape", h] | ["escape_os", h] | ["escape_flt", h] => match parseHex h with
      | some s => toHex (escape s) | none => "bad-op"
    | ["escapesb", h, room] => match parseHex h, room.toNat? with
      | some s, some r => let (o, ok) := escapeSb s r; s!"{toHex o} {boolStr ok}"
      | _, _ => "bad-op"
    | ["urlencode_sb", h] => match parseHex h with
      | some s => toHex (urlencode s) ++ " 1" | none => "bad-op"
    | ["urlencode", h] | ["urlencode_os", h] | ["urlencode_flt", h] => match parseHex h with
      | some s => toHex (urlencode s) | none => "bad-op"
    | ["urldecode", h] => match parseHex h with
      | some s => toHex (urldecode s) | none => "bad-op"
    | ["urlrt", h] => match parseHex h with
      | some s => toHex (urldecode (urlencode s)) | none => "bad-op"
    | ["b64rt", h] => match parseHex h with
      | some s => (match b64decode (b64encodeStr s) [] with | some o => "ok " ++ toHex o | none => "fail")
      | none => "bad-op"
    | ["b64enc", h] | ["b64enc_os", h] | ["b64enc_flt", h] => match parseHex h with
      | some s => toHex (b64encodeStr s) | none => "bad-op"
    | ["b64encraw", h] => match parseHex h with
      | some s => toHex (b64encode s) | none => "bad-op"
    | ["b64dec", h] => match parseHex h with
      | some s => (match b64decode s [112, 114, 101, 118] with | some o => "ok " ++ toHex o | none => "fail")
      | none => "bad-op"
    | ["b64decraw", h] => match parseHex h with
      | some s => toHex (b64decodeRaw s) | none => "bad-op"
    | "fltN" :: kind :: ps => match ps.mapM parseHex with
      | some l =>
        let whole := l.flatten
        if kind == "escape" then toHex (escape whole)
        else if kind == "urlencode" then toHex (urlencode whole)
        else if kind == "base64" then toHex (b64encodeStr whole)
        else "bad-op"
      | none => "bad-op"
    | "form" :: _ => "form-no-model"
    | ["encsize", n] => match n.toNat? with
      | some k => optNat (Gen.encodedSize k) | none => "bad-op"
    | ["decsize", n] => match n.toNat? with
      | some k => optNat (Gen.decodedSize k) | none => "bad-op"
    -- judges: property predicates on implementation output
    | ["J", "escape", i, o] => match parseHex i, parseHex o with
      | some i, some o => boolStr (Spec.unescape o == i && Spec.noMarkup o && Spec.ampsOk o)
      | _, _ => "bad-op"
    | "J" :: "form" :: o :: texts => match parseHex o, texts.mapM parseHex with
      | some o, some ts => boolStr (ts.all fun t => t.length < 3 || Spec.userTextEscaped o t)
      | _, _ => "bad-op"
    | ["J", "urlencode", i, o] => match parseHex i, parseHex o with
      | some _, some o => boolStr (Spec.urlSafe o)
      | _, _ => "bad-op"
    | ["J", "b64enc", i, o] => match parseHex i, parseHex o with
      | some _, some o => boolStr (o.all Spec.b64urlChar)
      | _, _ => "bad-op"
    | _ => "bad-op"
  ((), r)

def main : IO Unit := lineLoop () step
