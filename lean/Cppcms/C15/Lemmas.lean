import Cppcms.C15.Model
import Cppcms.C15.Spec
import Cppcms.Lib.Bytes
/-! Per-byte facts about the generated tables, and the block lemmas of the base64url codec. -/
namespace Cppcms.C15
open Cppcms Spec

theorem escape_cons (c : UInt8) (s : Bytes) : escape (c :: s) = escapeByte c ++ escape s := by
  simp [escape]

/-- `escapeByte` by cases on the five keys `< > & " '`; second conjunct: the streambuf overload's table has the same
replacements, their lengths being both `sputn` counts -/
theorem escapeByte_cases (c : UInt8) :
    ((c = 60 ∧ escapeByte c = [38,108,116,59]) ∨ (c = 62 ∧ escapeByte c = [38,103,116,59]) ∨
     (c = 38 ∧ escapeByte c = [38,97,109,112,59]) ∨ (c = 34 ∧ escapeByte c = [38,113,117,111,116,59]) ∨
     (c = 39 ∧ escapeByte c = [38,35,51,57,59]) ∨
     (c ≠ 60 ∧ c ≠ 62 ∧ c ≠ 38 ∧ c ≠ 34 ∧ c ≠ 39 ∧ escapeByte c = [c])) ∧
    escapeByteSb c = (escapeByte c, (escapeByte c).length, (escapeByte c).length) := by
  by_cases h : c ∈ ([60, 62, 38, 34, 39] : List UInt8)
  · simp only [List.mem_cons, List.not_mem_nil, or_false] at h
    rcases h with rfl | rfl | rfl | rfl | rfl <;> decide
  · simp only [List.mem_cons, List.not_mem_nil, or_false, not_or] at h
    -- a byte other than the five keys is in neither table
    have hn : Gen.escapeTable.lookup c.toNat = none ∧ Gen.escapeTableSb.lookup c.toNat = none := by
      rw [List.lookup_eq_none_iff, List.lookup_eq_none_iff]
      simpa [Gen.escapeTable, Gen.escapeTableSb, ← UInt8.toNat_inj] using h
    simp only [escapeByte, escapeByteSb, hn, h, false_and, false_or, ne_eq, not_false_eq_true, true_and,
      List.length_singleton]

theorem unescape_cons_ne (c : UInt8) (rest : Bytes) (h : c ≠ 38) :
    unescape (c :: rest) = c :: unescape rest := by
  -- the last clause of `unescape`; its side conditions: none of the five patterns, which all start with `&`, matches
  apply unescape.eq_6 <;> exact fun _ e _ => h e

theorem ampsOk_cons_ne (c : UInt8) (rest : Bytes) (h : c ≠ 38) : ampsOk (c :: rest) = ampsOk rest := by
  simp [ampsOk, h]

theorem ampsOk_append_ne (t rest : Bytes) (ht : ∀ x ∈ t, x ≠ 38) : ampsOk (t ++ rest) = ampsOk rest := by
  induction t with
  | nil => rfl
  | cons x t ih =>
    rw [List.cons_append, ampsOk_cons_ne x _ (ht x (List.mem_cons_self ..)),
      ih (fun y hy => ht y (List.mem_cons_of_mem _ hy))]

theorem ampsOk_entity_append (t rest : Bytes) (he : (38 :: t) ∈ entities) (ht : ∀ x ∈ t, x ≠ 38) :
    ampsOk (38 :: t ++ rest) = ampsOk rest := by
  have hp : entities.any (fun e => e.isPrefixOf (38 :: t ++ rest)) = true :=
    List.any_eq_true.2 ⟨_, he, List.isPrefixOf_iff_prefix.2 (List.prefix_append _ _)⟩
  rw [List.cons_append, ampsOk, ← List.cons_append, hp, ampsOk_append_ne t rest ht, Bool.or_true, Bool.true_and]

theorem escapeByte_spec (c : UInt8) (rest : Bytes) :
    unescape (escapeByte c ++ rest) = c :: unescape rest ∧ ampsOk (escapeByte c ++ rest) = ampsOk rest ∧
    noMarkup (escapeByte c) = true := by
  rcases (escapeByte_cases c).1 with
    ⟨rfl, e⟩ | ⟨rfl, e⟩ | ⟨rfl, e⟩ | ⟨rfl, e⟩ | ⟨rfl, e⟩ | ⟨h60, h62, h38, h34, h39, e⟩ <;> rw [e]
  -- each reference un-escapes by its own clause of `unescape`, is an entity, and is a markup-free literal
  · exact ⟨by simp only [List.cons_append, List.nil_append, unescape], ampsOk_entity_append _ rest (by decide) (by decide), by decide⟩
  · exact ⟨by simp only [List.cons_append, List.nil_append, unescape], ampsOk_entity_append _ rest (by decide) (by decide), by decide⟩
  · exact ⟨by simp only [List.cons_append, List.nil_append, unescape], ampsOk_entity_append _ rest (by decide) (by decide), by decide⟩
  · exact ⟨by simp only [List.cons_append, List.nil_append, unescape], ampsOk_entity_append _ rest (by decide) (by decide), by decide⟩
  · exact ⟨by simp only [List.cons_append, List.nil_append, unescape], ampsOk_entity_append _ rest (by decide) (by decide), by decide⟩
  · exact ⟨unescape_cons_ne c rest h38, ampsOk_cons_ne c rest h38, by simp [noMarkup, h60, h62, h34, h39]⟩

theorem noMarkup_append (a b : Bytes) : noMarkup (a ++ b) = (noMarkup a && noMarkup b) := by
  simp [noMarkup, List.all_append]

/-- the two hex digits `urlencode_impl` writes after `%` -/
def hexHi (c : UInt8) : UInt8 := UInt8.ofNat (Gen.urlEsc1 c.toNat)
def hexLo (c : UInt8) : UInt8 := UInt8.ofNat (Gen.urlEsc2 c.toNat)

theorem unreserved_facts : ∀ c : UInt8, unreserved c = true →
    c.toNat ≠ Gen.urldecPlus ∧ c.toNat ≠ Gen.urldecPct ∧ c ≠ 37 ∧ rfcUnreserved c = true := by
  apply forall_uint8
  decide +kernel

theorem hexAt_facts : ∀ i : Fin 16,
    isXdigit (UInt8.ofNat (Gen.hexAt i.val)) = true ∧ isHexDigit (UInt8.ofNat (Gen.hexAt i.val)) = true ∧
    hexVal (UInt8.ofNat (Gen.hexAt i.val)) = i.val := by
  decide +kernel

theorem urlencodeByte_cases : ∀ c : UInt8,
    (urlencodeByte c = [c] ∧ c.toNat ≠ Gen.urldecPlus ∧ c.toNat ≠ Gen.urldecPct ∧ c ≠ 37 ∧ rfcUnreserved c = true) ∨
    (urlencodeByte c = [37, hexHi c, hexLo c] ∧ isXdigit (hexHi c) = true ∧ isXdigit (hexLo c) = true ∧
      isHexDigit (hexHi c) = true ∧ isHexDigit (hexLo c) = true ∧
      UInt8.ofNat (hexVal (hexHi c) * 16 + hexVal (hexLo c)) = c) := by
  intro c
  cases hu : unreserved c with
  | true => exact .inl ⟨by rw [urlencodeByte, if_pos hu], unreserved_facts c hu⟩
  | false =>
    have hhi : c.toNat >>> 4 &&& 15 = c.toNat / 16 := by
      rw [Nat.shiftRight_eq_div_pow, and_15]
      exact Nat.mod_eq_of_lt (Nat.div_lt_of_lt_mul c.toNat_lt)
    obtain ⟨x1, y1, v1⟩ := hexAt_facts ⟨c.toNat / 16, Nat.div_lt_of_lt_mul c.toNat_lt⟩
    obtain ⟨x2, y2, v2⟩ := hexAt_facts ⟨c.toNat % 16, Nat.mod_lt _ (by decide)⟩
    refine .inr ⟨by rw [urlencodeByte, if_neg (by simp [hu])]; rfl, ?_⟩
    simp only [hexHi, hexLo, Gen.urlEsc1, Gen.urlEsc2, hhi, and_15]
    exact ⟨x1, x2, y1, y2, by rw [v1, v2, Nat.div_add_mod', UInt8.ofNat_toNat]⟩

theorem urlencode_cons (c : UInt8) (s : Bytes) : urlencode (c :: s) = urlencodeByte c ++ urlencode s := by
  simp [urlencode]

theorem urldecode_urlencodeByte_append (c : UInt8) (rest : Bytes) :
    urldecode (urlencodeByte c ++ rest) = c :: urldecode rest := by
  have k : Gen.urldecPlus = 43 ∧ Gen.urldecPct = 37 ∧ Gen.urldecNeed = 3 := ⟨rfl, rfl, rfl⟩
  rcases urlencodeByte_cases c with ⟨e, hp, hq, _, _⟩ | ⟨e, x1, x2, _, _, hv⟩
  · rw [e, List.singleton_append, urldecode.eq_def]
    simp [hp, hq]
  · rw [e, List.cons_append, List.cons_append, List.cons_append, List.nil_append, urldecode.eq_def]
    simp [x1, x2, hv, k]

theorem urlSafe_cons_ne (c : UInt8) (rest : Bytes) (h : c ≠ 37) :
    urlSafe (c :: rest) = (rfcUnreserved c && urlSafe rest) := by
  -- the last clause of `urlSafe`; its side condition says that the `%XX` pattern does not match
  apply urlSafe.eq_3; exact fun _ _ _ e _ => h e

theorem urlSafe_urlencodeByte_append (c : UInt8) (rest : Bytes) :
    urlSafe (urlencodeByte c ++ rest) = urlSafe rest := by
  rcases urlencodeByte_cases c with ⟨e, _, _, hne, hu⟩ | ⟨e, _, _, y1, y2, _⟩
  · rw [e, List.singleton_append, urlSafe_cons_ne _ _ hne, hu, Bool.true_and]
  · rw [e]; simp [urlSafe, y1, y2]

theorem urlencode_mem (s : Bytes) (x : UInt8) (hx : x ∈ urlencode s) :
    rfcUnreserved x = true ∨ x = 37 ∨ isHexDigit x = true := by
  obtain ⟨c, _, hx⟩ := List.mem_flatMap.mp hx
  rcases urlencodeByte_cases c with ⟨e, _, _, _, hu⟩ | ⟨e, _, _, y1, y2, _⟩ <;> rw [e] at hx
  · exact .inl (List.mem_singleton.mp hx ▸ hu)
  · simp only [List.mem_cons, List.mem_nil_iff, or_false] at hx
    rcases hx with rfl | rfl | rfl
    · exact .inr (.inl rfl)
    · exact .inr (.inr y1)
    · exact .inr (.inr y2)

/-- for a literal `d` the hypothesis is closed by `decide` -/
theorem urlencode_ne (s : Bytes) (x d : UInt8) (hx : x ∈ urlencode s)
    (hd : rfcUnreserved d = false ∧ d ≠ 37 ∧ isHexDigit d = false) : x ≠ d := by
  rintro rfl
  rcases urlencode_mem s x hx with h | h | h
  · rw [hd.1] at h; cases h
  · exact hd.2.1 h
  · rw [hd.2.2] at h; cases h

theorem pack_lt {x y m n : Nat} (hx : x < n) (hy : y < m) : x * m + y < n * m :=
  Nat.lt_of_lt_of_le (Nat.add_lt_add_left hy _) (Nat.succ_mul x m ▸ Nat.mul_le_mul_right m hx)

theorem unpack {y m : Nat} (x : Nat) (h : y < m) : (x * m + y) / m = x ∧ (x * m + y) % m = y := by
  rw [Nat.mul_comm, Nat.mul_add_div (Nat.zero_lt_of_lt h), Nat.mul_add_mod, Nat.div_eq_of_lt h, Nat.mod_eq_of_lt h]
  exact ⟨rfl, rfl⟩

theorem shl_or {k y : Nat} (x : Nat) (h : y < 2 ^ k) : x <<< k ||| y = x * 2 ^ k + y := by
  rw [← Nat.shiftLeft_add_eq_or_of_lt h, Nat.shiftLeft_eq]

/-- the base64url character of the 6-bit value `v` -/
def char6 (v : Nat) : UInt8 := UInt8.ofNat (Gen.enc6 v)

theorem enc6_facts : ∀ v : Fin 64,
    Gen.enc6 v.val < 128 ∧ Gen.dec6 (Gen.enc6 v.val) = v.val ∧ b64urlChar (char6 v.val) = true := by
  decide +kernel

theorem d6_char6 {v : Nat} (h : v < 64) : d6 (char6 v) = v := by
  obtain ⟨h1, h2, -⟩ := enc6_facts ⟨v, h⟩
  rw [d6, char6, UInt8.toNat_ofNat', Nat.mod_eq_of_lt (Nat.lt_trans h1 (by decide)), h2]

theorem enc3_eq (a b c : UInt8) : enc3 a b c =
    [char6 (a.toNat / 4), char6 (a.toNat % 4 * 16 + b.toNat / 16),
     char6 (b.toNat % 16 * 4 + c.toNat / 64), char6 (c.toNat % 64)] := by
  have hb : (b.toNat &&& 240) >>> 4 = b.toNat / 16 := by
    rw [Nat.shiftRight_and_distrib, Nat.shiftRight_eq_div_pow]
    exact (and_15 _).trans (Nat.mod_eq_of_lt (Nat.div_lt_of_lt_mul b.toNat_lt))
  have hc : (c.toNat &&& 192) >>> 6 = c.toNat / 64 := by
    rw [Nat.shiftRight_and_distrib, Nat.shiftRight_eq_div_pow]
    exact (and_3 _).trans (Nat.mod_eq_of_lt (Nat.div_lt_of_lt_mul c.toNat_lt))
  simp only [enc3, ofNats, List.map, char6, Gen.benc0, Gen.benc1, Gen.benc2, Gen.benc3]
  rw [hb, hc, shl_or (k := 4) _ (Nat.div_lt_of_lt_mul b.toNat_lt), shl_or (k := 2) _ (Nat.div_lt_of_lt_mul c.toNat_lt),
    and_3, and_15, and_63, Nat.shiftRight_eq_div_pow]

/-- the short tails write the first characters of a full block with zero bytes in the missing places -/
theorem enc2_eq (a b : UInt8) : enc2 a b = (enc3 a b 0).take 3 := by
  simp [enc2, enc3, ofNats, Gen.benc2, Gen.benc2Len2]

theorem enc1_eq (a : UInt8) : enc1 a = (enc3 a 0 0).take 2 := by
  simp [enc1, enc3, ofNats, Gen.benc1, Gen.benc1Len1]

theorem bdec_idx {i j : Nat} (hi : i < 64) (hj : j < 64) (w x y z : Nat) :
    Gen.bdec0 i j y z = i * 4 + j / 16 ∧
    Gen.bdec1 w i j z = i % 16 * 16 + j / 4 ∧
    Gen.bdec2 w x i j = i % 4 * 64 + j := by
  have h192 : (i <<< 6) &&& 192 = (i &&& 3) <<< 6 := (Nat.shiftLeft_and_distrib (i := 6) (a := i) (b := 3)).symm
  unfold Gen.bdec0 Gen.bdec1 Gen.bdec2
  rw [h192, and_3, Nat.shiftRight_eq_div_pow, Nat.shiftRight_eq_div_pow,
    shl_or (k := 2) _ (Nat.div_lt_of_lt_mul hj), shl_or (k := 4) _ (Nat.div_lt_of_lt_mul hj), shl_or (k := 6) _ hj]
  refine ⟨Nat.mod_eq_of_lt ?_, ?_, Nat.mod_eq_of_lt ?_⟩
  · exact pack_lt (n := 64) hi (Nat.div_lt_of_lt_mul hj)
  · omega
  · exact pack_lt (n := 4) (Nat.mod_lt _ (by decide)) hj

theorem enc3_dec4 (a b c : UInt8) : ∃ w x y z, enc3 a b c = [w, x, y, z] ∧ dec4 w x y z = [a, b, c] ∧
    ∀ u ∈ [w, x, y, z], b64urlChar u = true := by
  have hb : b.toNat / 16 < 16 := Nat.div_lt_of_lt_mul b.toNat_lt
  have hc : c.toNat / 64 < 4 := Nat.div_lt_of_lt_mul c.toNat_lt
  have l0 : a.toNat / 4 < 64 := Nat.div_lt_of_lt_mul a.toNat_lt
  have l1 : a.toNat % 4 * 16 + b.toNat / 16 < 64 := pack_lt (n := 4) (Nat.mod_lt _ (by decide)) hb
  have l2 : b.toNat % 16 * 4 + c.toNat / 64 < 64 := pack_lt (n := 16) (Nat.mod_lt _ (by decide)) hc
  have l3 : c.toNat % 64 < 64 := Nat.mod_lt _ (by decide)
  refine ⟨_, _, _, _, enc3_eq a b c, ?_, ?_⟩
  · simp only [dec4, ofNats, List.map, d6_char6, l0, l1, l2, l3, (bdec_idx l0 l1 0 0 _ _).1,
      (bdec_idx l1 l2 _ 0 0 _).2.1, (bdec_idx l2 l3 _ _ 0 0).2.2, unpack _ hb, unpack _ hc, Nat.div_add_mod',
      UInt8.ofNat_toNat]
  · simp only [List.mem_cons, List.not_mem_nil, or_false]
    rintro u (rfl | rfl | rfl | rfl)
    · exact (enc6_facts ⟨_, l0⟩).2.2
    · exact (enc6_facts ⟨_, l1⟩).2.2
    · exact (enc6_facts ⟨_, l2⟩).2.2
    · exact (enc6_facts ⟨_, l3⟩).2.2

theorem b64encode_spec (s : Bytes) :
    b64decodeRaw (b64encode s) = s ∧ ∀ u ∈ b64encode s, b64urlChar u = true := by
  fun_induction b64encode s with
  | case1 a b c rest ih =>
    obtain ⟨w, x, y, z, e, d, h⟩ := enc3_dec4 a b c
    rw [e]
    exact ⟨(congrArg (· ++ b64decodeRaw (b64encode rest)) d).trans (congrArg _ ih.1),
      fun u hu => (List.mem_append.1 hu).elim (h u) (ih.2 u)⟩
  -- short tails: `dec3 w x y`, `dec2 w x` are by definition prefixes of `dec4 w x y z` (`bdec0`, `bdec1` ignore their
  -- later arguments), so `d` truncated is the goal
  | case2 a b =>
    obtain ⟨w, x, y, z, e, d, h⟩ := enc3_dec4 a b 0
    rw [enc2_eq, e]
    exact ⟨congrArg (List.take 2) d, fun u hu => h u (List.mem_of_mem_take hu)⟩
  | case3 a =>
    obtain ⟨w, x, y, z, e, d, h⟩ := enc3_dec4 a 0 0
    rw [enc1_eq, e]
    exact ⟨congrArg (List.take 1) d, fun u hu => h u (List.mem_of_mem_take hu)⟩
  | case4 => exact ⟨rfl, fun u hu => nomatch hu⟩

theorem encodedSize_step (n : Nat) : Gen.encodedSize (n + 3) = (Gen.encodedSize n).map (· + 4) := by
  simp only [Gen.encodedSize, Nat.add_mod_right, Nat.add_div_right n (by decide : 0 < 3), Nat.succ_mul]
  split
  · rfl
  · split <;> rfl

theorem decodedSize_step (n : Nat) : Gen.decodedSize (n + 4) = (Gen.decodedSize n).map (· + 3) := by
  simp only [Gen.decodedSize, Nat.add_mod_right, Nat.add_div_right n (by decide : 0 < 4), Nat.succ_mul]
  split
  · rfl
  · split
    · rfl
    · split <;> rfl

theorem b64encode_length (s : Bytes) : Gen.encodedSize s.length = some (b64encode s).length := by
  fun_induction b64encode s with
  | case1 a b c rest ih => exact (encodedSize_step rest.length).trans (by rw [ih]; simp [enc3, ofNats])
  | case2 a b => exact (rfl : Gen.encodedSize 2 = some 3)
  | case3 a => exact (rfl : Gen.encodedSize 1 = some 2)
  | case4 => rfl

theorem decodedSize_b64encode (s : Bytes) : Gen.decodedSize (b64encode s).length = some s.length := by
  fun_induction b64encode s with
  | case1 a b c rest ih =>
    rw [List.length_append, Nat.add_comm]
    exact (decodedSize_step _).trans (by rw [ih]; rfl)
  | case2 a b => exact (rfl : Gen.decodedSize 3 = some 2)
  | case3 a => exact (rfl : Gen.decodedSize 2 = some 1)
  | case4 => rfl

/-- what is left of the zero-filled, size-cut buffer of `b64encodeStr` / `b64decode` once the advertised size is exact -/
theorem pad_take_length (w : Bytes) : (w ++ List.replicate (w.length - w.length) 0).take w.length = w := by
  rw [Nat.sub_self, List.replicate_zero, List.append_nil, List.take_length]

end Cppcms.C15
