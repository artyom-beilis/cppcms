import Cppcms.C06.Lemmas
/-!
# C06: exposed cookies — the browser's jar after `update_exposed`

What `Set-Cookie`s do to one key of a jar (`jfind_apply`), the three loops of `update_exposed` in closed form (`pass1_eq` …), and the
result `updateExposed_lookup`.
-/
namespace Cppcms.C06
open Cppcms

def jfind (k : Key) : List (Key × Bytes) → Option Bytes
  | [] => none
  | (k', v) :: r => if k' = k then some v else jfind k r

theorem jfind_jinsert (k k' : Key) (v : Bytes) (J : List (Key × Bytes)) :
    jfind k (jinsert k' v J) = if k' = k then some v else jfind k J := by
  induction J with
  | nil => rfl
  | cons p rest ih =>
    obtain ⟨k0, v0⟩ := p
    simp only [jinsert]
    split
    · rfl
    · split
      · rename_i h; subst h
        simp only [jfind]
        split <;> rfl
      · rename_i hne
        simp only [jfind, ih]
        by_cases h0 : k0 = k
        · rw [if_pos h0, if_neg (h0 ▸ Ne.symm hne), if_pos h0]
        · rw [if_neg h0, if_neg h0]

theorem jfind_jerase (k k' : Key) (J : List (Key × Bytes)) : jfind k (jerase k' J) = if k' = k then none else jfind k J := by
  induction J with
  | nil => simp only [jerase, jfind, ite_self]
  | cons p rest ih =>
    obtain ⟨k0, v0⟩ := p
    simp only [jerase]
    split
    · rename_i h; subst h
      rw [ih]; simp only [jfind]
      split <;> rfl
    · rename_i hne
      simp only [jfind, ih]
      by_cases h0 : k0 = k
      · rw [if_pos h0, if_neg (h0 ▸ Ne.symm hne), if_pos h0]
      · rw [if_neg h0, if_neg h0]

theorem mem_jinsert {q : Key × Bytes} {k : Key} {v : Bytes} {J : List (Key × Bytes)} (h : q ∈ jinsert k v J) : q = (k, v) ∨ q ∈ J := by
  induction J with
  | nil => exact .inl (List.mem_singleton.mp h)
  | cons p rest ih =>
    obtain ⟨k0, v0⟩ := p
    simp only [jinsert] at h
    split at h
    · exact List.mem_cons.mp h
    · split at h
      · exact (List.mem_cons.mp h).imp_right (List.mem_cons_of_mem _)
      · rcases List.mem_cons.mp h with h | h
        · exact .inr (h ▸ List.mem_cons_self ..)
        · exact (ih h).imp_right (List.mem_cons_of_mem _)

theorem mem_jerase {q : Key × Bytes} {k : Key} {J : List (Key × Bytes)} (h : q ∈ jerase k J) : q ∈ J := by
  induction J with
  | nil => exact h
  | cons p rest ih =>
    obtain ⟨k0, v0⟩ := p
    simp only [jerase] at h
    split at h
    · exact List.mem_cons_of_mem _ (ih h)
    · exact (List.mem_cons.mp h).elim (· ▸ List.mem_cons_self ..) (fun h => List.mem_cons_of_mem _ (ih h))

theorem jfind_some_key_mem {k : Key} {v : Bytes} {J : List (Key × Bytes)} (h : jfind k J = some v) : k ∈ J.map (·.1) := by
  induction J with
  | nil => cases h
  | cons p rest ih =>
    simp only [jfind] at h
    split at h
    · rename_i hk; exact hk ▸ List.mem_cons_self ..
    · exact List.mem_cons_of_mem _ (ih h)

theorem jfind_apply (J : Jar) (c : SetCookie) (k : Key) (hk : k ≠ []) :
    jfind k (J.apply c).exposed = if c.key = k then (if c.age < 0 then none else some c.value) else jfind k J.exposed := by
  simp only [Jar.apply]
  cases hck : c.key with
  | nil =>
    simp only
    rw [if_neg (show ¬ ([] : Key) = k from fun e => hk e.symm)]
    split <;> rfl
  | cons x xs =>
    simp only
    by_cases hage : c.age < 0
    · simp only [hage, if_true, jfind_jerase]
    · simp only [hage, if_false, jfind_jinsert]

theorem applyAll_append (J : Jar) (a b : List SetCookie) : J.applyAll (a ++ b) = (J.applyAll a).applyAll b :=
  List.foldl_append ..

theorem jfind_applyAll_nilkeys (cs : List SetCookie) (J : Jar) (k : Key) (hk : k ≠ []) (h : ∀ c ∈ cs, c.key = []) :
    jfind k (J.applyAll cs).exposed = jfind k J.exposed := by
  induction cs generalizing J with
  | nil => rfl
  | cons c rest ih =>
    rw [show J.applyAll (c :: rest) = (J.apply c).applyAll rest from rfl, ih _ (fun x hx => h x (List.mem_cons_of_mem _ hx)),
      jfind_apply J c k hk, if_neg (by rw [h c (List.mem_cons_self ..)]; exact Ne.symm hk)]

theorem jfind_applyAll_dels (removed : List Key) (J : Jar) (k : Key) (hk : k ≠ []) :
    jfind k (J.applyAll (removed.map fun x => mkCookie (-1) [] x)).exposed = if k ∈ removed then none else jfind k J.exposed := by
  induction removed generalizing J with
  | nil => rfl
  | cons x rest ih =>
    rw [List.map_cons, show J.applyAll (mkCookie (-1) [] x :: rest.map fun x => mkCookie (-1) [] x) =
      (J.apply (mkCookie (-1) [] x)).applyAll (rest.map fun x => mkCookie (-1) [] x) from rfl, ih, jfind_apply J _ k hk]
    by_cases hr : k ∈ rest
    · rw [if_pos hr, if_pos (List.mem_cons_of_mem _ hr)]
    · rw [if_neg hr]
      by_cases hx : x = k
      · rw [if_pos (show (mkCookie (-1) [] x).key = k from hx), if_pos (show k ∈ x :: rest from hx ▸ List.mem_cons_self ..)]; rfl
      · rw [if_neg (show ¬ (mkCookie (-1) [] x).key = k from hx), if_neg (fun h => (List.mem_cons.mp h).elim (fun e => hx e.symm) hr)]

def KeysNE (J : List (Key × Bytes)) : Prop := ∀ p ∈ J, p.1 ≠ []

theorem keysNE_applyAll (cs : List SetCookie) (J : Jar) (h : KeysNE J.exposed) : KeysNE (J.applyAll cs).exposed := by
  induction cs generalizing J with
  | nil => exact h
  | cons c rest ih =>
    refine ih (J.apply c) ?_
    simp only [Jar.apply]
    cases hk : c.key with
    | nil => dsimp only; split <;> exact h
    | cons x xs =>
      dsimp only
      split
      · exact fun p hp => h p (mem_jerase hp)
      · exact fun p hp => (mem_jinsert hp).elim (· ▸ List.cons_ne_nil x xs) (h p)

theorem cookie_applyAll_ne (cs : List SetCookie) (J : Jar) (h : ∀ c ∈ cs, c.key ≠ []) : (J.applyAll cs).cookie = J.cookie := by
  induction cs generalizing J with
  | nil => rfl
  | cons c rest ih =>
    rw [show J.applyAll (c :: rest) = (J.apply c).applyAll rest from rfl, ih (J.apply c) (fun x hx => h x (List.mem_cons_of_mem _ hx))]
    have hc := h c (List.mem_cons_self ..)
    simp only [Jar.apply]
    cases hk : c.key with
    | nil => exact absurd hk hc
    | cons x xs => dsimp only; split <;> rfl

theorem mem_kinsert (x k : Key) (l : List Key) : x ∈ kinsert k l ↔ x = k ∨ x ∈ l := by
  induction l with
  | nil => simp [kinsert]
  | cons y ys ih =>
    rw [kinsert]
    split
    · exact List.mem_cons
    · split
      · rename_i h; subst h; simp
      · rw [List.mem_cons, List.mem_cons, ih]; exact or_left_comm

theorem mem_foldl_kinsert (x : Key) (l acc : List Key) : x ∈ l.foldl (fun acc k => kinsert k acc) acc ↔ x ∈ l ∨ x ∈ acc := by
  induction l generalizing acc with
  | nil => simp
  | cons y ys ih => rw [List.foldl_cons, ih, mem_kinsert, List.mem_cons]; exact ⟨Or.rec (.inl ∘ .inr) (Or.rec (.inl ∘ .inl) .inr),
      Or.rec (Or.rec (.inr ∘ .inl) .inl) (.inr ∘ .inr)⟩

/-- condition of the first `if` of pass 1 -/
def setCond (force : Bool) (copy : Data) (k : Key) (e : Entry) : Bool :=
  e.exposed && (force || (dfind k copy).isNone || !((dfind k copy).map (·.exposed)).getD false || ((dfind k copy).map (·.value)) != some e.value)

/-- condition of the `else if` of pass 1 -/
def rmCond (force : Bool) (copy : Data) (k : Key) (e : Entry) : Bool :=
  !e.exposed && (((dfind k copy).map (·.exposed)).getD false || force)

def exposedIn (data : Data) (k : Key) : Bool := ((dfind k data).map (·.exposed)).getD false

/-- the regenerated conditions are the ones the proofs below reason about (a changed operator in the source breaks these) -/
theorem gen_setCond (force : Bool) (copy : Data) (k : Key) (e : Entry) :
    Gen.exposedSetCond e.exposed force (dfind k copy).isNone (((dfind k copy).map (·.exposed)).getD false)
      (((dfind k copy).map (·.value)) != some e.value) = setCond force copy k e := rfl

theorem gen_rmCond (force : Bool) (copy : Data) (k : Key) (e : Entry) :
    Gen.exposedRmCond e.exposed force (dfind k copy).isNone (((dfind k copy).map (·.exposed)).getD false) = rmCond force copy k e := by
  simp only [Gen.exposedRmCond, rmCond]
  cases dfind k copy <;> simp

theorem gen_goneCond (data : Data) (k : Key) (e : Entry) :
    Gen.exposedGoneCond e.exposed (dfind k data).isNone = (e.exposed && (dfind k data).isNone) := rfl

theorem gen_unknownCond (data : Data) (k : Key) :
    Gen.exposedUnknownCond (((dfind k data).map (·.exposed)).getD false) (dfind k data).isNone = !exposedIn data k := by
  simp only [Gen.exposedUnknownCond, exposedIn]
  cases dfind k data <;> simp

theorem pass1_eq (age : Int) (force : Bool) (copy : Data) (data : Data) :
    exposedPass1 age force copy data =
      (data.filterMap fun p => if setCond force copy p.1 p.2 then some (mkCookie age p.2.value p.1) else none,
       data.filterMap fun p => if !setCond force copy p.1 p.2 && rmCond force copy p.1 p.2 then some p.1 else none) := by
  induction data with
  | nil => rfl
  | cons p rest ih =>
    obtain ⟨k, e⟩ := p
    simp only [exposedPass1, ih, gen_setCond, gen_rmCond, List.filterMap_cons]
    cases setCond force copy k e <;> cases rmCond force copy k e <;> rfl

theorem pass2_eq (data copy : Data) :
    exposedPass2 data copy = copy.filterMap fun p => if p.2.exposed && (dfind p.1 data).isNone then some p.1 else none := by
  induction copy with
  | nil => rfl
  | cons p rest ih =>
    simp only [exposedPass2, ih, gen_goneCond, List.filterMap_cons]
    split <;> rfl

theorem pass3_eq (data : Data) (names : List Key) : exposedPass3 data names = names.filter fun k => !exposedIn data k := by
  induction names with
  | nil => rfl
  | cons k rest ih =>
    simp only [exposedPass3, ih, gen_unknownCond, List.filter_cons]

theorem pass1_cons (age : Int) (force : Bool) (copy : Data) (k : Key) (e : Entry) (rest : Data) :
    (exposedPass1 age force copy ((k, e) :: rest)).1 =
      if setCond force copy k e then mkCookie age e.value k :: (exposedPass1 age force copy rest).1
      else (exposedPass1 age force copy rest).1 := by
  simp only [pass1_eq, List.filterMap_cons]
  cases setCond force copy k e <;> rfl

/-- keys of a map are distinct, so at most one cookie of the first loop concerns `k` -/
theorem jfind_applyAll_pass1 (age : Int) (hage : 0 ≤ age) (force : Bool) (copy data : Data) (hs : Sorted data) (J : Jar) (k : Key) (hk : k ≠ []) :
    jfind k (J.applyAll (exposedPass1 age force copy data).1).exposed =
      match dfind k data with
      | some e => if setCond force copy k e then (if e.value.isEmpty then none else some e.value) else jfind k J.exposed
      | none => jfind k J.exposed := by
  induction data generalizing J with
  | nil => rfl
  | cons p rest ih =>
    obtain ⟨k0, e0⟩ := p
    rw [pass1_cons, dfind]
    by_cases hc : setCond force copy k0 e0 = true
    · rw [if_pos hc, show J.applyAll (mkCookie age e0.value k0 :: (exposedPass1 age force copy rest).1) =
        (J.apply (mkCookie age e0.value k0)).applyAll (exposedPass1 age force copy rest).1 from rfl, ih hs.2, jfind_apply _ _ _ hk]
      by_cases h0 : k0 = k
      · subst h0
        rw [dfind_none_of_lt k0 rest hs.1, if_pos rfl]
        dsimp only
        rw [if_pos (show (mkCookie age e0.value k0).key = k0 from rfl), if_pos hc]
        simp only [mkCookie]
        split
        · rfl
        · exact if_neg (by omega)
      · rw [if_neg h0, if_neg (show ¬ (mkCookie age e0.value k0).key = k from h0)]
    · rw [if_neg hc, ih hs.2]
      by_cases h0 : k0 = k
      · subst h0; rw [dfind_none_of_lt k0 rest hs.1, if_pos rfl]; dsimp only; rw [if_neg hc]
      · rw [if_neg h0]

theorem updateExposed_keys (ctx : Ctx) (s : Sess) (force : Bool) :
    ∀ c ∈ updateExposed ctx s force, (∃ p ∈ s.data, c.key = p.1) ∨ (∃ p ∈ s.copy, c.key = p.1) ∨ c.key ∈ ctx.names := by
  intro c hc
  simp only [updateExposed, pass1_eq, pass2_eq, pass3_eq, List.mem_append, List.mem_map, List.mem_filterMap] at hc
  rcases hc with ⟨p, hp, hc⟩ | ⟨k, hk, rfl⟩
  · split at hc <;> cases hc
    exact .inl ⟨p, hp, rfl⟩
  · simp only [mem_foldl_kinsert, List.mem_append, List.mem_filterMap, List.mem_filter, List.not_mem_nil, or_false] at hk
    rcases hk with (⟨p, hp, hk⟩ | ⟨p, hp, hk⟩) | hk
    · split at hk <;> cases hk
      exact .inl ⟨p, hp, rfl⟩
    · split at hk <;> cases hk
      exact .inr (.inl ⟨p, hp, rfl⟩)
    · exact .inr (.inr hk.1)

/-- the exposed cookie a browser must hold for key `k`: the value, if the entry is exposed and non-empty -/
def exposedLookup (d : Data) (k : Key) : Option Bytes :=
  match dfind k d with
  | some e => if e.exposed && !e.value.isEmpty then some e.value else none
  | none => none

theorem removed_iff (ctx : Ctx) (s : Sess) (force : Bool) (hsd : Sorted s.data) (hsc : Sorted s.copy) (k : Key) :
    k ∈ ((exposedPass1 (cookieAgeOf ctx s) force s.copy s.data).2 ++ exposedPass2 s.data s.copy ++ exposedPass3 s.data ctx.names).foldl
        (fun acc k => kinsert k acc) [] ↔
      (∃ e, dfind k s.data = some e ∧ setCond force s.copy k e = false ∧ rmCond force s.copy k e = true) ∨
      (∃ e, dfind k s.copy = some e ∧ e.exposed = true ∧ dfind k s.data = none) ∨
      (k ∈ ctx.names ∧ exposedIn s.data k = false) := by
  simp only [mem_foldl_kinsert, pass1_eq, pass2_eq, pass3_eq, List.mem_append, List.mem_filterMap, List.mem_filter,
    List.not_mem_nil, or_false, or_assoc, Bool.not_eq_true']
  refine or_congr ⟨?_, ?_⟩ (or_congr ⟨?_, ?_⟩ Iff.rfl)
  · rintro ⟨⟨k', e⟩, hp, h⟩
    split at h <;> cases h
    rename_i hc
    simp only [Bool.and_eq_true, Bool.not_eq_true'] at hc
    exact ⟨e, dfind_of_mem_sorted hsd hp, hc⟩
  · rintro ⟨e, he, h1, h2⟩
    exact ⟨(k, e), dfind_some_mem he, by simp only [h1, h2, Bool.not_false, Bool.and_self, if_true]⟩
  · rintro ⟨⟨k', e⟩, hp, h⟩
    split at h <;> cases h
    rename_i hc
    simp only [Bool.and_eq_true, Option.isNone_iff_eq_none] at hc
    exact ⟨e, dfind_of_mem_sorted hsc hp, hc⟩
  · rintro ⟨e, he, h1, h2⟩
    exact ⟨(k, e), dfind_some_mem he, by simp only [h1, h2, Option.isNone_none, Bool.and_self, if_true]⟩

theorem updateExposed_lookup (ctx : Ctx) (s : Sess) (force : Bool) (J : Jar) (k : Key) (hk : k ≠ [])
    (hsd : Sorted s.data) (hsc : Sorted s.copy) (hage : 0 ≤ cookieAgeOf ctx s)
    (hnames : ∀ v, jfind k J.exposed = some v → k ∈ ctx.names)
    (hstep : force = false → ∀ e, dfind k s.copy = some e → e.exposed = true →
      jfind k J.exposed = if e.value.isEmpty then none else some e.value) :
    jfind k (J.applyAll (updateExposed ctx s force)).exposed = exposedLookup s.data k := by
  have hrem := removed_iff ctx s force hsd hsc k
  have hnoJ : k ∉ ctx.names → jfind k J.exposed = none := by
    intro hn
    cases hj : jfind k J.exposed with
    | none => rfl
    | some v => exact absurd (hnames v hj) hn
  rw [show updateExposed ctx s force = (exposedPass1 (cookieAgeOf ctx s) force s.copy s.data).1 ++
      (((exposedPass1 (cookieAgeOf ctx s) force s.copy s.data).2 ++ exposedPass2 s.data s.copy ++ exposedPass3 s.data ctx.names).foldl
        (fun acc k => kinsert k acc) []).map (fun k => mkCookie (-1) [] k) from rfl,
    applyAll_append, jfind_applyAll_dels _ _ k hk, jfind_applyAll_pass1 _ hage force s.copy s.data hsd J k hk]
  simp only [exposedLookup]
  by_cases hin : k ∈ ((exposedPass1 (cookieAgeOf ctx s) force s.copy s.data).2 ++ exposedPass2 s.data s.copy ++
      exposedPass3 s.data ctx.names).foldl (fun acc k => kinsert k acc) []
  · -- scheduled for removal: then the entry is not an exposed one
    rw [if_pos hin]
    rcases hrem.mp hin with ⟨e, he, _, hrm⟩ | ⟨e, _, _, hd⟩ | ⟨_, hx⟩
    · -- by the first loop: the entry is not exposed
      simp only [rmCond, Bool.and_eq_true, Bool.not_eq_true'] at hrm
      simp [he, hrm.1]
    · -- by the second loop: the entry is gone from the data
      simp [hd]
    · -- by `remove_unknown_cookies`: no exposed entry of that key
      cases hd : dfind k s.data with
      | none => rfl
      | some e =>
        simp only [exposedIn, hd, Option.map_some, Option.getD_some] at hx
        simp [hx]
  · rw [if_neg hin]
    cases hd : dfind k s.data with
    | none =>
      -- not in the data: unless the jar has no such cookie it would have been removed
      exact hnoJ fun hn => hin (hrem.mpr (.inr (.inr ⟨hn, by simp [exposedIn, hd]⟩)))
    | some e =>
      simp only
      by_cases c : setCond force s.copy k e = true
      · have hex : e.exposed = true := by simp only [setCond, Bool.and_eq_true] at c; exact c.1
        simp [c, hex]
      · simp only [c, Bool.false_eq_true, if_false]
        have hc : setCond force s.copy k e = false := by simpa using c
        by_cases hex : e.exposed = true
        · -- exposed and unchanged: the jar already holds it
          simp only [setCond, hex, Bool.true_and, Bool.or_eq_false_iff, Bool.not_eq_false', bne_eq_false_iff_eq] at hc
          obtain ⟨⟨⟨hforce, hnone⟩, hexp⟩, hval⟩ := hc
          cases hcp : dfind k s.copy with
          | none => rw [hcp] at hnone; simp at hnone
          | some e' =>
            rw [hcp] at hexp hval
            simp only [Option.map_some, Option.getD_some, Option.some.injEq] at hexp hval
            rw [hstep hforce e' hcp hexp, hval]
            simp [hex]
        · have hex' : e.exposed = false := by simpa using hex
          simp only [hex', Bool.false_and, Bool.false_eq_true, if_false]
          by_cases hrm : rmCond force s.copy k e = true
          · exact absurd (hrem.mpr (.inl ⟨e, hd, hc, hrm⟩)) hin
          · -- `remove_unknown_cookies` would have removed it unless the jar has no such cookie
            exact hnoJ fun hn => hin (hrem.mpr (.inr (.inr ⟨hn, by simp [exposedIn, hd, hex']⟩)))

end Cppcms.C06
