import Cppcms.C06.Session
/-!
# C06: one request — load, mutate, save — against the token-level specification

What a request does to the store is summed up once (`request_eff`); the store invariant, the access log, the frame property,
"dead tokens stay dead" and what every token denotes afterwards (`RequestEff.denotes`) are read off it.
-/
namespace Cppcms.C06
open Cppcms

theorem loaded_issued {cfg : Cfg} {env : Env} {st : Store} {next : Nat} {t : Int} {c id : Bytes} {p : Int × Bytes}
    (hi : StoreInv env st next) (hloc : cfg.loc ≠ .client) (hv : validSid c = some id)
    (hp : aliveTok cfg env t st.recs c = some p) : ∃ m, m < next ∧ id = env.sidOf m := by
  rw [aliveTok_eq, show revId cfg c = some id by rw [revId, if_neg hloc]; exact hv] at hp
  cases hf : findRec id st.recs with
  | none => simp only [aliveLookup, lookupRec, hf, Option.map_none, aliveP] at hp; cases hp
  | some r =>
    obtain ⟨m, hm, e⟩ := hi.issued r (findRec_mem hf).1
    exact ⟨m, hm, (findRec_mem hf).2 ▸ e⟩

/-- `(to, ar)` is what `save()` serialised.  `ReqOut` holds no working copy, so the session is named through the `load()` that produced it:
a user feeds in its own `siLoad` equation. -/
def Serialised (ctx : Ctx) (st : Store) (ops : List Op) (to : Int) (ar : Bytes) : Prop :=
  ∀ s0 st1 cs, siLoad ctx st = (.ok s0, st1, cs) →
    saveData (applyOps ctx.cfg ctx.env s0 ops).data = .ok ar ∧ to = sessionAgeOf ctx (applyOps ctx.cfg ctx.env s0 ops)

/-- the record a request wrote.  `ident`: its identifier is the next one of the source, or the presented one — kept only by a
session that was loaded from it and not reset -/
structure RecordWritten (ctx : Ctx) (st : Store) (next : Nat) (ops : List Op) (out : ReqOut) (r : Rec) : Prop where
  saved : out.saved = .ok (.written (73 :: r.sid))
  server : ctx.cfg.loc ≠ .client
  wf : WFpayload r.data
  payload : Serialised ctx st ops r.timeout r.data
  ident : (r.sid = ctx.env.sidOf next ∧ out.next = next + 1) ∨
    (out.next = next ∧ validSid ctx.cookie = some r.sid ∧ Op.resetSession ∉ ops ∧
      ∃ p, aliveTok ctx.cfg ctx.env ctx.now st.recs ctx.cookie = some p)

/-- no record went to the store; a session saved all the same lies in the cookie -/
structure NoRecord (ctx : Ctx) (st : Store) (next : Nat) (ops : List Op) (out : ReqOut) : Prop where
  next_eq : out.next = next
  client : ∀ tok, out.saved = .ok (.written tok) → ctx.cfg.loc ≠ .server ∧ ∃ to d, tok = 67 :: ctx.env.enc to d ∧ Serialised ctx st ops to d

/-- the key a request drops: the presented identifier, if `save()` cleared or wrote -/
def dropped (cfg : Cfg) (cookie : Bytes) : Except Err SaveKind → Option Bytes
  | .ok .cleared | .ok (.written _) => revId cfg cookie
  | _ => none

theorem dropped_cases (cfg : Cfg) (cookie : Bytes) (s : Except Err SaveKind) :
    dropped cfg cookie s = none ∨ dropped cfg cookie s = revId cfg cookie := by
  rcases s with _ | (_ | _ | _) <;> simp [dropped]

/-- The store after a request (`out` is what `request` returns), as an `Eff` with at most one record written.  Read it on tokens with
`eff.tok` when the argument is about the record (`request_frame`, `dead_step`: no `EnvOK`), with `denotes` when it is about what
`save()` reported (the simulation, the jar). -/
structure RequestEff (ctx : Ctx) (st : Store) (next : Nat) (ops : List Op) (out : ReqOut) (wr : Option Rec) : Prop where
  eff : Eff (Addr ctx.env) ctx.now (dropped ctx.cfg ctx.cookie out.saved) wr st out.store
  record : match wr with
    | none => NoRecord ctx st next ops out
    | some r => RecordWritten ctx st next ops out r

theorem RequestEff.of_some {ctx : Ctx} {st : Store} {next : Nat} {ops : List Op} {out : ReqOut} {r : Rec} (h : RequestEff ctx st next ops out (some r)) :
    RecordWritten ctx st next ops out r := h.record

theorem RequestEff.of_none {ctx : Ctx} {st : Store} {next : Nat} {ops : List Op} {out : ReqOut} (h : RequestEff ctx st next ops out none) :
    NoRecord ctx st next ops out := h.record

/-- a request read on tokens: the three shapes of `Spec.apply` -/
theorem RequestEff.denotes {ctx : Ctx} {st : Store} {next : Nat} {ops : List Op} {out : ReqOut} {wr : Option Rec}
    (hR : RequestEff ctx st next ops out wr) (he : EnvOK ctx.env) (hd : NoDupSid st.recs) :
    match out.saved with
    | .ok (.written tok) => ∃ to ar, Serialised ctx st ops to ar ∧ ∀ t, ctx.now ≤ t → ∀ c2, aliveTok ctx.cfg ctx.env t out.store.recs c2 =
        if c2 = tok then aliveP t (some (to, ar))
        else if (revocable ctx.cfg ctx.cookie && decide (c2 = ctx.cookie)) = true then none
        else aliveTok ctx.cfg ctx.env t st.recs c2
    | .ok .cleared => ∀ t, ctx.now ≤ t → ∀ c2, aliveTok ctx.cfg ctx.env t out.store.recs c2 =
        if (revocable ctx.cfg ctx.cookie && decide (c2 = ctx.cookie)) = true then none else aliveTok ctx.cfg ctx.env t st.recs c2
    | _ => ∀ t, ctx.now ≤ t → ∀ c2, aliveTok ctx.cfg ctx.env t out.store.recs c2 = aliveTok ctx.cfg ctx.env t st.recs c2 := by
  have htok := fun t ht c2 => hR.eff.tok (env := ctx.env) (dropped_cases ..) hd (t := t) ht c2 fun r e _ => by
    subst e
    refine ⟨hR.of_some.server, ?_⟩
    rcases hR.of_some.ident with ⟨hfresh, _⟩ | ⟨_, hkept, _⟩
    · exact hfresh ▸ he.sid_form next
    · exact wf_of_valid hkept
  have hwr : (∀ tok, out.saved ≠ .ok (.written tok)) → wr = none := fun h => by
    cases wr with
    | none => rfl
    | some r => exact absurd hR.of_some.saved (h _)
  cases hs : out.saved with
  | error e =>
    intro t ht c2
    rw [htok t ht c2, hs, hwr fun tok e' => nomatch hs ▸ e']; rfl
  | ok k =>
    cases k with
    | untouched =>
      intro t ht c2
      rw [htok t ht c2, hs, hwr fun tok e' => nomatch hs ▸ e']; rfl
    | cleared =>
      intro t ht c2
      rw [revocable_eq, htok t ht c2, hs, hwr fun tok e => nomatch hs ▸ e]; rfl
    | written tok =>
      cases wr with
      | some r =>
        have hw := hR.of_some
        have e := hw.saved
        rw [hs] at e; cases e
        refine ⟨r.timeout, r.data, hw.payload, fun t ht c2 => ?_⟩
        rw [revocable_eq, htok t ht c2, hs]
        simp only [Option.map_some, Option.some.injEq, dropped]
        rfl
      | none =>
        -- kept in the cookie
        obtain ⟨hloc, to, ar, rfl, hser⟩ := hR.of_none.client tok hs
        refine ⟨to, ar, hser, fun t ht c2 => ?_⟩
        by_cases hc : c2 = 67 :: ctx.env.enc to ar
        · rw [if_pos hc, hc]; exact aliveTok_clientCookie _ _ _ _ _ _ he hloc
        · rw [if_neg hc, revocable_eq, htok t ht c2, hs]; rfl

section
variable (ctx : Ctx) (st : Store) (next : Nat) (ops : List Op)

theorem request_cases :
    (∃ e st1 cs, siLoad ctx st = (.error e, st1, cs) ∧ request ctx st next ops = ⟨st1, next, .error e, .error e, cs⟩) ∨
    (∃ s0 st1 cs, siLoad ctx st = (.ok s0, st1, cs) ∧
      ((∃ e, siSave ctx (applyOps ctx.cfg ctx.env s0 ops) st1 next = .error e ∧
          request ctx st next ops = ⟨st1, next, .ok (readsOf s0), .error e, cs⟩) ∨
       (∃ st2 n2 cs2 k, siSave ctx (applyOps ctx.cfg ctx.env s0 ops) st1 next = .ok (st2, n2, cs2, k) ∧
          request ctx st next ops = ⟨st2, n2, .ok (readsOf s0), .ok k, cs ++ cs2⟩))) := by
  rcases hL : siLoad ctx st with ⟨r, st1, cs⟩
  cases r with
  | error e => exact .inl ⟨e, st1, cs, rfl, by simp only [request, hL]⟩
  | ok s0 =>
    refine .inr ⟨s0, st1, cs, rfl, ?_⟩
    cases hS : siSave ctx (applyOps ctx.cfg ctx.env s0 ops) st1 next with
    | error e => exact .inl ⟨e, rfl, by simp only [request, hL, hS]⟩
    | ok r => exact .inr ⟨r.1, r.2.1, r.2.2.1, r.2.2.2, rfl, by simp only [request, hL, hS]⟩

theorem request_eff : ∃ wr, RequestEff ctx st next ops (request ctx st next ops) wr := by
  have hE1 := (siLoad_outcome ctx st).eff
  rcases request_cases ctx st next ops with ⟨e, st1, cs, hL, hreq⟩ | ⟨s0, st1, cs, hL, ⟨e, _, hreq⟩ | ⟨st2, n2, cs2, k, hS, hreq⟩⟩ <;>
    rw [hreq] <;> rw [hL] at hE1
  -- `load()` or `save()` threw
  iterate 2 exact ⟨none, { eff := hE1, record := { next_eq := rfl, client := fun _ e => (nomatch e) } }⟩
  have hK := siSave_ok hS
  have hser : ∀ ar, saveData (applyOps ctx.cfg ctx.env s0 ops).data = .ok ar →
      Serialised ctx st ops (sessionAgeOf ctx (applyOps ctx.cfg ctx.env s0 ops)) ar := by
    intro ar har s0' st1' cs' h
    rw [hL] at h; cases h
    exact ⟨har, rfl⟩
  cases k with
  | cleared =>
    obtain ⟨_, rfl, hE, _⟩ := hK
    exact ⟨none, { eff := hE1.seq hE (.inr ⟨rfl, rfl⟩), record := { next_eq := rfl, client := fun _ e => (nomatch e) } }⟩
  | untouched =>
    obtain ⟨rfl, rfl, _⟩ := hK
    exact ⟨none, { eff := hE1, record := { next_eq := rfl, client := fun _ e => (nomatch e) } }⟩
  | written tok =>
    obtain ⟨ar, cs1, har, hdne, hap, _⟩ := hK
    have hload := siLoad_loaded hL
    rcases (apiSave_ok hap).2 with ⟨rfl, rfl, hloc, hE⟩ | ⟨sid, rfl, hloc, hE, hid⟩
    · -- kept in the cookie
      exact ⟨none, { eff := hE1.seq hE (.inr ⟨rfl, rfl⟩),
                     record := { next_eq := rfl, client := fun _ e => by cases e; exact ⟨hloc, _, _, rfl, hser ar har⟩ } }⟩
    · -- kept on the server under `sid`
      refine ⟨some ⟨sid, _, ar⟩,
        { eff := hE1.seq hE (.inr ⟨rfl, rfl⟩),
          record :=
            { saved := rfl, server := hloc, wf := ⟨_, applyOps_sorted _ _ _ _ hload.sorted, saveData_limits har, har⟩,
              payload := hser ar har, ident := hid.imp id fun ⟨hv, hnew, hn⟩ => ?_ } }⟩
      -- the identifier is kept only by a session that was loaded and not reset
      simp only [newSession, Bool.or_eq_false_iff, Bool.and_eq_false_iff, (applyOps_copy ctx.cfg ctx.env ops s0).1, hdne,
        Bool.not_false, Bool.true_eq_false, or_false] at hnew
      exact ⟨hn, hv, fun hr => by rw [applyOps_reset _ _ _ _ (.inr hr)] at hnew; exact (nomatch hnew.2), hload.alive_of_copy hnew.1⟩

theorem request_inv (hi : StoreInv ctx.env st next) :
    StoreInv ctx.env (request ctx st next ops).store (request ctx st next ops).next ∧ next ≤ (request ctx st next ops).next := by
  obtain ⟨wr, hR⟩ := request_eff ctx st next ops
  have hE := hR.eff
  have old : ∀ x ∈ st.recs, next ≤ (request ctx st next ops).next → ∃ m, m < (request ctx st next ops).next ∧ x.sid = ctx.env.sidOf m :=
    fun x hx hn => let ⟨m, hm, e⟩ := hi.issued x hx; ⟨m, by omega, e⟩
  cases wr with
  | none =>
    have hnext := hR.of_none.next_eq
    have mem : ∀ x ∈ (request ctx st next ops).store.recs, x ∈ st.recs := fun x hx => (hE.mem x hx).resolve_left (fun e => (nomatch e))
    exact ⟨⟨hE.nodup hi.nodup, fun x hx => hi.wf x (mem x hx), fun x hx => old x (mem x hx) (Nat.le_of_eq hnext.symm)⟩, Nat.le_of_eq hnext.symm⟩
  | some r =>
    have hw := hR.of_some
    have hn : next ≤ (request ctx st next ops).next := by rcases hw.ident with ⟨_, h⟩ | ⟨h, _⟩ <;> omega
    refine ⟨⟨hE.nodup hi.nodup, fun x hx => ?_, fun x hx => ?_⟩, hn⟩
    · exact (hE.mem x hx).elim (fun h => Option.some.inj h ▸ hw.wf) (hi.wf x)
    · rcases hE.mem x hx with h | h
      · cases h
        rcases hw.ident with ⟨hfresh, _⟩ | ⟨_, hkept, _, p, hloaded⟩
        · exact ⟨next, by omega, hfresh⟩
        · obtain ⟨m, hm, e⟩ := loaded_issued hi hw.server hkept hloaded
          exact ⟨m, by omega, e⟩
      · exact old x h hn

theorem request_log (he : EnvOK ctx.env) (h : LogOK st.log) :
    LogOK (request ctx st next ops).store.log := by
  obtain ⟨wr, hR⟩ := request_eff ctx st next ops
  exact fun e hm => (hR.eff.log (fun e he' => .inl (h e he')) e hm).wf he

end

/-- identifiers from the entropy source do not repeat among the first `bound` draws (there are only
`16^32` strings of the issued form, so this cannot be asked of all draws) -/
def Fresh (env : Env) (bound : Nat) : Prop := ∀ m n, m < bound → n < bound → env.sidOf m = env.sidOf n → m = n

/-- a token the next identifier cannot collide with: a client-side cookie, an identifier issued earlier, or a string the source never
produces (attacker-chosen) -/
def TokKnown (env : Env) (next : Nat) (c2 : Bytes) : Prop :=
  firstIs c2 67 = true ∨ (∃ m, m < next ∧ c2 = 73 :: env.sidOf m) ∨ (∀ n, c2 ≠ 73 :: env.sidOf n)

theorem tokKnown_mono {env : Env} {n1 n2 : Nat} {c : Bytes} (h : TokKnown env n1 c) (hle : n1 ≤ n2) : TokKnown env n2 c :=
  h.imp_right (Or.imp_left fun ⟨m, hm, e⟩ => ⟨m, by omega, e⟩)

theorem TokKnown.ne_next {env : Env} {next bound : Nat} {c2 : Bytes} (hk : TokKnown env next c2) (hf : Fresh env bound)
    (hb : next + 1 ≤ bound) : c2 ≠ 73 :: env.sidOf next := by
  rintro rfl
  rcases hk with h | ⟨m, hm, e⟩ | h
  · cases h
  · have := hf m next (by omega) (by omega) (List.cons.inj e).2.symm
    omega
  · exact h next rfl

section
variable (ctx : Ctx) (st : Store) (next : Nat) (ops : List Op)

theorem issued_token_known (tok : Bytes)
    (hi : StoreInv ctx.env st next) (hsaved : (request ctx st next ops).saved = .ok (.written tok)) :
    TokKnown ctx.env (request ctx st next ops).next tok := by
  obtain ⟨wr, hR⟩ := request_eff ctx st next ops
  cases wr with
  | none => obtain ⟨_, _, _, rfl, _⟩ := hR.of_none.client tok hsaved; exact .inl rfl
  | some r =>
    have hw := hR.of_some
    have hs := hw.saved
    rw [hsaved] at hs; cases hs
    rcases hw.ident with ⟨hfresh, hnext⟩ | ⟨hnext, hkept, _, p, hloaded⟩
    · exact .inr (.inl ⟨next, by omega, hfresh ▸ rfl⟩)
    · obtain ⟨m, hm, e⟩ := loaded_issued hi hw.server hkept hloaded
      exact .inr (.inl ⟨m, by omega, e ▸ rfl⟩)

variable (c2 : Bytes) (bound : Nat)

theorem request_frame (hf : Fresh ctx.env bound) (hb : (request ctx st next ops).next ≤ bound) (hd : NoDupSid st.recs)
    (hne : c2 ≠ ctx.cookie) (hk : TokKnown ctx.env next c2) (t : Int) (ht : ctx.now ≤ t) :
    aliveTok ctx.cfg ctx.env t (request ctx st next ops).store.recs c2 = aliveTok ctx.cfg ctx.env t st.recs c2 := by
  obtain ⟨wr, hR⟩ := request_eff ctx st next ops
  -- the written identifier is fresh, so not a known one; or it is the presented one, which `c2` is not
  have n1 : ¬ some c2 = wr.map (fun r => 73 :: r.sid) := by
    cases wr with
    | none => exact fun e => nomatch e
    | some r =>
      intro e; cases e
      rcases hR.of_some.ident with ⟨hfresh, hnext⟩ | ⟨_, hkept, _⟩
      · exact hk.ne_next hf (by omega) (hfresh ▸ rfl)
      · exact hne (validSid_eq_cons hkept).symm
  rw [hR.eff.tok (env := ctx.env) (dropped_cases ..) hd ht c2 fun r e hc => absurd (e ▸ hc ▸ rfl) n1, if_neg n1,
    if_neg (by simp only [Bool.and_eq_true, decide_eq_true_eq]; exact fun h => hne h.2)]

/-- a known (`TokKnown`) dead token stays dead, also when presented -/
theorem dead_step (hf : Fresh ctx.env bound) (hb : (request ctx st next ops).next ≤ bound)
    (hi : StoreInv ctx.env st next) (ha : Admissible ctx.env ctx.cookie) (hk : TokKnown ctx.env next c2)
    (hdead : ∀ t, ctx.now ≤ t → Spec.alive t (absTok ctx.cfg ctx.env st.recs c2) = none) :
    ∀ t, ctx.now ≤ t → Spec.alive t (absTok ctx.cfg ctx.env (request ctx st next ops).store.recs c2) = none := by
  intro t ht
  by_cases hne : c2 = ctx.cookie
  · subst hne
    obtain ⟨wr, hR⟩ := request_eff ctx st next ops
    have n1 : ¬ some ctx.cookie = wr.map (fun r => 73 :: r.sid) := by
      cases wr with
      | none => exact fun e => nomatch e
      | some r =>
        intro e
        rcases hR.of_some.ident with ⟨hfresh, hnext⟩ | ⟨_, _, _, p, hp⟩
        · exact hk.ne_next hf (by omega) (hfresh ▸ Option.some.inj e)
        · -- an identifier is only kept by a session that was loaded; nothing was
          obtain ⟨d, hld, _⟩ := loadData_of_wf (presented_wf ctx.cfg ctx.env st next ctx.now ctx.cookie hi ha p hp)
          have := hdead ctx.now (Int.le_refl _)
          rw [alive_absTok, hp] at this
          simp only [Option.bind_some, sessOfPayload, hld] at this
          cases this
    rw [alive_absTok, hR.eff.tok (env := ctx.env) (dropped_cases ..) hi.nodup ht ctx.cookie fun r e hc => absurd (e ▸ hc ▸ rfl) n1, if_neg n1]
    split
    · rfl
    · rw [← alive_absTok]; exact hdead t ht
  · rw [alive_absTok, request_frame ctx st next ops c2 bound hf hb hi.nodup hne hk t ht, ← alive_absTok]
    exact hdead t ht

end

end Cppcms.C06
