import Cppcms.C06.Api
import Cppcms.C06.Work
/-!
# C06: `load()` and `save()` of `session_interface` against `Spec.specLoad` / `Spec.decideSave`

`siLoad_outcome`, `siLoad_loaded` and `siSave_ok` say once what the two calls do; `siLoad_spec` and `siSave_spec` compare what is read and
what is decided with the specification.
-/
namespace Cppcms.C06
open Cppcms

/-- what `save_data` makes of some `std::map`; `load()` of anything else may throw a format error -/
def WFpayload (ar : Bytes) : Prop := ∃ d, Sorted d ∧ (∀ p ∈ d, withinLimits p) ∧ saveData d = .ok ar

theorem loadData_of_wf {ar : Bytes} (h : WFpayload ar) : ∃ d, loadData ar = .ok d ∧ Sorted d :=
  let ⟨d, hs, _, hsave⟩ := h; ⟨d, loadData_of_saved hs hsave, hs⟩

def sessOfPayload (p : Int × Bytes) : Option Spec.SSess :=
  match loadData p.2 with
  | .ok d => some ⟨toS d, p.1⟩
  | .error _ => none

/-- **the abstraction function**: what a token denotes in a given store under the configured location -/
def absTok (cfg : Cfg) (env : Env) (recs : List Rec) (c : Bytes) : Option Spec.SSess :=
  (tokPayload cfg env recs c).bind sessOfPayload

theorem alive_absTok (cfg : Cfg) (env : Env) (t : Int) (recs : List Rec) (c : Bytes) :
    Spec.alive t (absTok cfg env recs c) = (aliveTok cfg env t recs c).bind sessOfPayload := by
  simp only [absTok, aliveTok]
  cases tokPayload cfg env recs c with
  | none => rfl
  | some p =>
    simp only [Option.bind_some, aliveP]
    cases hs : sessOfPayload p with
    | none => simp only [Spec.alive]; split <;> simp [hs]
    | some s =>
      have hdl : s.deadline = p.1 := by
        simp only [sessOfPayload] at hs
        split at hs <;> cases hs
        rfl
      simp only [Spec.alive, hdl]
      split <;> simp [hs]

/-- the storage between requests.  `nodup`: `findRec` and `eraseSid` speak of the same record; `wf`: a later `load()` parses it; `issued`:
with `Fresh`, the next identifier drawn is the key of no record. -/
structure StoreInv (env : Env) (st : Store) (next : Nat) : Prop where
  nodup : NoDupSid st.recs
  wf : ∀ r ∈ st.recs, WFpayload r.data
  issued : ∀ r ∈ st.recs, ∃ m, m < next ∧ r.sid = env.sidOf m

/-- if the cookie decrypts at all, it decrypts to a serialised well-formed map; `Compose.admissible_hmac` for the real cookie layer -/
def Admissible (env : Env) (c : Bytes) : Prop := ∀ p, cookiePayload env c = some p → WFpayload p.2

theorem presented_wf (cfg : Cfg) (env : Env) (st : Store) (next : Nat) (t : Int) (c : Bytes)
    (hi : StoreInv env st next) (ha : Admissible env c) :
    ∀ p, aliveTok cfg env t st.recs c = some p → WFpayload p.2 := by
  intro p hp
  have hq := (aliveP_eq_some hp).2
  have sidc : sidPayload st.recs c = some p → WFpayload p.2 := by
    intro h
    simp only [sidPayload, lookupRec] at h
    split at h
    · cases h
    · cases hf : findRec _ st.recs with
      | none => rw [hf] at h; cases h
      | some r => rw [hf] at h; cases h; exact hi.wf r (findRec_mem hf).1
  simp only [tokPayload] at hq
  rcases loc_cases cfg.loc with hl | hl | hl <;> rw [hl] at hq
  · exact sidc hq
  · exact ha p hq
  · dsimp only at hq
    split at hq
    · exact ha p hq
    · exact sidc hq

/-- `load()` in three parts: the store's `Eff`, the cookies sent, the session returned -/
structure LoadOutcome (ctx : Ctx) (st : Store) : Prop where
  eff : Eff (Addr ctx.env) ctx.now none none st (siLoad ctx st).2.1
  cookies : (siLoad ctx st).2.2 = [] ∨ ((siLoad ctx st).2.2 = [mkCookie (-1) [] []] ∧ ctx.cookie ≠ [])
  result : (siLoad ctx st).1 = match aliveTok ctx.cfg ctx.env ctx.now st.recs ctx.cookie with
    | none => .ok (emptySess ctx.cfg)
    | some p => sessOfLoaded ctx.cfg ctx.env p.1 p.2

theorem siLoad_outcome (ctx : Ctx) (st : Store) : LoadOutcome ctx st := by
  obtain ⟨h1, h2, h3⟩ := apiLoad_eff ctx st
  suffices h : _ ∧ _ ∧ _ from ⟨h.1, h.2.1, h.2.2⟩
  simp only [siLoad, ← h2]
  generalize apiLoad ctx st = res at *
  obtain ⟨r, st1, cs⟩ := res
  cases r <;> exact ⟨h1, h3, rfl⟩

theorem sessOfLoaded_ok {cfg : Cfg} {env : Env} {to : Int} {ar : Bytes} {s0 : Sess} (h : sessOfLoaded cfg env to ar = .ok s0) :
    ∃ d, loadData ar = .ok d ∧ s0.data = d ∧ s0.copy = d := by
  simp only [sessOfLoaded] at h
  split at h
  · cases h
  · rename_i d hd
    refine ⟨d, hd, ?_⟩
    split at h
    · cases h
    · split at h
      · cases h
      · split at h <;> cases h
        exact ⟨rfl, rfl⟩

/-- `alive_of_copy` is what lets `save()` keep an identifier; `old_eq` ties `data_copy_` to the specification's `cur` -/
structure Loaded (ctx : Ctx) (st : Store) (s0 : Sess) : Prop where
  sorted : Sorted s0.data
  copy_eq : s0.copy = s0.data
  alive_of_copy : s0.copy.isEmpty = false → ∃ p, aliveTok ctx.cfg ctx.env ctx.now st.recs ctx.cookie = some p
  old_eq : oldData (Spec.alive ctx.now (absTok ctx.cfg ctx.env st.recs ctx.cookie)) = toS s0.copy

theorem siLoad_loaded {ctx : Ctx} {st st1 : Store} {s0 : Sess} {cs : List SetCookie} (hL : siLoad ctx st = (.ok s0, st1, cs)) :
    Loaded ctx st s0 := by
  have h := (siLoad_outcome ctx st).result
  rw [hL] at h
  cases hp : aliveTok ctx.cfg ctx.env ctx.now st.recs ctx.cookie with
  | none =>
    rw [hp] at h; cases h
    exact ⟨trivial, rfl, fun e => (nomatch e), by rw [alive_absTok, hp]; rfl⟩
  | some p =>
    rw [hp] at h
    obtain ⟨d, hd, e1, e2⟩ := sessOfLoaded_ok h.symm
    exact ⟨e1 ▸ sorted_loadData _ _ hd, e2.trans e1.symm, fun _ => ⟨p, hp⟩,
      by rw [alive_absTok, hp]; simp only [Option.bind_some, sessOfPayload, hd, oldData, e2]⟩

theorem siLoad_spec (ctx : Ctx) (st : Store)
    (hwf : ∀ p, aliveTok ctx.cfg ctx.env ctx.now st.recs ctx.cookie = some p → WFpayload p.2) :
    match Spec.specLoad (numOf ctx.env) (dfOf ctx.cfg) (Spec.alive ctx.now (absTok ctx.cfg ctx.env st.recs ctx.cookie)) with
    | .error _ => (siLoad ctx st).1 = .error .badCast
    | .ok w0 => ∃ s0, (siLoad ctx st).1 = .ok s0 ∧
        SaveHyp s0 w0 (Spec.alive ctx.now (absTok ctx.cfg ctx.env st.recs ctx.cookie)) := by
  rw [alive_absTok, (siLoad_outcome ctx st).result]
  cases hp : aliveTok ctx.cfg ctx.env ctx.now st.recs ctx.cookie with
  | none =>
    have hr : WorkRel (emptySess ctx.cfg) ⟨[], (dfOf ctx.cfg).age, (dfOf ctx.cfg).how, false, false⟩ := ⟨MapEq.refl _, rfl, rfl, rfl, rfl⟩
    exact ⟨_, rfl, hr, trivial, trivial, MapEq.refl _, rfl⟩
  | some p =>
    obtain ⟨d, hld, hsd⟩ := loadData_of_wf (hwf p hp)
    have key := sessOfLoaded_spec ctx.cfg ctx.env p.1 p.2 d hld
    simp only [Option.bind_some, sessOfPayload, hld]
    split
    · rename_i hs; rw [hs] at key; exact key
    · rename_i w0 hs
      rw [hs] at key
      obtain ⟨s0, e1, e2, e3, e4, e5⟩ := key
      exact ⟨s0, e1, e2, e3 ▸ hsd, e4 ▸ hsd, e4 ▸ MapEq.refl _, e5⟩

theorem siSave_ok {ctx : Ctx} {s : Sess} {st : Store} {next : Nat} {st1 : Store} {n1 : Nat} {cs : List SetCookie} {k : SaveKind}
    (h : siSave ctx s st next = .ok (st1, n1, cs, k)) :
    match k with
    | .cleared => s.data.isEmpty = true ∧ n1 = next ∧ Eff (Addr ctx.env) ctx.now (revId ctx.cfg ctx.cookie) none st st1 ∧
        cs = clearSessionCookie ctx ++ updateExposed ctx s true
    | .untouched => st1 = st ∧ n1 = next ∧ cs = []
    | .written tok => ∃ ar cs1, saveData s.data = .ok ar ∧ s.data.isEmpty = false ∧
        apiSave ctx st next ar (sessionAgeOf ctx s) (newSession s) s.onServer = .ok (st1, n1, cs1, tok) ∧
        cs = cs1 ++ [mkCookie (cookieAgeOf ctx s) tok []] ++ updateExposed ctx s (decide (s.data = s.copy) && !newSession s) := by
  simp only [siSave] at h
  by_cases hem : s.data.isEmpty = true
  · simp only [hem, if_true] at h
    by_cases hce : ctx.cookie.isEmpty = true
    · simp only [hce, if_true, Except.ok.injEq, Prod.mk.injEq] at h
      obtain ⟨rfl, rfl, rfl, rfl⟩ := h
      have hc : ctx.cookie = [] := List.isEmpty_iff.mp hce
      refine ⟨hem, rfl, ?_, by simp only [clearSessionCookie, hce, if_true]⟩
      rw [revId, hc, show validSid [] = none from rfl, ite_self]
      exact Eff.refl ..
    · simp only [hce, Bool.false_eq_true, if_false, Except.ok.injEq, Prod.mk.injEq] at h
      obtain ⟨rfl, rfl, rfl, rfl⟩ := h
      exact ⟨hem, rfl, (apiClear_eff ctx st).1, by rw [(apiClear_eff ctx st).2]⟩
  · simp only [hem, Bool.false_eq_true, if_false] at h
    split at h
    · cases h; exact ⟨rfl, rfl, rfl⟩
    · split at h
      · cases h; exact ⟨rfl, rfl, rfl⟩
      · split at h
        · cases h
        · rename_i ar har
          split at h
          · cases h
          · rename_i st2 n2 cs2 temp hap
            cases h
            exact ⟨ar, cs2, har, Bool.not_eq_true _ ▸ hem, hap, rfl⟩

theorem siSave_spec (ctx : Ctx) (s : Sess) (w : Spec.Work) (st : Store) (next : Nat) (cur : Option Spec.SSess)
    (h : SaveHyp s w cur) :
    match Spec.decideSave (dfOf ctx.cfg) cur w ctx.now with
    | .cleared => ∃ st1 cs, siSave ctx s st next = .ok (st1, next, cs, .cleared)
    | .untouched => siSave ctx s st next = .ok (st, next, [], .untouched)
    | .refused e => ∃ e', siSave ctx s st next = .error e' ∧ errMatches e e'
    | .saved ss _ _ => ∃ st1 n1 cs temp ar, siSave ctx s st next = .ok (st1, n1, cs, .written temp) ∧
        saveData s.data = .ok ar ∧ MapEq (toS s.data) ss.data ∧ ss.deadline = sessionAgeOf ctx s := by
  have c := save_conditions s w cur ctx.now h
  have hlong := tooLong_iff s.data w.data h.sdata h.rel.data
  rw [decideSave_unfold, c.isNew, c.empty, c.unchanged, c.fixed, c.renew, c.browser, c.window ctx.cfg.timeoutDef]
  by_cases hem : s.data.isEmpty = true
  · rw [if_pos hem]
    rcases hS : siSave ctx s st next with e | ⟨st1, n1, cs, k⟩
    · simp [siSave, hem] at hS
    · have hk : k = .cleared := by simp only [siSave, hem, if_true] at hS; cases hS; rfl
      subst hk
      obtain ⟨_, rfl, _, _⟩ := siSave_ok hS
      exact ⟨st1, cs, rfl⟩
  · rw [if_neg hem]
    simp only [siSave, hem, Bool.false_eq_true, if_false]
    -- unchanged and fixed expiration: nothing to do
    by_cases hfixed : ((decide (s.data = s.copy) && !newSession s) && s.how == Gen.howFixed) = true
    · rw [if_pos hfixed, if_pos hfixed]
    · rw [if_neg hfixed, if_neg hfixed]
      -- unchanged and inside the renewal window: nothing to do
      by_cases hwindow : ((decide (s.data = s.copy) && !newSession s) && (s.how == Gen.howRenew || s.how == Gen.howBrowser)
          && decide (Gen.delta ctx.now s.timeoutVal s.timeoutIn * Gen.renewDen < Gen.renewBase s.timeoutVal ctx.cfg.timeoutDef * Gen.renewNum)) = true
      · rw [if_pos hwindow, if_pos hwindow]
      · rw [if_neg hwindow, if_neg hwindow]
        by_cases hl : Spec.tooLong w.data = true
        · rw [if_pos hl]
          obtain ⟨e, hse⟩ := (saveData_throws_iff s.data).mpr (hlong.mp hl)
          exact ⟨e, by rw [hse], saveData_error_kind s.data e hse⟩
        · rw [if_neg hl]
          obtain ⟨ar, har⟩ : ∃ ar, saveData s.data = .ok ar := by
            cases hsd : saveData s.data with
            | ok ar => exact ⟨ar, rfl⟩
            | error e => exact absurd (hlong.mpr ((saveData_throws_iff s.data).mp ⟨e, hsd⟩)) hl
          obtain ⟨herr1, herr2⟩ := apiSave_error ctx st next ar (sessionAgeOf ctx s) (newSession s) s.onServer
          rw [show (dfOf ctx.cfg).clientOnly = (ctx.cfg.loc == .client) from rfl, ← h.rel.srv, har]
          by_cases hsrv : (s.onServer && (ctx.cfg.loc == .client)) = true
          · rw [if_pos hsrv]
            obtain ⟨e, hae⟩ := herr2.mpr hsrv
            exact ⟨e, by dsimp only; rw [hae], herr1 e hae⟩
          · rw [if_neg hsrv]
            cases hap : apiSave ctx st next ar (sessionAgeOf ctx s) (newSession s) s.onServer with
            | error e => exact absurd (herr2.mp ⟨e, hap⟩) hsrv
            | ok r =>
              obtain ⟨st1, n1, cs1, temp⟩ := r
              refine ⟨st1, n1, _, temp, ar, by dsimp only; rw [hap], rfl, h.rel.data, ?_⟩
              -- the deadline `decideSave` computes is `Gen.sessionAge`
              rw [← h.rel.age, ← h.tin]
              simp only [sessionAgeOf, Gen.sessionAge, Gen.howBrowser, Gen.howRenew, Gen.howFixed]
              simp only [Bool.decide_eq_true, Int.add_comm]
              by_cases hx : (s.how == 2 || s.how == 1 || s.how == 0 && newSession s) = true <;> simp [hx]

end Cppcms.C06
