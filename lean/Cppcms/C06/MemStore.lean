import Cppcms.C06.Storage
/-!
# C06: the memory storage's two containers (`map_`, `timeout_`) against the list model
-/
namespace Cppcms.C06
open Cppcms

def recIdx (r : Rec) : Int × Bytes := (r.timeout, r.sid)
def recEntry (r : Rec) : MemEntry := ⟨r.timeout, r.data⟩

/-- **the index mirrors the map** -/
structure MemRel (ms : MemStore) (l : List Rec) : Prop where
  index : ms.index = l.map recIdx
  map : ∀ k, mfind k ms.map = (findRec k l).map recEntry
  nodup : NoDupSid l

theorem mfind_merase (k k' : Bytes) (m : List (Bytes × MemEntry)) : mfind k (merase k' m) = if k' = k then none else mfind k m := by
  induction m with
  | nil => simp [merase, mfind]
  | cons p rest ih =>
    obtain ⟨k0, e0⟩ := p
    simp only [merase]
    split
    · rename_i h; subst h
      rw [ih]; simp only [mfind]
      split <;> rfl
    · rename_i hne
      simp only [mfind, ih]
      by_cases h0 : k0 = k
      · subst h0; simp; intro e; exact absurd e.symm hne
      · simp [h0]

theorem mfind_append_single (k key : Bytes) (e : MemEntry) (m : List (Bytes × MemEntry)) (h : mfind key m = none) :
    mfind k (m ++ [(key, e)]) = if key = k then some e else mfind k m := by
  induction m with
  | nil => simp [mfind]
  | cons p rest ih =>
    obtain ⟨k0, e0⟩ := p
    simp only [mfind] at h
    split at h
    · cases h
    · rename_i hne
      simp only [List.cons_append, mfind, ih h]
      by_cases h0 : k0 = k
      · subst h0; simp [Ne.symm hne]
      · simp [h0]

theorem idxInsert_map (r : Rec) (l : List Rec) : idxInsert r.timeout r.sid (l.map recIdx) = (insByTimeout r l).map recIdx := by
  induction l with
  | nil => rfl
  | cons x xs ih =>
    simp only [List.map_cons, idxInsert, insByTimeout, recIdx] at ih ⊢
    split
    · simp only [List.map_cons, recIdx, ih]
    · rfl

theorem idxErase_map (k : Bytes) (l : List Rec) (r0 : Rec) (hd : NoDupSid l) (h : findRec k l = some r0) :
    idxErase r0.timeout k (l.map recIdx) = (eraseSid k l).map recIdx := by
  induction l with
  | nil => simp [findRec] at h
  | cons x xs ih =>
    obtain ⟨h1, h2⟩ := hd
    simp only [findRec] at h
    split at h
    · rename_i hx
      cases h
      have hnone : findRec k xs = none := (findRec_none_iff k xs).mpr (fun y hy => by rw [← hx]; exact h1 y hy)
      simp only [List.map_cons, idxErase, recIdx, hx, and_self, if_true, eraseSid, eraseSid_of_absent k xs hnone]
    · rename_i hx
      have : ¬ (x.timeout = r0.timeout ∧ x.sid = k) := fun e => hx e.2
      simp only [List.map_cons, idxErase, recIdx, eraseSid, hx, ih h2 h]
      simp [recIdx]

theorem memRel_gc (n : Nat) (now : Int) (ms : MemStore) (l : List Rec) (h : MemRel ms l) :
    MemRel (memShortGcN n now ms) (shortGcN n now l) := by
  induction n generalizing ms l with
  | zero => exact h
  | succ n ih =>
    cases l with
    | nil =>
      have : ms.index = [] := by rw [h.index]; rfl
      simp only [memShortGcN, this, shortGcN]; exact h
    | cons r rest =>
      have hidx : ms.index = (r.timeout, r.sid) :: rest.map recIdx := by rw [h.index]; rfl
      simp only [memShortGcN, hidx, shortGcN]
      split
      · apply ih
        refine ⟨rfl, ?_, h.nodup.2⟩
        intro k
        simp only [mfind_merase, h.map k, findRec]
        by_cases hk : r.sid = k
        · subst hk
          rw [if_pos rfl, (findRec_none_iff r.sid rest).mpr (fun y hy => h.nodup.1 y hy)]
          rfl
        · rw [if_neg hk, if_neg hk]
      · exact h

theorem memRel_save (now : Int) (key : Bytes) (to : Int) (value : Bytes) (ms : MemStore) (st : Store) (h : MemRel ms st.recs) :
    MemRel (ms.save now key to value) (st.save .memory now key to value).recs := by
  simp only [MemStore.save, Store.save, memShortGc, shortGc]
  apply memRel_gc
  have hne : ∀ x ∈ eraseSid key st.recs, x.sid ≠ (⟨key, to, value⟩ : Rec).sid := fun x hx => (mem_eraseSid.mp hx).2
  have hfind : ∀ k, findRec k (insByTimeout ⟨key, to, value⟩ (eraseSid key st.recs)) =
      if key = k then some ⟨key, to, value⟩ else findRec k st.recs := by
    intro k
    rw [findRec_insByTimeout k _ _ hne, findRec_eraseSid]
    by_cases hk : key = k
    · simp [hk]
    · simp [hk]
  have hnd := noDup_insByTimeout _ _ (noDup_eraseSid key _ h.nodup) hne
  have hm := h.map key
  cases hf : findRec key st.recs with
  | none =>
    rw [hf] at hm
    simp only [Option.map_none] at hm
    simp only [hm]
    refine ⟨?_, ?_, hnd⟩
    · show idxInsert to key ms.index = _
      rw [h.index, eraseSid_of_absent key _ hf]
      exact idxInsert_map ⟨key, to, value⟩ st.recs
    · intro k
      rw [mfind_append_single k key _ _ hm, hfind k, h.map k]
      split <;> rfl
  | some r0 =>
    rw [hf] at hm
    simp only [Option.map_some] at hm
    simp only [hm]
    refine ⟨?_, ?_, hnd⟩
    · show idxInsert to key (idxErase (recEntry r0).timeout key ms.index) = _
      rw [h.index, show (recEntry r0).timeout = r0.timeout from rfl, idxErase_map key st.recs r0 h.nodup hf]
      exact idxInsert_map ⟨key, to, value⟩ _
    · intro k
      simp only [mfind, mfind_merase, hfind k, h.map k]
      split <;> rfl

theorem memRel_remove (now : Int) (key : Bytes) (ms : MemStore) (st : Store) (h : MemRel ms st.recs) :
    MemRel (ms.remove now key) (st.remove .memory now key).recs := by
  simp only [MemStore.remove, Store.remove]
  have hm := h.map key
  cases hf : findRec key st.recs with
  | none =>
    rw [hf] at hm; simp only [Option.map_none] at hm
    simp only [hm]; exact h
  | some r0 =>
    rw [hf] at hm; simp only [Option.map_some] at hm
    simp only [hm, memShortGc, shortGc]
    apply memRel_gc
    refine ⟨?_, ?_, noDup_eraseSid key _ h.nodup⟩
    · show idxErase (recEntry r0).timeout key ms.index = _
      rw [h.index]; exact idxErase_map key st.recs r0 h.nodup hf
    · intro k
      rw [mfind_merase, findRec_eraseSid, h.map k]
      split <;> rfl

theorem memRel_load (now : Int) (key : Bytes) (ms : MemStore) (st : Store) (h : MemRel ms st.recs) :
    ms.load now key = (st.load .memory now key).1 := by
  simp only [MemStore.load, Store.load, h.map key]
  cases findRec key st.recs with
  | none => rfl
  | some r => simp only [Option.map_some, recEntry]; split <;> rfl

end Cppcms.C06
