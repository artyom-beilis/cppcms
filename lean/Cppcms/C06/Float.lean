import Cppcms.C06.Model
/-!
# C06: the renewal test in binary64 agrees with the rational comparison
-/
namespace Cppcms.C06
open Cppcms

theorem roundToMultiple_near (N P : Nat) (hP : 0 < P) :
    2 * roundToMultiple N P ≤ 2 * N + P ∧ 2 * N ≤ 2 * roundToMultiple N P + P := by
  have h1 := Nat.div_add_mod N P
  have h2 := Nat.mod_lt N hP
  rw [Nat.mul_comm] at h1
  simp only [roundToMultiple, Nat.add_mul, Nat.one_mul]
  generalize N / P * P = X at *
  split
  · omega
  · split
    · omega
    · split <;> omega

theorem roundToMultiple_exact (a x P : Nat) (hx : 2 * x < P) : roundToMultiple (x + P * a) P = a * P := by
  have hP : 0 < P := by omega
  have hd : (x + P * a) / P = a := by rw [Nat.add_mul_div_left _ _ hP, Nat.div_eq_of_lt (by omega)]; omega
  have hm : (x + P * a) % P = x := by rw [Nat.add_mul_mod_self_left, Nat.mod_eq_of_lt (by omega)]
  simp only [roundToMultiple, hd, hm, hx, if_true]

theorem ulp53_facts (N : Nat) (hN : 0 < N) (hb : N < 2 ^ 84) :
    N < 2 ^ 53 * ulp53 N ∧ ulp53 N ≤ 2 ^ 31 ∧ ∃ c, ulp53 N * c = 2 ^ 55 := by
  have hlog : Nat.log2 N < 84 := (Nat.log2_lt (by omega)).mpr hb
  have hlt : N < 2 ^ (Nat.log2 N + 1) := Nat.lt_log2_self
  refine ⟨?_, Nat.pow_le_pow_right (by omega) (by omega), 2 ^ (55 - (Nat.log2 N + 1 - 53)), ?_⟩
  · simp only [ulp53, ← Nat.pow_add]
    exact Nat.lt_of_lt_of_le hlt (Nat.pow_le_pow_right (by omega) (by omega))
  · rw [ulp53, ← Nat.pow_add]; congr 1; omega

/-- Comparing `d·2^55` with the multiple `F` of `P` nearest to `N = T·(2^55+2)/10` is comparing `10 d` with `T`, when `P`
divides `2^55`, `P ≤ 2^31` and `N < 2^53·P`: off the tie `F` is within `P/2` of `N`; at the tie `T = 10 d` the exact product
`d·2^55 + 2 d` is less than half a spacing above the multiple `d·2^55`. -/
theorem round_compare (N P c F T : Nat) (d : Int) (hN : 10 * N = T * 36028797018963970) (hT : T ≤ 2147483648)
    (hPN : N < 9007199254740992 * P) (hP : P ≤ 2147483648) (hc : P * c = 36028797018963968) (hF : F = roundToMultiple N P) :
    (d * 36028797018963968 < F ↔ 10 * d < T) ∧ ((F : Int) < d * 36028797018963968 ↔ (T : Int) < 10 * d) := by
  have hP0 : 0 < P := Nat.pos_of_ne_zero fun e => by rw [e, Nat.zero_mul] at hc; cases hc
  obtain ⟨h1, h2⟩ := roundToMultiple_near N P hP0
  rw [← hF] at h1 h2
  have htie : 10 * d = T → (F : Int) = d * 36028797018963968 := by
    intro h
    obtain ⟨dn, rfl⟩ : ∃ dn : Nat, d = dn := ⟨d.toNat, by omega⟩
    have hNe : N = 2 * dn + P * (dn * c) := by rw [Nat.mul_left_comm, hc]; omega
    rw [hF, hNe, roundToMultiple_exact _ _ _ (by omega), Nat.mul_assoc, Nat.mul_comm c P, hc]
    omega
  omega

/-- the literals: `2^Gen.renewShift = 36028797018963968`, `Gen.renewMant = 3602879701896397` (`10 · renewMant = 2^55 + 2`, the
`36028797018963970` of `round_compare`), `2^31 = 2147483648`; the second conjunct serves negative multiplicands (negate `d`) -/
theorem fl53_compare (T : Nat) (hT0 : 0 < T) (hT : T ≤ 2147483648) (d : Int) :
    (d * 36028797018963968 < fl53 (T * 3602879701896397) ↔ 10 * d < T) ∧
    ((fl53 (T * 3602879701896397) : Int) < d * 36028797018963968 ↔ (T : Int) < 10 * d) := by
  obtain ⟨hPN, hP31, c, hc⟩ := ulp53_facts (T * 3602879701896397) (by omega) (by rw [show (2:Nat) ^ 84 = 19342813113834066795298816 from rfl]; omega)
  exact round_compare _ _ c _ T d (by omega) hT hPN hP31 hc rfl

end Cppcms.C06
