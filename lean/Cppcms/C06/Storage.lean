import Cppcms.C06.Model
import Cppcms.C06.Spec
/-!
# C06 server storages as partial maps

`aliveLookup t recs id`: what a storage holding `recs` answers for key `id` at time `t`.  Every transition of the store
— one call of the `session_storage` interface or all the calls of a request — has one shape, `Eff`: a key dropped, a
record written, and records lost that were no longer visible.
-/
namespace Cppcms.C06
open Cppcms

def lookupRec (recs : List Rec) (id : Bytes) : Option (Int × Bytes) := (findRec id recs).map fun r => (r.timeout, r.data)

/-- a payload is visible at time `t` while `t ≤ deadline` (every backend tests `deadline < now`) -/
def aliveP (t : Int) : Option (Int × Bytes) → Option (Int × Bytes)
  | some p => if t ≤ p.1 then some p else none
  | none => none

def aliveLookup (t : Int) (recs : List Rec) (id : Bytes) : Option (Int × Bytes) := aliveP t (lookupRec recs id)

def NoDupSid : List Rec → Prop
  | [] => True
  | r :: rest => (∀ x ∈ rest, x.sid ≠ r.sid) ∧ NoDupSid rest

def LogOK (l : List (StOp × Bytes)) : Prop := ∀ e ∈ l, Spec.wellFormedId e.2 = true

/-- every backend's expiry test is `deadline < now` (a `≤` in the source breaks this) -/
structure ExpiryTests (to now : Int) : Prop where
  mem : Gen.memExpired to now = decide (to < now)
  file : Gen.fileExpired to now = decide (to < now)
  memGc : Gen.memGcExpired to now = decide (to < now)
  fileGc : Gen.fileGcExpired to now = decide (to < now)
  sid : Gen.sidExpired now to = decide (to < now)
  cookie : Gen.cookieExpired to now = decide (to < now)

theorem expiry_tests (to now : Int) : ExpiryTests to now := ⟨rfl, rfl, rfl, rfl, rfl, rfl⟩

theorem aliveP_mono {now t : Int} (ht : now ≤ t) (p : Option (Int × Bytes)) : aliveP t (aliveP now p) = aliveP t p := by
  cases p with
  | none => rfl
  | some p =>
    simp only [aliveP]
    by_cases h1 : now ≤ p.1
    · simp [h1]
    · have : ¬ t ≤ p.1 := by omega
      simp [h1, this]

theorem aliveP_idem (t : Int) (p : Option (Int × Bytes)) : aliveP t (aliveP t p) = aliveP t p :=
  aliveP_mono (Int.le_refl t) p

/-- a backend's expiry test after `expiry_tests`, read as `aliveP` -/
theorem aliveP_expired (t : Int) (p : Int × Bytes) : (if decide (p.1 < t) = true then none else some p) = aliveP t (some p) := by
  simp only [aliveP, decide_eq_true_eq]
  split <;> split <;> first | rfl | omega

theorem aliveP_eq_some {t : Int} {p : Option (Int × Bytes)} {q : Int × Bytes} (h : aliveP t p = some q) : t ≤ q.1 ∧ p = some q := by
  cases p with
  | none => cases h
  | some p =>
    simp only [aliveP] at h
    split at h
    · cases h; exact ⟨‹_›, rfl⟩
    · cases h

theorem aliveP_of_expired {now t : Int} (ht : now ≤ t) {p : Int × Bytes} (h : p.1 < now) : aliveP t (some p) = none :=
  if_neg (by omega)

theorem findRec_mem {id : Bytes} {l : List Rec} {r : Rec} (h : findRec id l = some r) : r ∈ l ∧ r.sid = id := by
  induction l with
  | nil => cases h
  | cons x xs ih =>
    rw [findRec] at h
    split at h
    · cases h; exact ⟨List.mem_cons_self .., ‹_›⟩
    · exact (ih h).imp_left (List.mem_cons_of_mem _)

theorem findRec_none_iff (id : Bytes) (l : List Rec) : findRec id l = none ↔ ∀ x ∈ l, x.sid ≠ id := by
  induction l with
  | nil => simp [findRec]
  | cons x xs ih =>
    rw [findRec]
    split
    · rename_i h; simp [h]
    · rename_i h; rw [ih]; simp [h]

theorem mem_eraseSid {s : Bytes} {l : List Rec} {x : Rec} : x ∈ eraseSid s l ↔ x ∈ l ∧ x.sid ≠ s := by
  induction l with
  | nil => simp [eraseSid]
  | cons y ys ih =>
    rw [eraseSid]
    split
    · rename_i h
      rw [ih, List.mem_cons]
      exact ⟨fun ⟨h1, h2⟩ => ⟨.inr h1, h2⟩, fun ⟨h1, h2⟩ => ⟨h1.resolve_left (fun e => h2 (e ▸ h)), h2⟩⟩
    · rename_i h
      rw [List.mem_cons, List.mem_cons, ih]
      exact ⟨fun h' => h'.elim (fun e => ⟨.inl e, e ▸ h⟩) (fun ⟨h1, h2⟩ => ⟨.inr h1, h2⟩),
        fun ⟨h1, h2⟩ => h1.imp_right (⟨·, h2⟩)⟩

theorem findRec_eraseSid (id s : Bytes) (l : List Rec) :
    findRec id (eraseSid s l) = if s = id then none else findRec id l := by
  induction l with
  | nil => simp only [eraseSid, findRec, ite_self]
  | cons x xs ih =>
    rw [eraseSid]
    split
    · rename_i h
      rw [ih, findRec]
      split
      · rfl
      · rename_i hne; rw [if_neg (h ▸ hne)]
    · rename_i h
      simp only [findRec, ih]
      split
      · rename_i hx; rw [if_neg (hx ▸ Ne.symm h)]
      · rfl

theorem noDup_eraseSid (s : Bytes) (l : List Rec) (h : NoDupSid l) : NoDupSid (eraseSid s l) := by
  induction l with
  | nil => trivial
  | cons x xs ih =>
    rw [eraseSid]
    split
    · exact ih h.2
    · exact ⟨fun y hy => h.1 y (mem_eraseSid.mp hy).1, ih h.2⟩

theorem eraseSid_of_absent (k : Bytes) (l : List Rec) (h : findRec k l = none) : eraseSid k l = l := by
  induction l with
  | nil => rfl
  | cons x xs ih =>
    rw [findRec] at h
    split at h
    · cases h
    · rename_i hne; rw [eraseSid, if_neg hne, ih h]

theorem mem_insByTimeout {r x : Rec} {l : List Rec} : x ∈ insByTimeout r l ↔ x = r ∨ x ∈ l := by
  induction l with
  | nil => simp [insByTimeout]
  | cons y ys ih =>
    rw [insByTimeout]
    split
    · rw [List.mem_cons, List.mem_cons, ih]; exact or_left_comm
    · exact List.mem_cons

theorem findRec_insByTimeout (id : Bytes) (r : Rec) (l : List Rec) (h : ∀ x ∈ l, x.sid ≠ r.sid) :
    findRec id (insByTimeout r l) = if r.sid = id then some r else findRec id l := by
  induction l with
  | nil => rfl
  | cons y ys ih =>
    rw [insByTimeout]
    split
    · simp only [findRec, ih (fun x hx => h x (List.mem_cons_of_mem _ hx))]
      split
      · rename_i he; rw [if_neg (he ▸ Ne.symm (h y (List.mem_cons_self ..)))]
      · rfl
    · rfl

theorem noDup_insByTimeout (r : Rec) (l : List Rec) (h : NoDupSid l) (hr : ∀ x ∈ l, x.sid ≠ r.sid) :
    NoDupSid (insByTimeout r l) := by
  induction l with
  | nil => exact ⟨fun _ h => (nomatch h), trivial⟩
  | cons y ys ih =>
    rw [insByTimeout]
    split
    · refine ⟨fun x hx => ?_, ih h.2 (fun x hx => hr x (List.mem_cons_of_mem _ hx))⟩
      rcases mem_insByTimeout.mp hx with rfl | hx
      · exact Ne.symm (hr y (List.mem_cons_self ..))
      · exact h.1 x hx
    · exact ⟨hr, h⟩

theorem findRec_append (id : Bytes) (a b : List Rec) :
    findRec id (a ++ b) = match findRec id a with | some r => some r | none => findRec id b := by
  induction a with
  | nil => rfl
  | cons x xs ih =>
    simp only [List.cons_append, findRec]
    split
    · rfl
    · exact ih

theorem noDup_append_single (l : List Rec) (r : Rec) (h : NoDupSid l) (hr : ∀ x ∈ l, x.sid ≠ r.sid) : NoDupSid (l ++ [r]) := by
  induction l with
  | nil => exact ⟨fun _ h => (nomatch h), trivial⟩
  | cons y ys ih =>
    refine ⟨fun x hx => ?_, ih h.2 (fun x hx => hr x (List.mem_cons_of_mem _ hx))⟩
    rcases List.mem_append.mp hx with hx | hx
    · exact h.1 x hx
    · exact List.mem_singleton.mp hx ▸ Ne.symm (hr y (List.mem_cons_self ..))


theorem mem_shortGcN {n : Nat} {now : Int} {l : List Rec} {x : Rec} (h : x ∈ shortGcN n now l) : x ∈ l := by
  induction n generalizing l with
  | zero => exact h
  | succ n ih =>
    cases l with
    | nil => exact h
    | cons y ys =>
      rw [shortGcN] at h
      split at h
      · exact List.mem_cons_of_mem _ (ih h)
      · exact h

theorem noDup_shortGcN (n : Nat) (now : Int) (l : List Rec) (h : NoDupSid l) : NoDupSid (shortGcN n now l) := by
  induction n generalizing l with
  | zero => exact h
  | succ n ih =>
    cases l with
    | nil => exact h
    | cons y ys =>
      rw [shortGcN]
      split
      · exact ih ys h.2
      · exact h

theorem findRec_shortGcN (n : Nat) (now : Int) (l : List Rec) (hd : NoDupSid l) (k : Bytes) :
    findRec k (shortGcN n now l) = findRec k l ∨
    (∃ r, findRec k l = some r ∧ r.timeout < now ∧ findRec k (shortGcN n now l) = none) := by
  induction n generalizing l with
  | zero => exact .inl rfl
  | succ n ih =>
    cases l with
    | nil => exact .inl rfl
    | cons r rest =>
      rw [shortGcN]
      split
      · rename_i hexp
        by_cases hk : r.sid = k
        · subst hk
          refine .inr ⟨r, if_pos rfl, of_decide_eq_true hexp, (findRec_none_iff _ _).mpr fun x hx => hd.1 x (mem_shortGcN hx)⟩
        · rw [findRec, if_neg hk]; exact ih rest hd.2
      · exact .inl rfl

theorem aliveLookup_shortGcN (n : Nat) (now t : Int) (l : List Rec) (id : Bytes) (hd : NoDupSid l) (ht : now ≤ t) :
    aliveLookup t (shortGcN n now l) id = aliveLookup t l id := by
  simp only [aliveLookup, lookupRec]
  rcases findRec_shortGcN n now l hd id with h | ⟨r, h1, h2, h3⟩
  · rw [h]
  · rw [h1, h3]; exact (aliveP_of_expired ht (p := (r.timeout, r.data)) h2).symm

theorem aliveLookup_eraseSid (t : Int) (l : List Rec) (s id : Bytes) :
    aliveLookup t (eraseSid s l) id = if s = id then none else aliveLookup t l id := by
  simp only [aliveLookup, lookupRec, findRec_eraseSid]
  split <;> rfl

/-- `st1` arises from `st` by calls of the `session_storage` interface at time `now`, each addressed with a key
satisfying `P`: what was stored under `del` is gone, then `wr` was stored; records that were expired at `now` may have
been collected on the way, so the store is described as it answers from `now` on. -/
structure Eff (P : Bytes → Prop) (now : Int) (del : Option Bytes) (wr : Option Rec) (st st1 : Store) : Prop where
  nodup : NoDupSid st.recs → NoDupSid st1.recs
  mem : ∀ x ∈ st1.recs, some x = wr ∨ x ∈ st.recs
  alive : NoDupSid st.recs → ∀ t, now ≤ t → ∀ id, aliveLookup t st1.recs id =
    if wr.map (·.sid) = some id then aliveP t (wr.map fun r => (r.timeout, r.data))
    else if del = some id then none else aliveLookup t st.recs id
  log : (∀ e ∈ st.log, P e.2) → ∀ e ∈ st1.log, P e.2

section
variable {P : Bytes → Prop} {now : Int} {st st1 st2 : Store}

theorem log_cons {o : StOp} {k : Bytes} {l : List (StOp × Bytes)} (hk : P k) (h : ∀ e ∈ l, P e.2) : ∀ e ∈ (o, k) :: l, P e.2 :=
  fun e he => (List.mem_cons.mp he).elim (· ▸ hk) (h e)

theorem Eff.refl (P : Bytes → Prop) (now : Int) (st : Store) : Eff P now none none st st :=
  ⟨id, fun _ h => .inr h, fun _ _ _ _ => rfl, id⟩

/-- `(del, –)` then `(–, wr)`, or `(–, –)` then `(del, wr)`, is `(del, wr)` -/
theorem Eff.seq {d1 d2 del : Option Bytes} {wr : Option Rec} (h1 : Eff P now d1 none st st1) (h2 : Eff P now d2 wr st1 st2)
    (h : d2 = none ∧ del = d1 ∨ d1 = none ∧ del = d2) : Eff P now del wr st st2 :=
  ⟨h2.nodup ∘ h1.nodup, fun x hx => (h2.mem x hx).imp_right fun h => (h1.mem x h).resolve_left (fun e => nomatch e),
   fun hd t ht id => by
    rw [h2.alive (h1.nodup hd) t ht id, h1.alive hd t ht id]
    rcases h with ⟨rfl, rfl⟩ | ⟨rfl, rfl⟩ <;> simp only [Option.map_none, reduceCtorEq, if_false],
   h2.log ∘ h1.log⟩

/-- `(–, wr)` is also `(wr.sid, wr)`: the write wins over the drop -/
theorem Eff.drop_written {r : Rec} (h : Eff P now none (some r) st st1) : Eff P now (some r.sid) (some r) st st1 :=
  ⟨h.nodup, h.mem, fun hd t ht id => by
    rw [h.alive hd t ht id]
    simp only [Option.map_some, Option.some.injEq, reduceCtorEq, if_false]
    split <;> rfl,
   h.log⟩

end

theorem Store.save_eff (P : Bytes → Prop) (k : Kind) (now : Int) (sid : Bytes) (to : Int) (d : Bytes) (st : Store) (hs : P sid) :
    Eff P now none (some ⟨sid, to, d⟩) st (st.save k now sid to d) := by
  have hne : ∀ x ∈ eraseSid sid st.recs, x.sid ≠ (⟨sid, to, d⟩ : Rec).sid := fun x hx => (mem_eraseSid.mp hx).2
  refine ⟨fun hd => ?_, fun x hx => ?_, fun hd t ht id => ?_, fun h => ?_⟩
  · cases k with
    | memory => exact noDup_shortGcN _ _ _ (noDup_insByTimeout _ _ (noDup_eraseSid sid _ hd) hne)
    | files => exact noDup_append_single _ _ (noDup_eraseSid sid _ hd) hne
  · cases k with
    | memory => exact (mem_insByTimeout.mp (mem_shortGcN hx)).imp (congrArg some) (fun h => (mem_eraseSid.mp h).1)
    | files =>
      exact (List.mem_append.mp hx).symm.imp (fun h => congrArg some (List.mem_singleton.mp h)) (fun h => (mem_eraseSid.mp h).1)
  · simp only [Option.map_some, Option.some.injEq, reduceCtorEq, if_false]
    cases k with
    | memory =>
      simp only [Store.save, shortGc]
      rw [aliveLookup_shortGcN _ now t _ id (noDup_insByTimeout _ _ (noDup_eraseSid sid _ hd) hne) ht]
      simp only [aliveLookup, lookupRec, findRec_insByTimeout id _ _ hne, findRec_eraseSid]
      split <;> rfl
    | files =>
      simp only [Store.save, aliveLookup, lookupRec, findRec_append, findRec_eraseSid, findRec]
      by_cases h : sid = id
      · simp only [h, if_true, Option.map_some]
      · simp only [h, if_false]
        cases findRec id st.recs <;> rfl
  · cases k <;> exact log_cons hs h

theorem Store.remove_eff (P : Bytes → Prop) (k : Kind) (now : Int) (sid : Bytes) (st : Store) (hs : P sid) :
    Eff P now (some sid) none st (st.remove k now sid) := by
  refine ⟨fun hd => ?_, fun x hx => .inr ?_, fun hd t ht id => ?_, fun h => ?_⟩
  · cases k with
    | memory =>
      simp only [Store.remove]
      split
      · exact hd
      · exact noDup_shortGcN _ _ _ (noDup_eraseSid _ _ hd)
    | files => exact noDup_eraseSid _ _ hd
  · cases k with
    | memory =>
      simp only [Store.remove] at hx
      split at hx
      · exact hx
      · exact (mem_eraseSid.mp (mem_shortGcN hx)).1
    | files => exact (mem_eraseSid.mp hx).1
  · simp only [Option.map_none, reduceCtorEq, if_false, Option.some.injEq]
    cases k with
    | memory =>
      simp only [Store.remove]
      split
      · rename_i hf
        split
        · rename_i he; subst he; simp only [aliveLookup, lookupRec, hf, Option.map_none, aliveP]
        · rfl
      · exact (aliveLookup_shortGcN _ now t _ id (noDup_eraseSid sid _ hd) ht).trans (aliveLookup_eraseSid ..)
    | files => exact aliveLookup_eraseSid ..
  · cases k with
    | memory => simp only [Store.remove]; split <;> exact log_cons hs h
    | files => exact log_cons hs h

theorem Store.load_eff (P : Bytes → Prop) (k : Kind) (now : Int) (sid : Bytes) (st : Store) (hs : P sid) :
    Eff P now none none st (st.load k now sid).2 ∧ (st.load k now sid).1 = aliveLookup now st.recs sid := by
  -- in every case but the unlinking of an expired file only the log grows
  have logged : Eff P now none none st { st with log := (.load, sid) :: st.log } :=
    ⟨id, fun _ h => .inr h, fun _ _ _ _ => rfl, log_cons hs⟩
  simp only [Store.load, aliveLookup, lookupRec]
  cases hf : findRec sid st.recs with
  | none => exact ⟨logged, rfl⟩
  | some r =>
    cases k with
    | memory =>
      simp only [Option.map_some, ← aliveP_expired, (expiry_tests r.timeout now).mem]
      split <;> exact ⟨logged, rfl⟩
    | files =>
      simp only [Option.map_some, ← aliveP_expired, (expiry_tests r.timeout now).file]
      split
      · rename_i hexp
        refine ⟨⟨noDup_eraseSid _ _, fun x hx => .inr (mem_eraseSid.mp hx).1, fun _ t ht id => ?_, log_cons hs⟩, rfl⟩
        simp only [Option.map_none, reduceCtorEq, if_false, aliveLookup_eraseSid]
        split
        · rename_i he; subst he
          simp only [aliveLookup, lookupRec, hf, Option.map_some]
          exact (aliveP_of_expired ht (p := (r.timeout, r.data)) (of_decide_eq_true hexp)).symm
        · rfl
      · exact ⟨logged, rfl⟩

/-! The network storage: node index ↦ records of a memory storage; routing by `hash sid % n` is part of the definitions. -/

abbrev Cluster := Nat → List Rec

/-- `tcp_connector::get(key)`: node `hash(key) % conns` -/
def nodeOf (hash : Bytes → Nat) (n : Nat) (key : Bytes) : Nat := hash key % n

/-- what the cluster answers for `id` when asked the way `tcp_storage::load` asks (node chosen by the sid) -/
def clusterLookup (t : Int) (c : Cluster) (hash : Bytes → Nat) (n : Nat) (id : Bytes) : Option (Int × Bytes) :=
  aliveLookup t (c (nodeOf hash n id)) id

def clusterSave (now : Int) (c : Cluster) (hash : Bytes → Nat) (n : Nat) (sid : Bytes) (to : Int) (d : Bytes) : Cluster :=
  fun i => if i = nodeOf hash n sid then ((⟨c i, []⟩ : Store).save .memory now sid to d).recs else c i

def clusterRemove (now : Int) (c : Cluster) (hash : Bytes → Nat) (n : Nat) (sid : Bytes) : Cluster :=
  fun i => if i = nodeOf hash n sid then ((⟨c i, []⟩ : Store).remove .memory now sid).recs else c i

theorem cluster_noDup_save (now : Int) (c : Cluster) (hash : Bytes → Nat) (n : Nat) (sid : Bytes) (to : Int) (d : Bytes)
    (hd : ∀ i, NoDupSid (c i)) : ∀ i, NoDupSid (clusterSave now c hash n sid to d i) := by
  intro i
  simp only [clusterSave]
  split
  · exact (Store.save_eff (fun _ => True) .memory now sid to d ⟨c i, []⟩ trivial).nodup (hd i)
  · exact hd i

end Cppcms.C06
