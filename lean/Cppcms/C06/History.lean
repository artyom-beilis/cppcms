import Cppcms.C06.Request
/-!
# C06: histories of requests

Along any `HistOK` history the store invariant holds (`run_inv`), a known token that no step presents keeps what it denotes (`run_frame`),
and one that denotes nothing stays so, also when presented again (`run_dead`).
-/
namespace Cppcms.C06
open Cppcms

/-- one request of a history: who-ever sends it presents `cookie` (anything) and `names` -/
structure Step where
  cookie : Bytes
  names : List Key
  now : Int
  ops : List Op

def stepCtx (cfg : Cfg) (env : Env) (s : Step) : Ctx := ⟨cfg, env, s.now, s.cookie, s.names⟩

def run (cfg : Cfg) (env : Env) : Store → Nat → List Step → Store × Nat
  | st, next, [] => (st, next)
  | st, next, s :: rest =>
    run cfg env (request (stepCtx cfg env s) st next s.ops).store (request (stepCtx cfg env s) st next s.ops).next rest

/-- the clock never goes back (from `now0` on) and every presented cookie is admissible -/
def HistOK (env : Env) : Int → List Step → Prop
  | _, [] => True
  | now0, s :: rest => now0 ≤ s.now ∧ Admissible env s.cookie ∧ HistOK env s.now rest

def lastNow : Int → List Step → Int
  | now0, [] => now0
  | _, s :: rest => lastNow s.now rest

theorem lastNow_ge (env : Env) (now0 : Int) (steps : List Step) (h : HistOK env now0 steps) : now0 ≤ lastNow now0 steps := by
  induction steps generalizing now0 with
  | nil => exact Int.le_refl _
  | cons s rest ih => exact Int.le_trans h.1 (ih s.now h.2.2)

theorem storeInv_empty (env : Env) : StoreInv env ⟨[], []⟩ 0 :=
  ⟨trivial, fun _ h => (nomatch h), fun _ h => (nomatch h)⟩

theorem run_log (cfg : Cfg) (env : Env) (st : Store) (next : Nat) (steps : List Step) (he : EnvOK env) (h : LogOK st.log) :
    LogOK (run cfg env st next steps).1.log := by
  induction steps generalizing st next with
  | nil => exact h
  | cons s rest ih => exact ih _ _ (request_log (stepCtx cfg env s) st next s.ops he h)

/-! Every theorem of this section assumes `hi` and `h`; `run_frame` and `run_dead` also `hf` and `hb` (at most `bound` identifiers are
drawn).  They are passed after the explicit variables, in the order `hf hb hi h`. -/
section
variable (cfg : Cfg) (env : Env) (st : Store) (next : Nat) (now0 : Int) (steps : List Step) (c2 : Bytes)
  (bound : Nat) (hf : Fresh env bound) (hb : (run cfg env st next steps).2 ≤ bound)
  (hi : StoreInv env st next) (h : HistOK env now0 steps)
include hi h

theorem run_inv :
    StoreInv env (run cfg env st next steps).1 (run cfg env st next steps).2 ∧ next ≤ (run cfg env st next steps).2 := by
  induction steps generalizing st next now0 with
  | nil => exact ⟨hi, Nat.le_refl _⟩
  | cons s rest ih =>
    obtain ⟨i1, i2⟩ := request_inv (stepCtx cfg env s) st next s.ops hi
    obtain ⟨j1, j2⟩ := ih _ _ s.now i1 h.2.2
    exact ⟨j1, Nat.le_trans i2 j2⟩

include hf hb

theorem run_frame
    (hne : ∀ s ∈ steps, s.cookie ≠ c2) (hk : TokKnown env next c2) :
    ∀ t, lastNow now0 steps ≤ t → aliveTok cfg env t (run cfg env st next steps).1.recs c2 = aliveTok cfg env t st.recs c2 := by
  induction steps generalizing st next now0 with
  | nil => exact fun t _ => rfl
  | cons s rest ih =>
    intro t ht
    obtain ⟨i1, i2⟩ := request_inv (stepCtx cfg env s) st next s.ops hi
    exact (ih _ _ s.now hb i1 h.2.2 (fun x hx => hne x (List.mem_cons_of_mem _ hx)) (tokKnown_mono hk i2) t ht).trans
      (request_frame (stepCtx cfg env s) st next s.ops c2 bound hf
        (Nat.le_trans (run_inv cfg env _ _ s.now rest i1 h.2.2).2 hb) hi.nodup
        (fun e => hne s (List.mem_cons_self ..) e.symm) hk t (Int.le_trans (lastNow_ge env s.now rest h.2.2) ht))

theorem run_dead (hk : TokKnown env next c2)
    (hdead : ∀ t, now0 ≤ t → Spec.alive t (absTok cfg env st.recs c2) = none) :
    ∀ t, lastNow now0 steps ≤ t → Spec.alive t (absTok cfg env (run cfg env st next steps).1.recs c2) = none := by
  induction steps generalizing st next now0 with
  | nil => exact hdead
  | cons s rest ih =>
    obtain ⟨i1, i2⟩ := request_inv (stepCtx cfg env s) st next s.ops hi
    exact ih _ _ s.now hb i1 h.2.2 (tokKnown_mono hk i2)
      (dead_step (stepCtx cfg env s) st next s.ops c2 bound hf (Nat.le_trans (run_inv cfg env _ _ s.now rest i1 h.2.2).2 hb)
        hi h.2.1 hk (fun t ht => hdead t (Int.le_trans h.1 ht)))

end

end Cppcms.C06
