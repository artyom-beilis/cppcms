import Cppcms.C06.Lemmas
/-!
# C06: the working copy of a request against `Spec.lean`

`toS` forgets the representation of `std::map` (sorted list) and yields the specification's association list; all
statements are up to `MapEq` (same bindings).  Nothing here involves a store: the mutators, what `load()` makes of a
payload, the conditions `save()` decides on, the vocabulary of `Props.save_commutes_with_abs`.
-/
namespace Cppcms.C06
open Cppcms

def toS (d : Data) : Spec.SData := d.map fun p => (p.1, p.2.value, p.2.exposed)

def MapEq (a b : Spec.SData) : Prop := ∀ k, Spec.lookup k a = Spec.lookup k b

theorem MapEq.refl (a : Spec.SData) : MapEq a a := fun _ => rfl
theorem MapEq.symm {a b : Spec.SData} (h : MapEq a b) : MapEq b a := fun k => (h k).symm
theorem MapEq.trans {a b c : Spec.SData} (h1 : MapEq a b) (h2 : MapEq b c) : MapEq a c := fun k => (h1 k).trans (h2 k)

def entryPair (e : Entry) : Bytes × Bool := (e.value, e.exposed)

theorem entryPair_inj {a b : Entry} (h : entryPair a = entryPair b) : a = b := by
  cases a; cases b; cases h; rfl

theorem lookup_toS (k : Key) (d : Data) : Spec.lookup k (toS d) = (dfind k d).map entryPair := by
  induction d with
  | nil => rfl
  | cons p rest ih =>
    simp only [toS, List.map_cons, Spec.lookup, dfind]
    split
    · rfl
    · exact ih

theorem lookup_del (k k' : Bytes) (d : Spec.SData) : Spec.lookup k (Spec.del k' d) = if k' = k then none else Spec.lookup k d := by
  induction d with
  | nil => simp only [Spec.del, List.filter_nil, Spec.lookup, ite_self]
  | cons p rest ih =>
    obtain ⟨k0, v0⟩ := p
    simp only [Spec.del, List.filter_cons] at ih ⊢
    by_cases h0 : k0 = k'
    · subst h0
      simp only [bne_self_eq_false, Bool.false_eq_true, if_false, ih, Spec.lookup]
      split <;> rfl
    · simp only [bne_iff_ne, ne_eq, h0, not_false_eq_true, if_true, Spec.lookup, ih]
      by_cases h1 : k0 = k
      · rw [if_pos h1, if_neg (h1 ▸ Ne.symm h0), if_pos h1]
      · rw [if_neg h1, if_neg h1]

theorem lookup_put (k k' : Bytes) (v : Bytes × Bool) (d : Spec.SData) :
    Spec.lookup k (Spec.put k' v d) = if k' = k then some v else Spec.lookup k d := by
  simp only [Spec.put, Spec.lookup, lookup_del]
  split <;> rfl

theorem lookup_some_mem {k : Bytes} {v : Bytes × Bool} {d : Spec.SData} (h : Spec.lookup k d = some v) : (k, v) ∈ d := by
  induction d with
  | nil => cases h
  | cons p rest ih =>
    simp only [Spec.lookup] at h
    split at h
    · rename_i hk; cases h; subst hk; exact List.mem_cons_self ..
    · exact List.mem_cons_of_mem _ (ih h)

theorem sameMap_iff (a b : Spec.SData) : Spec.sameMap a b = true ↔ MapEq a b := by
  simp only [Spec.sameMap, Bool.and_eq_true, List.all_eq_true, beq_iff_eq]
  refine ⟨fun h k => ?_, fun h => ⟨fun p _ => h p.1, fun p _ => h p.1⟩⟩
  cases ha : Spec.lookup k a with
  | some v => exact ha ▸ h.1 _ (lookup_some_mem ha)
  | none =>
    cases hb : Spec.lookup k b with
    | none => rfl
    | some v => exact ha ▸ hb ▸ h.2 _ (lookup_some_mem hb)

theorem mapEq_isEmpty {a b : Spec.SData} (h : MapEq a b) : a.isEmpty = b.isEmpty := by
  cases a with
  | nil =>
    cases b with
    | nil => rfl
    | cons q rest => have := h q.1; simp [Spec.lookup] at this
  | cons p rest =>
    cases b with
    | nil => have := h p.1; simp [Spec.lookup] at this
    | cons q rest' => rfl

theorem toS_isEmpty (d : Data) : (toS d).isEmpty = d.isEmpty := by cases d <;> rfl

theorem data_eq_iff (a b : Data) (ha : Sorted a) (hb : Sorted b) : a = b ↔ MapEq (toS a) (toS b) := by
  refine ⟨fun e => e ▸ MapEq.refl _, fun h => sorted_ext a b ha hb fun k => ?_⟩
  have := h k
  rw [lookup_toS, lookup_toS] at this
  exact Option.map_injective (fun _ _ => entryPair_inj) this

theorem mapEq_dinsert {md : Data} {sd : Spec.SData} (h : MapEq (toS md) sd) (k : Key) (e : Entry) :
    MapEq (toS (dinsert k e md)) (Spec.put k (entryPair e) sd) := by
  intro k2
  rw [lookup_toS, dfind_dinsert, lookup_put, ← h k2, lookup_toS]
  split <;> rfl

theorem mapEq_derase {md : Data} {sd : Spec.SData} (h : MapEq (toS md) sd) (k : Key) :
    MapEq (toS (derase k md)) (Spec.del k sd) := by
  intro k2
  rw [lookup_toS, dfind_derase, lookup_del, ← h k2, lookup_toS]
  split <;> rfl

theorem mapEq_setValue {md : Data} {sd : Spec.SData} (h : MapEq (toS md) sd) (k : Key) (v : Bytes) :
    MapEq (toS (setValue k v md)) (Spec.setVal k v sd) := by
  have hk := h k
  rw [lookup_toS] at hk
  rw [setValue_eq, Spec.setVal, ← hk]
  cases dfind k md <;> exact mapEq_dinsert h k _

theorem mapEq_setExposed {md : Data} {sd : Spec.SData} (h : MapEq (toS md) sd) (k : Key) (b : Bool) :
    MapEq (toS (setExposed k b md)) (Spec.setExp k b sd) := by
  have hk := h k
  rw [lookup_toS] at hk
  simp only [setExposed, Spec.setExp, ← hk]
  cases dfind k md with
  | none => exact mapEq_dinsert h k ⟨[], b⟩
  | some e => exact mapEq_dinsert h k { e with exposed := b }

def specOp : Op → Spec.SOp
  | .set k v => .set k v | .erase k => .erase k | .clear => .clear | .expose k => .expose k | .hide k => .hide k
  | .age t => .age t | .defaultAge => .defaultAge | .expiration h => .expiration h
  | .defaultExpiration => .defaultExpiration | .onServer b => .onServer b | .resetSession => .resetSession

def numOf (env : Env) : Spec.Num := ⟨env.showInt, env.readInt⟩
def dfOf (cfg : Cfg) : Spec.Defaults := ⟨cfg.timeoutDef, cfg.howDef, cfg.loc == .client⟩

structure WorkRel (s : Sess) (w : Spec.Work) : Prop where
  data : MapEq (toS s.data) w.data
  age : s.timeoutVal = w.age
  how : s.how = w.how
  srv : s.onServer = w.srv
  reset : s.reset = w.reset

theorem keyT_eq : keyT = Spec.keyT := by decide
theorem keyH_eq : keyH = Spec.keyH := by decide
theorem keyS_eq : keyS = Spec.keyS := by decide

theorem applyOp_rel (cfg : Cfg) (env : Env) (s : Sess) (w : Spec.Work) (h : WorkRel s w) (op : Op) :
    WorkRel (applyOp cfg env s op) (Spec.applyOp (numOf env) (dfOf cfg) w (specOp op)) := by
  obtain ⟨hd, ha, hh, hs, hr⟩ := h
  cases op with
  | set k v => exact ⟨mapEq_setValue hd k v, ha, hh, hs, hr⟩
  | erase k => exact ⟨mapEq_derase hd k, ha, hh, hs, hr⟩
  | clear => exact ⟨MapEq.refl _, ha, hh, hs, hr⟩
  | expose k => exact ⟨mapEq_setExposed hd k true, ha, hh, hs, hr⟩
  | hide k => exact ⟨mapEq_setExposed hd k false, ha, hh, hs, hr⟩
  | age t => exact ⟨by show MapEq _ (Spec.setVal Spec.keyT _ _); rw [← keyT_eq]; exact mapEq_setValue hd keyT _, rfl, hh, hs, hr⟩
  | defaultAge => exact ⟨by show MapEq _ (Spec.del Spec.keyT _); rw [← keyT_eq]; exact mapEq_derase hd keyT, rfl, hh, hs, hr⟩
  | expiration h => exact ⟨by show MapEq _ (Spec.setVal Spec.keyH _ _); rw [← keyH_eq]; exact mapEq_setValue hd keyH _, ha, rfl, hs, hr⟩
  | defaultExpiration => exact ⟨by show MapEq _ (Spec.del Spec.keyH _); rw [← keyH_eq]; exact mapEq_derase hd keyH, ha, rfl, hs, hr⟩
  | onServer b => exact ⟨by show MapEq _ (Spec.setVal Spec.keyS _ _); rw [← keyS_eq]; exact mapEq_setValue hd keyS _, ha, hh, rfl, hr⟩
  | resetSession => exact ⟨hd, ha, hh, hs, rfl⟩

theorem applyOps_rel (cfg : Cfg) (env : Env) (ops : List Op) (s : Sess) (w : Spec.Work) (h : WorkRel s w) :
    WorkRel (applyOps cfg env s ops) ((ops.map specOp).foldl (Spec.applyOp (numOf env) (dfOf cfg)) w) := by
  induction ops generalizing s w with
  | nil => exact h
  | cons op rest ih => exact ih _ _ (applyOp_rel cfg env s w h op)

/-- `set`, `expose`, `hide` name no empty key (`erase` may): a `Set-Cookie` with key `[]` is the session cookie itself (`mkCookie`, `Jar.apply`), so an exposed
entry with the empty key would overwrite it -/
def opKeyNE : Op → Prop
  | .set k _ => k ≠ []
  | .erase _ => True
  | .expose k => k ≠ []
  | .hide k => k ≠ []
  | _ => True

/-- Every mutator acts on the data by `dinsert`s and `derase`s (or empties it): a property of maps that those
preserve — `dinsert` for keys in `K`, which holds the keys `set`/`expose`/`hide` name and `_t`, `_h`, `_s` — survives them. -/
theorem applyOps_data (Q : Data → Prop) (K : Key → Prop) (h0 : Q []) (hins : ∀ k e d, K k → Q d → Q (dinsert k e d))
    (hdel : ∀ k d, Q d → Q (derase k d)) (hT : K keyT) (hH : K keyH) (hS : K keyS)
    (cfg : Cfg) (env : Env) (ops : List Op) (s : Sess)
    (hops : ∀ op ∈ ops, ∀ k, (∃ v, op = .set k v) ∨ op = .expose k ∨ op = .hide k → K k) (h : Q s.data) :
    Q (applyOps cfg env s ops).data := by
  have hset : ∀ k v d, K k → Q d → Q (setValue k v d) := fun k v d hk hd => setValue_eq k v d ▸ hins _ _ _ hk hd
  have hexp : ∀ k b d, K k → Q d → Q (setExposed k b d) := fun k b d hk hd => by
    rw [setExposed]; split <;> exact hins _ _ _ hk hd
  induction ops generalizing s with
  | nil => exact h
  | cons op rest ih =>
    refine ih _ (fun o ho => hops o (List.mem_cons_of_mem _ ho)) ?_
    have hk := hops op (List.mem_cons_self ..)
    cases op with
    | set k v => exact hset _ _ _ (hk k (.inl ⟨v, rfl⟩)) h
    | erase k => exact hdel _ _ h
    | clear => exact h0
    | expose k => exact hexp _ _ _ (hk k (.inr (.inl rfl))) h
    | hide k => exact hexp _ _ _ (hk k (.inr (.inr rfl))) h
    | age t => exact hset _ _ _ hT h
    | defaultAge => exact hdel _ _ h
    | expiration x => exact hset _ _ _ hH h
    | defaultExpiration => exact hdel _ _ h
    | onServer b => exact hset _ _ _ hS h
    | resetSession => exact h

theorem applyOps_sorted (cfg : Cfg) (env : Env) (ops : List Op) (s : Sess) (h : Sorted s.data) : Sorted (applyOps cfg env s ops).data :=
  applyOps_data Sorted (fun _ => True) trivial (fun k e d _ => sorted_dinsert k e d) sorted_derase trivial trivial trivial
    cfg env ops s (fun _ _ _ _ => trivial) h

def DataKeysNE (d : Data) : Prop := ∀ p ∈ d, p.1 ≠ []

theorem applyOps_keysNE (cfg : Cfg) (env : Env) (ops : List Op) (s : Sess) (ho : ∀ op ∈ ops, opKeyNE op) (h : DataKeysNE s.data) :
    DataKeysNE (applyOps cfg env s ops).data :=
  applyOps_data DataKeysNE (· ≠ []) (fun _ hp => nomatch hp)
    (fun _ _ _ hk hd p hp => (mem_dinsert hp).elim (· ▸ hk) (hd p)) (fun _ _ hd p hp => hd p (mem_derase hp))
    (by decide) (by decide) (by decide) cfg env ops s
    (fun op hop k hk => by rcases hk with ⟨v, rfl⟩ | rfl | rfl <;> exact ho _ hop) h

theorem applyOps_copy (cfg : Cfg) (env : Env) (ops : List Op) (s : Sess) :
    (applyOps cfg env s ops).copy = s.copy ∧ (applyOps cfg env s ops).timeoutIn = s.timeoutIn := by
  induction ops generalizing s with
  | nil => exact ⟨rfl, rfl⟩
  | cons op rest ih =>
    have h : (applyOp cfg env s op).copy = s.copy ∧ (applyOp cfg env s op).timeoutIn = s.timeoutIn := by
      cases op <;> exact ⟨rfl, rfl⟩
    exact ⟨(ih _).1.trans h.1, (ih _).2.trans h.2⟩

theorem applyOps_reset (cfg : Cfg) (env : Env) (ops : List Op) (s : Sess) (h : s.reset = true ∨ Op.resetSession ∈ ops) :
    (applyOps cfg env s ops).reset = true := by
  induction ops generalizing s with
  | nil => exact h.resolve_right (fun e => nomatch e)
  | cons op rest ih =>
    refine ih _ ?_
    rcases h with h | h
    · left; cases op <;> first | exact h | rfl
    · exact (List.mem_cons.mp h).imp (fun e => by subst e; rfl) id

theorem numOr_toS (env : Env) (d : Data) (k : Key) (dflt : Int) :
    Spec.numOr (numOf env) (toS d) k dflt =
      match getIntOr env d k dflt with
      | .ok n => .ok n
      | .error _ => .error .badNumber := by
  simp only [Spec.numOr, getIntOr, lookup_toS]
  cases dfind k d with
  | none => rfl
  | some e =>
    simp only [Option.map_some, entryPair, numOf]
    cases env.readInt e.value <;> rfl

theorem getIntOr_error (env : Env) (d : Data) (k : Key) (dflt : Int) (e : Err) (h : getIntOr env d k dflt = .error e) : e = .badCast := by
  simp only [getIntOr] at h
  split at h
  · cases h
  · split at h <;> cases h
    rfl

theorem sessOfLoaded_spec (cfg : Cfg) (env : Env) (to : Int) (ar : Bytes) (d : Data) (hl : loadData ar = .ok d) :
    match Spec.specLoad (numOf env) (dfOf cfg) (some ⟨toS d, to⟩) with
    | .error _ => sessOfLoaded cfg env to ar = .error .badCast
    | .ok w0 => ∃ s0, sessOfLoaded cfg env to ar = .ok s0 ∧ WorkRel s0 w0 ∧ s0.data = d ∧ s0.copy = d ∧ s0.timeoutIn = to := by
  simp only [Spec.specLoad, sessOfLoaded, hl, numOr_toS, ← keyT_eq, ← keyH_eq, ← keyS_eq, dfOf]
  cases h1 : getIntOr env d keyT cfg.timeoutDef with
  | error e =>
    cases getIntOr_error _ _ _ _ _ h1
    cases getIntOr env d keyH cfg.howDef <;> cases getIntOr env d keyS 0 <;> rfl
  | ok tv =>
    cases h2 : getIntOr env d keyH cfg.howDef with
    | error e =>
      cases getIntOr_error _ _ _ _ _ h2
      cases getIntOr env d keyS 0 <;> rfl
    | ok h =>
      cases h3 : getIntOr env d keyS 0 with
      | error e => cases getIntOr_error _ _ _ _ _ h3; rfl
      | ok sv => exact ⟨_, rfl, ⟨MapEq.refl _, rfl, rfl, rfl, rfl⟩, rfl, rfl, rfl⟩

/-- equality of abstract sessions up to the representation of the data map -/
def SEq : Option Spec.SSess → Option Spec.SSess → Prop
  | none, none => True
  | some x, some y => MapEq x.data y.data ∧ x.deadline = y.deadline
  | _, _ => False

theorem SEq.rfl' (a : Option Spec.SSess) : SEq a a := by
  cases a with
  | none => trivial
  | some x => exact ⟨MapEq.refl _, rfl⟩

theorem SEq_of_eq {a b : Option Spec.SSess} (h : a = b) : SEq a b := h ▸ SEq.rfl' a

def ReadsRel (r : Reads) (w : Spec.Work) : Prop :=
  MapEq (toS r.data) w.data ∧ r.age = w.age ∧ r.how = w.how ∧ r.onServer = w.srv

theorem specLoad_congr (n : Spec.Num) (df : Spec.Defaults) (a b : Option Spec.SSess) (h : SEq a b) :
    match Spec.specLoad n df a, Spec.specLoad n df b with
    | .ok x, .ok y => MapEq x.data y.data ∧ x.age = y.age ∧ x.how = y.how ∧ x.srv = y.srv
    | .error _, .error _ => True
    | _, _ => False := by
  cases a with
  | none =>
    cases b with
    | none => exact ⟨MapEq.refl _, rfl, rfl, rfl⟩
    | some y => exact h.elim
  | some x =>
    cases b with
    | none => exact h.elim
    | some y =>
      have hn : ∀ k d, Spec.numOr n x.data k d = Spec.numOr n y.data k d := fun k d => by simp only [Spec.numOr, h.1 k]
      simp only [Spec.specLoad, hn]
      cases Spec.numOr n y.data Spec.keyT df.age <;> cases Spec.numOr n y.data Spec.keyH df.how <;>
        cases Spec.numOr n y.data Spec.keyS 0 <;> first | trivial | exact ⟨h.1, rfl, rfl, rfl⟩

theorem tooLong_iff (d : Data) (sd : Spec.SData) (hs : Sorted d) (hm : MapEq (toS d) sd) :
    Spec.tooLong sd = true ↔ ∃ p ∈ d, ¬ withinLimits p := by
  -- the specification's literal limits are the regenerated ones (a changed limit in the source breaks here)
  have hkl : Gen.keyLimit = 1024 := rfl
  have hdl : Gen.dataLimit = 2097152 := rfl
  simp only [Spec.tooLong, List.any_eq_true]
  constructor
  · rintro ⟨p, hp, hcond⟩
    cases hl : Spec.lookup p.1 sd with
    | none => rw [hl] at hcond; cases hcond
    | some ve =>
      rw [hl] at hcond
      simp only [Bool.or_eq_true, decide_eq_true_eq] at hcond
      have := hm p.1
      rw [hl, lookup_toS] at this
      cases hf : dfind p.1 d with
      | none => rw [hf] at this; cases this
      | some en =>
        rw [hf] at this
        cases this
        refine ⟨(p.1, en), dfind_some_mem hf, ?_⟩
        simp only [withinLimits, hkl, hdl]
        simp only [entryPair] at hcond
        omega
  · rintro ⟨⟨k, en⟩, hq, hn⟩
    have hl : Spec.lookup k sd = some (entryPair en) := by rw [← hm k, lookup_toS, dfind_of_mem_sorted hs hq]; rfl
    refine ⟨(k, entryPair en), lookup_some_mem hl, ?_⟩
    simp only [hl, entryPair, Bool.or_eq_true, decide_eq_true_eq]
    simp only [withinLimits, hkl, hdl] at hn
    omega

def oldData (cur : Option Spec.SSess) : Spec.SData := match cur with | some s => s.data | none => []
def oldDeadline (cur : Option Spec.SSess) : Int := match cur with | some s => s.deadline | none => 0

/-- `Spec.decideSave` with its `let`s inlined and `match cur` moved into `oldData`/`oldDeadline`, so that `SaveConds` can rewrite it -/
theorem decideSave_unfold (df : Spec.Defaults) (cur : Option Spec.SSess) (w : Spec.Work) (now : Int) :
    Spec.decideSave df cur w now =
      if w.data.isEmpty then .cleared
      else if (Spec.sameMap w.data (oldData cur) && !(((oldData cur).isEmpty && !w.data.isEmpty) || w.reset)) && w.how == Spec.fixed then .untouched
      else if (Spec.sameMap w.data (oldData cur) && !(((oldData cur).isEmpty && !w.data.isEmpty) || w.reset)) && (w.how == Spec.renew || w.how == Spec.browser)
          && decide (10 * (now + w.age - oldDeadline cur) < w.age) then .untouched
      else if Spec.tooLong w.data then .refused .tooLong
      else if w.srv && df.clientOnly then .refused .cannotKeepOnServer
      else .saved ⟨w.data, if w.how == Spec.browser || w.how == Spec.renew || (w.how == Spec.fixed && (((oldData cur).isEmpty && !w.data.isEmpty) || w.reset)) then now + w.age else oldDeadline cur⟩
        (((oldData cur).isEmpty && !w.data.isEmpty) || w.reset)
        (if w.how == Spec.browser then 0 else if w.how == Spec.renew || (w.how == Spec.fixed && (((oldData cur).isEmpty && !w.data.isEmpty) || w.reset)) then w.age else oldDeadline cur - now) := by
  cases cur <;> rfl

/-- what `siLoad_spec` hands to `siSave_spec`; `tin` is where `timeout_in_` meets the specification's deadline -/
structure SaveHyp (s : Sess) (w : Spec.Work) (cur : Option Spec.SSess) : Prop where
  rel : WorkRel s w
  sdata : Sorted s.data
  scopy : Sorted s.copy
  copy : MapEq (toS s.copy) (oldData cur)
  tin : s.timeoutIn = oldDeadline cur

/-- the conditions of `Spec.decideSave` (left) are those `session_interface::save` tests (right; `0.1` taken for `1/10`).  `window` for every
`tdef`: `Gen.renewBase` ignores it, so a source that multiplied the default timeout would break `save_conditions`. -/
structure SaveConds (s : Sess) (w : Spec.Work) (cur : Option Spec.SSess) (now : Int) : Prop where
  empty : w.data.isEmpty = s.data.isEmpty
  isNew : (((oldData cur).isEmpty && !w.data.isEmpty) || w.reset) = newSession s
  unchanged : Spec.sameMap w.data (oldData cur) = decide (s.data = s.copy)
  fixed : (w.how == Spec.fixed) = (s.how == Gen.howFixed)
  renew : (w.how == Spec.renew) = (s.how == Gen.howRenew)
  browser : (w.how == Spec.browser) = (s.how == Gen.howBrowser)
  window : ∀ tdef, decide (10 * (now + w.age - oldDeadline cur) < w.age) =
    decide (Gen.delta now s.timeoutVal s.timeoutIn * Gen.renewDen < Gen.renewBase s.timeoutVal tdef * Gen.renewNum)

theorem save_conditions (s : Sess) (w : Spec.Work) (cur : Option Spec.SSess) (now : Int) (h : SaveHyp s w cur) :
    SaveConds s w cur now := by
  obtain ⟨hrel, hsd, hsc, hcopy, htin⟩ := h
  have e1 : w.data.isEmpty = s.data.isEmpty := by rw [← mapEq_isEmpty hrel.data, toS_isEmpty]
  have e2 : (oldData cur).isEmpty = s.copy.isEmpty := by rw [← mapEq_isEmpty hcopy, toS_isEmpty]
  refine ⟨e1, ?_, ?_, ?_, ?_, ?_, ?_⟩
  · simp only [newSession, e1, e2, hrel.reset]
  · -- `data_ == data_copy_` on sorted lists is equality of maps
    rw [Bool.eq_iff_iff, sameMap_iff, decide_eq_true_eq, data_eq_iff _ _ hsd hsc]
    exact ⟨fun hm => hrel.data.trans (hm.trans hcopy.symm), fun hm => hrel.data.symm.trans (hm.trans hcopy)⟩
  · rw [← hrel.how]; rfl
  · rw [← hrel.how]; rfl
  · rw [← hrel.how]; rfl
  · intro tdef
    rw [← hrel.age, ← htin]
    simp only [Gen.delta, Gen.renewDen, Gen.renewNum, Gen.renewBase]
    apply decide_eq_decide.mpr
    omega

def errMatches : Spec.SErr → Err → Prop
  | .tooLong, e => e = .keyTooLong ∨ e = .valueTooLong
  | .cannotKeepOnServer, e => e = .cookiesOnServer
  | .badNumber, _ => False

def kindMatches : SaveKind → Spec.Outcome → Prop
  | .cleared, .cleared => True
  | .untouched, .untouched => True
  | .written _, .saved _ _ _ => True
  | _, _ => False

def tokenOf (k : SaveKind) : Bytes := match k with | .written t => t | _ => []

theorem upd_apply (w : Spec.SpecW) (t : Spec.Tok) (v : Option Spec.SSess) (x : Spec.Tok) : Spec.upd w t v x = if x = t then v else w x := rfl

theorem apply_saved_at (w : Spec.SpecW) (rev : Spec.Tok → Bool) (c tok : Bytes) (ss : Spec.SSess) (f : Bool) (ca : Int) (x : Bytes) :
    Spec.apply w rev c tok (.saved ss f ca) x =
      if x = tok then some ss else if rev c = true ∧ x = c then none else w x := by
  simp only [Spec.apply, upd_apply]
  by_cases h1 : x = tok
  · rw [if_pos h1, if_pos h1]
  · rw [if_neg h1, if_neg h1]
    by_cases h2 : rev c = true ∧ x = c
    · have : (rev c && c != tok) = true := by rw [h2.1, ← h2.2]; simpa using h1
      rw [if_pos h2, if_pos this, upd_apply, if_pos h2.2]
    · rw [if_neg h2]
      split
      · rename_i h3
        rw [upd_apply, if_neg (fun e => h2 ⟨(Bool.and_eq_true _ _ ▸ h3).1, e⟩)]
      · rfl

theorem apply_cleared_at (w : Spec.SpecW) (rev : Spec.Tok → Bool) (c tok : Bytes) (x : Bytes) :
    Spec.apply w rev c tok .cleared x = if rev c = true ∧ x = c then none else w x := by
  simp only [Spec.apply]
  cases rev c with
  | false => simp only [Bool.false_eq_true, if_false, false_and]
  | true => simp only [if_true, upd_apply, true_and]

end Cppcms.C06
