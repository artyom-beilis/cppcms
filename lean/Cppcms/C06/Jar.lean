import Cppcms.C06.History
import Cppcms.C06.Exposed
/-!
# C06: the jar of an honest browser stays in step with its session

`JarOK` is what holds of the browser's jar between requests, kept by its own requests and by everybody else's (`jar_in_step_run`).
-/
namespace Cppcms.C06
open Cppcms

/-- the exposed cookie a browser must hold for key `k`.  On maps with one binding per key (what `absTok` yields) this is membership of
`(k, v)` in `Spec.exposedOf`, which the driver's judge compares the jar with; no theorem states that. -/
def specExposed (d : Spec.SData) (k : Bytes) : Option Bytes :=
  match Spec.lookup k d with
  | some (v, true) => if v.isEmpty then none else some v
  | _ => none

theorem specExposed_toS (d : Data) (k : Key) : specExposed (toS d) k = exposedLookup d k := by
  simp only [specExposed, exposedLookup, lookup_toS]
  cases dfind k d with
  | none => rfl
  | some e =>
    obtain ⟨v, x⟩ := e
    cases x <;> simp [entryPair]

/-- an honest browser's jar between requests.  `adm`, `known`: what `request_frame` and the simulation ask of its session cookie.  `step`: in
step with the live session, which has no entry with the empty key (else `update_exposed` would hit the session cookie, see `opKeyNE`). -/
structure JarOK (cfg : Cfg) (env : Env) (st : Store) (next : Nat) (now : Int) (J : Jar) : Prop where
  adm : Admissible env J.cookie
  known : TokKnown env next J.cookie
  keysNE : KeysNE J.exposed
  step : ∀ t, now ≤ t → ∀ ss, Spec.alive t (absTok cfg env st.recs J.cookie) = some ss →
    (∀ k, k ≠ [] → jfind k J.exposed = specExposed ss.data k) ∧ (∀ p ∈ ss.data, p.1 ≠ [])

theorem absTok_nil (cfg : Cfg) (env : Env) (recs : List Rec) : absTok cfg env recs [] = none := by
  simp only [absTok, tokPayload]
  rcases loc_cases cfg.loc with hl | hl | hl <;> rw [hl] <;> rfl

theorem jarOK_nil (cfg : Cfg) (env : Env) (st : Store) (next : Nat) (now : Int) (J : Jar) (hc : J.cookie = []) (hn : KeysNE J.exposed) :
    JarOK cfg env st next now J := by
  refine ⟨?_, ?_, hn, ?_⟩
  · intro p hp; rw [hc] at hp; cases hp
  · rw [hc]; exact .inr (.inr (fun n e => (nomatch e)))
  · intro t _ ss h; rw [hc, absTok_nil] at h; cases h

theorem jarOK_frame (cfg : Cfg) (env : Env) (st st' : Store) (next next' : Nat) (now now' : Int) (J : Jar)
    (h : JarOK cfg env st next now J) (hn : next ≤ next') (ht : now ≤ now')
    (hf : ∀ t, now' ≤ t → aliveTok cfg env t st'.recs J.cookie = aliveTok cfg env t st.recs J.cookie) :
    JarOK cfg env st' next' now' J := by
  refine ⟨h.adm, tokKnown_mono h.known hn, h.keysNE, fun t htt ss hss => ?_⟩
  rw [alive_absTok, hf t htt, ← alive_absTok] at hss
  exact h.step t (Int.le_trans ht htt) ss hss

def ownCtx (cfg : Cfg) (env : Env) (now : Int) (J : Jar) : Ctx := ⟨cfg, env, now, J.cookie, J.exposed.map (·.1)⟩

theorem cookie_after_written (J : Jar) (cs1 upd : List SetCookie) (age : Int) (tok : Bytes) (htok : tok ≠ [])
    (h1 : ∀ c ∈ upd, c.key ≠ []) :
    (J.applyAll (cs1 ++ [mkCookie age tok []] ++ upd)).cookie = if age < 0 then [] else tok := by
  have hv : tok.isEmpty = false := by cases tok with | nil => exact absurd rfl htok | cons x xs => rfl
  rw [applyAll_append, cookie_applyAll_ne _ _ h1, applyAll_append]
  simp only [Jar.applyAll, List.foldl_cons, List.foldl_nil, Jar.apply, mkCookie, hv, Bool.false_eq_true, if_false]
  split <;> rfl

theorem own_request_jar (ctx : Ctx) (st : Store) (next : Nat) (now0 : Int) (J : Jar) (ops : List Op)
    (hc : ctx.cookie = J.cookie) (hn : ctx.names = J.exposed.map (·.1))
    (he : EnvOK ctx.env) (hi : StoreInv ctx.env st next) (hj : JarOK ctx.cfg ctx.env st next now0 J) (hnow : now0 ≤ ctx.now)
    (hops : ∀ op ∈ ops, opKeyNE op) :
    JarOK ctx.cfg ctx.env (request ctx st next ops).store (request ctx st next ops).next ctx.now
      (J.applyAll (request ctx st next ops).cookies) := by
  have hck := (siLoad_outcome ctx st).cookies
  have hknown := issued_token_known ctx st next ops
  obtain ⟨wr, hR⟩ := request_eff ctx st next ops
  have hden := hR.denotes he hi.nodup
  -- no token changed: jar as before, or its cookie deleted
  have hquiet : ∀ (st' : Store) cs0, (cs0 = [] ∨ cs0 = [mkCookie (-1) [] []] ∧ ctx.cookie ≠ []) →
      (∀ t, ctx.now ≤ t → ∀ c2, aliveTok ctx.cfg ctx.env t st'.recs c2 = aliveTok ctx.cfg ctx.env t st.recs c2) →
      JarOK ctx.cfg ctx.env st' next ctx.now (J.applyAll cs0) := by
    intro st' cs0 hcs hfr
    rcases hcs with rfl | ⟨rfl, _⟩
    · exact jarOK_frame _ _ st st' next next now0 ctx.now J hj (Nat.le_refl _) hnow fun t ht => hfr t ht _
    · exact jarOK_nil _ _ st' next ctx.now _ rfl hj.keysNE
  rcases request_cases ctx st next ops with ⟨e, st1, cs0, hL, hreq⟩ |
    ⟨s0, st1, cs0, hL, ⟨e, _, hreq⟩ | ⟨st2, n2, cs2, kind, hS, hreq⟩⟩ <;> rw [hreq] at hknown hden ⊢ <;> rw [hL] at hck
  · exact hquiet _ _ hck hden
  · exact hquiet _ _ hck hden
  · have hexp0 : (J.applyAll cs0).exposed = J.exposed := by rcases hck with rfl | ⟨rfl, _⟩ <;> rfl
    have hs0sorted := (siLoad_loaded hL).sorted
    have hs0copy := (siLoad_loaded hL).copy_eq
    have hold := (siLoad_loaded hL).old_eq
    rw [hc] at hold
    -- the loaded session is the one the jar is in step with
    have hloaded : DataKeysNE s0.data ∧ ∀ k, k ≠ [] → ∀ e, dfind k s0.copy = some e → e.exposed = true →
        jfind k J.exposed = if e.value.isEmpty then none else some e.value := by
      cases hcur : Spec.alive ctx.now (absTok ctx.cfg ctx.env st.recs J.cookie) with
      | none =>
        have : s0.copy = [] := List.map_eq_nil_iff.mp (by rw [← toS, ← hold, hcur]; rfl)
        rw [← hs0copy, this]
        exact ⟨fun _ hp => (nomatch hp), fun _ _ _ hd => (nomatch hd)⟩
      | some ss =>
        have hdata : ss.data = toS s0.copy := by rw [← hold, hcur]; rfl
        obtain ⟨hjs, hkeys⟩ := hj.step ctx.now hnow ss hcur
        refine ⟨fun p hp => hkeys (p.1, p.2.value, p.2.exposed) (hdata ▸ hs0copy ▸ List.mem_map.mpr ⟨p, hp, rfl⟩), fun k hk e hd hex => ?_⟩
        rw [hjs k hk, hdata, specExposed_toS]
        simp only [exposedLookup, hd, hex, Bool.true_and]
        cases e.value.isEmpty <;> rfl
    obtain ⟨hs0keys, hs0step⟩ := hloaded
    have hcopy := (applyOps_copy ctx.cfg ctx.env ops s0).1
    have hsd := applyOps_sorted ctx.cfg ctx.env ops s0 hs0sorted
    have hkeys := applyOps_keysNE ctx.cfg ctx.env ops s0 hops hs0keys
    -- names of every cookie `update_exposed` may send are non-empty
    have hupd : ∀ force, ∀ c ∈ updateExposed ctx (applyOps ctx.cfg ctx.env s0 ops) force, c.key ≠ [] := by
      intro force c hc'
      rcases updateExposed_keys _ _ force c hc' with ⟨p, hp, e⟩ | ⟨p, hp, e⟩ | h
      · exact e ▸ hkeys p hp
      · exact e ▸ hs0keys p (hs0copy ▸ hcopy ▸ hp)
      · obtain ⟨q, hq, e⟩ := List.mem_map.mp (hn ▸ h)
        exact e ▸ hj.keysNE q hq
    have hnames : KeysNE ((J.applyAll cs0).applyAll cs2).exposed := keysNE_applyAll _ _ (hexp0 ▸ hj.keysNE)
    generalize hs : applyOps ctx.cfg ctx.env s0 ops = s at *
    have hK := siSave_ok hS
    rw [applyAll_append]
    cases kind with
    | untouched => obtain ⟨rfl, rfl, rfl⟩ := hK; exact hquiet _ _ hck hden
    | cleared =>
      obtain ⟨_, rfl, _, rfl⟩ := hK
      refine jarOK_nil _ _ _ _ _ _ ?_ hnames
      rw [applyAll_append, cookie_applyAll_ne _ _ (hupd true)]
      rcases clearSessionCookie_cases ctx with e | ⟨e, _⟩ <;> rw [e]
      · -- no session cookie was presented, so the jar holds none
        simp only [clearSessionCookie] at e
        split at e
        · rename_i hce
          rcases hck with rfl | ⟨_, h⟩
          · exact hc ▸ List.isEmpty_iff.mp hce
          · exact absurd (List.isEmpty_iff.mp hce) h
        · cases e
      · rfl
    | written tok =>
      obtain ⟨ar, cs1, har, _, hap, rfl⟩ := hK
      have hloadar := loadData_of_saved hsd har
      have htok : tok ≠ [] ∧ Admissible ctx.env tok := by
        rcases (apiSave_ok hap).2 with ⟨rfl, _⟩ | ⟨id, rfl, _⟩
        · -- kept in the cookie: it decrypts to what was just serialised
          refine ⟨fun e => (nomatch e), fun p hp => ?_⟩
          simp only [cookiePayload, Gen.cookiesPrefix, he.dec_enc] at hp
          cases hp
          exact ⟨_, hsd, saveData_limits har, har⟩
        · -- kept on the server: `I…` is no client-side cookie
          exact ⟨fun e => (nomatch e), fun p hp => (nomatch hp)⟩
      have hcookie := cookie_after_written (J.applyAll cs0) cs1 _ (cookieAgeOf ctx s) tok htok.1 (hupd (decide (s.data = s.copy) && !newSession s))
      by_cases hage : cookieAgeOf ctx s < 0
      · -- negative cookie age: the session cookie is deleted
        exact jarOK_nil _ _ _ _ _ _ (by rw [hcookie, if_pos hage]) hnames
      · -- the browser now holds `tok`
        rw [if_neg hage] at hcookie
        refine ⟨by rw [hcookie]; exact htok.2, by rw [hcookie]; exact hknown tok hi rfl, hnames, fun t ht ss hss => ?_⟩
        obtain ⟨to, ar', hser, htokens⟩ := hden
        obtain ⟨har', _⟩ := hser _ _ _ hL
        rw [hs, har] at har'; cases har'
        rw [hcookie, alive_absTok, htokens t ht tok, if_pos rfl] at hss
        have hss' : ss.data = toS s.data := by
          simp only [aliveP] at hss
          split at hss
          · simp only [Option.bind_some, sessOfPayload, hloadar, Option.some.injEq] at hss
            rw [← hss]
          · cases hss
        refine ⟨fun k hk => ?_, fun p hp => ?_⟩
        · rw [hss', specExposed_toS]
          have hnil := jfind_applyAll_nilkeys (cs1 ++ [mkCookie (cookieAgeOf ctx s) tok []]) (J.applyAll cs0) k hk fun c hc =>
            (List.mem_append.mp hc).elim ((apiSave_ok hap).1 c) (fun h => List.mem_singleton.mp h ▸ rfl)
          rw [applyAll_append]
          refine updateExposed_lookup ctx s _ _ k hk hsd (hcopy ▸ hs0copy ▸ hs0sorted) (Int.not_lt.mp hage) ?reported (fun _ => ?instep)
          case reported => rw [hnil, hexp0, hn]; exact fun v hv => jfind_some_key_mem hv
          case instep => rw [hnil, hexp0, hcopy]; exact hs0step k hk
        · rw [hss'] at hp
          obtain ⟨q, hq, rfl⟩ := List.mem_map.mp hp
          exact hkeys q hq

inductive Ev where
  | own (now : Int) (ops : List Op)     -- the browser itself: presents its jar
  | other (s : Step)                    -- anybody else, presenting anything but the browser's current cookie

def Ev.now : Ev → Int
  | .own n _ => n
  | .other s => s.now

structure BState where
  st : Store
  next : Nat
  jar : Jar

def stepB (cfg : Cfg) (env : Env) (b : BState) : Ev → BState
  | .own now ops =>
    ⟨(request (ownCtx cfg env now b.jar) b.st b.next ops).store, (request (ownCtx cfg env now b.jar) b.st b.next ops).next,
     b.jar.applyAll (request (ownCtx cfg env now b.jar) b.st b.next ops).cookies⟩
  | .other s => ⟨(request (stepCtx cfg env s) b.st b.next s.ops).store, (request (stepCtx cfg env s) b.st b.next s.ops).next, b.jar⟩

def runB (cfg : Cfg) (env : Env) : BState → List Ev → BState
  | b, [] => b
  | b, e :: rest => runB cfg env (stepB cfg env b e) rest

/-- the clock never goes back, at most `bound` identifiers are drawn, the browser's own operations use non-empty keys,
everybody else presents admissible cookies different from the browser's current one -/
def HistB (cfg : Cfg) (env : Env) (bound : Nat) : Int → BState → List Ev → Prop
  | _, _, [] => True
  | now0, b, e :: rest =>
    now0 ≤ e.now ∧ (stepB cfg env b e).next ≤ bound ∧
    (match e with
     | .own _ ops => ∀ op ∈ ops, opKeyNE op
     | .other s => Admissible env s.cookie ∧ s.cookie ≠ b.jar.cookie) ∧
    HistB cfg env bound e.now (stepB cfg env b e) rest

def lastNowB : Int → List Ev → Int
  | now0, [] => now0
  | _, e :: rest => lastNowB e.now rest

theorem jar_in_step_run (cfg : Cfg) (env : Env) (bound : Nat) (now0 : Int) (b : BState) (evs : List Ev)
    (he : EnvOK env) (hf : Fresh env bound) (hi : StoreInv env b.st b.next) (hj : JarOK cfg env b.st b.next now0 b.jar)
    (h : HistB cfg env bound now0 b evs) :
    StoreInv env (runB cfg env b evs).st (runB cfg env b evs).next ∧
    JarOK cfg env (runB cfg env b evs).st (runB cfg env b evs).next (lastNowB now0 evs) (runB cfg env b evs).jar := by
  induction evs generalizing b now0 with
  | nil => exact ⟨hi, hj⟩
  | cons e rest ih =>
    obtain ⟨h1, h2, h3, h4⟩ := h
    cases e with
    | own now ops =>
      exact ih now _ (request_inv (ownCtx cfg env now b.jar) b.st b.next ops hi).1
        (own_request_jar (ownCtx cfg env now b.jar) b.st b.next now0 b.jar ops rfl rfl he hi hj h1 h3) h4
    | other s =>
      -- somebody else's request does not concern the jar's cookie
      have hi' := request_inv (stepCtx cfg env s) b.st b.next s.ops hi
      exact ih s.now _ hi'.1 (jarOK_frame cfg env b.st _ b.next _ now0 s.now b.jar hj hi'.2 h1 fun t ht =>
        request_frame (stepCtx cfg env s) b.st b.next s.ops b.jar.cookie bound hf h2 hi.nodup (fun e => h3.2 e.symm) hj.known t ht) h4

end Cppcms.C06
