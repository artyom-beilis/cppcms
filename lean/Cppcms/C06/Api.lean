import Cppcms.C06.Lemmas
import Cppcms.C06.Storage
/-!
# C06: the configured `session_api` (`session_sid`, `session_cookies`, `session_dual`) on tokens

A *token* is a cookie value.  Under the configured location it either is a server-side identifier (`revId`) and denotes
what the store holds under it, or it denotes something the store has no part in (`tokPayload_eq`).  The back-ends' `load`, `clear`,
`save` are transitions of the shape `Eff`; the key `clear` and `save` drop is always `revId` of the presented cookie.

`73` and `67` are `'I'` and `'C'` (`Gen.sidPrefix`, `Gen.cookiesPrefix`, `Gen.dual*Char`), written as literals so that a changed tag in
the source breaks a proof here.
-/
namespace Cppcms.C06
open Cppcms

structure EnvOK (env : Env) : Prop where
  sid_form : ∀ n, Spec.wellFormedId (env.sidOf n) = true
  dec_enc : ∀ t d, env.dec (env.enc t d) = some (t, d)

def sidPayload (recs : List Rec) (c : Bytes) : Option (Int × Bytes) :=
  match validSid c with
  | none => none
  | some id => lookupRec recs id

def cookiePayload (env : Env) (c : Bytes) : Option (Int × Bytes) :=
  match c with
  | [] => none
  | c0 :: body => if c0.toNat != Gen.cookiesPrefix then none else env.dec body

def tokPayload (cfg : Cfg) (env : Env) (recs : List Rec) (c : Bytes) : Option (Int × Bytes) :=
  match cfg.loc with
  | .server => sidPayload recs c
  | .client => cookiePayload env c
  | .both => if firstIs c Gen.dualLoadClientChar then cookiePayload env c else sidPayload recs c

def aliveTok (cfg : Cfg) (env : Env) (t : Int) (recs : List Rec) (c : Bytes) : Option (Int × Bytes) :=
  aliveP t (tokPayload cfg env recs c)

def revocable (cfg : Cfg) (c : Bytes) : Bool := cfg.loc != .client && (validSid c).isSome

def revId (cfg : Cfg) (c : Bytes) : Option Bytes := if cfg.loc = .client then none else validSid c

/-- the keys a storage is ever addressed with: identifiers that passed `valid_sid`, and identifiers drawn from the source -/
def Addr (env : Env) (k : Bytes) : Prop := Spec.wellFormedId k = true ∨ ∃ n, k = env.sidOf n

theorem Addr.wf {env : Env} (he : EnvOK env) {k : Bytes} (h : Addr env k) : Spec.wellFormedId k = true :=
  h.elim id fun ⟨n, e⟩ => e ▸ he.sid_form n

theorem validSid_eq_cons {c id : Bytes} (h : validSid c = some id) : c = 73 :: id := ((validSid_iff c id).mp h).1

theorem wf_of_valid {c id : Bytes} (h : validSid c = some id) : Spec.wellFormedId id = true := ((validSid_iff c id).mp h).2

theorem firstIs_sid {c id : Bytes} (h : validSid c = some id) : firstIs c Gen.dualLoadClientChar = false ∧ firstIs c Gen.dualSaveSidChar = true := by
  rw [validSid_eq_cons h]; exact ⟨rfl, rfl⟩

/-- bullets after `rcases loc_cases …`: server, client, both -/
theorem loc_cases (l : Loc) : l = .server ∨ l = .client ∨ l = .both := by cases l <;> simp

theorem revId_eq_some {cfg : Cfg} {c id : Bytes} :
    revId cfg c = some id ↔ cfg.loc ≠ .client ∧ c = 73 :: id ∧ Spec.wellFormedId id = true := by
  rw [revId, ← validSid_iff]
  split
  · rename_i h; exact ⟨fun e => (nomatch e), fun e => absurd h e.1⟩
  · rename_i h; exact ⟨fun e => ⟨h, e⟩, fun e => e.2⟩

theorem revocable_eq (cfg : Cfg) (c : Bytes) : revocable cfg c = (revId cfg c).isSome := by
  rw [revocable, revId]
  rcases loc_cases cfg.loc with h | h | h <;> rw [h] <;> rfl

theorem tokPayload_eq (cfg : Cfg) (env : Env) (recs : List Rec) (c : Bytes) :
    tokPayload cfg env recs c = match revId cfg c with | some id => lookupRec recs id | none => tokPayload cfg env [] c := by
  have hs : sidPayload recs c = match validSid c with | some id => lookupRec recs id | none => sidPayload [] c := by
    simp only [sidPayload]; cases validSid c <;> rfl
  simp only [tokPayload, revId]
  rcases loc_cases cfg.loc with h | h | h <;> simp only [h, reduceCtorEq, if_false, if_true]
  · exact hs
  · cases hv : validSid c with
    | some id => simp only [(firstIs_sid hv).1, Bool.false_eq_true, if_false, sidPayload, hv]
    | none => rw [hs, hv]

theorem aliveTok_eq (cfg : Cfg) (env : Env) (t : Int) (recs : List Rec) (c : Bytes) :
    aliveTok cfg env t recs c = match revId cfg c with | some id => aliveLookup t recs id | none => aliveTok cfg env t [] c := by
  rw [aliveTok, tokPayload_eq]
  cases revId cfg c <;> rfl

theorem aliveTok_clientCookie (cfg : Cfg) (env : Env) (t : Int) (recs : List Rec) (to : Int) (d : Bytes) (he : EnvOK env) (hloc : cfg.loc ≠ .server) :
    aliveTok cfg env t recs (67 :: env.enc to d) = aliveP t (some (to, d)) := by
  simp only [aliveTok, tokPayload]
  rcases loc_cases cfg.loc with hl | hl | hl
  · exact absurd hl hloc
  · rw [hl]; simp [cookiePayload, Gen.cookiesPrefix, he.dec_enc]
  · rw [hl]; simp [firstIs, Gen.dualLoadClientChar, cookiePayload, Gen.cookiesPrefix, he.dec_enc]

theorem sidLoad_eff (ctx : Ctx) (st : Store) :
    Eff (Addr ctx.env) ctx.now none none st (sidLoad ctx st).2 ∧
    (sidLoad ctx st).1 = aliveP ctx.now (sidPayload st.recs ctx.cookie) := by
  simp only [sidLoad, sidPayload]
  cases hv : validSid ctx.cookie with
  | none => exact ⟨Eff.refl .., rfl⟩
  | some id =>
    obtain ⟨h1, h2⟩ := Store.load_eff (Addr ctx.env) ctx.cfg.kind ctx.now id st (.inl (wf_of_valid hv))
    dsimp only
    generalize st.load ctx.cfg.kind ctx.now id = res at h1 h2 ⊢
    obtain ⟨r, st1⟩ := res
    cases r with
    | none => exact ⟨h1, h2⟩
    | some p =>
      -- alive at `now`, so the second expiry test of `session_sid::load` cannot fire
      have hle : ¬ p.1 < ctx.now := Int.not_lt.mpr (aliveP_eq_some h2.symm).1
      simp only [(expiry_tests p.1 ctx.now).sid, decide_eq_true_eq, if_neg hle]
      exact ⟨h1, h2⟩

theorem sidClear_eff (ctx : Ctx) (st : Store) :
    Eff (Addr ctx.env) ctx.now (validSid ctx.cookie) none st (sidClear ctx st).1 ∧ (sidClear ctx st).2 = clearSessionCookie ctx := by
  simp only [sidClear]
  cases hv : validSid ctx.cookie with
  | none => exact ⟨Eff.refl .., rfl⟩
  | some id => exact ⟨Store.remove_eff _ _ _ _ _ (.inl (wf_of_valid hv)), rfl⟩

theorem sidSave_eff (ctx : Ctx) (st : Store) (next : Nat) (data : Bytes) (to : Int) (newData : Bool) :
    ∃ id, (sidSave ctx st next data to newData).2.2 = 73 :: id ∧
      Eff (Addr ctx.env) ctx.now (validSid ctx.cookie) (some ⟨id, to, data⟩) st (sidSave ctx st next data to newData).1 ∧
      ((id = ctx.env.sidOf next ∧ (sidSave ctx st next data to newData).2.1 = next + 1) ∨
       (validSid ctx.cookie = some id ∧ newData = false ∧ (sidSave ctx st next data to newData).2.1 = next)) := by
  have hn : Addr ctx.env (ctx.env.sidOf next) := .inr ⟨next, rfl⟩
  simp only [sidSave]
  cases hv : validSid ctx.cookie with
  | none => exact ⟨_, rfl, Store.save_eff _ _ _ _ _ _ _ hn, .inl ⟨rfl, rfl⟩⟩
  | some id =>
    have hid : Addr ctx.env id := .inl (wf_of_valid hv)
    cases newData with
    | true => exact ⟨_, rfl, (Store.remove_eff _ _ _ _ _ hid).seq (Store.save_eff _ _ _ _ _ _ _ hn) (.inl ⟨rfl, rfl⟩), .inl ⟨rfl, rfl⟩⟩
    | false => exact ⟨id, rfl, (Store.save_eff _ _ _ _ _ _ _ hid).drop_written, .inr ⟨rfl, rfl, rfl⟩⟩

theorem clearSessionCookie_cases (ctx : Ctx) :
    clearSessionCookie ctx = [] ∨ (clearSessionCookie ctx = [mkCookie (-1) [] []] ∧ ctx.cookie ≠ []) := by
  rw [clearSessionCookie]
  split
  · exact .inl rfl
  · rename_i h; exact .inr ⟨rfl, fun e => h (e ▸ rfl)⟩

theorem clearSessionCookie_keys (ctx : Ctx) : ∀ c ∈ clearSessionCookie ctx, c.key = [] := by
  rcases clearSessionCookie_cases ctx with e | ⟨e, _⟩ <;> rw [e]
  · exact fun _ h => nomatch h
  · exact fun c h => List.mem_singleton.mp h ▸ rfl

theorem cookiesLoad_spec (ctx : Ctx) :
    (cookiesLoad ctx).1 = aliveP ctx.now (cookiePayload ctx.env ctx.cookie) ∧
    ((cookiesLoad ctx).2 = [] ∨ ((cookiesLoad ctx).2 = [mkCookie (-1) [] []] ∧ ctx.cookie ≠ [])) := by
  have hc := clearSessionCookie_cases ctx
  simp only [cookiesLoad, cookiePayload]
  rcases ctx.cookie with _ | ⟨c0, body⟩
  · exact ⟨rfl, .inl rfl⟩
  · replace hc := hc.imp_right fun h => And.intro h.1 (List.cons_ne_nil c0 body)
    dsimp only
    split
    · exact ⟨rfl, hc⟩
    · cases ctx.env.dec body with
      | none => exact ⟨rfl, hc⟩
      | some p =>
        simp only [← aliveP_expired, (expiry_tests p.1 ctx.now).cookie]
        split
        · exact ⟨rfl, hc⟩
        · exact ⟨rfl, .inl rfl⟩

theorem apiLoad_eff (ctx : Ctx) (st : Store) :
    Eff (Addr ctx.env) ctx.now none none st (apiLoad ctx st).2.1 ∧
    (apiLoad ctx st).1 = aliveTok ctx.cfg ctx.env ctx.now st.recs ctx.cookie ∧
    ((apiLoad ctx st).2.2 = [] ∨ ((apiLoad ctx st).2.2 = [mkCookie (-1) [] []] ∧ ctx.cookie ≠ [])) := by
  obtain ⟨s1, s2⟩ := sidLoad_eff ctx st
  obtain ⟨c1, c2⟩ := cookiesLoad_spec ctx
  unfold apiLoad aliveTok tokPayload
  rcases loc_cases ctx.cfg.loc with h | h | h <;> rw [h]
  · exact ⟨s1, s2, .inl rfl⟩
  · exact ⟨Eff.refl .., c1, c2⟩
  · dsimp only
    split
    · exact ⟨Eff.refl .., c1, c2⟩
    · exact ⟨s1, s2, .inl rfl⟩

theorem apiClear_eff (ctx : Ctx) (st : Store) :
    Eff (Addr ctx.env) ctx.now (revId ctx.cfg ctx.cookie) none st (apiClear ctx st).1 ∧
    (apiClear ctx st).2 = clearSessionCookie ctx := by
  simp only [apiClear, revId]
  rcases loc_cases ctx.cfg.loc with h | h | h <;> simp only [h, reduceCtorEq, if_false, if_true]
  · exact sidClear_eff ctx st
  · exact ⟨Eff.refl .., trivial⟩
  · split
    · rename_i hf
      cases hv : validSid ctx.cookie with
      | none => exact ⟨Eff.refl .., rfl⟩
      | some id => exact absurd (show firstIs ctx.cookie Gen.dualLoadClientChar = true from hf) (by rw [(firstIs_sid hv).1]; exact Bool.false_ne_true)
    · exact sidClear_eff ctx st

/-- the session is kept in the cookie (first case), or on the server under `id`, the next identifier of the source or the presented one -/
theorem apiSave_ok {ctx : Ctx} {st : Store} {next : Nat} {data : Bytes} {to : Int} {isNew onServer : Bool}
    {st1 : Store} {n1 : Nat} {cs : List SetCookie} {temp : Bytes}
    (h : apiSave ctx st next data to isNew onServer = .ok (st1, n1, cs, temp)) :
    (∀ c ∈ cs, c.key = []) ∧
    ((temp = 67 :: ctx.env.enc to data ∧ n1 = next ∧ ctx.cfg.loc ≠ .server ∧
        Eff (Addr ctx.env) ctx.now (revId ctx.cfg ctx.cookie) none st st1) ∨
     (∃ id, temp = 73 :: id ∧ ctx.cfg.loc ≠ .client ∧
        Eff (Addr ctx.env) ctx.now (revId ctx.cfg ctx.cookie) (some ⟨id, to, data⟩) st st1 ∧
        ((id = ctx.env.sidOf next ∧ n1 = next + 1) ∨ (validSid ctx.cookie = some id ∧ isNew = false ∧ n1 = next)))) := by
  obtain ⟨id, s1, s2, s3⟩ := sidSave_eff ctx st next data to isNew
  have hkeys := clearSessionCookie_keys ctx
  simp only [apiSave, cookiesSave, revId] at h ⊢
  rcases loc_cases ctx.cfg.loc with hl | hl | hl <;> simp only [hl, reduceCtorEq, if_false, if_true] at h ⊢
  · cases h
    exact ⟨fun _ h => (nomatch h), .inr ⟨id, s1, fun e => (nomatch e), s2, s3⟩⟩
  · cases onServer <;> simp only [Bool.false_eq_true, if_false, if_true] at h <;> cases h
    exact ⟨fun _ h => (nomatch h), .inl ⟨rfl, rfl, fun e => (nomatch e), Eff.refl ..⟩⟩
  · split at h
    · -- both, kept on the server
      cases h
      exact ⟨fun _ h => (nomatch h), .inr ⟨id, s1, fun e => (nomatch e), s2, s3⟩⟩
    · -- both, kept in the cookie: an identifier presented before is cleared first
      split at h <;> cases h
      · exact ⟨(sidClear_eff ctx st).2 ▸ hkeys, .inl ⟨rfl, rfl, fun e => (nomatch e), (sidClear_eff ctx st).1⟩⟩
      · rename_i hf
        refine ⟨fun _ h => (nomatch h), .inl ⟨rfl, rfl, fun e => (nomatch e), ?_⟩⟩
        cases hv : validSid ctx.cookie with
        | none => exact Eff.refl ..
        | some id => exact absurd (firstIs_sid hv).2 hf

theorem apiSave_error (ctx : Ctx) (st : Store) (next : Nat) (data : Bytes) (timeout : Int) (isNew onServer : Bool) :
    (∀ e, apiSave ctx st next data timeout isNew onServer = .error e → e = .cookiesOnServer) ∧
    ((∃ e, apiSave ctx st next data timeout isNew onServer = .error e) ↔ (onServer && (ctx.cfg.loc == .client)) = true) := by
  rcases loc_cases ctx.cfg.loc with hl | hl | hl
  · simp [apiSave, hl]
  · cases onServer <;> simp [apiSave, hl, cookiesSave]
  · by_cases hs : Gen.dualServerSide onServer data.length ctx.cfg.limit = true
    · simp [apiSave, hl, hs]
    · simp [apiSave, hl, hs, cookiesSave]

/-- an `Eff` read on tokens.  `hw`: unless `validSid` accepts the written key and the location looks at the store, `73 :: r.sid` is no
token for the record and the first case would be wrong. -/
theorem Eff.tok {P : Bytes → Prop} {cfg : Cfg} {env : Env} {cookie : Bytes} {now : Int} {st st1 : Store} {del : Option Bytes} {wr : Option Rec}
    (h : Eff P now del wr st st1) (hdel : del = none ∨ del = revId cfg cookie) (hd : NoDupSid st.recs)
    {t : Int} (ht : now ≤ t) (c2 : Bytes) (hw : ∀ r, wr = some r → c2 = 73 :: r.sid → cfg.loc ≠ .client ∧ Spec.wellFormedId r.sid = true) :
    aliveTok cfg env t st1.recs c2 =
      if some c2 = wr.map (fun r => 73 :: r.sid) then aliveP t (wr.map fun r => (r.timeout, r.data))
      else if (del.isSome && decide (c2 = cookie)) = true then none
      else aliveTok cfg env t st.recs c2 := by
  rw [aliveTok_eq _ _ _ st1.recs, aliveTok_eq _ _ _ st.recs]
  cases h2 : revId cfg c2 with
  | none =>
    have n1 : ¬ some c2 = wr.map (fun r => 73 :: r.sid) := by
      cases wr with
      | none => exact fun e => (nomatch e)
      | some r =>
        intro e; cases e
        rw [revId_eq_some.mpr ⟨(hw r rfl rfl).1, rfl, (hw r rfl rfl).2⟩] at h2; cases h2
    have n2 : ¬ (del.isSome && decide (c2 = cookie)) = true := by
      intro e
      simp only [Bool.and_eq_true, decide_eq_true_eq] at e
      rcases hdel with rfl | rfl
      · exact nomatch e.1
      · rw [← e.2, h2] at e; exact nomatch e.1
    rw [if_neg n1, if_neg n2]
  | some id2 =>
    obtain ⟨_, rfl, hw2⟩ := revId_eq_some.mp h2
    have e1 : wr.map (·.sid) = some id2 ↔ some (73 :: id2) = wr.map (fun r => 73 :: r.sid) := by
      cases wr with
      | none => exact ⟨fun e => (nomatch e), fun e => (nomatch e)⟩
      | some r => simp only [Option.map_some, Option.some.injEq, List.cons.injEq, true_and]; exact eq_comm
    have e2 : del = some id2 ↔ (del.isSome && decide (73 :: id2 = cookie)) = true := by
      simp only [Bool.and_eq_true, decide_eq_true_eq]
      rcases hdel with rfl | rfl
      · exact ⟨fun e => (nomatch e), fun e => (nomatch e.1)⟩
      · exact ⟨fun e => ⟨e ▸ rfl, (revId_eq_some.mp e).2.1.symm⟩, fun e => e.2 ▸ h2⟩
    simp only [h.alive hd t ht id2, e1, e2]

end Cppcms.C06
