import Cppcms.C06.Jar
import Cppcms.C06.MemStore
import Cppcms.C06.Float
/-!
# C06 — property theorems

"Session state carries over between requests exactly, never after it ended."
The model (`Model.lean`) is built on constants and expressions regenerated from the C++ source
(`Gen.lean`); the specification side is `Spec.lean`.  `design.d/C06.md` lists what each theorem means,
its hypotheses, and what is only partially covered.

`save_commutes_with_abs` is proved here, from `siLoad_spec`, `siSave_spec` and `RequestEff.denotes`.
-/
namespace Cppcms.C06.Props
open Cppcms Cppcms.C06


/-- The three bit fields read back exactly what the packing constructor stored, for every key size and
value size it accepts: the limits it enforces (`1024`, `1024*1024*2`) are the capacities of the 10- and
21-bit fields.  (All five numbers come from the source; changing any of them breaks this proof.) -/
theorem packed_roundtrip (ks ds : Nat) (e : Bool) (hk : ks < Gen.keyLimit) (hd : ds < Gen.dataLimit) :
    ∃ h, packHeader ks e ds = .ok h ∧ h.length = Gen.headerSize ∧
      wordKey (leWord32 h) = ks ∧ wordExp (leWord32 h) = e ∧ wordData (leWord32 h) = ds := by
  refine ⟨leBytes32 (headerWord ks e ds), ?_, rfl, ?_⟩
  · simp only [packHeader]; rw [if_neg (by omega), if_neg (by omega)]
  · rw [leWord32_leBytes32 _ (headerWord_lt ks e ds)]
    exact word_fields ks e ds hk hd

/-- `load_data (save_data m) = m` for every map (sorted, as `std::map` is) whose keys are shorter than
1024 bytes and whose values are shorter than 2 MiB; in particular `save_data` does not throw on it. -/
theorem load_save_data_roundtrip (m : Data) (hs : Sorted m) (hl : ∀ p ∈ m, withinLimits p) :
    ∃ bs, saveData m = .ok bs ∧ loadData bs = .ok m :=
  loadData_saveData m hs hl

/-- Beyond the limits `save_data` throws (the model's explicit error constructors), and only then. -/
theorem save_data_throws_iff (m : Data) :
    (∃ e, saveData m = .error e) ↔ ∃ p ∈ m, ¬ withinLimits p := saveData_throws_iff m

/-- When `save_data` throws it is one of the two length errors. -/
theorem save_data_error_kind (m : Data) (e : Err) (h : saveData m = .error e) :
    e = .keyTooLong ∨ e = .valueTooLong := saveData_error_kind m e h

/-- Bounds safety and exactness of `load_data` on **arbitrary** bytes (storage contents, decrypted
cookies): it either throws one of the two format errors or accepts, and when it accepts, the entries it
produced are within the limits and re-encode to exactly the input — every byte was consumed and nothing
beyond the input was read. -/
theorem load_data_exact (s : Bytes) :
    (∃ es, parseEntries s = .ok es ∧ saveData es = .ok s ∧ (∀ p ∈ es, withinLimits p) ∧ loadData s = .ok (fromEntries es)) ∨
    (parseEntries s = .error .formatPack ∧ loadData s = .error .formatPack) ∨
    (parseEntries s = .error .formatData ∧ loadData s = .error .formatData) := by
  have hx := parseFuel_exact s.length s (Nat.le_refl _)
  cases h : parseEntries s with
  | ok es =>
    rw [show parseFuel s.length s = .ok es from h] at hx
    exact .inl ⟨es, rfl, hx.1, hx.2, by simp only [loadData, h]⟩
  | error e =>
    rw [show parseFuel s.length s = .error e from h] at hx
    rcases hx with rfl | rfl
    · exact .inr (.inl ⟨rfl, by simp only [loadData, h]⟩)
    · exact .inr (.inr ⟨rfl, by simp only [loadData, h]⟩)

/-- What `load_data` returns is always a well-formed `std::map` (sorted, one binding per key). -/
theorem load_data_sorted (s : Bytes) (d : Data) (h : loadData s = .ok d) : Sorted d := sorted_loadData s d h


/-- `valid_sid` accepts exactly the cookies of the issued form — `I` followed by 32 lower-case
hexadecimal digits (the form is defined independently in `Spec.lean`) — and hands on the 32 digits. -/
theorem valid_sid_spec (c id : Bytes) :
    validSid c = some id ↔ c = 73 :: id ∧ Spec.wellFormedId id = true :=
  validSid_iff c id

/-- An accepted identifier has 32 bytes, none of them `/`, `.`, NUL or `\`: path-like cookies such
as `I../../etc/passwd…` never yield a storage key (file name). -/
theorem valid_sid_path_safe (c id : Bytes) (h : validSid c = some id) :
    id.length = 32 ∧ ∀ x ∈ id, x ≠ 47 ∧ x ≠ 46 ∧ x ≠ 0 ∧ x ≠ 92 := by
  obtain ⟨_, hw⟩ := (validSid_iff c id).mp h
  simp only [Spec.wellFormedId, Bool.and_eq_true, beq_iff_eq, List.all_eq_true] at hw
  refine ⟨hw.1, fun x hx => ?_⟩
  have := hw.2 x hx
  refine ⟨?_, ?_, ?_, ?_⟩ <;> (rintro rfl; exact absurd this (by decide))

/-! `absTok cfg env recs c`: the session the cookie value `c` denotes in the store `recs`; `Spec.alive t` cuts it off past its deadline; `SEq`:
equality up to the representation of the data map; `StoreInv`, `Admissible`, `EnvOK`: the hypotheses on store, cookie and externals. -/

/-- **`save` commutes with the abstraction**, for every operation mix, every location (client, server,
both with any `client_size_limit`), both storages, every expiration mode and any clock value: the decision
of `save()` is of the kind `Spec.decideSave` says (cleared / untouched / refused / saved), and for every
token `c2` and every instant `t` from now on, what `c2` denotes in the new store is what `Spec.apply`
prescribes — the issued token denotes the session `decideSave` saved (data and deadline), a replaced or cleared server-side identifier
denotes nothing, everything else is unchanged.  (The statement also says what the request reads; `tokenOf k = []` for cleared and
untouched is harmless, `Spec.apply` ignores the issued token there.) -/
theorem save_commutes_with_abs (ctx : Ctx) (st : Store) (next : Nat) (ops : List Op)
    (he : EnvOK ctx.env) (hi : StoreInv ctx.env st next) (ha : Admissible ctx.env ctx.cookie) :
    match Spec.specLoad (numOf ctx.env) (dfOf ctx.cfg) (Spec.alive ctx.now (absTok ctx.cfg ctx.env st.recs ctx.cookie)) with
    | .error _ => (request ctx st next ops).reads = .error .badCast
    | .ok w0 => ∃ r, (request ctx st next ops).reads = .ok r ∧ ReadsRel r w0 ∧
      match Spec.decideSave (dfOf ctx.cfg) (Spec.alive ctx.now (absTok ctx.cfg ctx.env st.recs ctx.cookie))
          ((ops.map specOp).foldl (Spec.applyOp (numOf ctx.env) (dfOf ctx.cfg)) w0) ctx.now with
      | .refused e => ∃ e', (request ctx st next ops).saved = .error e' ∧ errMatches e e' ∧
          ∀ t, ctx.now ≤ t → ∀ c2, SEq (Spec.alive t (absTok ctx.cfg ctx.env (request ctx st next ops).store.recs c2))
            (Spec.alive t (absTok ctx.cfg ctx.env st.recs c2))
      | out => ∃ k, (request ctx st next ops).saved = .ok k ∧ kindMatches k out ∧
          ∀ t, ctx.now ≤ t → ∀ c2, SEq (Spec.alive t (absTok ctx.cfg ctx.env (request ctx st next ops).store.recs c2))
            (Spec.alive t (Spec.apply (absTok ctx.cfg ctx.env st.recs) (revocable ctx.cfg) ctx.cookie (tokenOf k) out c2)) := by
  have hd := hi.nodup
  have hload := siLoad_spec ctx st (presented_wf ctx.cfg ctx.env st next ctx.now ctx.cookie hi ha)
  generalize Spec.specLoad (numOf ctx.env) (dfOf ctx.cfg) (Spec.alive ctx.now (absTok ctx.cfg ctx.env st.recs ctx.cookie)) = sl at hload ⊢
  rcases request_cases ctx st next ops with ⟨e, st1, cs, hL, hreq⟩ | ⟨s0, st1, cs, hL, hcase⟩
  · rw [hL] at hload
    cases sl with
    | error _ => rw [hreq]; dsimp only at hload ⊢; cases hload; rfl
    | ok w0 => obtain ⟨_, h, _⟩ := hload; exact nomatch h
  · rw [hL] at hload
    cases sl with
    | error _ => cases hload
    | ok w0 =>
      obtain ⟨_, h, hrel0, hsorted0, hscopy0, hcopy0, htin0⟩ := hload
      cases h
      obtain ⟨hc1, hc2⟩ := applyOps_copy ctx.cfg ctx.env ops s0
      have hsd := applyOps_sorted ctx.cfg ctx.env ops s0 hsorted0
      have hsave := siSave_spec ctx (applyOps ctx.cfg ctx.env s0 ops) _ st1 next _
        ⟨applyOps_rel ctx.cfg ctx.env ops s0 w0 hrel0, hsd, hc1 ▸ hscopy0, hc1 ▸ hcopy0, hc2 ▸ htin0⟩
      obtain ⟨wr, hR⟩ := request_eff ctx st next ops
      have hden := hR.denotes he hd
      -- `siSave_spec` says what `siSave` returned, so `request_cases` gives the request
      have hok : ∀ st2 n2 cs2 k, siSave ctx (applyOps ctx.cfg ctx.env s0 ops) st1 next = .ok (st2, n2, cs2, k) →
          request ctx st next ops = ⟨st2, n2, .ok (readsOf s0), .ok k, cs ++ cs2⟩ := by
        intro st2 n2 cs2 k hS
        rcases hcase with ⟨_, h, _⟩ | ⟨_, _, _, _, h, hreq⟩ <;> rw [hS] at h <;> cases h
        exact hreq
      have herr : ∀ e, siSave ctx (applyOps ctx.cfg ctx.env s0 ops) st1 next = .error e →
          request ctx st next ops = ⟨st1, next, .ok (readsOf s0), .error e, cs⟩ := by
        intro e hS
        rcases hcase with ⟨_, h, hreq⟩ | ⟨_, _, _, _, h, _⟩ <;> rw [hS] at h <;> cases h
        exact hreq
      have hreads : (request ctx st next ops).reads = .ok (readsOf s0) := by
        rcases hcase with ⟨_, _, hreq⟩ | ⟨_, _, _, _, _, hreq⟩ <;> rw [hreq]
      refine ⟨readsOf s0, hreads, ⟨hrel0.data, hrel0.age, hrel0.how, hrel0.srv⟩, ?_⟩
      generalize Spec.decideSave (dfOf ctx.cfg) (Spec.alive ctx.now (absTok ctx.cfg ctx.env st.recs ctx.cookie))
        ((ops.map specOp).foldl (Spec.applyOp (numOf ctx.env) (dfOf ctx.cfg)) w0) ctx.now = out at hsave ⊢
      cases out with
      | cleared =>
        obtain ⟨st2, cs2, hS⟩ := hsave
        rw [hok _ _ _ _ hS] at hden ⊢
        refine ⟨.cleared, rfl, trivial, fun t ht c2 => ?_⟩
        rw [alive_absTok, hden t ht c2, apply_cleared_at]
        simp only [Bool.and_eq_true, decide_eq_true_eq]
        split
        · trivial
        · rw [← alive_absTok]; exact SEq.rfl' _
      | untouched =>
        rw [hok _ _ _ _ hsave] at hden ⊢
        refine ⟨.untouched, rfl, trivial, fun t ht c2 => ?_⟩
        rw [alive_absTok, hden t ht c2, ← alive_absTok]
        exact SEq.rfl' _
      | refused e =>
        obtain ⟨e', hS, hmatch⟩ := hsave
        rw [herr _ hS] at hden ⊢
        refine ⟨e', rfl, hmatch, fun t ht c2 => ?_⟩
        rw [alive_absTok, alive_absTok, hden t ht c2]
        exact SEq.rfl' _
      | saved ss fresh ca =>
        obtain ⟨st2, n2, cs2, temp, ar, hS, har, hdata, hdl⟩ := hsave
        rw [hok _ _ _ _ hS] at hden ⊢
        obtain ⟨to, ar', hser, htokens⟩ := hden
        obtain ⟨har', rfl⟩ := hser _ _ _ hL
        cases har.symm.trans har'
        refine ⟨.written temp, rfl, trivial, fun t ht c2 => ?_⟩
        rw [alive_absTok, htokens t ht c2, apply_saved_at, show tokenOf (.written temp) = temp from rfl]
        simp only [Bool.and_eq_true, decide_eq_true_eq]
        split
        · -- the issued token denotes what was saved, while it lives
          simp only [aliveP, Spec.alive, hdl]
          split
          · simp only [Option.bind_some, sessOfPayload, loadData_of_saved hsd har]; exact ⟨hdata, hdl.symm⟩
          · trivial
        · split
          · trivial
          · rw [← alive_absTok]; exact SEq.rfl' _

/-- **What a request reads is the specification's value of the token it presents** — for *any* store
satisfying the invariant, *any* presented cookie (a browser's own, an old one, a forged one, a path-like
one), any instant: the session the token denotes if its deadline has not passed, else the empty session
with the configured defaults (`Spec.specLoad`); never anything else. -/
theorem request_reads_spec (ctx : Ctx) (st : Store) (next : Nat) (ops : List Op)
    (he : EnvOK ctx.env) (hi : StoreInv ctx.env st next) (ha : Admissible ctx.env ctx.cookie) :
    match Spec.specLoad (numOf ctx.env) (dfOf ctx.cfg) (Spec.alive ctx.now (absTok ctx.cfg ctx.env st.recs ctx.cookie)) with
    | .error _ => (request ctx st next ops).reads = .error .badCast
    | .ok w0 => ∃ r, (request ctx st next ops).reads = .ok r ∧ ReadsRel r w0 := by
  have h := save_commutes_with_abs ctx st next ops he hi ha
  cases hs : Spec.specLoad (numOf ctx.env) (dfOf ctx.cfg) (Spec.alive ctx.now (absTok ctx.cfg ctx.env st.recs ctx.cookie)) with
  | error e => rw [hs] at h; exact h
  | ok w0 => rw [hs] at h; obtain ⟨r, h1, h2, _⟩ := h; exact ⟨r, h1, h2⟩

/-- **Never another browser's data, and nobody else can disturb a session.**  A request — whatever it
presents and does — leaves what any *other* token denotes unchanged (other browsers' sessions, old cookies
an attacker kept), from its instant on.  `TokKnown`: the other token is a client-side cookie, an identifier
issued earlier, or a string the identifier source never produces. -/
theorem other_sessions_untouched (ctx : Ctx) (st : Store) (next : Nat) (ops : List Op) (c2 : Bytes)
    (he : EnvOK ctx.env) (bound : Nat) (hf : Fresh ctx.env bound) (hb : (request ctx st next ops).next ≤ bound)
    (hi : StoreInv ctx.env st next) (ha : Admissible ctx.env ctx.cookie)
    (hne : c2 ≠ ctx.cookie) (hk : TokKnown ctx.env next c2) (t : Int) (ht : ctx.now ≤ t) :
    SEq (Spec.alive t (absTok ctx.cfg ctx.env (request ctx st next ops).store.recs c2))
        (Spec.alive t (absTok ctx.cfg ctx.env st.recs c2)) :=
  SEq_of_eq (by rw [alive_absTok, alive_absTok, request_frame ctx st next ops c2 bound hf hb hi.nodup hne hk t ht])

/-- **Session state carries over exactly, never after it ended.**
A request saved session `ss` (`Spec.decideSave` says so) and left its browser with the token `tok`.
Then *any* number of other requests follow — by other browsers or by an attacker, presenting *any*
admissible cookies except `tok`, doing anything, with the clock moving forward arbitrarily.  The next
request that presents `tok` reads exactly `ss` (data, exposed flags, and the age / expiration mode /
on-server flag stored in it) if its instant is not past `ss.deadline`, and the empty session otherwise. -/
theorem session_carries_over (cfg : Cfg) (env : Env) (st : Store) (next : Nat) (s : Step) (others : List Step) (final : Step)
    (tok : Bytes) (ss : Spec.SSess) (fresh : Bool) (ca : Int) (w0 : Spec.Work)
    (he : EnvOK env) (bound : Nat) (hf : Fresh env bound)
    (hb : (run cfg env (request (stepCtx cfg env s) st next s.ops).store (request (stepCtx cfg env s) st next s.ops).next others).2 ≤ bound)
    (hi : StoreInv env st next) (hs : Admissible env s.cookie)
    (hsaved : (request (stepCtx cfg env s) st next s.ops).saved = .ok (.written tok))
    (hload : Spec.specLoad (numOf env) (dfOf cfg) (Spec.alive s.now (absTok cfg env st.recs s.cookie)) = .ok w0)
    (hdec : Spec.decideSave (dfOf cfg) (Spec.alive s.now (absTok cfg env st.recs s.cookie))
      ((s.ops.map specOp).foldl (Spec.applyOp (numOf env) (dfOf cfg)) w0) s.now = .saved ss fresh ca)
    (ho : HistOK env s.now others) (hne : ∀ x ∈ others, x.cookie ≠ tok)
    (hfc : final.cookie = tok) (hfa : Admissible env tok) (hfn : lastNow s.now others ≤ final.now) :
    match Spec.specLoad (numOf env) (dfOf cfg) (Spec.alive final.now (some ss)) with
    | .error _ =>
      (request (stepCtx cfg env final)
        (run cfg env (request (stepCtx cfg env s) st next s.ops).store (request (stepCtx cfg env s) st next s.ops).next others).1
        (run cfg env (request (stepCtx cfg env s) st next s.ops).store (request (stepCtx cfg env s) st next s.ops).next others).2
        final.ops).reads = .error .badCast
    | .ok w => ∃ r,
      (request (stepCtx cfg env final)
        (run cfg env (request (stepCtx cfg env s) st next s.ops).store (request (stepCtx cfg env s) st next s.ops).next others).1
        (run cfg env (request (stepCtx cfg env s) st next s.ops).store (request (stepCtx cfg env s) st next s.ops).next others).2
        final.ops).reads = .ok r ∧ ReadsRel r w := by
  have href := save_commutes_with_abs (stepCtx cfg env s) st next s.ops he hi hs
  obtain ⟨i1, _⟩ := request_inv (stepCtx cfg env s) st next s.ops hi
  have hknown := issued_token_known (stepCtx cfg env s) st next s.ops tok hi hsaved
  have h2 := run_frame cfg env _ _ s.now others tok bound hf hb i1 ho hne hknown final.now hfn
  obtain ⟨j1, _⟩ := run_inv cfg env _ _ s.now others i1 ho
  generalize request (stepCtx cfg env s) st next s.ops = out at *
  generalize run cfg env out.store out.next others = R at *
  -- (1) right after the saving request, `tok` denotes `ss`; (2) the others do not touch it (`h2`)
  simp only [stepCtx] at href
  rw [hload] at href
  obtain ⟨_, _, _, href⟩ := href
  rw [hdec] at href
  obtain ⟨k, hk1, _, h3⟩ := href
  rw [hsaved] at hk1; cases hk1
  have h1 := h3 final.now (Int.le_trans (lastNow_ge env s.now others ho) hfn) tok
  rw [apply_saved_at, show tokenOf (.written tok) = tok from rfl, if_pos rfl] at h1
  -- (3) the final request reads what `tok` denotes now
  have hrefF := request_reads_spec (stepCtx cfg env final) R.1 R.2 final.ops he j1 (hfc ▸ hfa :)
  have hcong := specLoad_congr (numOf env) (dfOf cfg) (Spec.alive final.now (absTok cfg env R.1.recs tok)) _
    (by rw [alive_absTok, h2, ← alive_absTok]; exact h1)
  simp only [stepCtx, hfc] at hrefF ⊢
  revert hrefF hcong
  generalize Spec.specLoad (numOf env) (dfOf cfg) (Spec.alive final.now (absTok cfg env R.1.recs tok)) = A
  generalize Spec.specLoad (numOf env) (dfOf cfg) (Spec.alive final.now (some ss)) = B
  intro hcong hrefF
  -- `hcong` excludes the two mixed cases
  cases A <;> cases B
  · exact hrefF
  · exact hcong.elim
  · exact hcong.elim
  · obtain ⟨r, hr1, hdata, hage, hhow, hsrv⟩ := hrefF
    obtain ⟨cdata, cage, chow, csrv⟩ := hcong
    exact ⟨r, hr1, hdata.trans cdata, hage.trans cage, hhow.trans chow, hsrv.trans csrv⟩

/-- **Clearing or replacing makes a server-side identifier unusable.**  A request presented the
server-side identifier `s.cookie` and either cleared the session or left its browser with a different
token (reset, expiry + new session, move to the client side).  Whatever happens afterwards — any
requests by anybody, also ones presenting the old identifier again, with the clock moving forward — a
request presenting the old identifier reads the empty session with the configured defaults. -/
theorem cleared_sid_unusable (cfg : Cfg) (env : Env) (st : Store) (next : Nat) (s : Step) (others : List Step) (final : Step)
    (he : EnvOK env) (bound : Nat) (hf : Fresh env bound)
    (hb : (run cfg env (request (stepCtx cfg env s) st next s.ops).store (request (stepCtx cfg env s) st next s.ops).next others).2 ≤ bound)
    (hi : StoreInv env st next) (hs : Admissible env s.cookie)
    (hrev : revocable cfg s.cookie = true) (hk : TokKnown env next s.cookie)
    (hgone : (request (stepCtx cfg env s) st next s.ops).saved = .ok .cleared ∨
      ∃ tok, (request (stepCtx cfg env s) st next s.ops).saved = .ok (.written tok) ∧ tok ≠ s.cookie)
    (ho : HistOK env s.now others) (hfc : final.cookie = s.cookie) (hfn : lastNow s.now others ≤ final.now) :
    (request (stepCtx cfg env final)
      (run cfg env (request (stepCtx cfg env s) st next s.ops).store (request (stepCtx cfg env s) st next s.ops).next others).1
      (run cfg env (request (stepCtx cfg env s) st next s.ops).store (request (stepCtx cfg env s) st next s.ops).next others).2
      final.ops).reads = .ok ⟨[], cfg.timeoutDef, cfg.howDef, false⟩ := by
  obtain ⟨wr, hR⟩ := request_eff (stepCtx cfg env s) st next s.ops
  have hden := hR.denotes he hi.nodup
  obtain ⟨i1, i2⟩ := request_inv (stepCtx cfg env s) st next s.ops hi
  have hdead2 := run_dead cfg env _ _ s.now others s.cookie bound hf hb i1 ho (tokKnown_mono hk i2)
  obtain ⟨j1, _⟩ := run_inv cfg env _ _ s.now others i1 ho
  generalize request (stepCtx cfg env s) st next s.ops = out at *
  generalize run cfg env out.store out.next others = R at *
  -- (1) dead right after the request: revoked, and not the issued token
  have hdead1 : ∀ t, s.now ≤ t → Spec.alive t (absTok cfg env out.store.recs s.cookie) = none := by
    intro t ht
    dsimp only [stepCtx] at hden
    rcases hgone with h | ⟨tok, h, hne⟩ <;> rw [h] at hden
    · rw [alive_absTok, hden t ht s.cookie]; simp [hrev]
    · obtain ⟨_, _, _, htokens⟩ := hden
      rw [alive_absTok, htokens t ht s.cookie, if_neg (Ne.symm hne)]; simp [hrev]
  -- (2) and through everything that follows; (3) so the final request loads nothing
  have hrefF := request_reads_spec (stepCtx cfg env final) R.1 R.2 final.ops he j1 (hfc ▸ hs :)
  simp only [stepCtx, hfc] at hrefF ⊢
  rw [hdead2 hdead1 final.now hfn] at hrefF
  obtain ⟨r, hr1, h1, h2, h3, h4⟩ := hrefF
  have h0 : r.data = [] := List.isEmpty_iff.mp (by rw [← toS_isEmpty, mapEq_isEmpty h1]; rfl)
  rw [hr1]
  cases r
  cases h0; cases h2; cases h3; cases h4
  rfl

/-- **A reset issues a fresh identifier** (partial: *unpredictability* of the identifier is a property of the
entropy source and is not expressible here; what is proved is freshness).  If a request called
`reset_session()` and saved, the token it leaves is either a client-side cookie or `I` followed by the
*next* identifier of the source, which, under `Fresh`, is the key of no record in the store and differs from
every identifier issued before. -/
theorem reset_issues_fresh_sid_partial (ctx : Ctx) (st : Store) (next : Nat) (ops : List Op) (tok : Bytes)
    (bound : Nat) (hf : Fresh ctx.env bound) (hb : (request ctx st next ops).next ≤ bound) (hi : StoreInv ctx.env st next)
    (hreset : Op.resetSession ∈ ops)
    (hsaved : (request ctx st next ops).saved = .ok (.written tok)) :
    (∃ to d, tok = 67 :: ctx.env.enc to d) ∨
    (tok = 73 :: ctx.env.sidOf next ∧ (request ctx st next ops).next = next + 1 ∧
      (∀ r ∈ st.recs, r.sid ≠ ctx.env.sidOf next) ∧ (∀ m, m < next → tok ≠ 73 :: ctx.env.sidOf m)) := by
  obtain ⟨wr, hR⟩ := request_eff ctx st next ops
  cases wr with
  | none => exact .inl (let ⟨_, to, d, e, _⟩ := hR.of_none.client tok hsaved; ⟨to, d, e⟩)
  | some r =>
    have hw := hR.of_some
    have hs := hw.saved
    rw [hsaved] at hs; cases hs
    rcases hw.ident with ⟨hfresh, hnext⟩ | ⟨_, _, hnoreset, _⟩
    · refine .inr ⟨hfresh ▸ rfl, hnext, fun r' hr' e => ?_, fun m hm e => ?_⟩
      · obtain ⟨m, hm1, hm2⟩ := hi.issued r' hr'
        have := hf m next (by omega) (by omega) (by rw [← hm2, e])
        omega
      · have := hf next m (by omega) (by omega) (hfresh ▸ (List.cons.inj e).2)
        omega
    · exact absurd hreset hnoreset

/-- **No session fixation / stored keys are issued keys.**  Starting from the empty store, after any history
of admissible requests every key of the store is an identifier the source produced, every record is the
serialisation of a well-formed map, and there is one record per key. -/
theorem stored_keys_are_issued (cfg : Cfg) (env : Env) (now0 : Int) (steps : List Step) (h : HistOK env now0 steps) :
    StoreInv env (run cfg env ⟨[], []⟩ 0 steps).1 (run cfg env ⟨[], []⟩ 0 steps).2 :=
  (run_inv cfg env _ _ now0 steps (storeInv_empty env) h).1


/-- **Identifiers not of the issued form never address storage.**  Whatever cookie a request presents
(malformed, path-like such as `I../../etc/passwd…`, wrong length, upper-case hex, a forged client cookie …)
and whatever it does, every call of the `session_storage` interface it makes (`load`, `save`, `remove` —
the model logs each with its key) is addressed with 32 lower-case hexadecimal digits. -/
theorem malformed_sid_never_reaches_storage (ctx : Ctx) (st : Store) (next : Nat) (ops : List Op)
    (he : EnvOK ctx.env) (h : LogOK st.log) : LogOK (request ctx st next ops).store.log :=
  request_log ctx st next ops he h

/-- Through every history from the empty store, every storage call is addressed with 32 lower-case hexadecimal digits,
with no condition on the presented cookies at all. -/
theorem malformed_sid_never_reaches_storage_history (cfg : Cfg) (env : Env) (steps : List Step) (he : EnvOK env) :
    ∀ e ∈ (run cfg env ⟨[], []⟩ 0 steps).1.log, Spec.wellFormedId e.2 = true :=
  run_log cfg env ⟨[], []⟩ 0 steps he (fun _ h => by cases h)

/-- **Exposed values appear in and disappear from cookies in step with the session.**  Whenever `save()`
clears or writes, then for every non-empty key the browser's `<prefix>_<key>` cookie after applying every `Set-Cookie` of `save()` in
order is the entry's value if the entry is exposed and non-empty in the saved session, and absent otherwise (`exposedLookup`).
Hypotheses: the jar reported the names of its cookies (`remove_unknown_cookies`), it was in step with the session that was loaded, the
session data are well-formed maps, and the cookie age is not negative. -/
theorem exposed_cookies_in_step (ctx : Ctx) (s : Sess) (st : Store) (next : Nat) (st1 : Store) (n1 : Nat) (cs : List SetCookie) (kind : SaveKind)
    (h : siSave ctx s st next = .ok (st1, n1, cs, kind)) (hkind : kind ≠ .untouched)
    (J : Jar) (k : Key) (hk : k ≠ [])
    (hsd : Sorted s.data) (hsc : Sorted s.copy) (hage : 0 ≤ cookieAgeOf ctx s)
    (hnames : ∀ v, jfind k J.exposed = some v → k ∈ ctx.names)
    (hstep : ∀ e, dfind k s.copy = some e → e.exposed = true →
      jfind k J.exposed = if e.value.isEmpty then none else some e.value) :
    jfind k (J.applyAll cs).exposed = exposedLookup s.data k := by
  have hK := siSave_ok h
  cases kind with
  | untouched => exact absurd rfl hkind
  | cleared =>
    obtain ⟨_, _, _, rfl⟩ := hK
    have hj := jfind_applyAll_nilkeys _ J k hk (clearSessionCookie_keys ctx)
    rw [applyAll_append]
    exact updateExposed_lookup ctx s true _ k hk hsd hsc hage (hj ▸ hnames) (fun hf => nomatch hf)
  | written tok =>
    obtain ⟨ar, cs1, _, _, hap, rfl⟩ := hK
    have hj := jfind_applyAll_nilkeys (cs1 ++ [mkCookie (cookieAgeOf ctx s) tok []]) J k hk fun c hc =>
      (List.mem_append.mp hc).elim ((apiSave_ok hap).1 c) (fun h => List.mem_singleton.mp h ▸ rfl)
    rw [applyAll_append]
    exact updateExposed_lookup ctx s _ _ k hk hsd hsc hage (hj ▸ hnames) (fun _ => hj ▸ hstep)

/-- **A load starts from an empty working copy** (`set_cookie_adapter_and_reload` on one object).  After a
first load that did not throw (`hL`; any cookie otherwise) and any mutations, a reload with a second cookie — valid (another browser's), invalid,
expired or absent — shows exactly what `Spec.specLoad` yields for the session the *second* cookie denotes in the
store the first load left (`request_reads_spec` for a fresh object): what a request reads after a reload depends only
on the presented cookie and the store; nothing of the first cookie's data survives. -/
theorem reload_starts_from_empty_working_copy (ctx1 ctx2 : Ctx) (st : Store) (next : Nat) (ops1 ops2 : List Op)
    (s1 : Sess) (st1 : Store) (cs1 : List SetCookie) (hL : siLoad ctx1 st = (.ok s1, st1, cs1))
    (henv : ctx2.env = ctx1.env) (he : EnvOK ctx2.env) (hi : StoreInv ctx1.env st next) (ha : Admissible ctx2.env ctx2.cookie) :
    (request2 ctx1 ctx2 st next ops1 ops2).out.reads = (request ctx2 st1 next []).reads ∧
    match Spec.specLoad (numOf ctx2.env) (dfOf ctx2.cfg) (Spec.alive ctx2.now (absTok ctx2.cfg ctx2.env st1.recs ctx2.cookie)) with
    | .error _ => (request2 ctx1 ctx2 st next ops1 ops2).out.reads = .error .badCast
    | .ok w0 => ∃ r, (request2 ctx1 ctx2 st next ops1 ops2).out.reads = .ok r ∧ ReadsRel r w0 := by
  have h1 : (request2 ctx1 ctx2 st next ops1 ops2).out.reads = (request ctx2 st1 next []).reads := by
    simp only [request2, request, hL]
    rcases siLoad ctx2 st1 with ⟨r, st2, cs2⟩
    cases r with
    | error e => rfl
    | ok s2 =>
      dsimp only
      cases siSave ctx2 (applyOps ctx2.cfg ctx2.env (reloadSess (applyOps ctx1.cfg ctx1.env s1 ops1) s2) ops2) st2 next <;>
        cases siSave ctx2 (applyOps ctx2.cfg ctx2.env s2 []) st2 next <;> rfl
  have hE := (siLoad_outcome ctx1 st).eff
  rw [hL] at hE
  have hmem : ∀ x ∈ st1.recs, x ∈ st.recs := fun x hx => (hE.mem x hx).resolve_left (fun e => nomatch e)
  refine ⟨h1, h1 ▸ request_reads_spec ctx2 st1 next [] he ?_ ha⟩
  rw [henv]
  exact ⟨hE.nodup hi.nodup, fun r hr => hi.wf r (hmem r hr), fun r hr => hi.issued r (hmem r hr)⟩

/-- **Network storage over any number of nodes is one store addressed by the sid**, when `save`, `load`
and `remove` all select the node by the sid — which `clusterSave` / `clusterRemove` / `clusterLookup` do by definition; `hroute` names the
regenerated `Gen.tcpRouteKeys` but the proof does not need it (the `example` below checks the constant).  Asking the cluster for `id` the way
`load` does returns the last payload saved under `id` (if not removed and not expired), whatever the hash and the number of nodes. -/
theorem network_nodes_act_as_one_store (now t : Int) (c : Cluster) (hash : Bytes → Nat) (n : Nat) (sid id : Bytes) (to : Int) (d : Bytes)
    (hroute : Gen.tcpRouteKeys = ["sid", "sid", "sid"]) (hd : ∀ i, NoDupSid (c i)) (ht : now ≤ t) :
    clusterLookup t (clusterSave now c hash n sid to d) hash n id =
      (if sid = id then aliveP t (some (to, d)) else clusterLookup t c hash n id) ∧
    clusterLookup t (clusterRemove now c hash n sid) hash n id =
      (if sid = id then none else clusterLookup t c hash n id) := by
  simp only [clusterLookup, clusterSave, clusterRemove]
  by_cases hn : nodeOf hash n id = nodeOf hash n sid
  · -- the same node: the memory storage's `save` / `remove` there
    rw [if_pos hn, if_pos hn, (Store.save_eff (fun _ => True) .memory now sid to d ⟨c (nodeOf hash n id), []⟩ trivial).alive (hd _) t ht id,
      (Store.remove_eff (fun _ => True) .memory now sid ⟨c (nodeOf hash n id), []⟩ trivial).alive (hd _) t ht id]
    simp only [Option.map_some, Option.map_none, Option.some.injEq, reduceCtorEq, if_false, and_self]
  · have hne : ¬ sid = id := fun e => hn (by rw [e])
    rw [if_neg hn, if_neg hn, if_neg hne, if_neg hne]
    exact ⟨rfl, rfl⟩

example : Gen.tcpRouteKeys = ["sid", "sid", "sid"] := by decide

/-- **Exposed cookies stay in step with the session along whole histories.**  An honest browser starts with an empty
jar; then its own requests (it presents its jar's session cookie and the names of its `<prefix>_<key>` cookies, uses non-empty keys, and
applies every `Set-Cookie` of the answer in order) interleave with requests by anybody else (any admissible cookie other than the
browser's current one), the clock never going back.  Afterwards, at every later instant: if the jar's session cookie still denotes a live
session, then for every non-empty key the jar's exposed cookie is that session's value if the entry is exposed and non-empty, and absent
otherwise (`specExposed`) — and the store invariant holds. -/
theorem exposed_cookies_in_step_history (cfg : Cfg) (env : Env) (bound : Nat) (now0 : Int) (evs : List Ev)
    (he : EnvOK env) (hf : Fresh env bound) (h : HistB cfg env bound now0 ⟨⟨[], []⟩, 0, Jar.empty⟩ evs) :
    StoreInv env (runB cfg env ⟨⟨[], []⟩, 0, Jar.empty⟩ evs).st (runB cfg env ⟨⟨[], []⟩, 0, Jar.empty⟩ evs).next ∧
    ∀ t, lastNowB now0 evs ≤ t → ∀ ss,
      Spec.alive t (absTok cfg env (runB cfg env ⟨⟨[], []⟩, 0, Jar.empty⟩ evs).st.recs (runB cfg env ⟨⟨[], []⟩, 0, Jar.empty⟩ evs).jar.cookie) = some ss →
      ∀ k, k ≠ [] → jfind k (runB cfg env ⟨⟨[], []⟩, 0, Jar.empty⟩ evs).jar.exposed = specExposed ss.data k := by
  have h0 : JarOK cfg env ⟨[], []⟩ 0 now0 Jar.empty := jarOK_nil cfg env _ 0 now0 Jar.empty rfl (fun _ hp => by cases hp)
  obtain ⟨a, b⟩ := jar_in_step_run cfg env bound now0 ⟨⟨[], []⟩, 0, Jar.empty⟩ evs he hf (storeInv_empty env) h0 h
  exact ⟨a, fun t ht ss hss k hk => (b.step t ht ss hss).1 k hk⟩

/-- **The memory storage's index mirrors its map, and the list model is its abstraction.**  `MemRel ms l`: the index is exactly the (deadline, key) list of the records `l`, the map binds each key to its record,
one record per key.  `save`, `remove` and `load` preserve the relation and agree with the list model used everywhere
else, one call at a time (no theorem here composes `MemRel` with `request`). -/
theorem mem_storage_refines (now : Int) (key : Bytes) (to : Int) (value : Bytes) (ms : MemStore) (st : Store) (h : MemRel ms st.recs) :
    MemRel (ms.save now key to value) (st.save .memory now key to value).recs ∧
    MemRel (ms.remove now key) (st.remove .memory now key).recs ∧
    ms.load now key = (st.load .memory now key).1 :=
  ⟨memRel_save now key to value ms st h, memRel_remove now key ms st h, memRel_load now key ms st h⟩

/-- **`short_gc` removes only expired entries**: every binding of the map is as it was, or was bound to an expired entry and is gone. -/
theorem gc_removes_only_expired (now : Int) (ms : MemStore) (l : List Rec) (h : MemRel ms l) (k : Bytes) :
    mfind k (memShortGc now ms).map = mfind k ms.map ∨
    (∃ e, mfind k ms.map = some e ∧ e.timeout < now ∧ mfind k (memShortGc now ms).map = none) := by
  rw [memShortGc]
  rw [(memRel_gc Gen.gcMax now ms l h).map k, h.map k]
  rcases findRec_shortGcN Gen.gcMax now l h.nodup k with h1 | ⟨r, h1, h2, h3⟩
  · exact .inl (by rw [h1])
  · exact .inr ⟨recEntry r, by rw [h1]; rfl, h2, by rw [h3]; rfl⟩

example : MemRel ⟨[], []⟩ [] := ⟨rfl, fun _ => rfl, trivial⟩
-- three sessions, two of them expired when the third is renewed: the index keeps mirroring the map
example : ((((⟨[], []⟩ : MemStore).save 1000 [1] 1010 [7]).save 1001 [2] 1005 [8]).save 1002 [3] 1100 [9]).save 1050 [3] 1200 [9] =
    ⟨[([3], ⟨1200, [9]⟩)], [(1200, [3])]⟩ := by decide +kernel

/-- **`transmit` re-sends after a reconnect.**  If the first exchange fails (the connection to the session server was
dropped), the reconnect succeeds and the re-sent exchange is answered, the caller gets that answer — a dropped connection is
transparent; and `transmit` never returns normally without an answer of the server (it answers or throws).  The proof
rests on the regenerated `Gen.txDoneInTry = true`, `Gen.txDoneAfterCatch = false`. -/
theorem transmit_resends_after_reconnect {R : Type} (attempt : Nat → Option R) (reconnectOk : Bool) :
    (∀ r, attempt 0 = some r → transmit attempt reconnectOk = .answered r) ∧
    (∀ r, attempt 0 = none → reconnectOk = true → attempt 1 = some r → transmit attempt reconnectOk = .answered r) ∧
    transmit attempt reconnectOk ≠ .noAnswer := by
  have h1 : Gen.txDoneInTry = true := rfl
  have h2 : Gen.txDoneAfterCatch = false := rfl
  refine ⟨?_, ?_, ?_⟩
  · intro r h; simp [transmit, transmitLoop, h, h1]
  · intro r h0 hr h1'; simp [transmit, transmitLoop, h0, hr, h1', h1, h2]
  · simp only [transmit, transmitLoop, h1, h2]
    cases attempt 0 <;> cases reconnectOk <;> cases attempt 1 <;> simp

example : transmit (fun i => if i = 0 then none else some 7) true = .answered 7 := by decide

/-- The two flags regenerated from the header say that `set<T>` (used by `age()/expiration()/on_server()`) and `get<T>` imbue
the classic locale.  This is what justifies modelling number text by one external `showInt`/`readInt` pair; the model does
not refer to the flags. -/
theorem number_text_is_locale_independent : Gen.setImbuesClassic = true ∧ Gen.getImbuesClassic = true := by decide

/-- **The 10 % renewal window** as the source has it (`delta < timeout_val_ * 0.1` with
`delta = now + timeout_val_ - timeout_in_`): the translated test is `10 * (now - (tin - T)) < T`, fewer than a
tenth of the period since `timeout_in_ - timeout_val_`, the instant of the last write. -/
theorem renewal_window (now T tin tdef : Int) :
    (Gen.delta now T tin * Gen.renewDen < Gen.renewBase T tdef * Gen.renewNum) ↔ 10 * (now - (tin - T)) < T := by
  simp only [Gen.delta, Gen.renewDen, Gen.renewNum, Gen.renewBase]; omega

/-- **The renewal test as the machine computes it.**  `save()` evaluates `delta < timeout_val_ * 0.1` in binary64.
`doubleLess` (Model.lean) models that computation: `delta` and the `int` multiplicand converted exactly, the literal as the binary64
number `Gen.renewMant * 2^-Gen.renewShift`, one IEEE multiplication rounded to nearest even.  For every `int` multiplicand and every
integer `delta` it agrees with the rational comparison the model uses — no rounding artefact, in particular not at `delta = T/10`. -/
theorem renew_double_exact (delta T : Int) (hlo : -2 ^ 31 ≤ T) (hhi : T < 2 ^ 31) :
    doubleLess delta T = decide (delta * Gen.renewDen < T * Gen.renewNum) := by
  rw [show (2:Int) ^ 31 = 2147483648 from rfl] at hlo hhi
  simp only [doubleLess, mulLit, Gen.renewShift, Gen.renewMant, Gen.renewDen, Gen.renewNum]
  apply decide_eq_decide.mpr
  rw [show (2:Int) ^ 55 = 36028797018963968 from rfl]
  by_cases hpos : 0 ≤ T
  · rw [if_pos hpos]
    by_cases h0 : T = 0
    · subst h0; rw [show fl53 (Int.toNat 0 * 3602879701896397) = 0 by decide]; omega
    · have := (fl53_compare T.toNat (by omega) (by omega) delta).1
      rw [Int.toNat_of_nonneg hpos] at this
      omega
  · rw [if_neg hpos]
    have := (fl53_compare (-T).toNat (by omega) (by omega) (-delta)).2
    rw [Int.toNat_of_nonneg (by omega)] at this
    omega

/-- The binary64 value the translator computed for the literal is the double nearest to the rational `1/10`: a 53-bit
number (`2 · renewMant`) of the binade `[2^-4, 2^-3)` (spacing `2^-56`) at distance at most half a spacing. -/
theorem renew_literal_is_nearest_double :
    Gen.renewShift = 55 ∧ 2 ^ 51 ≤ Gen.renewMant ∧ Gen.renewMant < 2 ^ 52 ∧
    4 * (Gen.renewDen * (Gen.renewMant : Int) - Gen.renewNum * 2 ^ 55).natAbs ≤ Gen.renewDen.natAbs := by
  decide


example : saveData [([107], ⟨[118], true⟩)] = .ok [1, 12, 0, 0, 107, 118] := by rfl
example : loadData [1, 12, 0, 0, 107, 118] = .ok [([107], ⟨[118], true⟩)] := by
  simp [loadData, parseEntries, parseFuel, Gen.headerSize, leWord32, wordKey, wordData, wordExp, Gen.keyBits, Gen.expBits,
    Gen.dataBits, fromEntries, dinsert]
example : Sorted [([97], ⟨[], false⟩), ([97, 0], ⟨[1], true⟩), ([98], ⟨[], false⟩)] :=
  ⟨by decide, by decide, by decide, trivial⟩
example : validSid (73 :: List.replicate 32 97) = some (List.replicate 32 97) := by decide
example : validSid ([73, 46, 46, 47, 46, 46, 47, 101, 116, 99, 47, 112, 97, 115, 115, 119, 100] ++ List.replicate 16 48) = none := by decide
example : validSid (73 :: List.replicate 32 65) = none := by decide


def exSid (n : Nat) : Bytes := List.replicate 31 48 ++ [UInt8.ofNat (if n % 16 < 10 then 48 + n % 16 else 87 + n % 16)]

/-- unary stand-in for the authenticated encryptor: sign, |t| sevens, a zero, the data -/
def exEnc (t : Int) (d : Bytes) : Bytes := (if t < 0 then 1 else 0) :: (List.replicate t.natAbs 7 ++ 0 :: d)

def exDec : Bytes → Option (Int × Bytes)
  | [] => none
  | s :: rest =>
    match rest.dropWhile (· == 7) with
    | 0 :: d => some (if s == 1 then -((rest.takeWhile (· == 7)).length : Int) else ((rest.takeWhile (· == 7)).length : Int), d)
    | _ => none

def exEnv : Env := ⟨exSid, exEnc, exDec, Spec.showDec, Spec.readDec⟩

theorem takeWhile_rep (n : Nat) (d : Bytes) : (List.replicate n (7 : UInt8) ++ 0 :: d).takeWhile (· == 7) = List.replicate n 7 := by
  rw [List.takeWhile_append_of_pos (by simp)]; simp

theorem dropWhile_rep (n : Nat) (d : Bytes) : (List.replicate n (7 : UInt8) ++ 0 :: d).dropWhile (· == 7) = 0 :: d := by
  rw [List.dropWhile_append_of_pos (by simp)]; simp

theorem exEnv_ok : EnvOK exEnv := by
  constructor
  · intro n
    have : n % 16 < 16 := Nat.mod_lt _ (by omega)
    have key : ∀ k : Fin 16, Spec.wellFormedId (List.replicate 31 48 ++ [UInt8.ofNat (if k.val < 10 then 48 + k.val else 87 + k.val)]) = true := by decide
    exact key ⟨n % 16, this⟩
  · intro t d
    show exDec (exEnc t d) = some (t, d)
    simp only [exEnc, exDec, dropWhile_rep, takeWhile_rep, List.length_replicate]
    by_cases h : t < 0
    · simp [h]; omega
    · simp [h]; omega

theorem exEnv_fresh : Fresh exEnv 16 := by
  intro m n hm hn h
  -- the last byte is the hex digit of `n % 16`
  have h1 := congrArg UInt8.toNat (List.cons.inj (List.append_cancel_left h)).1
  rw [Nat.mod_eq_of_lt hm, Nat.mod_eq_of_lt hn] at h1
  simp only [UInt8.toNat_ofNat'] at h1
  split at h1 <;> split at h1 <;> omega



/-- for the `decide` examples below, which compare `Except` values -/
instance instDecEqExcept {ε α : Type} [DecidableEq ε] [DecidableEq α] : DecidableEq (Except ε α)
  | .ok a, .ok b => if h : a = b then isTrue (by rw [h]) else isFalse (by intro e; cases e; exact h rfl)
  | .error a, .error b => if h : a = b then isTrue (by rw [h]) else isFalse (by intro e; cases e; exact h rfl)
  | .ok _, .error _ => isFalse (by intro e; cases e)
  | .error _, .ok _ => isFalse (by intro e; cases e)


def exCfg : Cfg := ⟨.server, .memory, 1, 100, 2048⟩
def exStep : Step := ⟨[], [], 1000, [.set [107] [118]]⟩
def exTok : Bytes := 73 :: exSid 0

example : (request (stepCtx exCfg exEnv exStep) ⟨[], []⟩ 0 exStep.ops).saved = .ok (.written exTok) := by rfl
example : Spec.specLoad (numOf exEnv) (dfOf exCfg) (Spec.alive exStep.now (absTok exCfg exEnv [] exStep.cookie)) =
    .ok ⟨[], 100, 1, false, false⟩ := by rfl
example : Spec.decideSave (dfOf exCfg) (Spec.alive exStep.now (absTok exCfg exEnv [] exStep.cookie))
    ((exStep.ops.map specOp).foldl (Spec.applyOp (numOf exEnv) (dfOf exCfg)) ⟨[], 100, 1, false, false⟩) exStep.now =
    .saved ⟨[([107], [118], false)], 1100⟩ true 100 := by rfl
example : Admissible exEnv exStep.cookie := by intro p h; simp [cookiePayload, exStep] at h
example : Admissible exEnv exTok := by intro p h; simp [cookiePayload, exTok, Gen.cookiesPrefix] at h
example : HistOK exEnv 1000 [⟨exTok, [], 1005, []⟩, ⟨[73, 47], [], 1006, [.clear]⟩] := by
  refine ⟨by decide, ?_, by decide, ?_, trivial⟩ <;> (intro p h; simp [cookiePayload, exTok, Gen.cookiesPrefix] at h)
example : revocable exCfg exTok = true := by rfl
example : TokKnown exEnv 1 exTok := Or.inr (Or.inl ⟨0, by omega, rfl⟩)
-- the request after ten seconds reads what was saved
example : (request (stepCtx exCfg exEnv ⟨exTok, [], 1010, []⟩)
    (request (stepCtx exCfg exEnv exStep) ⟨[], []⟩ 0 exStep.ops).store 1 []).reads =
    .ok ⟨[([107], ⟨[118], false⟩)], 100, 1, false⟩ := by decide +kernel
-- and one second after the deadline it reads nothing
example : (request (stepCtx exCfg exEnv ⟨exTok, [], 1101, []⟩)
    (request (stepCtx exCfg exEnv exStep) ⟨[], []⟩ 0 exStep.ops).store 1 []).reads =
    .ok ⟨[], 100, 1, false⟩ := by decide +kernel


-- exposed cookies: a request exposing `k` leaves the browser with `<prefix>_k = v`; hiding it removes the cookie
example : ((Jar.empty.applyAll (request (stepCtx exCfg exEnv ⟨[], [], 1000, []⟩) ⟨[], []⟩ 0 [.set [107] [118], .expose [107]]).cookies).exposed,
    ((Jar.empty.applyAll (request (stepCtx exCfg exEnv ⟨[], [], 1000, []⟩) ⟨[], []⟩ 0 [.set [107] [118], .expose [107]]).cookies).applyAll
      (request (stepCtx exCfg exEnv ⟨exTok, [[107]], 1001, []⟩)
        (request (stepCtx exCfg exEnv ⟨[], [], 1000, []⟩) ⟨[], []⟩ 0 [.set [107] [118], .expose [107]]).store 1 [.hide [107]]).cookies).exposed) =
    ([([107], [118])], []) := by decide +kernel

-- the renewal test in binary64 at and around the 10 % boundary (also at the top of the `int` range)
example : [doubleLess 9 100, doubleLess 10 100, doubleLess 2 30, doubleLess 3 30, doubleLess 214748364 2147483647,
    doubleLess 214748364 2147483640, doubleLess (-1) (-5), doubleLess (-1) (-10)] =
    [true, false, true, false, true, false, true, false] := by decide +kernel

-- a history meeting `HistB`: the browser exposes `k`, somebody else (no cookie) creates a session, the browser hides `k`
example : HistB exCfg exEnv 16 1000 ⟨⟨[], []⟩, 0, Jar.empty⟩
    [.own 1000 [.set [107] [118], .expose [107]], .other ⟨[], [], 1001, [.set [97] [98]]⟩, .own 1002 [.hide [107]]] := by
  refine ⟨by decide, by decide +kernel, ?_, by decide, by decide +kernel, ⟨?_, ?_⟩, by decide, by decide +kernel, ?_, trivial⟩
  · intro op hop; simp at hop; rcases hop with rfl | rfl <;> simp [opKeyNE]
  · intro p hp; simp [cookiePayload] at hp
  · decide +kernel
  · intro op hop; simp at hop; subst hop; simp [opKeyNE]
example : ((runB exCfg exEnv ⟨⟨[], []⟩, 0, Jar.empty⟩ [.own 1000 [.set [107] [118], .expose [107]]]).jar.exposed,
    (runB exCfg exEnv ⟨⟨[], []⟩, 0, Jar.empty⟩
      [.own 1000 [.set [107] [118], .expose [107]], .other ⟨[], [], 1001, [.set [97] [98]]⟩, .own 1002 [.hide [107]]]).jar.exposed) =
    ([([107], [118])], []) := by decide +kernel

/-! Known finding: working values set before `clear()` are used but not persisted.
"The age / expiration mode / on-server flag a request leaves is what the next request reads" is **false** of the code (and of the
faithful model): `age(5); clear(); set(k,v)` saves the session with the deadline of the stale `timeout_val_ = 5` (the member
survives `clear()`, the `_t` entry does not), and the next request reads the configured default; likewise `expiration(h)`, `on_server(b)`.
`Spec.lean` therefore carries age / mode / on-server as the entries `_t` / `_h` / `_s` of the data and mirrors the stale working values in
`decideSave`; this theorem records the witness (`stale-settings-after-clear` in `known_findings.txt`). -/
theorem getters_not_persisted_counterexample :
    (applyOps exCfg exEnv (emptySess exCfg) [.age 5, .clear, .set [107] [118]]).timeoutVal = 5 ∧
    (request (stepCtx exCfg exEnv ⟨[], [], 1000, []⟩) ⟨[], []⟩ 0 [.age 5, .clear, .set [107] [118]]).saved = .ok (.written exTok) ∧
    ((request (stepCtx exCfg exEnv ⟨[], [], 1000, []⟩) ⟨[], []⟩ 0 [.age 5, .clear, .set [107] [118]]).store.recs.map (·.timeout)) = [1005] ∧
    (request (stepCtx exCfg exEnv ⟨exTok, [], 1004, []⟩)
      (request (stepCtx exCfg exEnv ⟨[], [], 1000, []⟩) ⟨[], []⟩ 0 [.age 5, .clear, .set [107] [118]]).store 1 []).reads =
      .ok ⟨[([107], ⟨[118], false⟩)], 100, 1, false⟩ := by
  decide +kernel

end Cppcms.C06.Props
