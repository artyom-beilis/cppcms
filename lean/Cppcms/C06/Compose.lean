import Cppcms.C05.Props
import Cppcms.C06.Props
/-!
# C05 + C06: the abstract encryptor of the session model instantiated with the real cookie layer

`Env.enc` / `Env.dec` of the C06 model stand for "time stamp prefix + encryptor + base64url".  Here they are
instantiated with C05's model of `session_cookies` over the hmac encryptor (`hmacSave` / `hmacLoad`), and the two facts
the C06 theorems assume about them are proved for this instance as far as C05's theorems reach:

* `dec_enc_hmac`: the equation of `EnvOK.dec_enc` for `t`, `d` in C05's domain (`time_t`, `size_t`).  `EnvOK.dec_enc` asks it of all
  `t`, `d`, so no `EnvOK (envHmac …)` is stated;
* `admissible_hmac`: `Admissible` under C05's ideal-MAC hypothesis `Spec.Unforgeable`, for a server whose issued payloads are serialised
  well-formed maps (C06's are: `StoreInv.wf`, and the cookie case of `own_request_jar`).

`dec` is "load at the beginning of time" (`now = -2^63`), so that the expiry test, which C06 models separately
(`Gen.cookieExpired`), never fires inside it.
-/
namespace Cppcms.C06.Compose
open Cppcms Cppcms.C06

def t0 : Int := -(2 ^ 63)

/-- the text after `C` of the cookie `session_cookies::save` produces with the hmac encryptor -/
def encHmac (M : C05.MacAlg) (k : Bytes) (t : Int) (d : Bytes) : Bytes :=
  match C05.hmacSave M k t d with
  | .ok (_ :: rest) => rest
  | _ => []

/-- what `session_cookies::load` accepts for `C ‖ body`, leaving the expiry test to the caller -/
def decHmac (M : C05.MacAlg) (k : Bytes) (body : Bytes) : Option (Int × Bytes) :=
  C05.Props.acceptedOf (C05.hmacLoad M k t0 (67 :: body))

def envHmac (M : C05.MacAlg) (k : Bytes) (sidOf : Nat → Bytes) (showInt : Int → Bytes) (readInt : Bytes → Option Int) : Env :=
  ⟨sidOf, encHmac M k, decHmac M k, showInt, readInt⟩

theorem dec_enc_hmac (M : C05.MacAlg) (hM : M.Lawful) (k d : Bytes) (t : Int)
    (ht : C05.Spec.TimeOk t) (hsz : C05.Spec.SizeOk (8 + d.length + M.size)) :
    decHmac M k (encHmac M k t d) = some (t, d) := by
  have hnow : t0 ≤ t := ht.1
  have hl : (C05.timeBytes t ++ d).length = 8 + d.length := by rw [List.length_append, C05.timeBytes_length]
  have hr := C05.Props.hmac_roundtrip M hM k (C05.timeBytes t ++ d) (by rw [hl]; exact hsz)
  obtain ⟨h1, h2⟩ := C05.Props.cookie_roundtrip (fun p => .ok (C05.hmacEncrypt M k p)) (C05.hmacDecrypt M k) t0 t d
    (C05.hmacEncrypt M k (C05.timeBytes t ++ d)) ht hnow rfl hr
  have e : C05.hmacSave M k t d = .ok (67 :: C15.b64encodeStr (C05.hmacEncrypt M k (C05.timeBytes t ++ d))) := h1
  simp only [encHmac, e, decHmac]
  have e2 : C05.hmacLoad M k t0 (67 :: C15.b64encodeStr (C05.hmacEncrypt M k (C05.timeBytes t ++ d))) = ⟨.ok (d, t), false⟩ := h2
  rw [e2]; rfl

theorem admissible_hmac (M : C05.MacAlg) (hM : M.Lawful) (k : Bytes) (sidOf : Nat → Bytes) (showInt : Int → Bytes) (readInt : Bytes → Option Int)
    (cookie : Bytes) (issued : List (Bytes × Int))
    (hissued : ∀ x ∈ issued, C05.Spec.TimeOk x.2 ∧ WFpayload x.1)
    (hsz : C05.Spec.SizeOk cookie.length)
    (hU : ∀ cipher, C05.cookieCipher cookie = some cipher →
      C05.Spec.Unforgeable (M.tag k) (issued.map fun x => C05.timeBytes x.2 ++ x.1) cipher) :
    Admissible (envHmac M k sidOf showInt readInt) cookie := by
  intro p hp
  cases cookie with
  | nil => simp [cookiePayload] at hp
  | cons c0 body =>
    simp only [cookiePayload, envHmac] at hp
    split at hp
    · cases hp
    · rename_i hc0
      have h67 : c0 = 67 := by
        have : c0.toNat = 67 := by simpa [Gen.cookiesPrefix] using hc0
        exact UInt8.toNat_inj.mp (by simpa using this)
      subst h67
      simp only [decHmac, C05.Props.acceptedOf] at hp
      rcases hL : C05.hmacLoad M k t0 (67 :: body) with ⟨res, cl⟩
      rw [hL] at hp
      cases res with
      | ok v =>
        obtain ⟨d, t⟩ := v
        simp only [Option.some.injEq] at hp
        -- only to name the cipher text `authenticity_hmac` takes
        obtain ⟨_, _, cipher, _, hcc, _, _⟩ := C05.Props.load_sound_hmac M hM k (67 :: body) d t0 t cl hsz hL
        obtain ⟨hmem, _⟩ := C05.Props.authenticity_hmac M hM k (67 :: body) cipher d t0 t cl issued
          (fun x hx => (hissued x hx).1) hsz hcc (hU cipher hcc) hL
        rw [← hp]
        exact (hissued (d, t) hmem).2
      | fail => simp at hp
      | ub => simp at hp

/-- non-vacuity of the Lawful hypothesis: C05's toy MAC -/
example : C05.Props.toyMac.Lawful := fun _ _ => rfl

end Cppcms.C06.Compose
