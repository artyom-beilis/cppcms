import Cppcms.C07.Model
/-!
# C07 — model of `cppcms::cache_interface` / `triggers_recorder` (src/cache_interface.cpp)

The second, smaller model of C07: how triggers are *recorded* while a page or frame is being
built and attached when it is stored.

State: the back-end cache (`State`, the model of `mem_cache`), `cache_interface::triggers_`
(`page`), the attached `triggers_recorder`s (`recs`: id ↦ its `triggers_`), and
`page_compression_used_` (`gzip`).  Sets are lists (membership is all that matters).

Each operation is a short straight-line function in the source; the translator
(`translate/c07.py`) checks their statement order, `Gen.pagePrefix*`/`Gen.ifaceInfty` carry the
constants.  `fetch_page`/`store_page` need an `http::context` (response body capture): the body
that `store_page` stores is an input (`body`) here.
-/
namespace Cppcms.C07
open Cppcms

structure IState where
  cache : State
  page : List Key := []
  recs : List (Nat × List Key) := []
  gzip : Bool := false

inductive IOp where
  | addTrigger (t : Key)
  /-- `fetch_frame` / `fetch_data` (`fetch`) -/
  | fetch (now : Time) (k : Key) (notriggers : Bool)
  /-- `store_frame` / `store_data` (`store`); `timeout < 0` = forever -/
  | store (now : Time) (k : Key) (v : Val) (trigs : List Key) (timeout : Int) (notriggers : Bool) (env : StoreEnv := {})
  /-- `fetch_page`; `gzip` = `response().need_gzip()` -/
  | fetchPage (now : Time) (k : Key) (gzip : Bool)
  /-- `store_page`; `body` = `response().copied_data()` -/
  | storePage (now : Time) (k : Key) (body : Val) (timeout : Int) (env : StoreEnv := {})
  /-- constructor / `detach()` (or destructor) of a `triggers_recorder` -/
  | attach (id : Nat)
  | detach (id : Nat)
  | reset
  | rise (t : Key)
  | clear
  | stats
deriving Repr

inductive IOut where
  | miss
  | hit (v : Val)
  | done
  | detached (trigs : List Key)
  | stats (keys trigs : Nat)
deriving DecidableEq, Repr

def insertSet (t : Key) (l : List Key) : List Key := if t ∈ l then l else t :: l

/-- `cache_interface::add_trigger`: every attached recorder and the page's own set get `t` -/
def addTrig1 (st : IState) (t : Key) : IState :=
  { st with page := insertSet t st.page, recs := st.recs.map fun p => (p.1, insertSet t p.2) }

def addTrigs (st : IState) (ts : List Key) : IState := ts.foldl addTrig1 st

/-- `deadtime(sec)` at clock `now` (the overflow exception "Year 2038 problem?" is out of the model: `Int`) -/
def deadtime (now : Time) (sec : Int) : Time := if sec < 0 then Gen.ifaceInfty else now + sec

def pageKey (gzip : Bool) (k : Key) : Key := (if gzip then Gen.pagePrefixGzip else Gen.pagePrefixPlain) ++ k

def istep (st : IState) : IOp → IState × IOut
  | .addTrigger t => (addTrig1 st t, .done)
  | .fetch now k notriggers =>
    match step st.cache (.fetch now k) with
    | (c, .hit v trigs _ _) =>
      let st1 := { st with cache := c }
      (if notriggers then st1 else addTrigs st1 trigs, .hit v)
    | (c, _) => ({ st with cache := c }, .miss)
  | .store now k v trigs timeout notriggers env =>
    let st1 := if notriggers then st else addTrig1 (addTrigs st (dedup trigs)) k
    ({ st1 with cache := (step st1.cache (.store now k v trigs (deadtime now timeout) none env)).1 }, .done)
  | .fetchPage now k gzip =>
    let st1 := { st with gzip := gzip }
    match step st1.cache (.fetch now (pageKey gzip k)) with
    | (c, .hit v _ _ _) => ({ st1 with cache := c }, .hit v)
    | (c, _) => ({ st1 with cache := c }, .miss)
  | .storePage now k body timeout env =>
    let st1 := addTrig1 st k
    ({ st1 with cache := (step st1.cache (.store now (pageKey st1.gzip k) body st1.page (deadtime now timeout) none env)).1 }, .done)
  | .attach id => ({ st with recs := (id, []) :: st.recs.filter (·.1 != id) }, .done)
  | .detach id =>
    ({ st with recs := st.recs.filter (·.1 != id) }, .detached ((st.recs.find? (·.1 == id)).map (·.2) |>.getD []))
  | .reset => ({ st with page := [] }, .done)
  | .rise t => ({ st with cache := (step st.cache (.rise t)).1 }, .done)
  | .clear => ({ st with cache := (step st.cache .clear).1 }, .done)
  | .stats => (st, .stats st.cache.size st.cache.trigCount)

def irun (st : IState) (ops : List IOp) : IState := ops.foldl (fun st op => (istep st op).1) st

/-- the back-end operations an interface operation performs (in the state it is issued in) -/
def lower (st : IState) : IOp → List Op
  | .fetch now k _ => [.fetch now k]
  | .store now k v trigs timeout _ env => [.store now k v trigs (deadtime now timeout) none env]
  | .fetchPage now k gzip => [.fetch now (pageKey gzip k)]
  | .storePage now k body timeout env =>
    [.store now (pageKey st.gzip k) body (addTrig1 st k).page (deadtime now timeout) none env]
  | .rise t => [.rise t]
  | .clear => [.clear]
  | _ => []

/-- the back-end history of an interface history -/
def lowerRun : IState → List IOp → List Op
  | _, [] => []
  | st, op :: ops => lower st op ++ lowerRun (istep st op).1 ops

/-- triggers an operation records for the page under construction -/
def recorded (st : IState) : IOp → List Key
  | .addTrigger t => [t]
  | .fetch now k false =>
    match (step st.cache (.fetch now k)).2 with
    | .hit _ trigs _ _ => trigs
    | _ => []
  | .store _ k _ trigs _ false _ => k :: trigs
  | .storePage _ k _ _ _ => [k]
  | _ => []

end Cppcms.C07
