import Cppcms.C07.Lemmas
/-! # C07 — the concrete cache refines the specification map (`abs`, `Sub`); the specification at one key along a history -/
namespace Cppcms.C07
open Cppcms
attribute [local instance] keyLawfulBEq

/-- `sp` minus the keys `ev` -/
def Spec.without (sp : Spec) (ev : List Key) : Spec := fun k => if k ∈ ev then none else sp k

theorem without_apply (sp : Spec) (ev : List Key) (k : Key) : sp.without ev k = if k ∈ ev then none else sp k := rfl

theorem without_nil (sp : Spec) : sp.without [] = sp := funext fun _ => if_neg List.not_mem_nil

theorem abs_foldl_deleteNode {s : State} (h : Inv s) (ks : List Key) :
    abs (ks.foldl deleteNode s) = (abs s).without ks := by
  funext k'
  simp only [abs, without_apply, alookup_foldl_deleteNode h]
  split <;> rfl

theorem abs_deleteNode {s : State} (h : Inv s) (k : Key) : abs (deleteNode s k) = Spec.remove (abs s) k := by
  funext k'
  simp only [abs, Spec.remove, alookup_deleteNode h]
  split <;> rfl

theorem abs_rise {s : State} (h : Inv s) (t : Key) : abs (rise s t) = Spec.rise (abs s) t := by
  rw [rise, abs_foldl_deleteNode h]
  funext k'
  simp only [Spec.rise, without_apply, abs, h.trMem t k']
  cases alookup k' s.primary <;> simp [toEntry]

theorem abs_fetch (s : State) (now : Time) (k : Key) : abs (fetch s now k).1 = abs s := by
  rcases fetch_cases s now k with e | ⟨c, _, e⟩ <;> rw [e] <;> rfl

theorem abs_insertEntry (s : State) (k : Key) (v : Val) (trigs : List Key) (d : Time) (gen : Option Gen) :
    abs (insertEntry s k v trigs d gen) = Spec.insert (abs s) k ⟨v, ownTrigs k trigs, d, gen.getD s.generation⟩ := by
  funext k'
  simp only [abs, insertEntry, Spec.insert, alookup_cons, containerTrigs_eq, eq_comm (a := k')]
  split <;> rfl

theorem fetch_out (s : State) (now : Time) (k : Key) : (fetch s now k).2 = Spec.fetch (abs s) now k := by
  unfold fetch Spec.fetch abs
  cases alookup k s.primary with
  | none => rfl
  | some c => simp only [Gen.fetchExpired, decide_eq_true_eq, Option.map_some, toEntry]; split <;> rfl

theorem fetch_hit_iff {s : State} {now : Time} {k : Key} {v : Val} {ts : List Key} {d : Time} {g : Gen} :
    (step s (.fetch now k)).2 = .hit v ts d g ↔ abs s k = some ⟨v, ts, d, g⟩ ∧ ¬ d < now := by
  show (fetch s now k).2 = _ ↔ _
  rw [fetch_out, Spec.fetch]
  cases abs s k with
  | none => simp
  | some e =>
    obtain ⟨v', ts', d', g'⟩ := e
    by_cases h : d' < now <;>
      simp only [h, if_true, if_false, Out.hit.injEq, Option.some.injEq, Entry.mk.injEq, reduceCtorEq, false_iff, not_and]
    · rintro ⟨_, _, rfl, _⟩; exact fun h' => h' h
    · exact ⟨fun h1 => ⟨h1, h1.2.2.1 ▸ h⟩, And.left⟩

theorem fetch_miss_of {s : State} {now : Time} {k : Key} (h : ∀ e, abs s k = some e → e.deadline < now) :
    (step s (.fetch now k)).2 = .miss := by
  show (fetch s now k).2 = _
  rw [fetch_out, Spec.fetch]
  cases he : abs s k with
  | none => rfl
  | some e => exact if_pos (h e he)

theorem sub_refl (a : Spec) : Sub a a := fun _ _ h => h

theorem sub_trans {a b c : Spec} (h1 : Sub a b) (h2 : Sub b c) : Sub a c := fun k e h => h2 k e (h1 k e h)

theorem sub_remove {a b : Spec} (h : Sub a b) (k : Key) : Sub (Spec.remove a k) (Spec.remove b k) := by
  intro k' e
  simp only [Spec.remove]
  split
  · exact id
  · exact h k' e

theorem sub_remove_left (a : Spec) (k : Key) : Sub (Spec.remove a k) a := by
  intro k' e
  simp only [Spec.remove]
  split
  · exact nofun
  · exact id

theorem sub_insert {a b : Spec} (h : Sub a b) (k : Key) (e : Entry) : Sub (Spec.insert a k e) (Spec.insert b k e) := by
  intro k' e0
  simp only [Spec.insert]
  split
  · exact id
  · exact h k' e0

theorem sub_rise {a b : Spec} (h : Sub a b) (t : Key) : Sub (Spec.rise a t) (Spec.rise b t) := by
  intro k' e0
  simp only [Spec.rise]
  cases ha : a k' with
  | none => exact nofun
  | some e => rw [h k' e ha]; exact id

theorem rise_some {sp : Spec} {t k : Key} {e : Entry} : sp.rise t k = some e ↔ sp k = some e ∧ t ∉ e.trigs := by
  simp only [Spec.rise]
  cases sp k with
  | none => simp
  | some e0 =>
    by_cases ht : t ∈ e0.trigs
    · simp only [ht, if_true, reduceCtorEq, Option.some.injEq, false_iff, not_and, Classical.not_not]
      rintro rfl; exact ht
    · simp only [ht, if_false, Option.some.injEq]
      exact ⟨fun h => ⟨h, h ▸ ht⟩, fun h => h.1⟩

theorem sub_empty (b : Spec) : Sub Spec.empty b := nofun

theorem sub_without (a : Spec) (ev : List Key) : Sub (a.without ev) a := by
  intro k e
  rw [without_apply]
  split
  · exact nofun
  · exact id

theorem sub_step {a b : Spec} (h : Sub a b) (op : Op) (st : Option Gen) :
    Sub (Spec.step a op st).1 (Spec.step b op st).1 := by
  cases op with
  | fetch now k => exact h
  | store now k v trigs d gen env =>
    cases st with
    | none => exact sub_remove h k
    | some g => exact sub_insert h k _
  | rise t => exact sub_rise h t
  | remove k => exact sub_remove h k
  | clear => exact sub_empty _
  | stats => exact h

theorem outOk_fetch {a b : Spec} (h : Sub a b) (now : Time) (k : Key) : OutOk (Spec.fetch a now k) (Spec.fetch b now k) := by
  unfold Spec.fetch
  cases ha : a k with
  | none => dsimp only; split <;> (try split) <;> trivial
  | some e => rw [h k e ha]; dsimp only; split <;> simp [OutOk]

theorem outOk_step {s : State} {sp : Spec} (hs : Sub (abs s) sp) (op : Op) (st : Option Gen) :
    OutOk (step s op).2 (Spec.step sp op st).2 := by
  cases op with
  | fetch now k => exact fetch_out s now k ▸ outOk_fetch hs now k
  | store now k v trigs d gen env => cases st <;> trivial
  | _ => trivial

/-- An operation on the concrete cache is the specification's operation on the map held, after the keys `ev` were evicted:
by `check_limits`, or all of them by an allocation failure inside the lock. -/
theorem abs_step {s : State} (h : Inv s) (op : Op) :
    ∃ ev : List Key, (s.limit = 0 → op.quiet → ev = []) ∧
      abs (step s op).1 = (Spec.step ((abs s).without ev) op (stamp s op)).1 := by
  have plain : abs (step s op).1 = (Spec.step (abs s) op (stamp s op)).1 → ∃ ev : List Key,
      (s.limit = 0 → op.quiet → ev = []) ∧ abs (step s op).1 = (Spec.step ((abs s).without ev) op (stamp s op)).1 :=
    fun e => ⟨[], fun _ _ => rfl, (without_nil _).symm ▸ e⟩
  cases op with
  | fetch now k => exact plain (abs_fetch s now k)
  | store now k v trigs d gen env =>
    cases store_cases s now k v trigs d gen env with
    | dropped stamped _ eq => exact plain (by rw [stamped, step, eq]; exact abs_deleteNode h k)
    | failed stamped _ _ b late eq =>
      -- `nl_clear()`: every key goes
      refine ⟨s.primary.map Prod.fst, fun _ ⟨_, hnolate, _⟩ => (by cases hnolate.symm.trans late), ?_⟩
      rw [stamped, step, eq]
      funext k'
      show none = Spec.remove _ k k'
      unfold Spec.remove
      split
      · rfl
      · rw [without_apply]
        split
        · rfl
        · next hk' => rw [abs, alookup_none_iff.mpr hk']; rfl
    | performed stamped _ _ _ eq =>
      -- the keys `check_limits` deletes; none when its guard is false
      obtain ⟨ks, hks, hfold⟩ : ∃ ks, (s.limit = 0 → (∀ b ∈ env.lowMem, b = false) → ks = []) ∧
          checkLimits (deleteNode s k) now env.lowMem = (k :: ks).foldl deleteNode s := by
        cases hc : Gen.limitsLoopCond (deleteNode s k).size (deleteNode s k).limit (env.lowMem.headD false) with
        | false => exact ⟨[], fun _ _ => rfl, checkLimitsLoop_stop hc _⟩
        | true =>
          obtain ⟨ks, eq⟩ := checkLimits_deleteNode_eq s k now env.lowMem
          refine ⟨ks, fun hl hm => ?_, eq⟩
          have : env.lowMem.headD false = false := by
            cases hm' : env.lowMem with
            | nil => rfl
            | cons b r => exact hm b (hm' ▸ .head _)
          rw [this, (config_deleteNode s k).1.trans hl] at hc
          simp [Gen.limitsLoopCond] at hc
      have hg : (checkLimits (deleteNode s k) now env.lowMem).generation = s.generation :=
        (generation_checkLimitsLoop ..).trans (generation_deleteNode s k)
      refine ⟨ks, fun hl ⟨_, _, hmem⟩ => hks hl hmem, ?_⟩
      rw [stamped, step, eq, abs_insertEntry, hg, hfold, abs_foldl_deleteNode h]
      funext k'
      simp only [Spec.step, Spec.insert, without_apply, List.mem_cons]
      split
      · rfl
      · next hk' => simp only [hk', false_or]
  | rise t => exact plain (abs_rise h t)
  | remove k => exact plain (abs_deleteNode h k)
  | clear => exact plain rfl
  | stats => exact plain rfl

theorem refines_step {s : State} {sp : Spec} (h : Inv s) (hs : Sub (abs s) sp) (op : Op) :
    Sub (abs (step s op).1) (Spec.step sp op (stamp s op)).1 ∧
    OutOk (step s op).2 (Spec.step sp op (stamp s op)).2 := by
  obtain ⟨ev, _, e⟩ := abs_step h op
  exact ⟨e ▸ sub_step (sub_trans (sub_without _ ev) hs) op _, outOk_step hs op _⟩

/-- Without limit and allocation trouble the concrete cache *is* the specification: same map, same answers (`stats` apart,
which the specification does not answer). -/
theorem exact_step {s : State} (h : Inv s) (hl : s.limit = 0) (op : Op) (hq : op.quiet) :
    abs (step s op).1 = (Spec.step (abs s) op (stamp s op)).1 ∧
    (op ≠ .stats → (step s op).2 = (Spec.step (abs s) op (stamp s op)).2) := by
  obtain ⟨ev, hev, e⟩ := abs_step h op
  rw [hev hl hq, without_nil] at e
  refine ⟨e, fun hne => ?_⟩
  cases op with
  | fetch now k => exact fetch_out s now k
  | store now k v trigs d gen env => cases stamp s (.store now k v trigs d gen env) <;> rfl
  | stats => exact absurd rfl hne
  | _ => rfl

theorem specRun_append (s : State) (sp : Spec) (a b : List Op) :
    specRun s sp (a ++ b) = specRun (run s a) (specRun s sp a) b := by
  induction a generalizing s sp with
  | nil => rfl
  | cons op a ih => exact ih ..

theorem refines_run {s : State} {sp : Spec} (h : Inv s) (hs : Sub (abs s) sp) (ops : List Op) :
    Sub (abs (run s ops)) (specRun s sp ops) := by
  induction ops generalizing s sp with
  | nil => exact hs
  | cons op ops ih => exact ih (inv_step h op) (refines_step h hs op).1

theorem exact_run {s : State} (h : Inv s) (hl : s.limit = 0) (ops : List Op)
    (hq : ∀ op ∈ ops, op.quiet) : abs (run s ops) = specRun s (abs s) ops := by
  induction ops generalizing s with
  | nil => rfl
  | cons op ops ih =>
    rw [run_cons, specRun, ← (exact_step h hl op (hq op (.head _))).1]
    exact ih (inv_step h op) ((config_step s op).1.trans hl) (fun o ho => hq o (.tail _ ho))

theorem invalidates_of_isStoreOf {op : Op} {k : Key} (tr : List Key) (h : op.isStoreOf k = true) :
    op.invalidates k tr = true := by
  cases op <;> first | exact h | cases h

theorem spec_step_at {op : Op} {k : Key} (h : op.isStoreOf k = false) (sp : Spec) (st : Option Gen) :
    (Spec.step sp op st).1 k = (sp k).filter fun e => !op.invalidates k e.trigs := by
  have keep : ∀ o : Option Entry, o = o.filter fun _ => !false := fun o => by cases o <;> rfl
  have drop : ∀ o : Option Entry, none = o.filter fun _ => !true := fun o => by cases o <;> rfl
  cases op with
  | fetch now k' => exact keep _
  | stats => exact keep _
  | clear => exact drop _
  | rise t =>
    show Spec.rise sp t k = _
    unfold Spec.rise
    cases sp k with
    | none => rfl
    | some e => by_cases ht : t ∈ e.trigs <;> simp [Op.invalidates, Option.filter_some, ht]
  | remove k' =>
    show (if k = k' then none else sp k) = (sp k).filter fun _ => !(k' == k)
    by_cases hk : k = k'
    · rw [if_pos hk, hk, beq_self_eq_true]; exact drop _
    · rw [if_neg hk, beq_false_of_ne fun e => hk e.symm]; exact keep _
  | store now k' v trigs d gen env =>
    have hk : (k' == k) = false := h
    show (Spec.step sp _ st).1 k = (sp k).filter fun _ => !(k' == k)
    rw [hk]
    have : ¬ k = k' := fun e => ne_of_beq_false hk e.symm
    cases st <;> simp only [Spec.step, Spec.insert, Spec.remove, if_neg this] <;> exact keep _

theorem spec_step_store (sp : Spec) (now : Time) (k : Key) (v : Val) (trigs : List Key) (d : Time) (gen : Option Gen)
    (env : StoreEnv) (st : Option Gen) :
    (Spec.step sp (.store now k v trigs d gen env) st).1 k = st.map fun g => ⟨v, ownTrigs k trigs, d, g⟩ := by
  cases st <;> simp [Spec.step, Spec.insert, Spec.remove]

/-- the entry a store creates, when it is performed -/
def newEntry (s : State) : Op → Option (Key × Entry)
  | .store now k v ts d gen env =>
    (stamp s (.store now k v ts d gen env)).map fun g => (k, ⟨v, ownTrigs k ts, d, g⟩)
  | _ => none

theorem entries_step {s : State} (h : Inv s) (op : Op) {k' : Key} {e : Entry}
    (he : abs (step s op).1 k' = some e) : abs s k' = some e ∨ newEntry s op = some (k', e) := by
  obtain ⟨ev, _, eq⟩ := abs_step h op
  rw [eq] at he
  by_cases hs : op.isStoreOf k' = true
  · cases op with
    | store now k v ts d gen env =>
      cases beq_iff_eq.mp hs
      rw [spec_step_store, Option.map_eq_some_iff] at he
      obtain ⟨g, hg, rfl⟩ := he
      exact .inr (by rw [newEntry, hg]; rfl)
    | _ => cases hs
  · rw [spec_step_at (Bool.eq_false_iff.mpr hs), Option.filter_eq_some_iff] at he
    exact .inl (sub_without _ ev k' e he.1)

/-- no store/remove of `k`, no clear: the entry at `k` stays or (a `rise`) is emptied -/
theorem spec_step_other {sp : Spec} {op : Op} {k : Key} (st : Option Gen)
    (h : op.invalidates k [] = false) : (Spec.step sp op st).1 k = sp k ∨ (Spec.step sp op st).1 k = none := by
  rw [spec_step_at (Bool.eq_false_iff.mpr fun hs => Bool.eq_false_iff.mp h (invalidates_of_isStoreOf [] hs))]
  cases sp k with
  | none => exact .inl rfl
  | some e => rw [Option.filter_some]; split <;> simp

theorem specRun_no_store {k : Key} {post : List Op} (hp : ∀ op ∈ post, op.isStoreOf k = false) (s : State) (sp : Spec) :
    specRun s sp post k = (sp k).filter fun e => post.all fun op => !op.invalidates k e.trigs := by
  induction post generalizing s sp with
  | nil => show sp k = _; cases sp k <;> rfl
  | cons op post ih =>
    rw [specRun, ih (fun o ho => hp o (.tail _ ho)), spec_step_at (hp op (.head _)), Option.filter_filter]
    rfl

theorem spec_none_stable (k : Key) (post : List Op) (hp : ∀ op ∈ post, op.isStoreOf k = false)
    (s : State) (sp : Spec) (h : sp k = none) : specRun s sp post k = none := by
  rw [specRun_no_store hp, h]; rfl

/-- a specification entry was in the starting map or comes from the latest store under its key,
and nothing after that invalidated it -/
theorem spec_entry_origin (k : Key) (e : Entry) (ops : List Op) (s : State) (sp : Spec)
    (h : specRun s sp ops k = some e) :
    (sp k = some e ∧ ∀ op ∈ ops, op.invalidates k e.trigs = false) ∨
    (∃ pre post now v trigs gen env,
      ops = pre ++ Op.store now k v trigs e.deadline gen env :: post ∧
      e.val = v ∧ e.trigs = ownTrigs k trigs ∧ stamp (run s pre) (Op.store now k v trigs e.deadline gen env) = some e.gen ∧
      ∀ op ∈ post, op.invalidates k e.trigs = false) := by
  induction ops generalizing s sp with
  | nil => exact .inl ⟨h, fun _ hm => nomatch hm⟩
  | cons op ops ih =>
    rcases ih _ _ h with ⟨h1, h2⟩ | ⟨pre, post, now, v, trigs, gen, env, e1, e2, e3, e4, e5⟩
    · -- the entry was there right after `op`: `op` is the store that created it, or left it alone
      by_cases hs : op.isStoreOf k = true
      · cases op with
        | store now k' v trigs d gen env =>
          cases beq_iff_eq.mp hs
          rw [spec_step_store] at h1
          cases hst : stamp s (Op.store now k v trigs d gen env) with
          | none => rw [hst] at h1; cases h1
          | some g => rw [hst] at h1; cases h1; exact .inr ⟨[], ops, now, v, trigs, gen, env, rfl, rfl, rfl, hst, h2⟩
        | _ => cases hs
      · rw [spec_step_at (Bool.eq_false_iff.mpr hs), Option.filter_eq_some_iff, Bool.not_eq_true'] at h1
        refine .inl ⟨h1.1, fun o ho => ?_⟩
        rcases List.mem_cons.mp ho with rfl | ho
        · exact h1.2
        · exact h2 o ho
    · exact .inr ⟨op :: pre, post, now, v, trigs, gen, env, congrArg (op :: ·) e1, e2, e3, e4, e5⟩

end Cppcms.C07
