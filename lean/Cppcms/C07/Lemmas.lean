import Cppcms.C07.Model
/-! # C07 — the indexes of the model, the invariant `Inv` and its preservation, the shapes of `fetch` and `store` -/
namespace Cppcms.C07
open Cppcms

/-- instance search for it is slow; modules that apply `List.erase`/`==`/`contains` lemmas to keys make it a local instance -/
theorem keyLawfulBEq : LawfulBEq Key := inferInstance
attribute [local instance] keyLawfulBEq

section AList
variable {β : Type} {l : List (Key × β)} {k : Key}

@[simp] theorem alookup_nil (k : Key) : alookup k ([] : List (Key × β)) = none := rfl

@[simp] theorem alookup_cons (k k' : Key) (v : β) (l : List (Key × β)) :
    alookup k' ((k, v) :: l) = if k = k' then some v else alookup k' l := rfl

theorem alookup_none_iff :
    alookup k l = none ↔ k ∉ l.map Prod.fst := by
  fun_induction alookup k l with
  | case1 => exact ⟨fun _ => nofun, fun _ => rfl⟩
  | case2 v r => exact ⟨nofun, fun h => absurd (.head _) h⟩
  | case3 k' v r e ih => rw [ih, List.map_cons, List.mem_cons, not_or]; exact ⟨fun h => ⟨fun e' => e e'.symm, h⟩, And.right⟩

theorem alookup_isSome_iff :
    (alookup k l).isSome ↔ k ∈ l.map Prod.fst := by
  rw [Option.isSome_iff_ne_none, Ne, alookup_none_iff, Classical.not_not]

theorem alookup_mem {c : β} (h : alookup k l = some c) : (k, c) ∈ l := by
  fun_induction alookup k l with
  | case1 => cases h
  | case2 v r => cases h; exact .head _
  | case3 k' v r e ih => exact .tail _ (ih h)

theorem mem_alookup {c : β} (hn : (l.map Prod.fst).Nodup)
    (h : (k, c) ∈ l) : alookup k l = some c := by
  fun_induction alookup k l with
  | case1 => cases h
  | case2 v r =>
    rcases List.mem_cons.mp h with e | e
    · cases e; rfl
    · exact absurd (List.mem_map_of_mem (f := Prod.fst) e) (List.nodup_cons.mp hn).1
  | case3 k' v r e ih =>
    exact ih (List.nodup_cons.mp hn).2 ((List.mem_cons.mp h).resolve_left fun e' => e (congrArg Prod.fst e').symm)

-- the right-hand sides of `Inv.toMem`, `Inv.trMem` after an insertion; below after a deletion
theorem exists_alookup_cons {P : β → Prop} {k' : Key} {c₀ : β} (hk : alookup k l = none) :
    (∃ c, alookup k' ((k, c₀) :: l) = some c ∧ P c) ↔ (k' = k ∧ P c₀) ∨ ∃ c, alookup k' l = some c ∧ P c := by
  rw [alookup_cons]
  by_cases e : k = k'
  · subst e
    rw [if_pos rfl, hk]
    exact ⟨fun ⟨c, hc, hp⟩ => .inl ⟨rfl, Option.some.inj hc ▸ hp⟩,
      fun h => h.elim (fun h => ⟨_, rfl, h.2⟩) fun ⟨c, hc, _⟩ => nomatch hc⟩
  · rw [if_neg e]
    exact ⟨.inr, fun h => h.resolve_left fun h => e h.1.symm⟩

theorem keys_aerase (k : Key) (l : List (Key × β)) :
    (aerase k l).map Prod.fst = (l.map Prod.fst).erase k := by
  fun_induction aerase k l with
  | case1 => rfl
  | case2 v r => exact (List.erase_cons_head ..).symm
  | case3 k' v r e ih => rw [List.map_cons, List.map_cons, List.erase_cons, if_neg (mt beq_iff_eq.mp e), ih]

theorem alookup_aerase (hn : (l.map Prod.fst).Nodup) (k k' : Key) :
    alookup k' (aerase k l) = if k' = k then none else alookup k' l := by
  fun_induction aerase k l with
  | case1 => exact (ite_self _).symm
  | case2 v r =>
    by_cases e : k' = k
    · rw [if_pos e, e]; exact alookup_none_iff.mpr (List.nodup_cons.mp hn).1
    · rw [if_neg e, alookup_cons, if_neg fun x => e x.symm]
  | case3 k₀ v r e ih =>
    rw [alookup_cons, alookup_cons, ih (List.nodup_cons.mp hn).2]
    by_cases e' : k₀ = k'
    · rw [if_pos e', if_pos e', if_neg (e' ▸ e)]
    · rw [if_neg e', if_neg e']

theorem exists_alookup_aerase {P : β → Prop} (hn : (l.map Prod.fst).Nodup) {k' : Key} :
    (∃ c, alookup k' (aerase k l) = some c ∧ P c) ↔ k' ≠ k ∧ ∃ c, alookup k' l = some c ∧ P c := by
  rw [alookup_aerase hn]
  by_cases e : k' = k
  · rw [if_pos e]; exact ⟨fun ⟨_, hc, _⟩ => (nomatch hc), fun h => absurd e h.1⟩
  · rw [if_neg e]; exact ⟨fun h => ⟨e, h⟩, And.right⟩

theorem perm_aerase {c : β} (h : alookup k l = some c) :
    l.Perm ((k, c) :: aerase k l) := by
  fun_induction alookup k l with
  | case1 => cases h
  | case2 v r => cases h; rw [aerase, if_pos rfl]
  | case3 k' v r e ih => rw [aerase, if_neg e]; exact ((ih h).cons _).trans (.swap ..)

theorem aerase_of_none {k : Key} {l : List (Key × β)} (h : alookup k l = none) : aerase k l = l := by
  fun_induction alookup k l with
  | case1 => rfl
  | case2 v r => cases h
  | case3 k' v r e ih => rw [aerase, if_neg e, ih h]

end AList

/-- well-formedness of the triggers map: trigger names distinct, no empty list, no key twice in a list -/
def TInv (trs : List (Key × List Key)) : Prop :=
  (trs.map Prod.fst).Nodup ∧ ∀ t l, (t, l) ∈ trs → l ≠ [] ∧ l.Nodup

theorem tinv_cons {t : Key} {l : List Key} {r : List (Key × List Key)} :
    TInv ((t, l) :: r) ↔ t ∉ r.map Prod.fst ∧ (l ≠ [] ∧ l.Nodup) ∧ TInv r := by
  simp only [TInv, List.map_cons, List.nodup_cons, List.mem_cons, Prod.mk.injEq]
  constructor
  · rintro ⟨⟨h1, h2⟩, h3⟩
    exact ⟨h1, h3 t l (.inl ⟨rfl, rfl⟩), h2, fun t' l' hm => h3 t' l' (.inr hm)⟩
  · rintro ⟨h1, h2, h3, h4⟩
    refine ⟨⟨h1, h3⟩, fun t' l' hm => ?_⟩
    rcases hm with ⟨rfl, rfl⟩ | hm
    · exact h2
    · exact h4 t' l' hm

@[simp] theorem trigList_nil (t : Key) : trigList t [] = [] := rfl

theorem trigList_cons (t t' : Key) (l : List Key) (r : List (Key × List Key)) :
    trigList t ((t', l) :: r) = if t' = t then l else trigList t r := by
  unfold trigList; rw [alookup_cons]; split <;> rfl

theorem trigList_of_not_mem {t : Key} {trs : List (Key × List Key)} (h : t ∉ trs.map Prod.fst) :
    trigList t trs = [] := by
  rw [trigList, alookup_none_iff.mpr h]; rfl

theorem trigList_nodup {trs : List (Key × List Key)} (h : TInv trs) (t : Key) : (trigList t trs).Nodup := by
  unfold trigList
  cases e : alookup t trs with
  | none => exact .nil
  | some l => exact (h.2 t l (alookup_mem e)).2

/-- common shape of `eraseTrig` and `addTrig`: apply `f` to the list of `t`; an empty list leaves the map -/
def alterTrig (f : List Key → List Key) (t : Key) : List (Key × List Key) → List (Key × List Key)
  | [] => if (f []).isEmpty then [] else [(t, f [])]
  | (t', l) :: r =>
    if t' = t then (if (f l).isEmpty then r else (t', f l) :: r) else (t', l) :: alterTrig f t r

-- `k` comes first so that `eraseTrig_eq k`, `addTrig_eq k` have the form `foldl_alterTrig` asks of its `g`
theorem eraseTrig_eq (k t : Key) (trs : List (Key × List Key)) : eraseTrig t k trs = alterTrig (·.erase k) t trs := by
  induction trs with
  | nil => rfl
  | cons p r ih => unfold eraseTrig alterTrig; rw [ih]

theorem addTrig_eq (k t : Key) (trs : List (Key × List Key)) : addTrig t k trs = alterTrig (k :: ·) t trs := by
  induction trs with
  | nil => rfl
  | cons p r ih => unfold addTrig alterTrig; rw [ih]; rfl

section
variable {f : List Key → List Key} {t : Key} {trs : List (Key × List Key)}

theorem mem_names_alterTrig {x : Key} (h : x ∈ (alterTrig f t trs).map Prod.fst) : x = t ∨ x ∈ trs.map Prod.fst := by
  fun_induction alterTrig f t trs with
  | case1 => cases h
  | case2 => exact .inl (List.mem_singleton.mp h)
  | case3 l r => exact .inr (.tail _ h)
  | case4 l r => exact .inr h
  | case5 t' l r _ ih =>
    rcases List.mem_cons.mp h with e | h
    · exact .inr (e ▸ .head _)
    · exact (ih h).imp_right (.tail _)

theorem trigList_alterTrig (hn : (trs.map Prod.fst).Nodup) (t' : Key) :
    trigList t' (alterTrig f t trs) = if t' = t then f (trigList t trs) else trigList t' trs := by
  fun_induction alterTrig f t trs with
  | case1 he => rw [trigList_nil, trigList_nil, List.isEmpty_iff.mp he, ite_self]
  | case2 => simp only [trigList_cons, trigList_nil, eq_comm]
  | case3 l r he =>
    rw [trigList_cons, trigList_cons, if_pos rfl, List.isEmpty_iff.mp he]
    by_cases e' : t' = t
    · rw [if_pos e', e', trigList_of_not_mem (List.nodup_cons.mp hn).1]
    · rw [if_neg e', if_neg fun x => e' x.symm]
  | case4 l r =>
    simp only [trigList_cons, if_true, eq_comm (a := t')]
    split <;> rfl
  | case5 t₀ l r e ih =>
    rw [trigList_cons, ih (List.nodup_cons.mp hn).2, trigList_cons, trigList_cons, if_neg e]
    by_cases e' : t₀ = t'
    · rw [if_pos e', if_pos e', if_neg (e' ▸ e)]
    · rw [if_neg e', if_neg e']

theorem tinv_alterTrig (h : TInv trs) (hf : (f (trigList t trs)).Nodup) : TInv (alterTrig f t trs) := by
  fun_induction alterTrig f t trs with
  | case1 => exact h
  | case2 he => exact tinv_cons.mpr ⟨nofun, ⟨fun e => he (by rw [e]; rfl), hf⟩, h⟩
  | case3 l r => exact (tinv_cons.mp h).2.2
  | case4 l r he =>
    rw [trigList_cons, if_pos rfl] at hf
    exact tinv_cons.mpr ⟨(tinv_cons.mp h).1, ⟨fun e => he (by rw [e]; rfl), hf⟩, (tinv_cons.mp h).2.2⟩
  | case5 t' l r e ih =>
    obtain ⟨hn, hl, hr⟩ := tinv_cons.mp h
    rw [trigList_cons, if_neg e] at hf
    exact tinv_cons.mpr ⟨fun hm => (mem_names_alterTrig hm).elim e hn, hl, ih hr hf⟩

/-- Stated for a `g` that is `alterTrig f`, so that the conclusion speaks of the very folds in `deleteNode`, `insertEntry`. -/
theorem foldl_alterTrig {g : Key → List (Key × List Key) → List (Key × List Key)} (hg : ∀ t trs, g t trs = alterTrig f t trs)
    (h : TInv trs) {ts : List Key} (hts : ts.Nodup) (hf : ∀ t ∈ ts, (f (trigList t trs)).Nodup) :
    TInv (ts.foldl (fun trs t => g t trs) trs) ∧
    ∀ t', trigList t' (ts.foldl (fun trs t => g t trs) trs) = if t' ∈ ts then f (trigList t' trs) else trigList t' trs := by
  induction ts generalizing trs with
  | nil => exact ⟨h, fun _ => rfl⟩
  | cons t ts ih =>
    rw [List.nodup_cons] at hts
    have hne : ∀ t' ∈ ts, ¬ t' = t := fun t' ht' e => hts.1 (e ▸ ht')
    obtain ⟨h1, h2⟩ := ih (trs := g t trs) (hg t trs ▸ tinv_alterTrig h (hf t (.head _))) hts.2 (fun t' ht' => by
      rw [hg, trigList_alterTrig h.1, if_neg (hne t' ht')]; exact hf t' (.tail _ ht'))
    refine ⟨h1, fun t' => ?_⟩
    rw [List.foldl_cons, h2, hg, trigList_alterTrig h.1]
    by_cases e : t' = t
    · subst e; simp [hts.1]
    · simp [e]

end

/-- insertion before the first node with deadline > `d` -/
theorem tinsert_eq (d : Time) (k : Key) (l : List (Time × Key)) :
    tinsert d k l = l.takeWhile (fun p => decide (p.1 ≤ d)) ++ (d, k) :: l.dropWhile (fun p => decide (p.1 ≤ d)) := by
  fun_induction tinsert d k l with
  | case1 => rfl
  | case2 d' k' r e =>
    rw [List.takeWhile_cons, List.dropWhile_cons, decide_eq_false (Int.not_le.mpr e)]; rfl
  | case3 d' k' r e ih =>
    rw [List.takeWhile_cons, List.dropWhile_cons, decide_eq_true (Int.not_lt.mp e), ih]; rfl

theorem tinsert_perm (d : Time) (k : Key) (l : List (Time × Key)) : (tinsert d k l).Perm ((d, k) :: l) := by
  rw [tinsert_eq]
  exact List.perm_middle.trans (.cons _ (.of_eq List.takeWhile_append_dropWhile))

theorem mem_tinsert {d : Time} {k : Key} {l : List (Time × Key)} {x : Time × Key} :
    x ∈ tinsert d k l ↔ x = (d, k) ∨ x ∈ l := by
  rw [(tinsert_perm d k l).mem_iff, List.mem_cons]

theorem tinsert_pairwise {R : Time × Key → Time × Key → Prop} {l : List (Time × Key)} {d : Time} {k : Key}
    (hs : l.Pairwise (fun a b => a.1 ≤ b.1)) (hl : l.Pairwise R)
    (hbefore : ∀ x ∈ l, x.1 ≤ d → R x (d, k)) (hafter : ∀ x ∈ l, d < x.1 → R (d, k) x) :
    (tinsert d k l).Pairwise R := by
  fun_induction tinsert d k l with
  | case1 => exact List.pairwise_singleton _ _
  | case2 d' k' r e =>
    refine List.pairwise_cons.mpr ⟨fun x hx => hafter x hx ?_, hl⟩
    rcases List.mem_cons.mp hx with rfl | hx
    · exact e
    · exact Int.lt_of_lt_of_le e ((List.pairwise_cons.mp hs).1 x hx)
  | case3 d' k' r e ih =>
    rw [List.pairwise_cons] at hs hl
    refine List.pairwise_cons.mpr ⟨fun x hx => ?_,
      ih hs.2 hl.2 (fun x hx => hbefore x (.tail _ hx)) (fun x hx => hafter x (.tail _ hx))⟩
    rcases mem_tinsert.mp hx with rfl | hx
    · exact hbefore _ (.head _) (Int.not_lt.mp e)
    · exact hl.1 x hx

theorem tinsert_sorted {d : Time} {k : Key} {l : List (Time × Key)} (h : l.Pairwise (fun a b => a.1 ≤ b.1)) :
    (tinsert d k l).Pairwise (fun a b => a.1 ≤ b.1) :=
  tinsert_pairwise h h (fun _ _ hx => hx) (fun _ _ hx => Int.le_of_lt hx)

theorem mem_dedup {a : Key} {l : List Key} : a ∈ dedup l ↔ a ∈ l := by
  fun_induction dedup l with
  | case1 => exact Iff.rfl
  | case2 b r e ih => rw [ih, List.mem_cons]; exact ⟨.inr, fun h => h.elim (fun h => h ▸ e) id⟩
  | case3 b r e ih => rw [List.mem_cons, List.mem_cons, ih]

theorem nodup_dedup (l : List Key) : (dedup l).Nodup := by
  fun_induction dedup l with
  | case1 => exact .nil
  | case2 b r e ih => exact ih
  | case3 b r e ih => exact List.nodup_cons.mpr ⟨fun h => e (mem_dedup.mp h), ih⟩

theorem mem_ownTrigs {t k : Key} {trigs : List Key} : t ∈ ownTrigs k trigs ↔ t = k ∨ t ∈ trigs := by
  unfold ownTrigs
  split
  · next e => rw [mem_dedup]; exact ⟨.inr, fun h => h.elim (fun h => h ▸ mem_dedup.mp e) id⟩
  · rw [List.mem_cons, mem_dedup]

theorem nodup_ownTrigs (k : Key) (trigs : List Key) : (ownTrigs k trigs).Nodup := by
  unfold ownTrigs
  split
  · exact nodup_dedup trigs
  · next e => exact List.nodup_cons.mpr ⟨e, nodup_dedup trigs⟩

/-- by the generated own-key condition (`triggers_in.find(key)==triggers_in.end()`) -/
theorem containerTrigs_eq (k : Key) (trigs : List Key) : containerTrigs k trigs = ownTrigs k trigs := by
  unfold containerTrigs ownTrigs
  by_cases e : k ∈ dedup trigs <;> simp [Gen.ownKeyAddedWhenAbsent, e]

/-- Mirror consistency of the four indexes and the counters of `mem_cache`. -/
structure Inv (s : State) : Prop where
  /-- primary: one container per key -/
  keys : (s.primary.map Prod.fst).Nodup
  /-- lru: exactly one node per entry -/
  lruNodup : s.lru.Nodup
  lruMem : ∀ k, k ∈ s.lru ↔ k ∈ s.primary.map Prod.fst
  /-- timeout: exactly one node per entry, carrying its deadline, sorted by deadline -/
  toNodup : (s.timeout.map Prod.snd).Nodup
  toMem : ∀ d k, (d, k) ∈ s.timeout ↔ ∃ c, alookup k s.primary = some c ∧ c.deadline = d
  toSorted : s.timeout.Pairwise (fun a b => a.1 ≤ b.1)
  /-- triggers: names distinct, no empty lists, no key twice; lists exactly the (entry, trigger) links -/
  trs : TInv s.triggers
  trMem : ∀ t k, k ∈ trigList t s.triggers ↔ ∃ c, alookup k s.primary = some c ∧ t ∈ c.trigs
  /-- containers: trigger back-references distinct, own key always among them -/
  cTrigs : ∀ k c, alookup k s.primary = some c → c.trigs.Nodup ∧ k ∈ c.trigs
  sizeEq : s.size = s.primary.length
  countEq : s.trigCount = (s.primary.map (fun p => p.2.trigs.length)).sum

theorem inv_of_empty {s : State} (hp : s.primary = []) (htr : s.triggers = []) (hto : s.timeout = [])
    (hl : s.lru = []) (hs : s.size = 0) (hc : s.trigCount = 0) : Inv s := by
  constructor <;> simp [hp, htr, hto, hl, hs, hc, TInv]

theorem inv_init (limit : Nat) (sl : Option Nat) : Inv (State.init limit sl) :=
  inv_of_empty rfl rfl rfl rfl rfl rfl

theorem inv_nlClear (s : State) : Inv (nlClear s) := inv_of_empty rfl rfl rfl rfl rfl rfl

theorem inv_touch {s : State} (h : Inv s) {k : Key} (hk : k ∈ s.primary.map Prod.fst) :
    Inv { s with lru := k :: s.lru.erase k } := by
  refine { h with lruNodup := ?_, lruMem := fun k' => ?_ }
  · exact List.nodup_cons.mpr ⟨fun hm => (h.lruNodup.mem_erase_iff.mp hm).1 rfl, h.lruNodup.erase k⟩
  · show k' ∈ k :: s.lru.erase k ↔ _
    rw [List.mem_cons, h.lruNodup.mem_erase_iff, h.lruMem]
    exact ⟨fun hm => hm.elim (· ▸ hk) And.right, fun hm => (Classical.em (k' = k)).imp_right (⟨·, hm⟩)⟩

theorem inv_deleteNode {s : State} (h : Inv s) (k : Key) : Inv (deleteNode s k) := by
  unfold deleteNode
  cases hc : alookup k s.primary with
  | none => exact h
  | some c =>
    have hl := alookup_aerase h.keys k
    have hp := perm_aerase hc
    have hto : s.timeout.Nodup := h.toNodup.of_map Prod.snd fun _ _ hne e => hne (e ▸ rfl)
    obtain ⟨htr, htl⟩ := foldl_alterTrig (eraseTrig_eq k) h.trs (h.cTrigs k c hc).1
      fun t _ => (trigList_nodup h.trs t).erase k
    -- only the trigger lists of `c.trigs` mention `k`, so `k` is erased from every list
    have htl : ∀ t, trigList t (c.trigs.foldl (fun trs t => eraseTrig t k trs) s.triggers) =
        (trigList t s.triggers).erase k := fun t => by
      rw [htl]
      split
      · rfl
      · next ht =>
        refine (List.erase_of_not_mem fun hm => ?_).symm
        obtain ⟨c', hc', ht'⟩ := (h.trMem t k).mp hm
        cases hc.symm.trans hc'; exact ht ht'
    exact {
      keys := by rw [keys_aerase]; exact h.keys.erase k
      lruNodup := h.lruNodup.erase k
      lruMem := fun k' => by rw [keys_aerase, h.lruNodup.mem_erase_iff, h.keys.mem_erase_iff, h.lruMem]
      toNodup := h.toNodup.sublist (List.erase_sublist.map _)
      toMem := fun d k' => by
        rw [hto.mem_erase_iff, h.toMem, exists_alookup_aerase h.keys]
        refine and_congr_left fun ⟨c', hc', hd⟩ => ⟨fun hne e => hne ?_, fun hne e => hne (congrArg Prod.snd e)⟩
        subst e; cases hc.symm.trans hc'; rw [hd]
      toSorted := h.toSorted.sublist List.erase_sublist
      trs := htr
      trMem := fun t k' => by
        rw [htl, (trigList_nodup h.trs t).mem_erase_iff, h.trMem, exists_alookup_aerase h.keys]
      cTrigs := fun k' c' => by
        rw [hl]
        split
        · exact nofun
        · exact h.cTrigs k' c'
      sizeEq := by rw [h.sizeEq, hp.length_eq]; rfl
      countEq := by
        rw [h.countEq, (hp.map _).sum_nat, List.map_cons, List.sum_cons]; exact Nat.add_sub_cancel_left .. }

theorem inv_insertEntry {s : State} (h : Inv s) {k : Key} (hk : alookup k s.primary = none)
    (v : Val) (trigs : List Key) (d : Time) (gen : Option Gen) : Inv (insertEntry s k v trigs d gen) := by
  have hts : (containerTrigs k trigs).Nodup := containerTrigs_eq k trigs ▸ nodup_ownTrigs k trigs
  have hkts : k ∈ containerTrigs k trigs := containerTrigs_eq k trigs ▸ mem_ownTrigs.mpr (.inl rfl)
  have hkp : k ∉ s.primary.map Prod.fst := alookup_none_iff.mp hk
  have hkto : ∀ d', (d', k) ∉ s.timeout := fun d' hm => by
    obtain ⟨c, hc, _⟩ := (h.toMem d' k).mp hm
    cases hk.symm.trans hc
  have hktr : ∀ t, k ∉ trigList t s.triggers := fun t hm => by
    obtain ⟨c, hc, _⟩ := (h.trMem t k).mp hm
    cases hk.symm.trans hc
  obtain ⟨htr, htl⟩ := foldl_alterTrig (addTrig_eq k) h.trs hts
    fun t _ => List.nodup_cons.mpr ⟨hktr t, trigList_nodup h.trs t⟩
  unfold insertEntry
  exact {
    keys := List.nodup_cons.mpr ⟨hkp, h.keys⟩
    lruNodup := List.nodup_cons.mpr ⟨fun hm => hkp ((h.lruMem k).mp hm), h.lruNodup⟩
    lruMem := fun k' => by
      dsimp only
      rw [List.map_cons, List.mem_cons, List.mem_cons, h.lruMem]
    toNodup := by
      dsimp only
      rw [((tinsert_perm d k s.timeout).map Prod.snd).nodup_iff]
      refine List.nodup_cons.mpr ⟨fun hm => ?_, h.toNodup⟩
      obtain ⟨⟨d', k'⟩, hm', rfl⟩ := List.mem_map.mp hm
      exact hkto d' hm'
    toMem := fun d' k' => by
      dsimp only
      rw [mem_tinsert, h.toMem, exists_alookup_cons hk, Prod.mk.injEq]
      exact or_congr_left ⟨fun h => ⟨h.2, h.1.symm⟩, fun h => ⟨h.2.symm, h.1⟩⟩
    toSorted := tinsert_sorted h.toSorted
    trs := htr
    trMem := fun t k' => by
      dsimp only
      rw [htl, exists_alookup_cons hk, ← h.trMem]
      split
      · next ht => rw [List.mem_cons]; exact or_congr_left (and_iff_left ht).symm
      · next ht => exact (or_iff_right fun h => ht h.2).symm
    cTrigs := fun k' c' => by
      dsimp only
      rw [alookup_cons]
      split
      · next e => subst e; rintro ⟨⟩; exact ⟨hts, hkts⟩
      · exact h.cTrigs k' c'
    sizeEq := by dsimp only; rw [h.sizeEq]; rfl
    countEq := by dsimp only; rw [h.countEq, Nat.add_comm]; rfl }

theorem alookup_deleteNode {s : State} (h : Inv s) (k k' : Key) :
    alookup k' (deleteNode s k).primary = if k' = k then none else alookup k' s.primary := by
  unfold deleteNode
  cases hc : alookup k s.primary with
  | none =>
    -- `deleteNode` does nothing; at `k' = k` use `hc`
    split <;> simp_all
  | some c => exact alookup_aerase h.keys k k'

theorem config_deleteNode (s : State) (k : Key) :
    (deleteNode s k).limit = s.limit ∧ (deleteNode s k).sizeLimit = s.sizeLimit := by
  unfold deleteNode; cases alookup k s.primary <;> exact ⟨rfl, rfl⟩

theorem generation_deleteNode (s : State) (k : Key) : (deleteNode s k).generation = s.generation := by
  unfold deleteNode; cases alookup k s.primary <;> rfl

theorem foldl_deleteNode_ind {P : State → Prop} (hP : ∀ s k, P s → P (deleteNode s k)) {s : State} (h : P s)
    (ks : List Key) : P (ks.foldl deleteNode s) :=
  ks.foldlRecOn deleteNode h fun s hs k _ => hP s k hs

theorem checkLimitsLoop_eq_foldl (fuel : Nat) (s : State) (now : Time) (mem : List Bool) :
    ∃ ks : List Key, checkLimitsLoop fuel s now mem = ks.foldl deleteNode s := by
  fun_induction checkLimitsLoop fuel s now mem with
  | case2 n s now mem _ k _ ih => obtain ⟨ks, e⟩ := ih; exact ⟨k :: ks, e⟩
  | _ => exact ⟨[], rfl⟩

theorem checkLimitsLoop_stop {s : State} {now : Time} {mem : List Bool}
    (hc : Gen.limitsLoopCond s.size s.limit (mem.headD false) = false) (fuel : Nat) :
    checkLimitsLoop fuel s now mem = s := by
  cases fuel with
  | zero => rfl
  | succ n => unfold checkLimitsLoop; rw [hc]; rfl

theorem inv_foldl_deleteNode {s : State} (h : Inv s) (ks : List Key) : Inv (ks.foldl deleteNode s) :=
  foldl_deleteNode_ind (P := Inv) (fun _ k h => inv_deleteNode h k) h ks

theorem config_foldl_deleteNode (s : State) (ks : List Key) :
    (ks.foldl deleteNode s).limit = s.limit ∧ (ks.foldl deleteNode s).sizeLimit = s.sizeLimit :=
  foldl_deleteNode_ind (P := fun s' => s'.limit = s.limit ∧ s'.sizeLimit = s.sizeLimit)
    (fun s' k h => ⟨(config_deleteNode s' k).1.trans h.1, (config_deleteNode s' k).2.trans h.2⟩) ⟨rfl, rfl⟩ ks

theorem generation_foldl_deleteNode (s : State) (ks : List Key) : (ks.foldl deleteNode s).generation = s.generation :=
  foldl_deleteNode_ind (P := fun s' => s'.generation = s.generation)
    (fun s' k h => (generation_deleteNode s' k).trans h) rfl ks

theorem generation_checkLimitsLoop (fuel : Nat) (s : State) (now : Time) (mem : List Bool) :
    (checkLimitsLoop fuel s now mem).generation = s.generation := by
  obtain ⟨ks, e⟩ := checkLimitsLoop_eq_foldl fuel s now mem
  exact e ▸ generation_foldl_deleteNode s ks

theorem alookup_foldl_deleteNode {s : State} (h : Inv s) (ks : List Key) (k' : Key) :
    alookup k' (ks.foldl deleteNode s).primary = if k' ∈ ks then none else alookup k' s.primary := by
  induction ks generalizing s with
  | nil => rfl
  | cons k ks ih =>
    rw [List.foldl_cons, ih (inv_deleteNode h k), alookup_deleteNode h]
    by_cases e1 : k' ∈ ks <;> by_cases e2 : k' = k <;> simp [e1, e2]

theorem refused_of_none {s : State} (h : s.sizeLimit = none) : refused s = false := by
  unfold refused; rw [h]

theorem stamp_of_quiet {s : State} (hsl : s.sizeLimit = none) {now : Time} {k : Key} {v : Val} {trigs : List Key} {d : Time}
    {gen : Option Gen} {env : StoreEnv} (hq : (Op.store now k v trigs d gen env).quiet) :
    stamp s (.store now k v trigs d gen env) = some (gen.getD s.generation) := by
  obtain ⟨hcopy, hlate, _⟩ := hq
  simp [stamp, hcopy, hlate, refused_of_none ((config_deleteNode s k).2.trans hsl)]

theorem fetch_cases (s : State) (now : Time) (k : Key) :
    fetch s now k = (s, .miss) ∨
    ∃ c, alookup k s.primary = some c ∧
      fetch s now k = ({ s with lru := k :: s.lru.erase k }, .hit c.data c.trigs c.deadline c.gen) := by
  unfold fetch
  cases alookup k s.primary with
  | none => exact .inl rfl
  | some c =>
    dsimp only
    split
    · exact .inl rfl
    · exact .inr ⟨c, rfl, rfl⟩

/-- what a `store` did -/
inductive StoreCase (s : State) (now : Time) (k : Key) (v : Val) (trigs : List Key) (d : Time) (gen : Option Gen)
    (env : StoreEnv) : Prop
  | dropped (stamped : stamp s (.store now k v trigs d gen env) = none)
      (why : env.copyFails = true ∨ env.copyFails = false ∧ refused (deleteNode s k) = true)
      (eq : store s now k v trigs d gen env = deleteNode s k)
  -- `admitted` is read by no proof; with `copied` it says the case is not `dropped`
  | failed (stamped : stamp s (.store now k v trigs d gen env) = none)
      (copied : env.copyFails = false) (admitted : refused (deleteNode s k) = false) (b : Bool) (late : env.lateFails = some b)
      (eq : store s now k v trigs d gen env = nlClear { deleteNode s k with generation :=
        if b && gen.isNone then (deleteNode s k).generation + 1 else (deleteNode s k).generation })
  | performed (stamped : stamp s (.store now k v trigs d gen env) = some (gen.getD s.generation))
      (copied : env.copyFails = false) (admitted : refused (deleteNode s k) = false) (late : env.lateFails = none)
      (eq : store s now k v trigs d gen env = insertEntry (checkLimits (deleteNode s k) now env.lowMem) k v trigs d gen)

theorem store_cases (s : State) (now : Time) (k : Key) (v : Val) (trigs : List Key) (d : Time) (gen : Option Gen)
    (env : StoreEnv) : StoreCase s now k v trigs d gen env := by
  -- the only place the generated handler shape enters: a failing copy deletes the old entry (`dropped`)
  have : Gen.copyFailRemovesOld = true := rfl
  by_cases e1 : env.copyFails = true
  · exact .dropped (by simp [stamp, e1]) (.inl e1) (by simp [store, storeG, e1, this])
  · by_cases e2 : refused (deleteNode s k) = true
    · exact .dropped (by simp [stamp, e1, e2]) (.inr ⟨by simpa using e1, e2⟩) (by simp [store, storeG, e1, e2])
    · cases e3 : env.lateFails with
      | some b =>
        exact .failed (by simp [stamp, e1, e2, e3]) (by simpa using e1) (by simpa using e2) b e3
          (by simp [store, storeG, e1, e2, e3])
      | none =>
        exact .performed (by simp [stamp, e1, e2, e3]) (by simpa using e1) (by simpa using e2) e3
          (by simp [store, storeG, e1, e2, e3])

theorem checkLimits_deleteNode_eq (s : State) (k : Key) (now : Time) (mem : List Bool) :
    ∃ ks : List Key, checkLimits (deleteNode s k) now mem = (k :: ks).foldl deleteNode s :=
  -- `(k :: ks).foldl f s` is `ks.foldl f (f s k)`
  checkLimitsLoop_eq_foldl _ _ now mem

theorem inv_step {s : State} (h : Inv s) (op : Op) : Inv (step s op).1 := by
  cases op with
  | fetch now k =>
    rcases fetch_cases s now k with e | ⟨c, hc, e⟩ <;> rw [step, e]
    · exact h
    · exact inv_touch h (alookup_isSome_iff.mp (hc ▸ rfl))
  | store now k v trigs d gen env =>
    cases store_cases s now k v trigs d gen env with rw [step, eq]
    | dropped _ _ eq => exact inv_deleteNode h k
    | failed _ _ _ b _ eq => exact inv_nlClear _
    | performed _ _ _ _ eq =>
      obtain ⟨ks, e⟩ := checkLimits_deleteNode_eq s k now env.lowMem
      rw [e]
      exact inv_insertEntry (inv_foldl_deleteNode h _) (by rw [alookup_foldl_deleteNode h, if_pos (.head _)]) ..
  | rise t => exact inv_foldl_deleteNode h _
  | remove k => exact inv_deleteNode h k
  | clear => exact inv_nlClear s
  | stats => exact h

theorem config_step (s : State) (op : Op) :
    (step s op).1.limit = s.limit ∧ (step s op).1.sizeLimit = s.sizeLimit := by
  cases op with
  | fetch now k => rcases fetch_cases s now k with e | ⟨c, hc, e⟩ <;> rw [step, e] <;> exact ⟨rfl, rfl⟩
  | store now k v trigs d gen env =>
    cases store_cases s now k v trigs d gen env with rw [step, eq]
    | dropped _ _ eq => exact config_deleteNode s k
    | failed _ _ _ b _ eq => exact config_deleteNode s k
    | performed _ _ _ _ eq =>
      obtain ⟨ks, e⟩ := checkLimits_deleteNode_eq s k now env.lowMem
      rw [e]
      exact config_foldl_deleteNode s _
  | rise t => exact config_foldl_deleteNode s _
  | remove k => exact config_deleteNode s k
  | clear => exact ⟨rfl, rfl⟩
  | stats => exact ⟨rfl, rfl⟩

theorem generation_step_nonstore (s : State) (op : Op) (h : ∀ now k v ts d gen env, op ≠ .store now k v ts d gen env) :
    (step s op).1.generation = s.generation := by
  cases op with
  | fetch now k => rcases fetch_cases s now k with e | ⟨c, _, e⟩ <;> rw [step, e]
  | store now k v ts d gen env => exact absurd rfl (h now k v ts d gen env)
  | rise t => exact generation_foldl_deleteNode _ _
  | remove k => exact generation_deleteNode s k
  | clear => rfl
  | stats => rfl

theorem run_cons (s : State) (op : Op) (ops : List Op) : run s (op :: ops) = run (step s op).1 ops := rfl

theorem run_append (s : State) (a b : List Op) : run s (a ++ b) = run (run s a) b := List.foldl_append ..

theorem run_snoc (s : State) (ops : List Op) (op : Op) : run s (ops ++ [op]) = (step (run s ops) op).1 := by
  rw [run_append]; rfl

theorem run_ind {P : State → Prop} {ops : List Op} (hP : ∀ s, ∀ op ∈ ops, P s → P (step s op).1) {s : State}
    (h : P s) : P (run s ops) :=
  ops.foldlRecOn _ h fun s hs op ho => hP s op ho hs

theorem inv_run {s : State} (h : Inv s) (ops : List Op) : Inv (run s ops) :=
  run_ind (P := Inv) (fun _ op _ h => inv_step h op) h

theorem config_run (s : State) (ops : List Op) :
    (run s ops).limit = s.limit ∧ (run s ops).sizeLimit = s.sizeLimit :=
  run_ind (P := fun s' => s'.limit = s.limit ∧ s'.sizeLimit = s.sizeLimit)
    (fun s' op _ h => ⟨(config_step s' op).1.trans h.1, (config_step s' op).2.trans h.2⟩) ⟨rfl, rfl⟩

end Cppcms.C07
