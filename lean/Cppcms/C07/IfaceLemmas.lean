import Cppcms.C07.Iface
import Cppcms.C07.Lemmas
/-! # C07 — the `cache_interface` model: what an operation records reaches the page's set and every attached recorder -/
namespace Cppcms.C07
open Cppcms

theorem mem_insertSet {x t : Key} {l : List Key} : x ∈ insertSet t l ↔ x = t ∨ x ∈ l := by
  unfold insertSet
  split
  · next h => exact ⟨.inr, fun e => e.elim (· ▸ h) id⟩
  · exact List.mem_cons

/-- what `addTrigs st ts` does to the page's set and to the set of every attached recorder -/
def insertSets (ts l : List Key) : List Key := ts.foldl (fun l t => insertSet t l) l

theorem mem_insertSets {ts l : List Key} {x : Key} : x ∈ insertSets ts l ↔ x ∈ ts ∨ x ∈ l := by
  induction ts generalizing l with
  | nil => exact ⟨.inr, fun h => h.elim nofun id⟩
  | cons t ts ih =>
    rw [insertSets, List.foldl_cons, ← insertSets, ih, mem_insertSet, List.mem_cons]
    exact or_left_comm.trans or_assoc.symm

/-- the set recorder `id` has collected so far (`none` = not attached) -/
def recOf (st : IState) (id : Nat) : Option (List Key) := (st.recs.find? (·.1 == id)).map (·.2)

/-- `st'` has recorded the triggers `ts` on top of `st`: in the page's set and in every attached recorder's set -/
def Recorded (st st' : IState) (ts : List Key) : Prop :=
  st'.page = insertSets ts st.page ∧ st'.recs = st.recs.map fun p => (p.1, insertSets ts p.2)

theorem Recorded.nil {st st' : IState} (hp : st'.page = st.page) (hr : st'.recs = st.recs) : Recorded st st' [] :=
  ⟨hp, hr.trans (List.map_id' _).symm⟩

theorem Recorded.addTrigs (st : IState) (ts : List Key) : Recorded st (addTrigs st ts) ts := by
  induction ts generalizing st with
  | nil => exact .nil rfl rfl
  | cons t ts ih =>
    obtain ⟨h1, h2⟩ := ih (addTrig1 st t)
    exact ⟨h1, h2.trans (List.map_map ..)⟩

theorem recOf_of_recorded {st st' : IState} {ts : List Key} (h : Recorded st st' ts) (id : Nat) :
    recOf st' id = (recOf st id).map (insertSets ts) := by
  rw [recOf, h.2, List.find?_map, Option.map_map, recOf, Option.map_map]; rfl

@[simp] theorem addTrig1_cache (st : IState) (t : Key) : (addTrig1 st t).cache = st.cache := rfl
@[simp] theorem addTrig1_gzip (st : IState) (t : Key) : (addTrig1 st t).gzip = st.gzip := rfl

theorem mem_addTrig1_page {st : IState} {t x : Key} : x ∈ (addTrig1 st t).page ↔ x = t ∨ x ∈ st.page :=
  mem_insertSet

theorem addTrigs_cache (st : IState) (ts : List Key) : (addTrigs st ts).cache = st.cache := by
  induction ts generalizing st with
  | nil => rfl
  | cons t ts ih => exact ih _

theorem addTrigs_gzip (st : IState) (ts : List Key) : (addTrigs st ts).gzip = st.gzip := by
  induction ts generalizing st with
  | nil => rfl
  | cons t ts ih => exact ih _

/-- `false` for `attach`, `detach`, `reset` (they change the recorder table resp. empty the page's set) -/
def IOp.records : IOp → Bool
  | .attach _ | .detach _ | .reset => false
  | _ => true

-- members, not order: a store inserts `dedup trigs ++ [k]`, `recorded` says `k :: trigs`
theorem istep_records (st : IState) (op : IOp) (hop : op.records = true) :
    ∃ ts, (∀ x, x ∈ ts ↔ x ∈ recorded st op) ∧ Recorded st (istep st op).1 ts := by
  cases op with
  | addTrigger t => exact ⟨[t], fun _ => Iff.rfl, rfl, rfl⟩
  | fetch now k nt =>
    -- only a hit without `notriggers` records: the fetched entry's triggers
    cases nt with
    | true =>
      simp only [istep, recorded]
      rcases step st.cache (.fetch now k) with ⟨c, o⟩
      cases o <;> exact ⟨[], fun _ => Iff.rfl, .nil rfl rfl⟩
    | false =>
      simp only [istep, recorded]
      rcases step st.cache (.fetch now k) with ⟨c, o⟩
      cases o with
      | hit v trigs d g => exact ⟨trigs, fun _ => Iff.rfl, .addTrigs { st with cache := c } trigs⟩
      | _ => exact ⟨[], fun _ => Iff.rfl, .nil rfl rfl⟩
  | store now k v trigs timeout nt env =>
    cases nt
    · refine ⟨dedup trigs ++ [k], fun x => ?_, ?_⟩
      · rw [List.mem_append, mem_dedup, List.mem_singleton]; exact or_comm.trans List.mem_cons.symm
      · have := Recorded.addTrigs st (dedup trigs ++ [k])
        rwa [addTrigs, List.foldl_append] at this
    · exact ⟨[], fun _ => Iff.rfl, .nil rfl rfl⟩
  | fetchPage now k gz =>
    simp only [istep, recorded]
    rcases step st.cache (.fetch now (pageKey gz k)) with ⟨c, o⟩
    cases o <;> exact ⟨[], fun _ => Iff.rfl, .nil rfl rfl⟩
  | storePage now k body timeout env => exact ⟨[k], fun _ => Iff.rfl, rfl, rfl⟩
  | rise t => exact ⟨[], fun _ => Iff.rfl, .nil rfl rfl⟩
  | clear => exact ⟨[], fun _ => Iff.rfl, .nil rfl rfl⟩
  | stats => exact ⟨[], fun _ => Iff.rfl, .nil rfl rfl⟩
  | _ => cases hop

theorem recorded_in_page (st : IState) (op : IOp) {t : Key} (h : t ∈ recorded st op) : t ∈ (istep st op).1.page := by
  cases hr : op.records with
  | true =>
    obtain ⟨ts, hts, hp, _⟩ := istep_records st op hr
    rw [hp]; exact mem_insertSets.mpr (.inl ((hts t).mpr h))
  | false =>
    cases op with
    | attach id => cases h
    | detach id => cases h
    | reset => cases h
    | _ => exact Bool.noConfusion hr

theorem page_mono (st : IState) (op : IOp) (hop : op ≠ .reset) {t : Key} (h : t ∈ st.page) :
    t ∈ (istep st op).1.page := by
  cases hr : op.records with
  | true =>
    obtain ⟨ts, _, hp, _⟩ := istep_records st op hr
    rw [hp]; exact mem_insertSets.mpr (.inr h)
  | false =>
    cases op with
    | attach id => exact h
    | detach id => exact h
    | reset => exact (hop rfl).elim
    | _ => exact Bool.noConfusion hr

theorem find_filter_ne (recs : List (Nat × List Key)) {id id' : Nat} (hne : id' ≠ id) :
    (recs.filter (·.1 != id')).find? (·.1 == id) = recs.find? (·.1 == id) := by
  rw [List.find?_filter]
  congr 1
  funext p
  have : ¬ id = id' := fun e => hne e.symm
  by_cases h : p.1 = id <;> simp [h, this]

theorem recorder_step (st : IState) (op : IOp) (id : Nat) {l : List Key} (hl : recOf st id = some l)
    (hop : op ≠ .attach id ∧ op ≠ .detach id) :
    ∃ l', recOf (istep st op).1 id = some l' ∧ (∀ x ∈ l, x ∈ l') ∧ ∀ t ∈ recorded st op, t ∈ l' := by
  cases hr : op.records with
  | true =>
    obtain ⟨ts, hts, hr⟩ := istep_records st op hr
    exact ⟨insertSets ts l, by rw [recOf_of_recorded hr, hl]; rfl, fun x hx => mem_insertSets.mpr (.inr hx),
      fun t ht => mem_insertSets.mpr (.inl ((hts t).mpr ht))⟩
  | false =>
  cases op with
  | attach id' =>
    have hne : id' ≠ id := fun e => hop.1 (e ▸ rfl)
    refine ⟨l, ?_, fun x hx => hx, fun _ h => nomatch h⟩
    rw [← hl, recOf, istep, List.find?_cons_of_neg (by simpa using hne), find_filter_ne _ hne]; rfl
  | detach id' =>
    have hne : id' ≠ id := fun e => hop.2 (e ▸ rfl)
    refine ⟨l, ?_, fun x hx => hx, fun _ h => nomatch h⟩
    rw [← hl, recOf, istep, find_filter_ne _ hne]; rfl
  | reset => exact ⟨l, hl, fun x hx => hx, fun _ h => nomatch h⟩
  | _ => exact Bool.noConfusion hr

theorem istep_cache (st : IState) (op : IOp) : (istep st op).1.cache = run st.cache (lower st op) := by
  cases op with
  | fetch now k nt =>
    simp only [istep, lower, run, List.foldl_cons, List.foldl_nil]
    rcases step st.cache (Op.fetch now k) with ⟨c, o⟩
    cases o <;> cases nt <;> first | rfl | exact addTrigs_cache ..
  | store now k v trigs timeout nt env => cases nt <;> simp [istep, lower, run, addTrigs_cache]
  | fetchPage now k gz =>
    simp only [istep, lower, run, List.foldl_cons, List.foldl_nil]
    rcases step st.cache (Op.fetch now (pageKey gz k)) with ⟨c, o⟩
    cases o <;> rfl
  | _ => rfl

theorem irun_cons (st : IState) (op : IOp) (ops : List IOp) : irun st (op :: ops) = irun (istep st op).1 ops := rfl

theorem irun_append (st : IState) (a b : List IOp) : irun st (a ++ b) = irun (irun st a) b := List.foldl_append ..

theorem lowerRun_append (st : IState) (a b : List IOp) :
    lowerRun st (a ++ b) = lowerRun st a ++ lowerRun (irun st a) b := by
  induction a generalizing st with
  | nil => rfl
  | cons op a ih => simp only [List.cons_append, lowerRun, irun_cons, ih, List.append_assoc]

theorem irun_cache (st : IState) (ops : List IOp) : (irun st ops).cache = run st.cache (lowerRun st ops) := by
  induction ops generalizing st with
  | nil => rfl
  | cons op ops ih => rw [irun_cons, ih, lowerRun, run_append, istep_cache]

theorem page_run_mono (st : IState) (ops : List IOp) (hops : ∀ o ∈ ops, o ≠ IOp.reset) {t : Key}
    (h : t ∈ st.page) : t ∈ (irun st ops).page :=
  ops.foldlRecOn (motive := fun st => t ∈ st.page) _ h fun st h o ho => page_mono st o (hops o ho) h

theorem recorder_run (st : IState) (id : Nat) (ops : List IOp) {l : List Key} (hl : recOf st id = some l)
    (hops : ∀ o ∈ ops, o ≠ IOp.attach id ∧ o ≠ IOp.detach id) :
    ∃ l', recOf (irun st ops) id = some l' ∧ ∀ x ∈ l, x ∈ l' :=
  ops.foldlRecOn (motive := fun st => ∃ l', recOf st id = some l' ∧ ∀ x ∈ l, x ∈ l') _ ⟨l, hl, fun _ hx => hx⟩
    fun st ⟨_, e1, m1⟩ o ho =>
      let ⟨l2, e2, m2, _⟩ := recorder_step st o id e1 (hops o ho)
      ⟨l2, e2, fun x hx => m2 x (m1 x hx)⟩

theorem fetchPage_miss_of_backend (st : IState) (now : Time) (k : Key) (gz : Bool)
    (h : (step st.cache (.fetch now (pageKey gz k))).2 = .miss) : (istep st (.fetchPage now k gz)).2 = .miss := by
  simp only [istep]
  cases hs : step st.cache (Op.fetch now (pageKey gz k)) with
  | mk c o =>
    rw [hs] at h
    simp only at h
    subst h
    rfl

end Cppcms.C07
