import Cppcms.Common
import Cppcms.C07.Gen
import Cppcms.C07.Spec
/-!
# C07/C08 — concrete model of `mem_cache<Setup>` (src/cache_storage.cpp)

The state mirrors the four indexes and the counters of `mem_cache`:

* `primary`  : `hash_map<key, container>` — an association list (iteration order of the hash map is
  never observed); `container` = data, the trigger back-references in `push_back` order, the
  deadline (`timeout->first`) and the generation stamp;
* `triggers` : `hash_map<trigger, list<pointer>>` — per trigger the keys in `push_front` order;
* `timeout`  : `multimap<time_t, pointer>` — sorted by deadline, insertion order among equals;
* `lru`      : `list<pointer>` — front = most recently stored/fetched;
* counters `size`, `trigCount`, `generation`; configuration `limit` and `sizeLimit`
  (`Setup::size_limit()`: `none` for the thread back-end (SIZE_MAX), `some (mem/20)` for the
  process-shared one).

Iterators/pointers are represented by keys: in every reachable state a key occurs at most once
in each index (part of `Inv`, proved in `Lemmas.lean`), so "erase that node" = "erase that key".
Conditions come from `Gen.lean` (regenerated from the source on every run).

Interface for C08–C10: `State`, `State.init`, `Op`, `Out` (from `Spec.lean`), `step`, `run`.
-/
namespace Cppcms.C07
open Cppcms

structure Container where
  data : Val
  trigs : List Key
  deadline : Time
  gen : Gen
deriving DecidableEq, Repr

structure State where
  primary : List (Key × Container) := []
  triggers : List (Key × List Key) := []
  timeout : List (Time × Key) := []
  lru : List Key := []
  limit : Nat := 0
  size : Nat := 0
  trigCount : Nat := 0
  generation : Gen := 0
  sizeLimit : Option Nat := none
deriving Repr

/-- `mem_cache(pages)`; `sizeLimit = none` is `thread_settings`, `some (memory/20)` `process_settings` -/
def State.init (limit : Nat) (sizeLimit : Option Nat := none) : State :=
  { limit := limit, sizeLimit := sizeLimit }

/-! ### association lists (the two hash maps) -/

def alookup {β : Type} (k : Key) : List (Key × β) → Option β
  | [] => none
  | (k', v) :: r => if k' = k then some v else alookup k r

def aerase {β : Type} (k : Key) : List (Key × β) → List (Key × β)
  | [] => []
  | (k', v) :: r => if k' = k then r else (k', v) :: aerase k r

/-- the list hanging off trigger `t` (`[]` when the trigger is not in the map) -/
def trigList (t : Key) (trs : List (Key × List Key)) : List Key := (alookup t trs).getD []

/-- `i->first->second.erase(i->second); if(i->first->second.empty()) triggers.erase(i->first);` -/
def eraseTrig (t k : Key) : List (Key × List Key) → List (Key × List Key)
  | [] => []
  | (t', l) :: r =>
    if t' = t then (if (l.erase k).isEmpty then r else (t', l.erase k) :: r)
    else (t', l) :: eraseTrig t k r

/-- `triggers.insert(pair(t, empty list)).first->second.push_front(p)` -/
def addTrig (t k : Key) : List (Key × List Key) → List (Key × List Key)
  | [] => [(t, [k])]
  | (t', l) :: r => if t' = t then (t', k :: l) :: r else (t', l) :: addTrig t k r

/-- `timeout.insert(pair(d, p))`: `std::multimap` inserts after the last element with an equal key -/
def tinsert (d : Time) (k : Key) : List (Time × Key) → List (Time × Key)
  | [] => [(d, k)]
  | (d', k') :: r => if d < d' then (d, k) :: (d', k') :: r else (d', k') :: tinsert d k r

/-! ### operations -/

/-- `delete_node(p)` where `p = primary.find(k)`; a no-op when the key is absent (the C++ is only
ever called with a valid iterator; callers test `!= primary.end()` first) -/
def deleteNode (s : State) (k : Key) : State :=
  match alookup k s.primary with
  | none => s
  | some c =>
    { s with
      lru := s.lru.erase k
      timeout := s.timeout.erase (c.deadline, k)
      triggers := c.trigs.foldl (fun trs t => eraseTrig t k trs) s.triggers
      trigCount := s.trigCount - c.trigs.length
      primary := aerase k s.primary
      size := s.size - 1 }

/-- `nl_clear()` -/
def nlClear (s : State) : State :=
  { s with primary := [], triggers := [], timeout := [], lru := [], size := 0, trigCount := 0 }

def fetch (s : State) (now : Time) (k : Key) : State × Out :=
  match alookup k s.primary with
  | none => (s, .miss)
  | some c =>
    if Gen.fetchExpired c.deadline now then (s, .miss)
    else ({ s with lru := k :: s.lru.erase k }, .hit c.data c.trigs c.deadline c.gen)

/-- `rise(t)`: copy the trigger's list (kill list), then `delete_node` each -/
def rise (s : State) (t : Key) : State := (trigList t s.triggers).foldl deleteNode s

/-- the entry `check_limits` deletes next: head of the timeout index if expired, else LRU tail -/
def victim (s : State) (now : Time) : Option Key :=
  match s.timeout with
  | (d, k) :: _ => if Gen.evictExpired true d now then some k else s.lru.getLast?
  | [] => if Gen.evictExpired false 0 now then none else s.lru.getLast?

/-- the `while` loop of `check_limits`; `mem` = successive answers of `not_enough_memory()`.
`fuel` bounds the iterations; `checkLimits` supplies `size`, which suffices because every
iteration needs `size > 0` and `delete_node` decrements it (`Cppcms.C08.checkLimitsLoop_fuel`, C08/Lemmas.lean). -/
def checkLimitsLoop : Nat → State → Time → List Bool → State
  | 0, s, _, _ => s
  | fuel + 1, s, now, mem =>
    if Gen.limitsLoopCond s.size s.limit (mem.headD false) then
      match victim s now with
      | some k => checkLimitsLoop fuel (deleteNode s k) now mem.tail
      | none => s
    else s

def checkLimits (s : State) (now : Time) (mem : List Bool) : State :=
  checkLimitsLoop s.size s now mem

/-- `Setup::size_limit()` early return of `store` -/
def refused (s : State) : Bool :=
  match s.sizeLimit with
  | none => false
  | some l => Gen.storeRefused s.size l

/-- trigger list of a new container: own key first when it is not among `triggers_in`
(condition from the source), then `triggers_in` -/
def containerTrigs (k : Key) (trigs : List Key) : List Key :=
  let ts := dedup trigs
  if (if Gen.ownKeyAddedWhenAbsent then !(decide (k ∈ ts)) else decide (k ∈ ts)) then k :: ts else ts

/-- the insertion part of `store` (after `check_limits`) -/
def insertEntry (s : State) (k : Key) (v : Val) (trigs : List Key) (d : Time) (gen : Option Gen) : State :=
  let ts := containerTrigs k trigs
  let c : Container := ⟨v, ts, d, gen.getD s.generation⟩
  { s with
    primary := (k, c) :: s.primary
    size := s.size + 1
    generation := if gen.isNone then s.generation + 1 else s.generation
    lru := k :: s.lru
    timeout := tinsert d k s.timeout
    triggers := ts.foldl (fun trs t => addTrig t k trs) s.triggers
    trigCount := s.trigCount + ts.length }

/-- `store`, parametric in what the handler of the value copy's `bad_alloc` does
(`removesOld = false`: a handler that is a plain `return;`, defect D9) -/
def storeG (removesOld : Bool) (s : State) (now : Time) (k : Key) (v : Val) (trigs : List Key) (d : Time)
    (gen : Option Gen) (env : StoreEnv) : State :=
  if env.copyFails then
    (if removesOld then deleteNode s k else s)
  else
    let s1 := deleteNode s k
    if refused s1 then s1
    else
      match env.lateFails with
      | some bumped =>
        nlClear { s1 with generation := if bumped && gen.isNone then s1.generation + 1 else s1.generation }
      | none => insertEntry (checkLimits s1 now env.lowMem) k v trigs d gen

/-- `store` with the handler shape the translator reads from the source -/
def store (s : State) (now : Time) (k : Key) (v : Val) (trigs : List Key) (d : Time)
    (gen : Option Gen) (env : StoreEnv) : State :=
  storeG Gen.copyFailRemovesOld s now k v trigs d gen env

/-- whether `store` is performed, and with which generation stamp (input of `Spec.step`) -/
def stamp (s : State) : Op → Option Gen
  | .store _ k _ _ _ gen env =>
    if env.copyFails then none
    else if refused (deleteNode s k) then none
    else if env.lateFails.isSome then none
    else some (gen.getD s.generation)
  | _ => none

def step (s : State) : Op → State × Out
  | .fetch now k => fetch s now k
  | .store now k v trigs d gen env => (store s now k v trigs d gen env, .done)
  | .rise t => (rise s t, .done)
  | .remove k => (deleteNode s k, .done)
  | .clear => (nlClear s, .done)
  | .stats => (s, .stats s.size s.trigCount)

/-- state after a history -/
def run (s : State) (ops : List Op) : State := ops.foldl (fun s op => (step s op).1) s

/-- the specification run alongside the concrete cache (stamps taken from the concrete run) -/
def specRun : State → Spec → List Op → Spec
  | _, sp, [] => sp
  | s, sp, op :: ops => specRun (step s op).1 (Spec.step sp op (stamp s op)).1 ops

/-- abstraction (`abs`, next line): the partial map held by the concrete cache; `toEntry` is its value for one container -/
def toEntry (c : Container) : Entry := ⟨c.data, c.trigs, c.deadline, c.gen⟩
def abs (s : State) : Spec := fun k => (alookup k s.primary).map toEntry

end Cppcms.C07
