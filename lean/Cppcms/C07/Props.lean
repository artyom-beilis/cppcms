import Cppcms.C07.Refine
import Cppcms.C07.IfaceLemmas
/-!
# C07 — property theorems

"The cache never returns invalidated, expired or superseded data."

The cache theorems are about the concrete model of `mem_cache` (`Model.lean`, conditions regenerated
from `src/cache_storage.cpp`), for **every** history, limit, back-end (`sizeLimit`), clock value
(also decreasing) and allocation outcome (`StoreEnv`: failing copy, late `bad_alloc`,
`not_enough_memory()` answers); `live_entry_always_found` only for limit 0, no `sizeLimit`,
quiet stores.  `configured_*` are about `Gen.pool…`, the page theorems about `istep`.

`inv_init`, `inv_step`, `refines_spec` are `C07.inv_init`, `C07.inv_step`, `C07.refines_step` under the names the check
audits; `∀ (_ : o = .reset), False` in the page theorems is `o ≠ .reset` unfolded (`IfaceLemmas` takes either).
-/
namespace Cppcms.C07.Props
open Cppcms Cppcms.C07

abbrev reach (limit : Nat) (sl : Option Nat) (ops : List Op) : State := run (State.init limit sl) ops
abbrev specOf (limit : Nat) (sl : Option Nat) (ops : List Op) : Spec := specRun (State.init limit sl) Spec.empty ops

theorem inv_init (limit : Nat) (sl : Option Nat) : Inv (State.init limit sl) := C07.inv_init limit sl

theorem inv_step {s : State} (h : Inv s) (op : Op) : Inv (step s op).1 := C07.inv_step h op

theorem inv_reachable (limit : Nat) (sl : Option Nat) (ops : List Op) : Inv (reach limit sl ops) :=
  inv_run (C07.inv_init limit sl) ops

/-- one operation: the concrete cache stays a sub-map of the specification and answers like it
(`OutOk`: a fetch may miss where the specification hits; `stats` is not compared) -/
theorem refines_spec {s : State} {sp : Spec} (h : Inv s) (hs : Sub (abs s) sp) (op : Op) :
    Sub (abs (step s op).1) (Spec.step sp op (stamp s op)).1 ∧
    OutOk (step s op).2 (Spec.step sp op (stamp s op)).2 :=
  refines_step h hs op

theorem refines_run (limit : Nat) (sl : Option Nat) (ops : List Op) :
    Sub (abs (reach limit sl ops)) (specOf limit sl ops) :=
  C07.refines_run (C07.inv_init limit sl) (sub_empty _) ops

theorem fetch_hit_sound (limit : Nat) (sl : Option Nat) (ops : List Op) (now : Time) (k : Key)
    (v : Val) (tr : List Key) (d : Time) (g : Gen)
    (hit : (step (reach limit sl ops) (.fetch now k)).2 = .hit v tr d g) :
    specOf limit sl ops k = some ⟨v, tr, d, g⟩ ∧ ¬ d < now :=
  (fetch_hit_iff.mp hit).imp_left (refines_run limit sl ops k _)

theorem fetch_miss_of_spec_none (limit : Nat) (sl : Option Nat) (ops : List Op) (now : Time) (k : Key)
    (h : specOf limit sl ops k = none) : (step (reach limit sl ops) (.fetch now k)).2 = .miss :=
  fetch_miss_of fun e he => nomatch h.symm.trans (refines_run limit sl ops k e he)

/-- A hit returns exactly the value, trigger set (the given set plus the key itself) and deadline
of the most recent store under that key; that store was performed (stamp `g`), its deadline has not
passed, and since it there was no other store of the key, no `remove` of it, no `clear`, and no
`rise` of any of its triggers. -/
theorem fetch_returns_latest_store (limit : Nat) (sl : Option Nat) (ops : List Op) (now : Time) (k : Key)
    (v : Val) (tr : List Key) (d : Time) (g : Gen)
    (hit : (step (reach limit sl ops) (.fetch now k)).2 = .hit v tr d g) :
    ∃ pre post now₀ trigs gen env,
      ops = pre ++ Op.store now₀ k v trigs d gen env :: post ∧
      tr = ownTrigs k trigs ∧
      stamp (reach limit sl pre) (Op.store now₀ k v trigs d gen env) = some g ∧
      (∀ op ∈ post, op.invalidates k tr = false) ∧
      ¬ d < now := by
  obtain ⟨hsp, hnow⟩ := fetch_hit_sound limit sl ops now k v tr d g hit
  rcases spec_entry_origin k ⟨v, tr, d, g⟩ ops _ _ hsp with ⟨h0, _⟩ | ⟨pre, post, now₀, v', trigs, gen, env, e1, e2, e3, e4, e5⟩
  · cases h0
  · cases e2
    exact ⟨pre, post, now₀, trigs, gen, env, e1, e3, e4, e5, hnow⟩

theorem specOf_append_cons (limit : Nat) (sl : Option Nat) (pre post : List Op) (op : Op) :
    specOf limit sl (pre ++ op :: post) =
      specRun (step (reach limit sl pre) op).1
        (Spec.step (specOf limit sl pre) op (stamp (reach limit sl pre) op)).1 post := by
  rw [specOf, specRun_append, specRun]

theorem miss_after_remove (limit : Nat) (sl : Option Nat) (pre post : List Op) (now : Time) (k : Key)
    (hpost : ∀ op ∈ post, op.isStoreOf k = false) :
    (step (reach limit sl (pre ++ Op.remove k :: post)) (.fetch now k)).2 = .miss := by
  apply fetch_miss_of_spec_none
  rw [specOf_append_cons]
  exact spec_none_stable k post hpost _ _ (if_pos rfl)

theorem miss_after_clear (limit : Nat) (sl : Option Nat) (pre post : List Op) (now : Time) (k : Key)
    (hpost : ∀ op ∈ post, op.isStoreOf k = false) :
    (step (reach limit sl (pre ++ Op.clear :: post)) (.fetch now k)).2 = .miss := by
  apply fetch_miss_of_spec_none
  rw [specOf_append_cons]
  exact spec_none_stable k post hpost _ _ rfl

theorem spec_after_store {limit : Nat} {sl : Option Nat} (pre : List Op) {post : List Op} (now₀ : Time) {k : Key}
    (v : Val) (trigs : List Key) (d : Time) (gen : Option Gen) (env : StoreEnv)
    (hpost : ∀ op ∈ post, op.isStoreOf k = false) :
    specOf limit sl (pre ++ Op.store now₀ k v trigs d gen env :: post) k =
      ((stamp (reach limit sl pre) (Op.store now₀ k v trigs d gen env)).map
        fun g => ⟨v, ownTrigs k trigs, d, g⟩).filter fun e => post.all fun op => !op.invalidates k e.trigs := by
  rw [specOf_append_cons, specRun_no_store hpost, spec_step_store]

/-- a fetch at a clock value past the deadline of the latest store misses -/
theorem miss_after_expiry (limit : Nat) (sl : Option Nat) (pre post : List Op) (now₀ now : Time) (k : Key) (v : Val)
    (trigs : List Key) (d : Time) (gen : Option Gen) (env : StoreEnv)
    (hpost : ∀ op ∈ post, op.isStoreOf k = false) (hexp : d < now) :
    (step (reach limit sl (pre ++ Op.store now₀ k v trigs d gen env :: post)) (.fetch now k)).2 = .miss := by
  refine fetch_miss_of fun e he => ?_
  have h1 := refines_run limit sl _ k e he
  rw [spec_after_store pre now₀ v trigs d gen env hpost, Option.filter_eq_some_iff, Option.map_eq_some_iff] at h1
  obtain ⟨⟨g, _, rfl⟩, _⟩ := h1
  exact hexp

/-- raising any trigger attached to the entry — one of the given ones or the key itself —
invalidates it -/
theorem miss_after_rise_of_any_trigger (limit : Nat) (sl : Option Nat) (pre mid post : List Op) (now₀ now : Time)
    (k t : Key) (v : Val) (trigs : List Key) (d : Time) (gen : Option Gen) (env : StoreEnv)
    (ht : t = k ∨ t ∈ trigs)
    (hmid : ∀ op ∈ mid, op.isStoreOf k = false) (hpost : ∀ op ∈ post, op.isStoreOf k = false) :
    (step (reach limit sl (pre ++ Op.store now₀ k v trigs d gen env :: (mid ++ Op.rise t :: post))) (.fetch now k)).2
      = .miss := by
  apply fetch_miss_of_spec_none
  have hp : ∀ op ∈ mid ++ Op.rise t :: post, op.isStoreOf k = false := fun op ho =>
    (List.mem_append.mp ho).elim (hmid op) fun ho => (List.mem_cons.mp ho).elim (· ▸ rfl) (hpost op)
  rw [spec_after_store pre now₀ v trigs d gen env hp, Option.filter_eq_none_iff]
  intro e he hall
  obtain ⟨g, _, rfl⟩ := Option.map_eq_some_iff.mp he
  have := List.all_eq_true.mp hall (Op.rise t) (List.mem_append_right _ (.head _))
  simp [Op.invalidates, mem_ownTrigs.mpr ht] at this

/-- a store that the cache could not perform (value copy fails, `bad_alloc` inside, refused by
the size cap) leaves the key absent: a later fetch misses, the superseded value is not served -/
theorem miss_after_dropped_store (limit : Nat) (sl : Option Nat) (pre post : List Op) (now₀ now : Time) (k : Key)
    (v : Val) (trigs : List Key) (d : Time) (gen : Option Gen) (env : StoreEnv)
    (hdrop : stamp (reach limit sl pre) (Op.store now₀ k v trigs d gen env) = none)
    (hpost : ∀ op ∈ post, op.isStoreOf k = false) :
    (step (reach limit sl (pre ++ Op.store now₀ k v trigs d gen env :: post)) (.fetch now k)).2 = .miss := by
  apply fetch_miss_of_spec_none
  rw [spec_after_store pre now₀ v trigs d gen env hpost, hdrop]
  rfl

/-- With limit 0, thread back-end and every store quiet (no allocation failure, no memory pressure)
a live entry is always found: after a store of `k` and operations none of which invalidates it, a
fetch at or before the deadline returns that store's value, trigger set, deadline and generation. -/
theorem live_entry_always_found (pre post : List Op) (now₀ now : Time) (k : Key) (v : Val)
    (trigs : List Key) (d : Time) (gen : Option Gen) (env : StoreEnv)
    (hquiet : ∀ op ∈ pre ++ Op.store now₀ k v trigs d gen env :: post, op.quiet)
    (hpost : ∀ op ∈ post, op.invalidates k (ownTrigs k trigs) = false)
    (hlive : ¬ d < now) :
    (step (reach 0 none (pre ++ Op.store now₀ k v trigs d gen env :: post)) (.fetch now k)).2
      = .hit v (ownTrigs k trigs) d (gen.getD (reach 0 none pre).generation) := by
  -- the cache is the specification's map, the store is performed, nothing later touches the entry
  have habs : abs (reach 0 none _) = specOf 0 none _ := exact_run (C07.inv_init 0 none) rfl _ hquiet
  have hcfg := config_run (State.init 0 none) pre
  have hst : stamp (reach 0 none pre) (.store now₀ k v trigs d gen env) = _ := stamp_of_quiet hcfg.2 (hquiet _ (by simp))
  have hpost' : ∀ op ∈ post, op.isStoreOf k = false := fun op ho =>
    Bool.eq_false_iff.mpr fun hs => Bool.eq_false_iff.mp (hpost op ho) (invalidates_of_isStoreOf _ hs)
  show (fetch _ now k).2 = _
  rw [fetch_out, habs, Spec.fetch, spec_after_store pre now₀ v trigs d gen env hpost', hst, Option.map_some,
    Option.filter_some, if_pos (List.all_eq_true.mpr fun op ho => by rw [hpost op ho]; rfl)]
  exact if_neg hlive

/-- the source's handler for a failing value copy removes the previous entry (read by the
translator from `store`); `refines_spec` depends on it -/
theorem copy_failure_handled : Gen.copyFailRemovesOld = true := rfl

/-- What `copy_failure_handled` guards (defect D9): with a handler that only returns (`removesOld = false`) a store that
cannot be allocated leaves the superseded value, and the refinement fails — store `k`=old, store `k`=(too large), fetch `k`. -/
theorem d9_unfixed_counterexample :
    let s₀ := (step (State.init 0 (some 26214)) (.store 1000 [107] [111, 108, 100] [] 1100)).1
    let big : Op := .store 1000 [107] [65, 65, 65] [] 1100 none { copyFails := true }
    (fetch (storeG false s₀ 1000 [107] [65, 65, 65] [] 1100 none { copyFails := true }) 1000 [107]).2
        = .hit [111, 108, 100] [[107]] 1100 0 ∧
    (Spec.step (abs s₀) big (stamp s₀ big)).1 [107] = none ∧
    (fetch (step s₀ big).1 1000 [107]).2 = .miss := by
  decide +kernel

private def k₁ : Key := [107, 49]
private def k₂ : Key := [107, 50]
private def t₁ : Key := [116]

private def h₁ : List Op :=
  [.store 1000 k₁ [1] [] 1010, .store 1000 k₂ [2] [t₁, k₁] 1005, .fetch 1001 k₁]

example : (step (reach 0 none h₁) (.fetch 1005 k₂)).2 = .hit [2] [k₂, t₁, k₁] 1005 1 := by decide +kernel
example : (step (reach 0 none h₁) (.fetch 1006 k₂)).2 = .miss := by decide +kernel
example : (step (reach 0 none (h₁ ++ [.rise k₁])) (.fetch 1001 k₂)).2 = .miss := by decide +kernel
example : (step (reach 0 none (h₁ ++ [.rise k₂])) (.fetch 1001 k₂)).2 = .miss := by decide +kernel
example : (step (reach 0 none (h₁ ++ [.store 1001 k₁ [3] [] 1010, .rise k₁])) (.fetch 1001 k₂)).2 = .miss := by decide +kernel
-- memory pressure evicts the first entry: the fetch misses although the specification hits (`⊑` is strict)
example :
    let h := [Op.store 1000 k₁ [1] [] 1010, .store 1000 k₂ [2] [] 1010 none { lowMem := [true] }]
    (step (reach 0 (some 100) h) (.fetch 1001 k₁)).2 = .miss ∧ (specOf 0 (some 100) h k₁).isSome = true := by decide +kernel
-- hypotheses of `live_entry_always_found` are satisfiable
example : (∀ op ∈ h₁, op.quiet) ∧ (∀ op ∈ [Op.fetch 1001 k₁], op.invalidates k₂ (ownTrigs k₂ [t₁, k₁]) = false) := by
  refine ⟨?_, by decide +kernel⟩
  intro op h
  simp only [h₁, List.mem_cons, List.not_mem_nil, or_false] at h
  rcases h with h | h | h <;> subst h <;> simp [Op.quiet]
-- a dropped store (`stamp = none`): value copy fails
example : stamp (reach 0 (some 100) [.store 1000 k₁ [1] [] 1010]) (.store 1000 k₁ [2] [] 1010 none { copyFails := true }) = none := by
  decide +kernel
example : Inv (reach 2 none h₁) := inv_reachable 2 none h₁

/-! ## the configured limit is the limit in play (`cache_pool`, settings → factory arguments)

`Gen.poolThreadLimit` / `Gen.poolProcessLimit` are transcribed by the translator from `src/cache_pool.cpp`
(which key is read, its default when absent, any substitution applied afterwards). -/

/-- what the application configures as `cache.limit` is exactly the limit the cache is built with,
for both back-ends — in particular `0` stays `0` = "no limit on the number of entries" -/
theorem configured_limit_is_effective_limit (n : Nat) (mem : Option Nat) :
    Gen.poolThreadLimit (some n) = n ∧ Gen.poolProcessLimit (some n) mem = n := ⟨rfl, rfl⟩

/-- a configured `cache.limit = 0` (thread back-end) gives a cache built with limit 0, the case `live_entry_always_found` is about -/
theorem configured_zero_is_unlimited : (State.init (Gen.poolThreadLimit (some 0)) none).limit = 0 := rfl

/-! ## trigger recording through `cache_interface` (model `Iface.lean`)

`recorded st op` are the triggers an operation records for the page under construction:
`add_trigger t` → `t`; a `fetch_frame`/`fetch_data` that hits (and is not `notriggers`) → all
triggers of the fetched entry (its own key included); `store_frame`/`store_data` (not
`notriggers`) → the given triggers and the key; `store_page k` → `k`. -/

abbrev iinit (limit : Nat) (sl : Option Nat) : IState := { cache := State.init limit sl }

/-- **Triggers recorded while a page is being built are attached when it is stored.**
Whatever any operation recorded since the last `reset()` — also the triggers inherited from a
cached frame that was fetched — is in the trigger set that `store_page` hands to the back-end
(`cache_module_->store(r_key, body, triggers_, …)`), together with the page's own key. -/
theorem page_triggers_attached (st : IState) (pre post : List IOp) (op : IOp) (t : Key)
    (hrec : t ∈ recorded (irun st pre) op) (hpost : ∀ o ∈ post, ∀ (_ : o = IOp.reset), False)
    (now : Time) (k : Key) (body : Val) (timeout : Int) (env : StoreEnv) :
    let st' := irun st (pre ++ op :: post)
    ∃ trigs, lower st' (.storePage now k body timeout env)
        = [Op.store now (pageKey st'.gzip k) body trigs (deadtime now timeout) none env] ∧
      t ∈ trigs ∧ k ∈ trigs := by
  intro st'
  refine ⟨(addTrig1 st' k).page, rfl, mem_addTrig1_page.mpr (.inr ?_), mem_addTrig1_page.mpr (.inl rfl)⟩
  rw [show st' = irun (istep (irun st pre) op).1 post from irun_append ..]
  exact page_run_mono _ post hpost (recorded_in_page _ op hrec)

/-- **A `triggers_recorder` collects every trigger recorded in its scope**, however other
recorders are attached or detached meanwhile (nesting): between its construction and its
`detach()`, whatever any operation records is in the set `detach()` returns. -/
theorem recorder_collects (st : IState) (id : Nat) (a b : List IOp) (op : IOp) (t : Key)
    (hrec : t ∈ recorded (irun st (IOp.attach id :: a)) op)
    (hscope : ∀ o ∈ a ++ op :: b, (∀ (_ : o = IOp.attach id), False) ∧ (∀ (_ : o = IOp.detach id), False)) :
    ∃ l, (istep (irun st (IOp.attach id :: (a ++ op :: b))) (.detach id)).2 = .detached l ∧ t ∈ l := by
  -- the recorder starts empty, stays attached over `a`, receives `t` from `op` and keeps it over `b`
  have h0 : recOf (istep st (.attach id)).1 id = some [] := by
    simp [istep, recOf]
  obtain ⟨la, ea, _⟩ := recorder_run _ id a h0 fun o ho => hscope o (List.mem_append_left _ ho)
  obtain ⟨l1, e1, _, r1⟩ := recorder_step _ op id ea (hscope op (List.mem_append_right _ (.head _)))
  obtain ⟨l, e, m⟩ := recorder_run _ id b e1 fun o ho => hscope o (List.mem_append_right _ (.tail _ ho))
  refine ⟨l, ?_, m t (r1 t hrec)⟩
  show IOut.detached ((recOf (irun st (.attach id :: (a ++ op :: b))) id).getD []) = _
  rw [irun_cons, irun_append, irun_cons, e]; rfl

/-- **Raising a recorded trigger invalidates every page that depended on it.**
A page stored by `store_page` whose `triggers_` contained `t` at that moment (by
`page_triggers_attached`: anything recorded while it was built) — or `t` is the page's key — is
gone after `rise t`: `fetch_page` of that gzip variant misses while it is not stored again. -/
theorem rise_invalidates_dependants (limit : Nat) (sl : Option Nat) (pre p1 p2 : List IOp)
    (now now' : Time) (k t : Key) (body : Val) (timeout : Int) (env : StoreEnv)
    (ht : t = k ∨ t ∈ (irun (iinit limit sl) pre).page) :
    let stp := irun (iinit limit sl) pre
    let st1 := (istep stp (.storePage now k body timeout env)).1
    let rk := pageKey stp.gzip k
    (∀ op ∈ lowerRun st1 p1, op.isStoreOf rk = false) →
    (∀ op ∈ lowerRun (istep (irun st1 p1) (.rise t)).1 p2, op.isStoreOf rk = false) →
    (istep (irun (iinit limit sl) (pre ++ IOp.storePage now k body timeout env :: (p1 ++ IOp.rise t :: p2)))
      (.fetchPage now' k stp.gzip)).2 = .miss := by
  intro stp st1 rk h1 h2
  apply fetchPage_miss_of_backend
  -- the back-end sees: the history of `pre`, the page's store, that of `p1`, `rise t`, that of `p2`
  rw [irun_cache, lowerRun_append, lowerRun, lowerRun_append, lowerRun]
  exact miss_after_rise_of_any_trigger limit sl _ _ _ now now' rk t body _ _ none env
    (.inr (mem_addTrig1_page.mpr ht)) h1 h2

-- non-vacuity: a page that fetched a cached frame inherits the frame's trigger
private def frame : Key := [102]
private def pg : Key := [112]
private def ih₁ : List IOp :=
  [.store 1000 frame [1] [t₁] 60 true,   -- a frame depending on trigger t₁, stored earlier (not recorded: notriggers)
   .reset,
   .fetchPage 1001 pg false,             -- page not cached yet
   .fetch 1001 frame false]              -- building the page: the cached frame is used
example : (irun (iinit 0 none) ih₁).page = [t₁, frame] := by decide +kernel
example : t₁ ∈ recorded (irun (iinit 0 none) (ih₁.take 3)) (.fetch 1001 frame false) := by decide +kernel
example :
    let h := ih₁ ++ [.storePage 1001 pg [2] 60]
    (istep (irun (iinit 0 none) h) (.fetchPage 1002 pg false)).2 = .hit [2] ∧
    (istep (irun (iinit 0 none) (h ++ [.rise t₁])) (.fetchPage 1002 pg false)).2 = .miss := by decide +kernel
-- nested recorders: the inner one sees only its scope, the outer one everything
example :
    let h := [IOp.attach 1, .addTrigger [1], .attach 2, .addTrigger [2], .detach 2, .addTrigger [3]]
    (istep (irun (iinit 0 none) h) (.detach 1)).2 = .detached [[3], [2], [1]] ∧
    (istep (irun (iinit 0 none) (h.take 4)) (.detach 2)).2 = .detached [[2]] := by decide +kernel

end Cppcms.C07.Props
