import Cppcms.Common
import Cppcms.C07.Model
import Cppcms.C07.Spec
import Cppcms.C07.Iface
/-!
Line protocol of the cache model driver (used by `c07_model` and `c08_model`; the drivers of C09 and C10 use its parsers and printers).

* plain lines (`new`, `store`, `fetch`, `rise`, `remove`, `clear`, `stats`) run the concrete
  model `step`, keeping the cache state across lines; the answer has the harness's format
  `<result> | <size> <trigCount>`.
* `J <impl answer …> ; <case line …>` lines run the *specification* (`Spec.step`) over the history
  and judge the implementation's answer with the property predicate (`OutOk`-style: a hit must be
  the specification's entry, a miss is allowed only where eviction is possible).  Answer `1` or
  `0 <reason>`.  `JL …` lines judge only C08's limit clause (entry count ≤ limit).

Annotations on `store` lines (oracle answers recorded from the real allocator by the harness):
`copyfail` → `StoreEnv.copyFails`; `cleared`, `bumped` → `lateFails`; `nem=<0/1…>` → `lowMem`: what
`not_enough_memory()` has to answer at the successive evaluations of `check_limits`' guard, computed by
the harness from the buddy allocator's own state (largest free chunk < 10 % of the segment).
-/
namespace Cppcms.C07.Proto
open Cppcms Cppcms.C07

def parseTrigs (w : String) : Option (List Key) :=
  if w == "-" then some []
  else (w.splitOn ",").mapM fun p => if p == "e" then some [] else if p == "-" then none else parseHex p

def parseVal (w : String) : Option Val :=
  match w.toList with
  | 'r' :: a :: b :: 'x' :: n =>
    match hexDigit a, hexDigit b, (String.ofList n).toNat? with
    | some x, some y, some cnt => some (List.replicate cnt (UInt8.ofNat (x * 16 + y)))
    | _, _, _ => none
  | _ => parseHex w

def parseGen (w : String) : Option (Option Gen) :=
  if w == "-" then some none else w.toNat?.map fun n => some (UInt64.ofNat n)

def trigStr (t : Key) : String := if t.isEmpty then "e" else toHex t

def trigsStr (ts : List Key) : String :=
  if ts.isEmpty then "-" else ",".intercalate (ts.map trigStr)

def outStr : Out → String
  | .miss => "miss"
  | .hit v ts d g => s!"hit {toHex v} {trigsStr ts} {d} {g.toNat}"
  | .done => "ok"
  | .stats _ _ => "ok"

structure JState where
  sp : Spec := Spec.empty
  counter : Gen := 0
  limit : Nat := 0
  process : Bool := false
  pressure : Bool := false      -- an allocation failure / low memory was observed in this history

structure DState where
  cache : Option State := none
  j : JState := {}
  ist : Option IState := none     -- `i…` lines: model of cache_interface over the cache that `inew` builds

def parseOp (w : List String) : Option (Op × List String) :=
  match w with
  | "store" :: now :: k :: v :: ts :: d :: g :: ann =>
    match now.toInt?, parseHex k, parseVal v, parseTrigs ts, d.toInt?, parseGen g with
    | some now, some k, some v, some ts, some d, some g =>
      let nem : List Bool := match ann.find? (·.startsWith "nem=") with
        | some a => ((a.drop 4).toString.toList).map (· == '1')
        | none => []
      let env : StoreEnv :=
        { copyFails := ann.contains "copyfail"
          lateFails := if ann.contains "cleared" then some (ann.contains "bumped") else none
          lowMem := nem }
      some (.store now k v ts d g env, ann)
    | _, _, _, _, _, _ => none
  | ["fetch", now, k] =>
    match now.toInt?, parseHex k with
    | some now, some k => some (.fetch now k, [])
    | _, _ => none
  | ["rise", t] => (if t == "e" then some [] else parseHex t).map fun t => (.rise t, [])
  | ["remove", k] => (parseHex k).map fun k => (.remove k, [])
  | ["clear"] => some (.clear, [])
  | ["stats"] => some (.stats, [])
  | _ => none

def modelLine (st : DState) (w : List String) : DState × String :=
  match w with
  | "new" :: backend :: limit :: rest =>
    match limit.toNat?, backend, rest with
    | some l, "thread", [] => ({ st with cache := some (State.init l none) }, "ok | 0 0")
    | some l, "process", [mem] =>
      match mem.toNat? with
      | some m => ({ st with cache := some (State.init l (some (Gen.processSizeLimit m))) }, "ok | 0 0")
      | none => (st, "bad-op")
    | _, _, _ => (st, "bad-op")
  | _ =>
    match st.cache, parseOp w with
    | some s, some (op, ann) =>
      let (s', o) := step s op
      let extra := if ann.contains "copyfail" then " copyfail" else ""
      ({ st with cache := some s' }, s!"{outStr o}{extra} | {s'.size} {s'.trigCount}")
    | _, _ => (st, "bad-op")

/-! ### judge -/

def sameSet (a b : List Key) : Bool := a.all (b.contains ·) && b.all (a.contains ·)

def nodupB : List Key → Bool
  | [] => true
  | a :: l => !l.contains a && nodupB l

def splitAt (sep : String) (w : List String) : List String × List String :=
  (w.takeWhile (· ≠ sep), (w.dropWhile (· ≠ sep)).drop 1)

def judgeLine (limitClause : Bool) (st : DState) (w : List String) : DState × String :=
  let (implw, casew) := splitAt ";" w
  let (res, tailw) := splitAt "|" implw
  let j := st.j
  let j := if tailw.contains "lowmem" then { j with pressure := true } else j
  -- entry count within the limit (C08's clause; judged only in `JL` mode)
  let keysOk : Bool := match tailw with
    | k :: _ => (match k.toNat? with | some n => j.limit == 0 || n ≤ j.limit | none => false)
    | [] => false
  match casew with
  | "new" :: backend :: limit :: _ =>
    match limit.toNat? with
    | some l => ({ st with j := { limit := l, process := backend == "process" } }, if res == ["ok"] && tailw.take 2 == ["0", "0"] then "1" else "0 new")
    | none => (st, "0 bad-new")
  | _ =>
    match parseOp casew with
    | none => (st, "0 bad-case")
    | some (op, _) =>
      if limitClause && !keysOk then ({ st with j := j }, "0 size-exceeds-limit") else
      match op with
      | .store _ _ _ _ _ g _ =>
        let copyfail := res.contains "copyfail"
        let j := if copyfail then { j with pressure := true } else j
        let stampv : Option Gen := if copyfail then none else some (g.getD j.counter)
        let j := { j with sp := (Spec.step j.sp op stampv).1,
                          counter := if g.isNone && !copyfail then j.counter + 1 else j.counter }
        ({ st with j := j }, if res.head? == some "ok" then "1" else "0 store-answer")
      | .fetch now k =>
        let expect := Spec.fetch j.sp now k
        let verdict : String :=
          match res, expect with
          | ["miss"], .miss => "1"
          | ["miss"], .hit _ _ _ _ =>
            -- a live entry may be missing only if something can have evicted it
            if j.limit > 0 || j.pressure then "1" else "0 live-entry-not-found"
          | ["hit", v, ts, d, g], .hit v' ts' d' g' =>
            (match parseHex v, parseTrigs ts, d.toInt?, g.toNat? with
             | some v, some ts, some d, some g =>
               if v != v' then "0 stale-or-wrong-value"
               else if !(sameSet ts ts' && nodupB ts) then "0 wrong-trigger-set"
               else if d != d' then "0 wrong-deadline"
               else if !j.pressure && UInt64.ofNat g != g' then "0 wrong-generation"
               else "1"
             | _, _, _, _ => "0 unparsable-hit")
          | "hit" :: _, .miss => "0 hit-but-specification-misses"
          | _, _ => "0 fetch-answer"
        ({ st with j := j }, verdict)
      | _ =>
        let j := { j with sp := (Spec.step j.sp op none).1 }
        ({ st with j := j }, if res == ["ok"] then "1" else "0 answer")

/-! ### `i…` lines: the cache_interface model (`Iface.lean`) -/

def parseIOp (w : List String) : Option IOp :=
  match w with
  | ["iadd", t] => (if t == "e" then some [] else parseHex t).map .addTrigger
  | ["ifetch", now, k, nt] =>
    match now.toInt?, parseHex k with
    | some now, some k => some (.fetch now k (nt == "1"))
    | _, _ => none
  | ["istore", now, k, v, ts, timeout, nt] =>
    match now.toInt?, parseHex k, parseHex v, parseTrigs ts, timeout.toInt? with
    | some now, some k, some v, some ts, some tmo => some (.store now k v ts tmo (nt == "1"))
    | _, _, _, _, _ => none
  | ["iattach", id] => id.toNat?.map .attach
  | ["idetach", id] => id.toNat?.map .detach
  | ["ireset"] => some .reset
  | ["irise", t] => (if t == "e" then some [] else parseHex t).map .rise
  | ["iclear"] => some .clear
  | ["istats"] => some .stats
  | _ => none

def ioutStr : IOut → String
  | .miss => "miss"
  | .hit v => s!"hit {toHex v}"
  | .done => "ok"
  | .detached ts => s!"detached {trigsStr ts}"
  | .stats k t => s!"stats {k} {t}"

def itail (st : IState) : String := s!" | {st.cache.size} {st.cache.trigCount}"

/-- a settings value: `-` = key absent (`some none`), a number (`some (some n)`), anything else unparsable -/
def optNat (w : String) : Option (Option Nat) := if w == "-" then some none else w.toNat?.map some

def ifaceLine (ist : Option IState) (w : List String) : Option IState × String :=
  match w, ist with
  | ["inew", "thread", limit], _ =>
    -- the cache is built by cache_pool from the settings: configured cache.limit ("-" = absent) -> effective limit
    match optNat limit with
    | some l =>
      let st : IState := { cache := State.init (Gen.poolThreadLimit l) none }
      (some st, "ok" ++ itail st)
    | none => (ist, "bad-op")
  | ["inew", "process", limit, mem], _ =>
    match optNat limit, optNat mem with
    | some l, some m =>
      let st : IState := { cache := State.init (Gen.poolProcessLimit l m) (some (Gen.processSizeLimit (Gen.poolProcessBytes m))) }
      (some st, "ok" ++ itail st)
    | _, _ => (ist, "bad-op")
  | ["ipage", now, key, timeout, body, ops], some st =>
    match now.toInt?, parseHex key, timeout.toInt?, parseHex body with
    | some now, some key, some tmo, some body =>
      -- every request has its own http::context, hence its own cache_interface: empty trigger set, no recorders
      let pg : IState := { cache := st.cache }
      -- items in front of the marker `F` run before fetch_page (a prologue), the others between fetch_page and store_page
      let items : List String := if ops == "-" then [] else ops.splitOn ";"
      let hasF := items.contains "F"
      let preW : List (List String) := if hasF then (items.takeWhile (· != "F")).map (·.splitOn ":") else []
      let opw : List (List String) :=
        ((if hasF then (items.dropWhile (· != "F")).filter (· != "F") else items)).map (·.splitOn ":")
      let runOps := fun (start : IState × List String) (ws : List (List String)) =>
        ws.foldl (fun (acc : IState × List String) w =>
          match parseIOp w with
          | some op => let (s', o) := istep acc.1 op; (s', acc.2 ++ [ioutStr o])
          | none => (acc.1, acc.2 ++ ["bad-op"])) start
      let (pg0, outs0) := runOps (pg, []) preW
      let (pg1, o) := istep pg0 (.fetchPage now key false)
      match o with
      | .hit v => (some { st with cache := pg1.cache }, s!"cached {toHex v}" ++ itail pg1)
      | _ =>
        let (pg2, outs) := runOps (pg1, outs0) opw
        let (pg3, _) := istep pg2 (.storePage now key body tmo)
        (some { st with cache := pg3.cache },
          "built " ++ (if outs.isEmpty then "-" else ";".intercalate outs) ++ itail pg3)
    | _, _, _, _ => (ist, "bad-op")
  | _, some st =>
    match parseIOp w with
    | some op => let (st', o) := istep st op; (some st', ioutStr o ++ itail st')
    | none => (ist, "bad-op")
  | _, none => (ist, "bad-op")

/-- `@<i> <line>`: which worker process executes a line is irrelevant for a process-shared cache; `fork n` changes nothing -/
def stripWorker (w : List String) : List String :=
  match w with
  | a :: rest => if a.startsWith "@" then rest else if a == "fork" then ["stats"] else w
  | [] => []

def stepLine (st : DState) (line : String) : DState × String :=
  match stripWorker (words line) with
  | "J" :: rest => judgeLine false st rest
  | "JL" :: rest =>
    -- limit clause only (C08 under memory pressure): every other verdict of the C07 judge is ignored
    let (st', v) := judgeLine true st rest
    (st', if v == "0 size-exceeds-limit" || v == "0 bad-case" || v == "0 bad-new" then v else "1")
  | w =>
    if (w.head?.getD "").startsWith "i" then
      let (ist, o) := ifaceLine st.ist w
      ({ st with ist := ist }, o)
    else modelLine st w

end Cppcms.C07.Proto
