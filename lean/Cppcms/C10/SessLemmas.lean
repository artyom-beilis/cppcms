import Cppcms.C10.Sess
import Cppcms.C10.WireLemmas
/-!
# C10 — session opcodes: the wire codec is exact, and a saved session is loaded back
-/
namespace Cppcms.C10
open Cppcms Cppcms.C07

theorem sessFind_erase_self (sid : Bytes) (st : SessStore) : sessFind sid (sessErase sid st) = none := by
  induction st with
  | nil => rfl
  | cons r st ih =>
    obtain ⟨t, s, v⟩ := r
    simp only [sessErase, List.filter_cons]
    by_cases h : s = sid
    · simp only [h, ne_eq, not_true_eq_false, decide_false, Bool.false_eq_true, if_false]; exact ih
    · simp only [ne_eq, h, not_false_eq_true, decide_true, if_true, sessFind, if_false]; exact ih

theorem sessFind_insert_self (to : Time) (sid v : Bytes) (st : SessStore) (h : sessFind sid st = none) :
    sessFind sid (sessInsert to sid v st) = some (to, v) := by
  induction st with
  | nil => simp [sessInsert, sessFind]
  | cons r st ih =>
    obtain ⟨t, s, x⟩ := r
    simp only [sessFind] at h
    split at h
    · cases h
    · rename_i hs
      simp only [sessInsert]
      split
      · simp [sessFind]
      · simp only [sessFind, hs, if_false]; exact ih h

theorem sessFind_shortGc (now : Time) (sid : Bytes) (n : Nat) (st : SessStore) :
    sessFind sid (shortGc now n st) = sessFind sid st ∨ ∃ t v, sessFind sid st = some (t, v) ∧ t < now := by
  induction st generalizing n with
  | nil => cases n <;> exact Or.inl rfl
  | cons r st ih =>
    obtain ⟨t, s, x⟩ := r
    cases n with
    | zero => exact Or.inl rfl
    | succ n =>
      simp only [shortGc, sessFind]
      by_cases hexp : t < now
      · by_cases hs : s = sid
        · exact Or.inr ⟨t, x, if_pos hs, hexp⟩
        · rw [if_pos hexp, if_neg hs]; exact ih n
      · rw [if_neg hexp]; exact Or.inl rfl

theorem sessLoad_save (st : SessStore) (now now' : Time) (sid : Bytes) (to : Time) (v : Bytes) (h : ¬ to < now) :
    sessLoad (sessSave st now sid to v) now' sid = if to < now' then none else some (to, v) := by
  have hf := sessFind_insert_self to sid v _ (sessFind_erase_self sid st)
  unfold sessLoad sessSave
  rcases sessFind_shortGc now sid 5 (sessInsert to sid v (sessErase sid st)) with e | ⟨t, x, e, hexp⟩
  · rw [e, hf]
  · cases hf.symm.trans e; exact absurd hexp h

theorem sessLoad_remove (st : SessStore) (now now' : Time) (sid : Bytes) : sessLoad (sessRemove st now sid) now' sid = none := by
  unfold sessLoad sessRemove
  cases hf : sessFind sid st with
  | none => simp only [hf]
  | some p =>
    rcases sessFind_shortGc now sid 5 (sessErase sid st) with e | ⟨t, x, e, _⟩
    · simp only [e, sessFind_erase_self]
    · cases (sessFind_erase_self sid st).symm.trans e

theorem reqSessSave_exact (st : SessStore) (now : Time) (sid : Bytes) (to : Time) (v : Bytes)
    (hs : sid.length = Gen.sessSidLen) (hv : v.length + Gen.sessSidLen < 4294967296) (hd : inI64 to) :
    sessTransmit st now (reqSessSave sid to v) = (sessSave st now sid to v, replyOp Gen.opDone, []) := by
  have f : (reqSessSave sid to v).1.get Gen.wOpcode = Gen.opSessionSave ∧
      (reqSessSave sid to v).1.get Gen.wSize = v.length + Gen.sessSidLen ∧
      (reqSessSave sid to v).1.get64 Gen.wSessionSaveTimeout = toU64 to := by
    simp +decide only [reqSessSave, Hdr.put64, Hdr.get64, get_put_self, get_put_ne, length_put, length_zero,
      join64 _ (toU64_lt to), Nat.mod_eq_of_lt (show _ < u32 from hv), and_self]
  show sessHandle st now (reqSessSave sid to v).1 (List.take ((reqSessSave sid to v).1.get Gen.wSize) (sid ++ v)) = _
  simp only [sessHandle, f, if_true, ofI64_toU64 to hd]
  have e : List.take (v.length + Gen.sessSidLen) (sid ++ v) = sid ++ v :=
    List.take_of_length_le (by rw [List.length_append, hs]; omega)
  rw [if_neg (by omega), e, ← hs, List.take_left' rfl, List.drop_left' rfl]

theorem reqSess_fields (sid : Bytes) (hs : sid.length = Gen.sessSidLen) (opc : Nat) (ho : opc < u32) :
    ((Hdr.zero.put Gen.wOpcode opc).put Gen.wSize sid.length).get Gen.wOpcode = opc ∧
    ((Hdr.zero.put Gen.wOpcode opc).put Gen.wSize sid.length).get Gen.wSize = Gen.sessSidLen := by
  simp +decide only [get_put_self, get_put_ne, length_put, length_zero, hs, Nat.mod_eq_of_lt ho, and_self]

theorem reqSessLoad_exact (st : SessStore) (now : Time) (sid : Bytes) (hs : sid.length = Gen.sessSidLen)
    (hrec : ∀ t v, sessLoad st now sid = some (t, v) → v.length < 4294967296 ∧ inI64 t) :
    (sessTransmit st now (reqSessLoad sid)).1 = st ∧
    cliDecodeSessLoad (sessTransmit st now (reqSessLoad sid)).2.1 (sessTransmit st now (reqSessLoad sid)).2.2 =
      (match sessLoad st now sid with
       | none => none
       | some (t, v) => if t < 0 then none else some (t, v)) := by
  obtain ⟨f1, f2⟩ := reqSess_fields sid hs Gen.opSessionLoad (by decide)
  simp +decide only [sessTransmit, reqSessLoad, sessHandle, f1, f2, if_true, if_false, ne_eq, not_true_eq_false, ← hs,
    List.take_length]
  have hnd : cliDecodeSessLoad (replyOp Gen.opNoData) [] = none := by decide
  cases hl : sessLoad st now sid with
  | none => exact ⟨rfl, hnd⟩
  | some p =>
    obtain ⟨b1, b2⟩ := hrec p.1 p.2 hl
    simp only [Gen.sessLoadRejected]
    by_cases hneg : p.1 < 0
    · simp only [hneg, decide_true, if_true]
      exact ⟨trivial, hnd⟩
    · -- the reply carries the record: opcode, size and the 64-bit deadline are read back from the header just built
      simp +decide only [hneg, decide_false, Bool.false_eq_true, if_false, cliDecodeSessLoad, replyOp, Hdr.put64, Hdr.get64,
        get_put_self, get_put_ne, length_put, length_zero, join64 _ (toU64_lt p.1), Nat.mod_eq_of_lt (show _ < u32 from b1),
        if_true, List.take_length, ofI64_toU64 p.1 b2, and_self]

theorem reqSessRemove_exact (st : SessStore) (now : Time) (sid : Bytes) (hs : sid.length = Gen.sessSidLen) :
    (sessTransmit st now (reqSessRemove sid)).1 = sessRemove st now sid := by
  obtain ⟨f1, f2⟩ := reqSess_fields sid hs Gen.opSessionRemove (by decide)
  simp +decide only [sessTransmit, reqSessRemove, sessHandle, f1, f2, if_false, ne_eq, not_true_eq_false, ← hs,
    List.take_length]

end Cppcms.C10
