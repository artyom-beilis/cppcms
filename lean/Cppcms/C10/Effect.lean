import Cppcms.C07.Refine
import Cppcms.C10.Abstract
/-!
# C10 — what one client operation does to the cluster

Each operation of `cache_over_ip`, for any transport, is what it asks of the servers plus what it does to
the caller's L1 (`fetchOp_eq`, `storeOp_eq`, …).  Over the message-level transport server `i` performs the
projected C07 operation (`astep_servers`), an L1 keeps old entries or copies what the responsible server
holds (`L1Rel`, `astep_l1`), and a fetch answers the live entry of that server, or misses when none is live
(`fetchOp_out`), given that the caller's L1 holds no other entry under that entry's generation (`L1Coh`).
-/
namespace Cppcms.C10
open Cppcms Cppcms.C07

/-- the operations the servers are asked to perform: a store comes without generation, and the
server is not short of memory -/
def ServerOp : C07.Op → Prop
  | .store _ _ _ _ _ gen env => gen = none ∧ env = {}
  | _ => True

/-- the counter moves exactly at a performed store, whose entry carries its old value -/
theorem serverOp_generation (s : State) {op : C07.Op} (hop : ServerOp op) :
    match newEntry s op with
    | none => (C07.step s op).1.generation = s.generation
    | some (_, e) => e.gen = s.generation ∧ (C07.step s op).1.generation = s.generation + 1 := by
  cases op with
  | store now k v ts d gen env =>
    obtain ⟨rfl, rfl⟩ := hop
    cases store_cases s now k v ts d none {} with
    | dropped stamped _ eq =>
      simp only [newEntry, stamped, Option.map]
      exact (congrArg State.generation eq).trans (generation_deleteNode s k)
    | failed _ _ _ b late _ => cases late  -- here `env = {}`
    | performed stamped _ _ _ eq =>
      simp only [newEntry, stamped, Option.map]
      refine ⟨rfl, (congrArg State.generation eq).trans ?_⟩
      show (checkLimits (deleteNode s k) now []).generation + 1 = _
      unfold checkLimits
      rw [generation_checkLimitsLoop, generation_deleteNode]
  | _ => exact generation_step_nonstore s _ (by intros; simp)

/-- how an L1 may change from `l` to `l'` while the responsible server holds `src k` for `k` (`src` is always
`home cl`): an entry is kept, or copies `src` (`Copies`) -/
structure L1Rel (l l' : State) (src : Key → Option Entry) : Prop where
  inv : Inv l → Inv l'
  ent : ∀ k e, abs l' k = some e → abs l k = some e ∨
    ∃ es, src k = some es ∧ es.val = e.val ∧ es.deadline = e.deadline ∧ es.gen = e.gen ∧
      ∀ t ∈ backTrigs es.trigs, t ∈ e.trigs

theorem l1Rel_refl (l : State) (src : Key → Option Entry) : L1Rel l l src := ⟨id, fun _ _ h => Or.inl h⟩

theorem l1Rel_trans {l l' l'' : State} {src : Key → Option Entry} (h1 : L1Rel l l' src) (h2 : L1Rel l' l'' src) :
    L1Rel l l'' src :=
  ⟨fun h => h2.inv (h1.inv h), fun k e he => (h2.ent k e he).elim (h1.ent k e) Or.inr⟩

/-- the operations an L1 sees: anything but a store, or a store of a copy of what the responsible
server answered, under the server's generation -/
def L1Op (src : Key → Option Entry) : C07.Op → Prop
  | .store _ k v tags d gen _ => ∃ g ts, gen = some g ∧ src k = some ⟨v, ts, d, g⟩ ∧ ∀ t ∈ backTrigs ts, t ∈ tags
  | _ => True

theorem l1Rel_step {l : State} (h : Inv l) {src : Key → Option Entry} {op : C07.Op} (hop : L1Op src op) :
    L1Rel l (C07.step l op).1 src := by
  refine ⟨fun h => inv_step h op, fun k' e he => (entries_step h op he).imp_right fun h1 => ?_⟩
  cases op with
  | store now k v tags d gen env =>
    obtain ⟨g, ts, rfl, hsrc, htags⟩ := hop
    cases store_cases l now k v tags d (some g) env with
    | dropped stamped _ _ => simp [newEntry, stamped] at h1
    | failed stamped _ _ _ _ _ => simp [newEntry, stamped] at h1
    | performed stamped _ _ _ _ =>
      -- the new entry is the copy `hop` describes
      simp only [newEntry, stamped, Option.map_some, Option.some.injEq, Prod.mk.injEq, Option.getD_some] at h1
      obtain ⟨rfl, rfl⟩ := h1
      exact ⟨_, hsrc, rfl, rfl, rfl, fun t ht => mem_ownTrigs.mpr (Or.inr (htags t ht))⟩
  | _ => cases h1

/-- the entries of server `i` -/
def sabs (cl : Cluster) (i : Nat) : C07.Spec :=
  match cl.servers[i]? with
  | some s => abs s
  | none => C07.Spec.empty

/-- the entries of client `c`'s L1 -/
def labs (cl : Cluster) (c : Nat) : C07.Spec :=
  match cl.l1 c with
  | some l => abs l
  | none => C07.Spec.empty

/-- the entry the responsible server holds for `k` -/
def home (cl : Cluster) (k : Key) : Option Entry := sabs cl (shard cl.servers.length k) k

theorem shard_lt (n : Nat) (k : Key) (h : 0 < n) : shard n k < n := by
  unfold shard Gen.hashFinish
  split
  · omega
  · exact Nat.mod_lt _ h

theorem sabs_of {cl : Cluster} {i : Nat} {s : State} (h : cl.servers[i]? = some s) : sabs cl i = abs s := by
  simp [sabs, h]

theorem sabs_some {cl : Cluster} {i : Nat} {k : Key} {e : Entry} (h : sabs cl i k = some e) :
    ∃ s, cl.servers[i]? = some s ∧ abs s k = some e := by
  unfold sabs at h
  cases hs : cl.servers[i]? with
  | none => rw [hs] at h; cases h
  | some s => rw [hs] at h; exact ⟨s, rfl, h⟩

theorem setServer_l1 (cl : Cluster) (i : Nat) (s : State) (c : Nat) : (cl.setServer i s).l1 c = cl.l1 c := rfl

theorem setL1_servers (cl : Cluster) (c : Nat) (l : State) : (cl.setL1 c l).servers = cl.servers := rfl

theorem setL1_l1 (cl : Cluster) (c : Nat) (l : State) (c' : Nat) :
    (cl.setL1 c l).l1 c' = if c = c' ∧ c < cl.l1s.length then some l else cl.l1 c' := by
  simp only [Cluster.setL1, Cluster.l1, List.getD_eq_getElem?_getD, List.getElem?_set]
  by_cases h : c = c'
  · subst h
    by_cases h2 : c < cl.l1s.length <;> simp [h2]
  · simp [h]

theorem set_eq_modify {α : Type} {l : List α} {i : Nat} {a : α} (h : l[i]? = some a) (f : α → α) :
    l.set i (f a) = l.modify i f := by
  obtain ⟨hlt, rfl⟩ := List.getElem?_eq_some_iff.mp h
  apply List.ext_getElem?
  intro j
  rw [List.getElem?_set, List.getElem?_modify]
  by_cases hij : i = j
  · subst hij; simp [hlt]
  · simp [hij]

section
variable (T : Transport)

/-- the L1 maintenance `cache_over_ip::{store,rise,clear}` start with: `op` on the caller's L1, if it
has one and the source makes the call (`b`) -/
def l1Maint (cl : Cluster) (c : Nat) (b : Bool) (op : C07.Op) : Cluster :=
  match cl.l1 c with
  | some l => if b then cl.setL1 c (C07.step l op).1 else cl
  | none => cl

theorem l1Maint_servers (cl : Cluster) (c : Nat) (b : Bool) (op : C07.Op) : (l1Maint cl c b op).servers = cl.servers := by
  unfold l1Maint
  split
  · split <;> rfl
  · rfl

theorem storeOp_eq (cl : Cluster) (c : Nat) (nowS : Time) (k : Key) (v : Val) (trigs : List Key) (d : Time) :
    storeOp T cl c nowS k v trigs d =
      match cl.servers[shard cl.servers.length k]? with
      | none => l1Maint cl c Gen.storeDropsL1 (.remove k)
      | some s => (l1Maint cl c Gen.storeDropsL1 (.remove k)).setServer (shard cl.servers.length k) (T.store s nowS k v trigs d) := by
  unfold storeOp l1Maint
  cases cl.l1 c with
  | none => rfl
  | some l => cases Gen.storeDropsL1 <;> rfl

theorem riseOp_eq (cl : Cluster) (c : Nat) (t : Key) :
    riseOp T cl c t = { l1Maint cl c Gen.riseAppliesL1 (.rise t) with servers := cl.servers.map fun s => T.rise s t } := by
  unfold riseOp l1Maint
  cases cl.l1 c with
  | none => rfl
  | some l => cases Gen.riseAppliesL1 <;> rfl

theorem clearOp_eq (cl : Cluster) (c : Nat) :
    clearOp T cl c = { l1Maint cl c Gen.clearAppliesL1 .clear with servers := cl.servers.map T.clear } := by
  unfold clearOp l1Maint
  cases cl.l1 c with
  | none => rfl
  | some l => cases Gen.clearAppliesL1 <;> rfl

/-- what `cache_over_ip::fetch` asks the server: whether to send the trigger names, and the
generation of the L1's entry, if the L1 has one that has not expired -/
def fetchAsk (cl : Cluster) (c : Nat) (nowC : Time) (k : Key) (tags : Bool) : Bool × Option Gen :=
  match cl.l1 c with
  | none => (tags, none)
  | some l =>
    match (C07.step l (.fetch nowC k)).2 with
    | .hit _ _ _ gL => (true, some gL)
    | _ => (true, none)

/-- what it does with the server's answer `r`: the caller's L1 afterwards and the answer to the caller -/
def fetchTail (cl : Cluster) (c : Nat) (nowC : Time) (k : Key) (tags : Bool) (r : TcpRes) : Cluster × Out :=
  match cl.l1 c with
  | none =>
    match r with
    | .found v ts d g => (cl, .hit v ts d g)
    | _ => (cl, .miss)
  | some l =>
    match C07.step l (.fetch nowC k) with
    | (l1, .hit vL tL dL gL) =>
      match r with
      | .upToDate => (cl.setL1 c l1, .hit vL (if tags then tL else []) dL gL)
      | .notFound => (cl.setL1 c (if Gen.notFoundPurgesL1 then (C07.step l1 (.remove k)).1 else l1), .miss)
      | .found v ts d g =>
        (cl.setL1 c (C07.step l1 (.store nowC k v (tL ++ ts) d (some g))).1, .hit v (if tags then tL ++ ts else []) d g)
    | (l1, _) =>
      match r with
      | .found v ts d g => (cl.setL1 c (C07.step l1 (.store nowC k v ts d (some g))).1, .hit v (if tags then ts else []) d g)
      | _ => (cl.setL1 c l1, .miss)

theorem fetchOp_eq (cl : Cluster) (c : Nat) (nowC nowS : Time) (k : Key) (tags : Bool) :
    fetchOp T cl c nowC nowS k tags =
      match cl.servers[shard cl.servers.length k]? with
      | none => (cl, .miss)
      | some s =>
        let sr := T.fetch s nowS k (fetchAsk cl c nowC k tags).1 (fetchAsk cl c nowC k tags).2
        let p := fetchTail cl c nowC k tags sr.2
        (p.1.setServer (shard cl.servers.length k) sr.1, p.2) := by
  unfold fetchOp fetchAsk fetchTail
  generalize T.fetch = F
  simp only []
  cases cl.servers[shard cl.servers.length k]? with
  | none => rfl
  | some s =>
    cases cl.l1 c with
    | none =>
      simp only
      rcases F s nowS k tags none with ⟨s', r⟩
      cases r <;> rfl
    | some l =>
      simp only
      rcases C07.step l (.fetch nowC k) with ⟨l1, lo⟩
      cases lo with
      | hit vL tL dL gL =>
        simp only
        rcases F s nowS k true (some gL) with ⟨s', r⟩
        cases r <;> rfl
      | _ =>
        simp only
        rcases F s nowS k true none with ⟨s', r⟩
        cases r <;> rfl

theorem fetchTail_servers (cl : Cluster) (c : Nat) (nowC : Time) (k : Key) (tags : Bool) (r : TcpRes) :
    (fetchTail cl c nowC k tags r).1.servers = cl.servers := by
  unfold fetchTail
  repeat' split
  all_goals rfl

theorem fetchOp_servers (cl : Cluster) (c : Nat) (nowC nowS : Time) (k : Key) (tags : Bool) :
    (fetchOp T cl c nowC nowS k tags).1.servers = cl.servers.modify (shard cl.servers.length k) fun s =>
      (T.fetch s nowS k (fetchAsk cl c nowC k tags).1 (fetchAsk cl c nowC k tags).2).1 := by
  rw [fetchOp_eq]
  cases hs : cl.servers[shard cl.servers.length k]? with
  | none => exact (List.modify_eq_self (List.getElem?_eq_none_iff.mp hs)).symm
  | some s =>
    exact (congrArg (List.set · _ _) (fetchTail_servers ..)).trans (set_eq_modify hs fun s => (T.fetch s nowS k _ _).1)

theorem storeOp_servers (cl : Cluster) (c : Nat) (nowS : Time) (k : Key) (v : Val) (trigs : List Key) (d : Time) :
    (storeOp T cl c nowS k v trigs d).servers =
      cl.servers.modify (shard cl.servers.length k) fun s => T.store s nowS k v trigs d := by
  rw [storeOp_eq]
  cases hs : cl.servers[shard cl.servers.length k]? with
  | none => exact (l1Maint_servers ..).trans (List.modify_eq_self (List.getElem?_eq_none_iff.mp hs)).symm
  | some s =>
    exact (congrArg (List.set · _ _) (l1Maint_servers ..)).trans (set_eq_modify hs fun s => T.store s nowS k v trigs d)

end

/-- what a client operation asks of server `i` (of `n`) -/
def projOp (n i : Nat) : Op → Option C07.Op
  | .fetch _ _ nowS k _ => if shard n k = i then some (.fetch nowS k) else none
  | .store _ nowS k v trigs d => if shard n k = i then storeOpOf nowS k v trigs d else none
  | .rise _ t => some (.rise t)
  | .clear _ => some .clear
  | .remove _ _ => none
  | .stats _ => none

def applyProj (o : Option C07.Op) (s : State) : State :=
  match o with
  | some op => (C07.step s op).1
  | none => s

theorem aFetch_fst (s : State) (now : Time) (k : Key) (t : Bool) (cur : Option Gen) :
    (aFetch s now k t cur).1 = (C07.step s (.fetch now k)).1 := by
  unfold aFetch
  split
  · rename_i h; split <;> simp [h]
  · rename_i h; simp [h]

theorem astep_servers (cl : Cluster) (op : Op) (i : Nat) :
    (astep cl op).1.servers[i]? = (cl.servers[i]?).map (applyProj (projOp cl.servers.length i op)) := by
  cases op with
  | fetch c nowC nowS k t =>
    show (fetchOp absT cl c nowC nowS k t).1.servers[i]? = _
    simp only [fetchOp_servers, absT, aFetch_fst, List.getElem?_modify, projOp]
    split <;> rfl
  | store c nowS k v trigs d =>
    show (storeOp absT cl c nowS k v trigs d).servers[i]? = _
    simp only [storeOp_servers, absT, List.getElem?_modify, projOp, aStore]
    split
    · cases storeOpOf nowS k v trigs d <;> rfl
    · rfl
  | rise c t => exact (congrArg (·.servers[i]?) (riseOp_eq absT cl c t)).trans List.getElem?_map
  | clear c => exact (congrArg (·.servers[i]?) (clearOp_eq absT cl c)).trans List.getElem?_map
  | remove c k => exact Option.map_id'.symm
  | stats c => exact Option.map_id'.symm

theorem astep_length (cl : Cluster) (op : Op) : (astep cl op).1.servers.length = cl.servers.length := by
  cases op with
  | fetch c nowC nowS k t => exact (congrArg List.length (fetchOp_servers absT ..)).trans (List.length_modify ..)
  | store c nowS k v trigs d => exact (congrArg List.length (storeOp_servers absT ..)).trans (List.length_modify ..)
  | rise c t => exact (congrArg (·.servers.length) (riseOp_eq absT cl c t)).trans (List.length_map _)
  | clear c => exact (congrArg (·.servers.length) (clearOp_eq absT cl c)).trans (List.length_map _)
  | remove c k => rfl
  | stats c => rfl

structure CInvs (cl : Cluster) : Prop where
  srv : ∀ (i : Nat) (s : State), cl.servers[i]? = some s → C07.Inv s
  l1 : ∀ (c : Nat) (l : State), cl.l1 c = some l → C07.Inv l

structure L1Only (cl cl1 : Cluster) : Prop where
  servers : cl1.servers = cl.servers
  l1 : ∀ c l', cl1.l1 c = some l' → ∃ l, cl.l1 c = some l ∧ L1Rel l l' (home cl)

theorem l1Only_refl (cl : Cluster) : L1Only cl cl :=
  ⟨rfl, fun _ l' h => ⟨l', h, l1Rel_refl _ _⟩⟩

theorem l1Only_setL1 {cl : Cluster} {c : Nat} {l l' : State} (hl : cl.l1 c = some l) (hr : L1Rel l l' (home cl)) :
    L1Only cl (cl.setL1 c l') := by
  refine ⟨rfl, fun c' l'' h => ?_⟩
  rw [setL1_l1] at h
  split at h
  · rename_i hc
    cases h
    exact ⟨l, hc.1 ▸ hl, hr⟩
  · exact ⟨l'', h, l1Rel_refl _ _⟩

theorem l1Only_maint {cl : Cluster} (hi : CInvs cl) (c : Nat) (b : Bool) {op : C07.Op} (hop : L1Op (home cl) op) :
    L1Only cl (l1Maint cl c b op) := by
  unfold l1Maint
  cases hl : cl.l1 c with
  | none => exact l1Only_refl cl
  | some l =>
    simp only
    split
    · exact l1Only_setL1 hl (l1Rel_step (hi.l1 c l hl) hop)
    · exact l1Only_refl cl

/-- the L1 entry `e` copies the server's `es`: the conjunction `L1Rel.ent` spells out -/
structure Copies (es e : Entry) : Prop where
  val : es.val = e.val
  deadline : es.deadline = e.deadline
  gen : es.gen = e.gen
  trigs : ∀ t ∈ backTrigs es.trigs, t ∈ e.trigs

/-- an L1 entry under the generation of the entry the responsible server holds now is a copy of it -/
def L1Coh (cl : Cluster) (c : Nat) (k : Key) : Prop :=
  ∀ eL es, labs cl c k = some eL → home cl k = some es → es.gen = eL.gen → Copies es eL

/-- the answer `out` to a fetch of `k` is the live entry the responsible server holds, or a miss and it holds no live one -/
inductive Served (cl : Cluster) (nowS : Time) (k : Key) (tags : Bool) (out : Out) : Prop where
  | hit (e : Entry) (ts : List Key) (held : home cl k = some e) (live : ¬ e.deadline < nowS)
      (out_eq : out = .hit e.val ts e.deadline e.gen) (names : tags = true → ∀ t ∈ backTrigs e.trigs, t ∈ ts)
  | miss (out_eq : out = .miss) (dead : ∀ e, home cl k = some e → e.deadline < nowS)

/-- what `cache_over_ip::fetch` makes of the answer of the responsible server `s` (`p`: cluster and answer to the
caller): `L1Only` holds of the new cluster; under `L1Coh` the caller gets the server's value, deadline and
generation, also when the L1's own entry is handed out -/
theorem fetchTail_spec {cl : Cluster} (hi : CInvs cl) (c : Nat) (nowC nowS : Time) (k : Key) (tags : Bool) {s : State}
    (hs : cl.servers[shard cl.servers.length k]? = some s) :
    let p := fetchTail cl c nowC k tags (aFetch s nowS k (fetchAsk cl c nowC k tags).1 (fetchAsk cl c nowC k tags).2).2
    L1Only cl p.1 ∧
    (L1Coh cl c k →
      match (C07.step s (.fetch nowS k)).2 with
      | .hit v ts d g => ∃ ts', p.2 = .hit v ts' d g ∧ (tags = true → ∀ t ∈ backTrigs ts, t ∈ ts')
      | _ => p.2 = .miss) := by
  have hhome : home cl k = abs s k := by rw [home, sabs_of hs]
  obtain ⟨s', o, hst⟩ : ∃ s' o, C07.step s (.fetch nowS k) = (s', o) := ⟨_, _, rfl⟩
  cases hl : cl.l1 c with
  | none =>
    cases o with
    | hit v0 ts0 d0 g0 =>
      simp only [fetchAsk, fetchTail, aFetch, hl, hst, reduceCtorEq, if_false]
      exact ⟨l1Only_refl cl, fun _ => ⟨_, rfl, fun ht t hm => by simpa [ht] using hm⟩⟩
    | _ =>
      simp only [fetchTail, aFetch, hl, hst]
      exact ⟨l1Only_refl cl, fun _ => trivial⟩
  | some l =>
    have hlinv := hi.l1 c l hl
    obtain ⟨l1, lo, hlf⟩ : ∃ l1 lo, C07.step l (.fetch nowC k) = (l1, lo) := ⟨_, _, rfl⟩
    have hrel1 : L1Rel l l1 (home cl) := by
      have := l1Rel_step hlinv (src := home cl) (op := .fetch nowC k) trivial
      rwa [hlf] at this
    have hl1inv := hrel1.inv hlinv
    -- the server's entry goes into the L1, on top of the names `tL` the L1 reported
    have found : ∀ {v0 ts0 d0 g0} (tL : List Key), C07.step s (.fetch nowS k) = (s', Out.hit v0 ts0 d0 g0) →
        L1Only cl (cl.setL1 c (C07.step l1 (.store nowC k v0 (tL ++ backTrigs ts0) d0 (some g0))).1) := by
      intro v0 ts0 d0 g0 tL h0
      exact l1Only_setL1 hl (l1Rel_trans hrel1 (l1Rel_step hl1inv
        ⟨g0, ts0, rfl, hhome.trans (fetch_hit_iff.mp (congrArg Prod.snd h0)).1, fun t hm => List.mem_append_right _ hm⟩))
    cases lo with
    | hit vL tL dL gL =>
      -- L1 hit: the server is asked with the generation `gL`
      cases o with
      | hit v0 ts0 d0 g0 =>
        simp only [fetchAsk, fetchTail, aFetch, hl, hlf, hst, Option.some.injEq]
        by_cases hg : gL = g0
        · -- `uptodate`: the L1's entry is handed out; by `L1Coh` it copies the server's
          subst hg
          simp only [if_true]
          refine ⟨l1Only_setL1 hl hrel1, fun hc => ?_⟩
          have hcopy : Copies ⟨v0, ts0, d0, gL⟩ ⟨vL, tL, dL, gL⟩ := hc _ _
            (by simp [labs, hl, (fetch_hit_iff.mp (congrArg Prod.snd hlf)).1])
            (hhome.trans (fetch_hit_iff.mp (congrArg Prod.snd hst)).1) rfl
          cases hcopy.val
          cases hcopy.deadline
          exact ⟨_, rfl, fun ht t hm => by simpa [ht] using hcopy.trigs t hm⟩
        · -- another generation: the server's entry is answered and replaces the L1's
          simp only [hg, if_false]
          exact ⟨found tL hst, fun _ => ⟨_, rfl, fun ht t hm => by simpa [ht] using Or.inr hm⟩⟩
      | _ =>
        -- the server has nothing live: miss
        simp only [fetchTail, aFetch, hl, hlf, hst]
        refine ⟨l1Only_setL1 hl ?_, fun _ => trivial⟩
        split
        · exact l1Rel_trans hrel1 (l1Rel_step hl1inv (op := .remove k) trivial)
        · exact hrel1
    | _ =>
      -- L1 miss: plain fetch; a hit is copied into the L1
      cases o with
      | hit v0 ts0 d0 g0 =>
        simp only [fetchAsk, fetchTail, aFetch, hl, hlf, hst, reduceCtorEq, if_false]
        exact ⟨found [] hst, fun _ => ⟨_, rfl, fun ht t hm => by simpa [ht] using hm⟩⟩
      | _ =>
        simp only [fetchTail, aFetch, hl, hlf, hst]
        exact ⟨l1Only_setL1 hl hrel1, fun _ => trivial⟩

theorem fetchOp_out {cl : Cluster} (hi : CInvs cl) (c : Nat) (nowC nowS : Time) (k : Key) (tags : Bool) (hc : L1Coh cl c k) :
    Served cl nowS k tags (fetchOp absT cl c nowC nowS k tags).2 := by
  rw [fetchOp_eq]
  cases hs : cl.servers[shard cl.servers.length k]? with
  | none => exact .miss rfl fun e he => by simp [home, sabs, hs, C07.Spec.empty] at he
  | some s =>
    have hout := (fetchTail_spec hi c nowC nowS k tags hs).2 hc
    have hhome : home cl k = abs s k := by rw [home, sabs_of hs]
    split at hout
    · rename_i v ts d g hhit
      obtain ⟨hheld, hlive⟩ := fetch_hit_iff.mp hhit
      obtain ⟨ts', hout, hnames⟩ := hout
      exact .hit _ ts' (hhome.trans hheld) hlive hout hnames
    · rename_i hno
      exact .miss hout fun e he => Classical.byContradiction fun hl =>
        hno _ _ _ _ (fetch_hit_iff.mpr ⟨hhome.symm.trans he, hl⟩)

theorem projOp_store {n i : Nat} {op : Op} {now : Time} {k : Key} {v : Val} {ts : List Key} {d : Time} {gen : Option Gen}
    {env : StoreEnv} (h : projOp n i op = some (.store now k v ts d gen env)) :
    ∃ c trigs, op = .store c now k v trigs d ∧ wireTrigs trigs = some ts ∧ gen = none ∧ env = {} := by
  cases op with
  | store c nowS k' v' trigs d' =>
    simp only [projOp, storeOpOf] at h
    split at h
    · split at h
      · cases h
      · obtain ⟨ts', hw, h6⟩ := Option.map_eq_some_iff.mp h
        cases h6
        exact ⟨c, trigs, rfl, hw, rfl, rfl⟩
    · cases h
  | fetch c a b k' t => simp only [projOp] at h; split at h <;> cases h
  | _ => cases h

theorem projOp_serverOp {n i : Nat} {op : Op} {o : C07.Op} (h : projOp n i op = some o) : ServerOp o := by
  cases o with
  | store now k v ts d gen env =>
    obtain ⟨_, _, _, _, rfl, rfl⟩ := projOp_store h
    exact ⟨rfl, rfl⟩
  | _ => trivial

theorem astep_l1 {cl : Cluster} (hi : CInvs cl) (op : Op) (c : Nat) (l' : State) (hl' : (astep cl op).1.l1 c = some l') :
    ∃ l, cl.l1 c = some l ∧ L1Rel l l' (home cl) := by
  suffices h : ∃ cl1, L1Only cl cl1 ∧ (astep cl op).1.l1s = cl1.l1s by
    obtain ⟨cl1, h1, h2⟩ := h
    exact h1.l1 c l' (by rw [Cluster.l1, ← h2]; exact hl')
  cases op with
  | fetch c nowC nowS k t =>
    show ∃ cl1, L1Only cl cl1 ∧ (fetchOp absT cl c nowC nowS k t).1.l1s = cl1.l1s
    rw [fetchOp_eq]
    cases hs : cl.servers[shard cl.servers.length k]? with
    | none => exact ⟨cl, l1Only_refl cl, rfl⟩
    | some s => exact ⟨_, (fetchTail_spec hi c nowC nowS k t hs).1, rfl⟩
  | store c nowS k v trigs d =>
    refine ⟨_, l1Only_maint hi c Gen.storeDropsL1 (op := .remove k) trivial, ?_⟩
    show (storeOp absT cl c nowS k v trigs d).l1s = _
    rw [storeOp_eq]
    split <;> rfl
  | rise c t =>
    exact ⟨_, l1Only_maint hi c Gen.riseAppliesL1 (op := .rise t) trivial, congrArg (·.l1s) (riseOp_eq absT cl c t)⟩
  | clear c =>
    exact ⟨_, l1Only_maint hi c Gen.clearAppliesL1 (op := .clear) trivial, congrArg (·.l1s) (clearOp_eq absT cl c)⟩
  | remove c k => exact ⟨cl, l1Only_refl cl, rfl⟩
  | stats c => exact ⟨cl, l1Only_refl cl, rfl⟩

theorem cinvs_astep {cl : Cluster} (hi : CInvs cl) (op : Op) : CInvs (astep cl op).1 := by
  refine ⟨fun i s' h => ?_, fun c l' h => ?_⟩
  · rw [astep_servers] at h
    obtain ⟨s, hs, rfl⟩ := Option.map_eq_some_iff.mp h
    unfold applyProj
    split
    · exact inv_step (hi.srv i s hs) _
    · exact hi.srv i s hs
  · obtain ⟨l, hl, hr⟩ := astep_l1 hi op c l' h
    exact hr.inv (hi.l1 c l hl)

end Cppcms.C10
