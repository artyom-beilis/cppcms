import Cppcms.C10.TrigLemmas
import Cppcms.C07.Refine
/-!
# C10 — the wire codec: byte image of frames, header fields, codec = message-level transport

Every header the code sends is `Hdr.zero` after some field assignments; a field reads back what was
assigned to it last (`get_put`), which is decided on the generated word indices, so the proofs follow
a change of the layout in `Gen.lean`.  Within the size bounds (`uint32_t` fields, `int` loop counters,
`int64_t` deadlines) each exchange is what `Abstract.lean` says (`tcpStore_eq`, `tcpFetch_eq`, …).
-/
namespace Cppcms.C10
open Cppcms Cppcms.C07

theorem rd32_le32 (w : Nat) (hw : w < 4294967296) (rest : Bytes) : rd32 (le32 w ++ rest) = w := by
  simp only [le32, List.cons_append, List.nil_append, rd32, UInt8.toNat_ofNat', Nat.mod_mod]
  omega

theorem toBytes_cons (w : Nat) (h : Hdr) : Hdr.toBytes (w :: h) = le32 w ++ Hdr.toBytes h := rfl

theorem length_toBytes (h : Hdr) : h.toBytes.length = 4 * h.length := by
  induction h with
  | nil => rfl
  | cons w h ih => rw [toBytes_cons, List.length_append, ih, List.length_cons]; show 4 + _ = _; omega

theorem rdWords_toBytes (h : Hdr) (hw : ∀ w ∈ h, w < 4294967296) (rest : Bytes) :
    (List.range h.length).map (fun i => rd32 ((h.toBytes ++ rest).drop (4 * i))) = h := by
  induction h with
  | nil => rfl
  | cons w h ih =>
    rw [List.length_cons, List.range_succ_eq_map, List.map_cons, List.map_map, toBytes_cons, List.append_assoc]
    congr 1
    · exact rd32_le32 w (hw w (by simp)) _
    · -- the other words lie behind the four bytes of `w`
      refine Eq.trans (List.map_congr_left fun i _ => ?_) (ih fun x hx => hw x (by simp [hx]))
      show rd32 (List.drop (4 * (i + 1)) (le32 w ++ _)) = _
      rw [Nat.mul_succ, Nat.add_comm, ← List.drop_drop]
      rfl

/-- a frame as the code builds it: a full header of 32-bit words whose `size` is the payload length -/
structure FrameWF (h : Hdr) (data : Bytes) : Prop where
  len : h.length = Gen.hdrWords
  words : ∀ w ∈ h, w < 4294967296
  size : h.get Gen.wSize = data.length

theorem FrameWF.ofBytes {h : Hdr} {data : Bytes} (hf : FrameWF h data) (rest : Bytes) :
    Hdr.ofBytes (h.toBytes ++ rest) = h := by
  unfold Hdr.ofBytes
  rw [← hf.len]
  exact rdWords_toBytes h hf.words rest

theorem FrameWF.length_toBytes {h : Hdr} {data : Bytes} (hf : FrameWF h data) : h.toBytes.length = Gen.hdrBytes := by
  rw [C10.length_toBytes, hf.len]; rfl

theorem length_put (h : Hdr) (i v : Nat) : (h.put i v).length = h.length := List.length_set

theorem length_zero : Hdr.zero.length = Gen.hdrWords := List.length_replicate

theorem get_zero (j : Nat) : Hdr.zero.get j = 0 := by
  simp only [Hdr.zero, Hdr.get, List.getD_eq_getElem?_getD, List.getElem?_replicate]
  split <;> rfl

theorem get_put (h : Hdr) (i j v : Nat) :
    (h.put i v).get j = if i = j ∧ i < h.length then v % u32 else h.get j := by
  by_cases hij : i = j
  · subst hij
    by_cases hl : i < h.length <;> simp [Hdr.put, Hdr.get, hl]
  · simp [Hdr.put, Hdr.get, hij]

theorem get_put_self {h : Hdr} {i : Nat} (hi : i < h.length) (v : Nat) : (h.put i v).get i = v % u32 := by
  rw [get_put, if_pos ⟨rfl, hi⟩]

theorem get_put_ne {h : Hdr} {i j : Nat} (hij : i ≠ j) (v : Nat) : (h.put i v).get j = h.get j := by
  rw [get_put, if_neg fun h => hij h.1]

/-- `FrameWF` without the payload; kept by every field assignment -/
structure HdrWF (h : Hdr) : Prop where
  len : h.length = Gen.hdrWords
  words : ∀ w ∈ h, w < 4294967296

theorem hdrWF_zero : HdrWF Hdr.zero :=
  ⟨length_zero, fun w hw => by rw [List.eq_of_mem_replicate hw]; decide⟩

theorem hdrWF_put {h : Hdr} (hw : HdrWF h) (i v : Nat) : HdrWF (h.put i v) := by
  refine ⟨(length_put h i v).trans hw.len, fun w hm => ?_⟩
  rcases List.mem_or_eq_of_mem_set hm with h1 | h1
  · exact hw.words w h1
  · exact h1 ▸ Nat.mod_lt _ (by decide)

theorem hdrWF_put64 {h : Hdr} (hw : HdrWF h) (i v : Nat) : HdrWF (h.put64 i v) :=
  hdrWF_put (hdrWF_put hw _ _) _ _

theorem hdrWF_setBit {h : Hdr} (hw : HdrWF h) (i b : Nat) : HdrWF (h.setBit i b) := by
  unfold Hdr.setBit
  split
  · exact hw
  · exact hdrWF_put hw _ _

theorem hdrWF_replyOp (opc : Nat) : HdrWF (replyOp opc) := hdrWF_put hdrWF_zero _ _

theorem HdrWF.frame {h : Hdr} (hw : HdrWF h) {data : Bytes} (hs : h.get Gen.wSize = data.length) : FrameWF h data :=
  ⟨hw.len, hw.words, hs⟩

theorem HdrWF.frame_take {h : Hdr} (hw : HdrWF h) {b : Bytes} (hs : h.get Gen.wSize = b.length) :
    FrameWF h (b.take (h.get Gen.wSize)) :=
  hw.frame (by rw [hs, List.take_length])

def inI64 (d : Time) : Prop := -9223372036854775808 ≤ d ∧ d < 9223372036854775808

/-- (stated over `Int`: `omega` does not look through `Time`) -/
theorem ofI64_toU64 (d : Int) (h : -9223372036854775808 ≤ d ∧ d < 9223372036854775808) : ofI64 (toU64 d) = d := by
  unfold ofI64 toU64
  omega

theorem toU64_lt (d : Int) : toU64 d < 18446744073709551616 := by
  unfold toU64; omega

theorem join64 (n : Nat) (h : n < 18446744073709551616) : n % u32 % u32 + u32 * (n / u32 % u32) = n := by
  rw [Nat.mod_mod, Nat.mod_eq_of_lt (a := n / u32) (Nat.div_lt_of_lt_mul h), Nat.mod_add_div]

theorem srvHandle_fetch {s : State} {now : Time} {h : Hdr} {data : Bytes} (ho : h.get Gen.wOpcode = Gen.opFetch) :
    srvHandle s now h data = srvFetch s now h data := by
  simp only [srvHandle, ho, if_true]

theorem srvHandle_rise {s : State} {now : Time} {h : Hdr} {data : Bytes} (ho : h.get Gen.wOpcode = Gen.opRise) :
    srvHandle s now h data = ((C07.step s (.rise data)).1, replyOp Gen.opDone, []) := by
  simp +decide only [srvHandle, ho, if_true, if_false]

theorem srvHandle_store {s : State} {now : Time} {h : Hdr} {data : Bytes} (ho : h.get Gen.wOpcode = Gen.opStore) :
    srvHandle s now h data = srvStore s now h data := by
  simp +decide only [srvHandle, ho, if_true, if_false]

theorem reqStore_fields (k v : Bytes) (trigs : List Key) (d : Time) :
    (reqStore k v trigs d).1.get Gen.wOpcode = Gen.opStore ∧
    (reqStore k v trigs d).1.get Gen.wSize = (k ++ v ++ trigBytes (sortSet trigs)).length % u32 ∧
    (reqStore k v trigs d).1.get Gen.wStoreKeyLen = k.length % u32 ∧
    (reqStore k v trigs d).1.get Gen.wStoreDataLen = v.length % u32 ∧
    (reqStore k v trigs d).1.get Gen.wStoreTriggersLen = (trigBytes (sortSet trigs)).length % u32 ∧
    (reqStore k v trigs d).1.get64 Gen.wStoreTimeout = toU64 d := by
  -- every field is read through the later assignments (`get_put_ne`) back to its own (`get_put_self`)
  simp +decide only [reqStore, Hdr.put64, Hdr.get64, get_put_self, get_put_ne, length_put, length_zero,
    join64 _ (toU64_lt d), and_true]

theorem frameWF_reqStore (k v : Bytes) (trigs : List Key) (d : Time)
    (hsz : k.length + v.length + (trigBytes (sortSet trigs)).length < 4294967296) :
    FrameWF (reqStore k v trigs d).1 (reqStore k v trigs d).2 := by
  obtain ⟨_, hsize, _⟩ := reqStore_fields k v trigs d
  exact HdrWF.frame (hdrWF_put (hdrWF_put (hdrWF_put64 (hdrWF_put (hdrWF_put (hdrWF_put hdrWF_zero _ _) _ _) _ _) _ _) _ _) _ _)
    (hsize.trans (Nat.mod_eq_of_lt (by simpa only [List.length_append, u32] using hsz)))

theorem tcpStore_eq (s : State) (now : Time) (k v : Bytes) (trigs : List Key) (d : Time)
    (hsz : k.length + v.length + (trigBytes (sortSet trigs)).length < 2147483648) (hd : inI64 d) :
    tcpStore s now k v trigs d = aStore s now k v trigs d := by
  -- the lengths come back untruncated (`m`), `storeBad` comes down to `k = []` (`hbad`), the payload splits back
  -- into key, value and names (`e3`, the `rw` after `e4`; `e4`: `intLimit` is not reached)
  obtain ⟨hopc, hsize, hklen, hvlen, htlen, hdl⟩ := reqStore_fields k v trigs d
  have m : ∀ n, n ≤ k.length + v.length + (trigBytes (sortSet trigs)).length → n % u32 = n :=
    fun n hn => Nat.mod_eq_of_lt (by unfold u32; omega)
  rw [m _ (by simp only [List.length_append]; omega)] at hsize
  rw [m _ (by omega)] at hklen hvlen htlen
  show (srvHandle s now (reqStore k v trigs d).1
    (List.take ((reqStore k v trigs d).1.get Gen.wSize) (k ++ v ++ trigBytes (sortSet trigs)))).1 = _
  generalize (reqStore k v trigs d).1 = h at hopc hsize hklen hvlen htlen hdl ⊢
  simp only [srvHandle_store hopc, srvStore, hsize, hklen, hvlen, htlen, hdl, ofI64_toU64 d hd, List.take_length]
  have hbad : Gen.storeBad k.length v.length (trigBytes (sortSet trigs)).length (k ++ v ++ trigBytes (sortSet trigs)).length
      = decide (k = []) := by
    simp only [Gen.storeBad, Gen.storeLenSum, List.length_append]
    rw [Nat.mod_eq_of_lt (by omega)]
    cases k <;> simp
  have e3 : List.drop (k.length + v.length) (k ++ v ++ trigBytes (sortSet trigs)) = trigBytes (sortSet trigs) :=
    List.drop_left' (by simp)
  have e4 : srvLoadTriggers (trigBytes (sortSet trigs)) (trigBytes (sortSet trigs)).length = wireTrigs trigs :=
    if_neg (by simp only [Gen.intLimit]; omega)
  rw [hbad, e3, List.take_length, List.append_assoc, List.take_left' rfl, List.drop_left' rfl, List.take_left' rfl, e4]
  unfold aStore storeOpOf
  by_cases hk0 : k = []
  · simp [hk0]
  · simp only [hk0, decide_false, Bool.false_eq_true, if_false]
    cases wireTrigs trigs <;> rfl

/-- The two flags may share a word: which assignment a read sees is decided by `get_put` (not
`get_put_self`/`get_put_ne`) on the generated positions. -/
theorem reqFetch_fields (k : Key) (wantTags : Bool) (cur : Option Gen) :
    (reqFetch k wantTags cur).1.get Gen.wOpcode = Gen.opFetch ∧
    (reqFetch k wantTags cur).1.get Gen.wSize = k.length % u32 ∧
    (reqFetch k wantTags cur).1.bit Gen.wFetchTransferTriggers Gen.bitFetchTransferTriggers = wantTags ∧
    (reqFetch k wantTags cur).1.bit Gen.wFetchTransferIfNotUptodate Gen.bitFetchTransferIfNotUptodate = cur.isSome ∧
    (∀ g, cur = some g → (reqFetch k wantTags cur).1.get64 Gen.wFetchCurrentGen = g.toNat) := by
  -- in each of the four cases the header is closed but for `k.length` and the generation: every field read
  -- runs through the assignments (`get_put`), the flag bits come out by evaluation, the generation by `join64`
  cases cur <;> cases wantTags <;>
    simp +decide only [reqFetch, Hdr.setBit, Hdr.bit, Hdr.put64, Hdr.get64, get_put, length_put, length_zero, get_zero,
      join64 _ (UInt64.toNat_lt _), if_true, if_false, and_true, Option.isSome_none, Option.isSome_some,
      Option.some.injEq, forall_eq', reduceCtorEq, false_implies, implies_true]

/-- about `data.take size`, as `transmit_segmentation_independent` takes it (`frameWF_reqStore`: the untruncated payload) -/
theorem frameWF_reqFetch (k : Key) (t : Bool) (cur : Option Gen) (hk : k.length < 4294967296) :
    FrameWF (reqFetch k t cur).1 ((reqFetch k t cur).2.take ((reqFetch k t cur).1.get Gen.wSize)) := by
  obtain ⟨_, hsize, _⟩ := reqFetch_fields k t cur
  refine HdrWF.frame_take ?_ (hsize.trans (Nat.mod_eq_of_lt hk))
  have h0 : HdrWF (((Hdr.zero.put Gen.wOpcode Gen.opFetch).put Gen.wSize k.length).put Gen.wFetchKeyLen k.length) :=
    hdrWF_put (hdrWF_put (hdrWF_put hdrWF_zero _ _) _ _) _ _
  unfold reqFetch
  cases cur <;> cases t
  · exact h0
  · exact hdrWF_setBit h0 _ _
  · exact hdrWF_put64 (hdrWF_setBit h0 _ _) _ _
  · exact hdrWF_setBit (hdrWF_put64 (hdrWF_setBit h0 _ _) _ _) _ _

/-- `tcp_cache::fetch` reads back value, `int64_t` deadline and generation of a data reply of `session::fetch` below 2^31 bytes,
the names through `cliLoadTriggers` (the header is `srvFetch`'s) -/
theorem cliDecodeFetch_data (tinu : Bool) (v : Val) (tb : Bytes) (d : Time) (g : Gen)
    (hsz : v.length + tb.length < 2147483648) (hd : inI64 d) :
    let out := v ++ tb
    let hh := (replyOp Gen.opData).put Gen.wDataDataLen v.length
    let hh := hh.put Gen.wDataTriggersLen (out.length - hh.get Gen.wDataDataLen)
    let hh := hh.put Gen.wSize out.length
    let hh := hh.put64 Gen.wDataGeneration g.toNat
    let hh := hh.put64 Gen.wDataTimeout (toU64 d)
    cliDecodeFetch tinu hh (out.take (hh.get Gen.wSize)) = .found v (cliLoadTriggers tb tb.length) d g := by
  have m : ∀ n, n ≤ v.length + tb.length → n % u32 = n := fun n hn => Nat.mod_eq_of_lt (by unfold u32; omega)
  -- each read finds its assignment (`get_put_*`), the lengths are not truncated (`m`), the 64-bit halves rejoin
  simp +decide only [cliDecodeFetch, replyOp, Hdr.put64, Hdr.get64, get_put_self, get_put_ne, length_put, length_zero,
    join64 _ (toU64_lt d), join64 _ (UInt64.toNat_lt g), ofI64_toU64 d hd, List.length_append, m _ (Nat.le_add_right _ _),
    m _ (Nat.le_refl _), Nat.add_sub_cancel_left, m _ (Nat.le_add_left _ _), UInt64.ofNat_toNat,
    (by decide : (Gen.opData % u32 == Gen.opUptodate) = false), Bool.and_false, Bool.false_eq_true, if_false]
  rw [← List.length_append, List.take_length, List.take_left' rfl, List.drop_left' rfl, List.take_length]

/-- the entry fits a data reply; 2^31 is the `int` counter of the client's `strlen` loop -/
def EntrySmall (e : Entry) : Prop := e.val.length + namesSize e.trigs < 2147483648 ∧ inI64 e.deadline

theorem tcpFetch_eq (s : State) (now : Time) (k : Key) (wantTags : Bool) (cur : Option Gen) (hk : k.length < 4294967296)
    (hsm : ∀ e, abs s k = some e → EntrySmall e) : tcpFetch s now k wantTags cur = aFetch s now k wantTags cur := by
  obtain ⟨hopc, hsize, htags, htinu, hgen⟩ := reqFetch_fields k wantTags cur
  rw [Nat.mod_eq_of_lt (show _ < u32 from hk)] at hsize
  show (match srvHandle s now (reqFetch k wantTags cur).1 (List.take ((reqFetch k wantTags cur).1.get Gen.wSize) k) with
    | (s', rh, rdata) => (s', cliDecodeFetch cur.isSome rh rdata)) = _
  generalize (reqFetch k wantTags cur).1 = h at hopc hsize htags htinu hgen ⊢
  rw [srvHandle_fetch hopc, hsize, List.take_length]
  unfold srvFetch aFetch
  simp only [htags, htinu]
  rcases hst : C07.step s (.fetch now k) with ⟨s', o⟩
  cases o with
  | hit v ts d g =>
    obtain ⟨hs1, hs2⟩ := hsm _ (fetch_hit_iff.mp (congrArg Prod.snd hst)).1
    have hs3 := length_wire_le ts
    have hup : Gen.srvUpToDate cur.isSome g.toNat (h.get64 Gen.wFetchCurrentGen) = decide (cur = some g) := by
      cases cur with
      | none => rfl
      | some g0 =>
        rw [hgen g0 rfl]
        simp only [Gen.srvUpToDate, Option.isSome_some, Bool.true_and, beq_iff_eq, Option.some.injEq, ← UInt64.toNat_inj]
        exact decide_eq_decide.mpr eq_comm
    simp only [hup]
    by_cases hc : cur = some g
    · subst hc
      simp only [decide_true, if_true]
      rfl
    · simp only [hc, decide_false, Bool.false_eq_true, if_false]
      cases wantTags with
      | true =>
        refine congrArg _ ((cliDecodeFetch_data cur.isSome v (trigBytes (sortSet ts)) d g (by simp only at hs1; omega) hs2).trans ?_)
        unfold cliLoadTriggers backTrigs
        rw [if_neg (by simp only [Gen.intLimit]; simp only at hs1; omega)]
        rfl
      | false =>
        refine congrArg _ (Eq.trans ?_ (cliDecodeFetch_data cur.isSome v [] d g (by simp only [List.length_nil] at hs1 ⊢; omega) hs2))
        simp
  | _ => cases cur <;> rfl

theorem reqRise_fields (t : Key) :
    (reqRise t).1.get Gen.wOpcode = Gen.opRise ∧ (reqRise t).1.get Gen.wSize = t.length % u32 := by
  simp +decide only [reqRise, get_put_self, get_put_ne, length_put, length_zero, and_self]

theorem frameWF_reqRise (t : Key) (ht : t.length < 4294967296) :
    FrameWF (reqRise t).1 ((reqRise t).2.take ((reqRise t).1.get Gen.wSize)) :=
  HdrWF.frame_take (hdrWF_put (hdrWF_put (hdrWF_put hdrWF_zero _ _) _ _) _ _)
    ((reqRise_fields t).2.trans (Nat.mod_eq_of_lt ht))

theorem tcpRise_eq (s : State) (t : Key) (ht : t.length < 4294967296) : tcpRise s t = (C07.step s (.rise t)).1 := by
  show (srvHandle s 0 (reqRise t).1 (List.take ((reqRise t).1.get Gen.wSize) t)).1 = _
  rw [srvHandle_rise (reqRise_fields t).1, (reqRise_fields t).2, Nat.mod_eq_of_lt (show _ < u32 from ht), List.take_length]

/-- (`clear`, `stats`: codec and message level agree by computation) -/
theorem tcpClear_eq (s : State) : tcpClear s = (C07.step s .clear).1 := rfl

theorem tcpStats_eq (s : State) : tcpStats s = (s.size % u32, s.trigCount % u32) := rfl

def ReplyWF (r : State × Hdr × Bytes) : Prop := FrameWF r.2.1 r.2.2

theorem ReplyWF.ite {c : Prop} [Decidable c] {a b : State × Hdr × Bytes} (ha : ReplyWF a) (hb : ReplyWF b) :
    ReplyWF (if c then a else b) := by
  split <;> assumption

theorem replyWF_op (s : State) (opc : Nat) : ReplyWF (s, replyOp opc, []) :=
  (hdrWF_replyOp opc).frame (by simp +decide only [replyOp, get_put_ne, get_zero, List.length_nil])

theorem replyWF_srvFetch (s : State) (now : Time) (h : Hdr) (data : Bytes) : ReplyWF (srvFetch s now h data) := by
  unfold srvFetch
  rcases C07.step s (.fetch now data) with ⟨s', o⟩
  cases o with
  | hit v trigs d g =>
    refine .ite (replyWF_op _ _) (HdrWF.frame
      (hdrWF_put64 (hdrWF_put64 (hdrWF_put (hdrWF_put (hdrWF_put (hdrWF_replyOp _) _ _) _ _) _ _) _ _) _ _) ?_)
    simp +decide only [replyOp, Hdr.put64, get_put_self, get_put_ne, length_put, length_zero, List.length_take]
    exact (Nat.min_eq_left (Nat.mod_le _ _)).symm
  | _ => exact replyWF_op _ _

theorem replyWF_srvStore (s : State) (now : Time) (h : Hdr) (data : Bytes) : ReplyWF (srvStore s now h data) := by
  unfold srvStore
  refine .ite (replyWF_op _ _) ?_
  split <;> exact replyWF_op _ _

theorem frameWF_srvHandle (s : State) (now : Time) (h : Hdr) (data : Bytes) :
    FrameWF (srvHandle s now h data).2.1 (srvHandle s now h data).2.2 :=
  ReplyWF.ite (replyWF_srvFetch s now h data) <| .ite (replyWF_op _ _) <| .ite (replyWF_op _ _) <|
    .ite (replyWF_srvStore s now h data) <| .ite
      (HdrWF.frame (hdrWF_put (hdrWF_put (hdrWF_replyOp _) _ _) _ _)
        (by simp +decide only [replyOp, get_put_ne, get_zero, List.length_nil]))
      (replyWF_op _ _)

end Cppcms.C10
