import Cppcms.C10.Model
/-!
# C10 — message-level transport

The same client ↔ server conversations as `Wire.lean`, with the headers, length fields and
`uint32_t`/`int64_t` truncations abstracted away (`stats` keeps its `% u32`).  What is **kept** is the part of the codec that is
not the identity: trigger names are joined with NUL terminators and split again (`wireTrigs` on the
way to the server, `backTrigs` on the way back), and a store with an empty key is refused.

`Refine.step_eq_astep` shows that, as long as the sizes fit the header fields, the cluster model over
the real codec (`step = stepT wireT`) is *equal* to the cluster model over this transport
(`astep = stepT absT`); the coherence proofs are carried out on the latter.
-/
namespace Cppcms.C10
open Cppcms Cppcms.C07

/-- what `session::store` makes of the trigger set sent by `tcp_cache::store`
(`none`: `load_triggers` returned false, the store is answered with `error`) -/
def wireTrigs (trigs : List Key) : Option (List Key) :=
  loadAux Gen.trigRejected (trigBytes (sortSet trigs)) []

/-- what `tcp_cache::fetch` makes of an entry's trigger set sent by `session::fetch` -/
def backTrigs (trigs : List Key) : List Key :=
  (loadAux (fun _ => false) (trigBytes (sortSet trigs)) []).getD []

/-- the C07 operation a store request amounts to on the server (`none`: answered with `error`) -/
def storeOpOf (now : Time) (k : Key) (v : Val) (trigs : List Key) (d : Time) : Option C07.Op :=
  if k = [] then none else (wireTrigs trigs).map fun ts => C07.Op.store now k v ts d

def aStore (s : State) (now : Time) (k : Key) (v : Val) (trigs : List Key) (d : Time) : State :=
  match storeOpOf now k v trigs d with
  | none => s
  | some op => (C07.step s op).1

def aFetch (s : State) (now : Time) (k : Key) (wantTags : Bool) (cur : Option Gen) : State × TcpRes :=
  match C07.step s (.fetch now k) with
  | (s', .hit v trigs d g) =>
    if cur = some g then (s', .upToDate)
    else (s', .found v (if wantTags then backTrigs trigs else []) d g)
  | (s', _) => (s', .notFound)

def absT : Transport :=
  { fetch := aFetch
    store := aStore
    rise := fun s t => (C07.step s (.rise t)).1
    clear := fun s => (C07.step s .clear).1
    stats := fun s => (s.size % u32, s.trigCount % u32) }

/-- the cluster model over the message-level transport -/
def astep (cl : Cluster) (op : Op) : Cluster × Out := stepT absT cl op
def arun (cl : Cluster) (ops : List Op) : Cluster := runT absT cl ops

end Cppcms.C10
