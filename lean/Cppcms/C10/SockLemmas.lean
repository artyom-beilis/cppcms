import Cppcms.C10.Sock
import Cppcms.C10.WireLemmas
/-!
# C10 — receiving a frame does not depend on how TCP cuts the byte stream
-/
namespace Cppcms.C10
open Cppcms Cppcms.C07

theorem readSome_spec {cap : Nat} (hc : 0 < cap) (segs : Segs) :
    match readSome cap segs with
    | none => segs.flatten = []
    | some (g, r) => 0 < g.length ∧ g.length ≤ cap ∧ g ++ r.flatten = segs.flatten := by
  induction segs with
  | nil => rfl
  | cons s rest ih =>
    unfold readSome
    by_cases he : s.isEmpty
    · rw [if_pos he, List.isEmpty_iff.mp he]
      exact ih
    · have hs : 0 < s.length := List.length_pos_iff.mpr (by simpa using he)
      rw [if_neg he]
      by_cases hle : s.length ≤ cap
      · rw [if_pos hle]
        exact ⟨hs, hle, rfl⟩
      · rw [if_neg hle]
        refine ⟨?_, ?_, ?_⟩
        · rw [List.length_take]; omega
        · rw [List.length_take]; omega
        · rw [List.flatten_cons, List.flatten_cons, ← List.append_assoc, List.take_append_drop]

theorem readNAux_spec (fuel n : Nat) (segs : Segs) (hf : n ≤ fuel) (hn : n ≤ segs.flatten.length) :
    ∃ r, readNAux fuel n segs = some (segs.flatten.take n, r) ∧ r.flatten = segs.flatten.drop n := by
  induction fuel generalizing n segs with
  | zero =>
    cases Nat.le_zero.mp hf
    exact ⟨segs, rfl, rfl⟩
  | succ fuel ih =>
    cases n with
    | zero => exact ⟨segs, rfl, rfl⟩
    | succ n =>
      have hr := readSome_spec (Nat.succ_pos n) segs
      simp only [readNAux]
      split at hr
      · rw [hr] at hn; cases hn
      · rename_i g r heq
        obtain ⟨hg, hle, hcat⟩ := hr
        have hlen : segs.flatten.length = g.length + r.flatten.length := by rw [← hcat, List.length_append]
        obtain ⟨r', e1, e2⟩ := ih (n + 1 - g.length) r (by omega) (by omega)
        refine ⟨r', ?_, ?_⟩
        · simp only [heq, e1]
          rw [← hcat, List.take_append, List.take_of_length_le hle]
        · rw [e2, ← hcat, List.drop_append, List.drop_eq_nil_of_le hle, List.nil_append]

theorem readN_append {a b : Bytes} {segs : Segs} (hs : segs.flatten = a ++ b) :
    ∃ r, readN a.length segs = some (a, r) ∧ r.flatten = b := by
  obtain ⟨r, e, f⟩ := readNAux_spec a.length a.length segs (Nat.le_refl _) (by rw [hs, List.length_append]; omega)
  rw [hs, List.take_left' rfl] at e
  rw [hs, List.drop_left' rfl] at f
  exact ⟨r, e, f⟩

theorem recvFrame_spec (h : Hdr) (data : Bytes) (hf : FrameWF h data) (rest : Bytes) (segs : Segs)
    (hs : segs.flatten = frameBytes h data ++ rest) :
    ∃ r, recvFrame segs = some (h, data, r) ∧ r.flatten = rest := by
  obtain ⟨r1, e1, f1⟩ := readN_append (a := h.toBytes) (b := data ++ rest) (by rw [hs, frameBytes, List.append_assoc])
  rw [hf.length_toBytes] at e1
  unfold recvFrame
  simp only [e1, (by simpa using hf.ofBytes [] : Hdr.ofBytes h.toBytes = h), hf.size]
  split
  · obtain ⟨r2, e2, f2⟩ := readN_append f1
    exact ⟨r2, by rw [e2], f2⟩
  · rename_i hz
    cases List.eq_nil_of_length_eq_zero (Nat.eq_zero_of_not_pos hz)
    exact ⟨r1, rfl, f1⟩

theorem transmit_segmentation_independent (cutReq cutRep : Bytes → Segs)
    (h1 : ∀ b, (cutReq b).flatten = b) (h2 : ∀ b, (cutRep b).flatten = b)
    (s : State) (now : Time) (h : Hdr) (data : Bytes) (hf : FrameWF h (data.take (h.get Gen.wSize))) :
    transmitSeg cutReq cutRep s now h data = some (transmit s now h data) := by
  unfold transmitSeg transmit
  obtain ⟨r, e1, _⟩ := recvFrame_spec h _ hf [] _ (by rw [h1, List.append_nil])
  obtain ⟨r', e2, _⟩ := recvFrame_spec _ _ (frameWF_srvHandle s now h (data.take (h.get Gen.wSize))) [] _
    (by rw [h2, List.append_nil])
  simp only [e1, e2]

theorem chunksOf_flatten (n : Nat) (b : Bytes) : (chunksOf n b).flatten = b := by
  unfold chunksOf
  split
  · exact List.append_nil b
  · rename_i hn
    -- induction on the number of pieces, generalised over the string
    have key : ∀ (m : Nat) (b : Bytes), b.length ≤ m * n →
        ((List.range m).map fun i => (b.drop (i * n)).take n).flatten = b := by
      intro m
      induction m with
      | zero => intro b hb; rw [List.eq_nil_of_length_eq_zero (by omega : b.length = 0)]; rfl
      | succ m ih =>
        intro b hb
        rw [List.range_succ_eq_map, List.map_cons, List.flatten_cons, List.map_map, Nat.zero_mul, List.drop_zero]
        have : (List.map ((fun i => List.take n (List.drop (i * n) b)) ∘ Nat.succ) (List.range m)) =
            (List.range m).map fun i => ((b.drop n).drop (i * n)).take n :=
          List.map_congr_left fun i _ => by
            simp only [Function.comp, List.drop_drop, Nat.succ_mul, Nat.add_comm]
        rw [this, ih (b.drop n) (by rw [List.length_drop, Nat.succ_mul] at *; omega)]
        exact List.take_append_drop n b
    apply key
    have := Nat.div_add_mod (b.length + n - 1) n
    have hm := Nat.mod_lt (b.length + n - 1) (Nat.pos_of_ne_zero hn)
    rw [Nat.mul_comm]
    omega

end Cppcms.C10
