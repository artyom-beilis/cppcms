import Cppcms.C10.Refine
import Cppcms.C10.SockLemmas
import Cppcms.C10.SessLemmas
/-!
# C10 — property theorems

"When several application nodes use the network cache, each optionally with a local first-level
cache, a fetch on any node returns only a value that is current on the cache server at the time of
the fetch: after any node completes a store, trigger raise or clear, no node's later fetch returns
the older value, even if it is still sitting in that node's local cache.  Values, trigger sets and
deadlines survive the wire format unchanged for all contents, and keys are spread over several
servers consistently."

Cluster statements are about `step`/`run` of `Model.lean`: any number of `cache_over_ip` clients (each
with or without an L1, any limits), any number of servers, one global history of operations in the
order the synchronous calls complete, every client ↔ server interaction through the wire codec of
`Wire.lean` (header layout, opcodes, frame validation, up-to-date test, hash regenerated from the
source).  `Cluster.init sl ll`: servers with limits `sl`, clients with L1 limits `ll` (`none` = no L1).

Hypotheses that appear: `ops.length < 2^64` (generation counters are `uint64_t`; a server restart,
which resets the counter, is outside the quantifier), `HistOk`, `HistWF`, and a fetched key below 2^31 bytes.
-/
namespace Cppcms.C10.Props
open Cppcms Cppcms.C07 Cppcms.C10

/-- The server of a key is `shard n k` (by its type a function of the number of servers and the key alone:
no client state enters).  Stated: `shard n k` is below `n` for `0 < n`; and a fetch or store of `k` by **any**
client, with or without L1, touches no other server. -/
theorem consistent_sharding :
    Spec.ConsistentSharding shard ∧
    (∀ (cl : Cluster) (c : Nat) (nowC nowS : Time) (k : Key) (t : Bool) (i : Nat), i ≠ shard cl.servers.length k →
      (step cl (.fetch c nowC nowS k t)).1.servers[i]? = cl.servers[i]?) ∧
    (∀ (cl : Cluster) (c : Nat) (nowS : Time) (k : Key) (v : Val) (ts : List Key) (d : Time) (i : Nat),
      i ≠ shard cl.servers.length k → (step cl (.store c nowS k v ts d)).1.servers[i]? = cl.servers[i]?) := by
  refine ⟨?_, ?_, ?_⟩
  · exact shard_lt
  · intro cl c nowC nowS k t i hi
    show (fetchOp wireT cl c nowC nowS k t).1.servers[i]? = _
    rw [fetchOp_servers, List.getElem?_modify_ne _ _ (Ne.symm hi)]
  · intro cl c nowS k v ts d i hi
    show (storeOp wireT cl c nowS k v ts d).servers[i]? = _
    rw [storeOp_servers, List.getElem?_modify_ne _ _ (Ne.symm hi)]

/-- The byte image of a frame (header words little endian, then the payload), followed by whatever
comes next on the socket, parses back to the same header and payload. -/
theorem frame_roundtrip (h : Hdr) (data : Bytes) (hf : FrameWF h data) (rest : Bytes) :
    frameOfBytes (frameBytes h data ++ rest) = (h, data) := by
  unfold frameOfBytes frameBytes
  rw [List.append_assoc, hf.ofBytes]
  simp only [hf.size]
  rw [List.drop_left' hf.length_toBytes, List.take_left' rfl]

/-- **Receiving a frame does not depend on how TCP cuts the stream.**  In whatever pieces the bytes of a
well-formed frame (followed by anything) arrive, `recvFrame` — header image, then exactly `size` payload bytes, each
by `stream_socket::read` — yields that header and payload and leaves the following bytes on the connection. -/
theorem recv_frame_any_segmentation (h : Hdr) (data : Bytes) (hf : FrameWF h data) (rest : Bytes) (segs : Segs)
    (hs : segs.flatten = frameBytes h data ++ rest) :
    ∃ r, recvFrame segs = some (h, data, r) ∧ r.flatten = rest :=
  recvFrame_spec h data hf rest segs hs

/-- **`messenger::transmit` is independent of the segmentation of both directions**: with arbitrary
segmenters for the request and for the reply (any piece sizes; keys/values/replies of any size
below 2^32 bytes) the exchange has the same result as the unsegmented `transmit` used by the model —
same server step, same reply header and payload. -/
theorem transmit_segmentation_independent (cutReq cutRep : Bytes → Segs)
    (h1 : ∀ b, (cutReq b).flatten = b) (h2 : ∀ b, (cutRep b).flatten = b)
    (s : State) (now : Time) (h : Hdr) (data : Bytes) (hf : FrameWF h (data.take (h.get Gen.wSize))) :
    transmitSeg cutReq cutRep s now h data = some (transmit s now h data) :=
  C10.transmit_segmentation_independent cutReq cutRep h1 h2 s now h data hf

/-- **The session codec is exact.**  For a 32-byte session id, a value that fits the frame and an `int64_t`
deadline: `tcp_storage::save` makes the server's storage execute exactly `save(sid, deadline, value)` (reply
`done`); `tcp_storage::remove` exactly `remove(sid)`; `tcp_storage::load` leaves the storage alone and returns
exactly what the storage's `load` returns, except that a record with a negative deadline is reported absent. -/
theorem session_wire_exact (st : SessStore) (now : Time) (sid : Bytes) (hs : sid.length = Gen.sessSidLen) :
    (∀ (to : Time) (v : Bytes), v.length + Gen.sessSidLen < 4294967296 →
        -9223372036854775808 ≤ to ∧ to < 9223372036854775808 →
        sessTransmit st now (reqSessSave sid to v) = (sessSave st now sid to v, replyOp Gen.opDone, [])) ∧
    (sessTransmit st now (reqSessRemove sid)).1 = sessRemove st now sid ∧
    ((∀ t v, sessLoad st now sid = some (t, v) → v.length < 4294967296 ∧ -9223372036854775808 ≤ t ∧ t < 9223372036854775808) →
      (sessTransmit st now (reqSessLoad sid)).1 = st ∧
      cliDecodeSessLoad (sessTransmit st now (reqSessLoad sid)).2.1 (sessTransmit st now (reqSessLoad sid)).2.2 =
        (match sessLoad st now sid with
         | none => none
         | some (t, v) => if t < 0 then none else some (t, v))) :=
  ⟨fun to v hv hd => reqSessSave_exact st now sid to v hs hv hd, reqSessRemove_exact st now sid hs,
    fun hrec => reqSessLoad_exact st now sid hs hrec⟩

/-- **A session saved over the wire is loaded back over the wire** — same deadline, same value — at every
clock value up to its deadline (not negative, not yet past), whatever else the storage holds (`session_memory_storage` with its
`short_gc`); after a remove over the wire it is absent. -/
theorem session_save_load_roundtrip (st : SessStore) (now now' : Time) (sid : Bytes) (to : Time) (v : Bytes)
    (hs : sid.length = Gen.sessSidLen) (hv : v.length + Gen.sessSidLen < 4294967296)
    (hd : -9223372036854775808 ≤ to ∧ to < 9223372036854775808) (h0 : ¬ to < 0) (h1 : ¬ to < now) (h2 : ¬ to < now') :
    let st1 := (sessTransmit st now (reqSessSave sid to v)).1
    cliDecodeSessLoad (sessTransmit st1 now' (reqSessLoad sid)).2.1 (sessTransmit st1 now' (reqSessLoad sid)).2.2 = some (to, v) ∧
    (let st2 := (sessTransmit st1 now' (reqSessRemove sid)).1
     cliDecodeSessLoad (sessTransmit st2 now' (reqSessLoad sid)).2.1 (sessTransmit st2 now' (reqSessLoad sid)).2.2 = none) := by
  intro st1
  have e1 : st1 = sessSave st now sid to v := by
    show (sessTransmit st now (reqSessSave sid to v)).1 = _
    rw [reqSessSave_exact st now sid to v hs hv hd]
  have hl : sessLoad st1 now' sid = some (to, v) := by rw [e1, sessLoad_save st now now' sid to v h1]; simp [h2]
  constructor
  · have := (reqSessLoad_exact st1 now' sid hs (by
      intro t x hx; rw [hl] at hx; cases hx
      exact ⟨by have : Gen.sessSidLen = 32 := rfl; omega, hd⟩)).2
    rw [this, hl]; simp [h0]
  · intro st2
    have e2 : st2 = sessRemove st1 now' sid := reqSessRemove_exact st1 now' sid hs
    have hl2 : sessLoad st2 now' sid = none := by rw [e2]; exact sessLoad_remove st1 now' now' sid
    have := (reqSessLoad_exact st2 now' sid hs (by intro t x hx; rw [hl2] at hx; cases hx)).2
    rw [this, hl2]

/-- full statement (false, see the counterexamples): for **all** contents the server performs the
store the client asked for -/
def WireRoundtripStoreFull : Prop :=
  ∀ (s : State) (now : Time) (k : Key) (v : Val) (ts : List Key) (d : Time),
    tcpStore s now k v ts d = (C07.step s (.store now k v (sortSet ts) d)).1

/-- **Store direction.**  For contents satisfying `WFwire` (key non-empty; trigger names non-empty
and NUL-free; less than 2^31 bytes; `int64_t` deadline) the frame `tcp_cache::store` builds is a
well-formed frame, and what `session::store` makes of it is exactly the store that was asked for:
same key, same value, same deadline, the same set of trigger names. -/
theorem wire_roundtrip_store_partial (s : State) (now : Time) (k : Key) (v : Val) (ts : List Key) (d : Time)
    (h : Spec.WFwire k v ts d) :
    FrameWF (reqStore k v ts d).1 (reqStore k v ts d).2 ∧
    tcpStore s now k v ts d = (C07.step s (.store now k v (sortSet ts) d)).1 ∧ ∀ t, t ∈ sortSet ts ↔ t ∈ ts := by
  have hsz : k.length + v.length + (trigBytes (sortSet ts)).length < 2147483648 := by
    have := length_wire_le ts; have := h.size; unfold namesSize at *; omega
  refine ⟨frameWF_reqStore k v ts d (by omega), ?_, fun t => mem_sortSet⟩
  rw [tcpStore_eq s now k v ts d hsz h.deadline]
  unfold aStore
  rw [storeOpOf_wf h]

/-- **Reply direction.**  If the server holds `k ↦ (v, trigs, deadline, g)` (not expired), the key is below 2^31 bytes, the entry
fits a frame and its trigger names are NUL-free, then `tcp_cache::fetch` returns exactly `v`, the
deadline and the generation, and the same set of trigger names. -/
theorem wire_roundtrip_data_partial (s : State) (now : Time) (k : Key) (e : Entry)
    (hk : k.length < 2147483648) (he : abs s k = some e) (hlive : ¬ e.deadline < now)
    (hsm : EntrySmall e) (hnul : ∀ t ∈ e.trigs, (0 : UInt8) ∉ t) :
    ∃ ts', (tcpFetch s now k true none).2 = .found e.val ts' e.deadline e.gen ∧ ∀ t, t ∈ ts' ↔ t ∈ e.trigs := by
  have hf : (C07.step s (.fetch now k)).2 = .hit e.val e.trigs e.deadline e.gen := fetch_hit_iff.mpr ⟨he, hlive⟩
  rw [tcpFetch_eq s now k true none (by omega) fun e' he' => Option.some.inj (he.symm.trans he') ▸ hsm]
  refine ⟨sortSet e.trigs, ?_, fun t => mem_sortSet⟩
  unfold aFetch
  rcases hst : C07.step s (.fetch now k) with ⟨s', o⟩
  rw [hst] at hf
  cases hf
  simp [backTrigs_nulfree e.trigs hnul]

/-- **The real codec is the message-level model.**  As long as the sizes fit, one operation of the cluster over
the real frames is *equal* to the operation over the message-level transport on which coherence is proved. -/
theorem step_eq_astep {cl : Cluster} (hsm : AllSmall cl) {op : Op} (hok : OpOk op) : step cl op = astep cl op :=
  C10.step_eq_astep hsm hok

/-- **On one server every store gets a generation never used before**: two entries that server `i`
held at any two points of the history under the same generation are the same entry — same key,
value, trigger set, deadline. -/
theorem gen_unique (sl : List Nat) (ll : List (Option Nat)) (ops : List Op) (hlen : ops.length < 2 ^ 64) (hok : HistOk ops)
    (i : Nat) (pre₁ pre₂ : List Op) (h₁ : pre₁ <+: ops) (h₂ : pre₂ <+: ops) (k₁ k₂ : Key) (e₁ e₂ : Entry)
    (he₁ : sabs (run (Cluster.init sl ll) pre₁) i k₁ = some e₁) (he₂ : sabs (run (Cluster.init sl ll) pre₂) i k₂ = some e₂)
    (hg : e₁.gen = e₂.gen) : k₁ = k₂ ∧ e₁ = e₂ := by
  rw [(run_init_eq sl ll pre₁ (histOk_prefix h₁ hok)).1] at he₁
  rw [(run_init_eq sl ll pre₂ (histOk_prefix h₂ hok)).1] at he₂
  exact was_uniq (fresh_init sl ll) hlen ⟨pre₁, h₁, he₁⟩ ⟨pre₂, h₂, he₂⟩ hg

/-- **The generation counter survives `clear`** (and every other operation but a performed store): in the
source (`Gen.clearKeepsGeneration`, `Gen.generationOnlyBumpedByStore`, read by the translator from
`mem_cache::nl_clear/clear/store`) and in the model.  `gen_unique` above is stated for *all* histories,
clears by any node included; this is the fact it rests on. -/
theorem generation_survives_clear :
    C10.Gen.clearKeepsGeneration = true ∧ C10.Gen.generationOnlyBumpedByStore = true ∧
    (∀ s : State, (C07.step s .clear).1.generation = s.generation) ∧
    (∀ (s : State) (op : C07.Op), (∀ now k v ts d gen env, op ≠ .store now k v ts d gen env) →
      (C07.step s op).1.generation = s.generation) :=
  ⟨rfl, rfl, fun s => generation_step_nonstore s .clear (by intros; simp), fun s op h => generation_step_nonstore s op h⟩

/-- **Every L1 entry was the server's entry**: whatever client `c`'s L1 holds for `k` — value,
deadline, generation — the responsible server held for `k` at some earlier point of the history. -/
theorem l1_inv (sl : List Nat) (ll : List (Option Nat)) (ops : List Op) (hlen : ops.length < 2 ^ 64) (hok : HistOk ops)
    (c : Nat) (k : Key) (e : Entry) (h : labs (run (Cluster.init sl ll) ops) c k = some e) :
    ∃ pre e', pre <+: ops ∧ sabs (run (Cluster.init sl ll) pre) (shard sl.length k) k = some e' ∧
      e'.val = e.val ∧ e'.deadline = e.deadline ∧ e'.gen = e.gen := by
  have _ := hlen  -- part of the statement as it stands; no step needs it
  rw [(run_init_eq sl ll ops hok).1] at h
  obtain ⟨e', ⟨pre, hp, hs⟩, hcopy⟩ := (l1_copies (fresh_init sl ll).invs ops c k e h).resolve_left
    (labs_fresh (fresh_init sl ll) c k e)
  rw [init_length] at hs
  refine ⟨pre, e', hp, ?_, hcopy.val, hcopy.deadline, hcopy.gen⟩
  rw [(run_init_eq sl ll pre (histOk_prefix hp hok)).1]
  exact hs

/-- **Coherent fetch.**  After any history by any number of clients (with or without L1), a fetch
on any node that returns `(v, deadline, g)` does so only if a direct fetch on the responsible
server, at that moment and on the server's clock, returns the same `v`, deadline and `g`: an L1
never makes a node see anything but what the server holds now.  No `WFwire` hypothesis: this holds
also at the excluded points of the wire format. -/
theorem coherent_fetch (sl : List Nat) (ll : List (Option Nat)) (ops : List Op) (hlen : ops.length < 2 ^ 64)
    (hok : HistOk ops) (c : Nat) (nowC nowS : Time) (k : Key) (tags : Bool) (hk : k.length < 2147483648)
    (v : Val) (ts : List Key) (d : Time) (g : Gen)
    (hit : (step (run (Cluster.init sl ll) ops) (.fetch c nowC nowS k tags)).2 = .hit v ts d g) :
    ∃ s, (run (Cluster.init sl ll) ops).servers[shard sl.length k]? = some s ∧
      ∃ ts', (C07.step s (.fetch nowS k)).2 = .hit v ts' d g := by
  rw [fetch_init_eq hok c nowC nowS tags hk] at hit
  cases fetch_agrees (fresh_init sl ll) ops hlen c nowC nowS k tags with
  | miss hout _ => cases hout.symm.trans hit
  | hit e _ hheld hlive hout _ =>
    cases hout.symm.trans hit
    rw [(run_init_eq sl ll ops hok).1]
    rw [home, arun_length, init_length] at hheld
    obtain ⟨s, hs, he⟩ := sabs_some hheld
    exact ⟨s, hs, e.trigs, fetch_hit_iff.mpr ⟨he, hlive⟩⟩

/-- full statement of the "no older value" clause (false at the excluded points, see the
counterexamples): for **all** histories a hit is what the ideal shared cache holds -/
def CoherentIdealFull : Prop :=
  ∀ (sl : List Nat) (ll : List (Option Nat)) (ops : List Op), ops.length < 2 ^ 64 → HistOk ops →
    ∀ (c : Nat) (nowC nowS : Time) (k : Key) (tags : Bool), k.length < 2147483648 →
      ∀ (v : Val) (ts : List Key) (d : Time) (g : Gen),
        (step (run (Cluster.init sl ll) ops) (.fetch c nowC nowS k tags)).2 = .hit v ts d g →
        ∀ me, Spec.answerOk (idealOf ops) nowS k me false (.hit v ts d g) = true

/-- **No node is served an older value.**  For histories whose stores carry contents the wire
format preserves (`HistWF`): a fetch on any node that hits returns the value and deadline the
*ideal shared cache* holds for the key at that moment — i.e. those of the latest store of the key by
**any** node, and no node has since raised one of its triggers (or the key itself) or cleared the
cache — and the entry is not expired on the server's clock.  This is `Spec.answerOk`, the predicate
the check evaluates on the answers of the real clients. -/
theorem coherent_fetch_ideal_partial (sl : List Nat) (ll : List (Option Nat)) (ops : List Op) (hlen : ops.length < 2 ^ 64)
    (hok : HistOk ops) (hwf : HistWF ops) (c : Nat) (nowC nowS : Time) (k : Key) (tags : Bool) (hk : k.length < 2147483648)
    (v : Val) (ts : List Key) (d : Time) (g : Gen)
    (hit : (step (run (Cluster.init sl ll) ops) (.fetch c nowC nowS k tags)).2 = .hit v ts d g) (mayEvict : Bool) :
    Spec.answerOk (idealOf ops) nowS k mayEvict false (.hit v ts d g) = true ∧
    (KeysNulFree ops → Spec.answerOk (idealOf ops) nowS k mayEvict tags (.hit v ts d g) = true) := by
  rw [fetch_init_eq hok c nowC nowS tags hk] at hit
  obtain ⟨e, hideal, hval, hdl, hlive, hnames⟩ := coherent_fetch_ideal_abs sl ll ops hlen hwf c nowC nowS k tags v ts d g hit
  have ok : ∀ t' : Bool, (t' = true → ∀ t ∈ e.trigs, t ∈ ts) →
      Spec.answerOk (idealOf ops) nowS k mayEvict t' (.hit v ts d g) = true := by
    intro t' ht
    simp only [Spec.answerOk, hideal, hval, hdl, hlive, beq_self_eq_true, decide_false, Bool.not_false, Bool.true_and]
    cases t' with
    | false => rfl
    | true => simpa only [Bool.not_true, Bool.false_or, List.all_eq_true, List.contains_iff_mem] using ht rfl
  exact ⟨ok false (fun h => nomatch h), fun hkn => ok tags fun ht => hnames ht hkn⟩

/-- **No spurious miss: a live entry is found on every node.**  No server has an entry limit
(`thread_cache_factory(0)`; the L1s may be as small as they like), the stores are `WFwire`: if the ideal
shared cache holds `k ↦ e` and `e` is not expired on the server's clock, then a fetch of `k` by **any**
node — with or without L1, whatever stale entry its L1 holds — hits and returns `e`'s value and deadline. -/
theorem live_entry_found_on_every_node (sl : List Nat) (ll : List (Option Nat)) (hn : 0 < sl.length) (hsl : ∀ l ∈ sl, l = 0)
    (ops : List Op) (hlen : ops.length < 2 ^ 64) (hok : HistOk ops) (hwf : HistWF ops)
    (c : Nat) (nowC nowS : Time) (k : Key) (tags : Bool) (hk : k.length < 2147483648)
    (e : Entry) (hid : idealOf ops k = some e) (hlive : ¬ e.deadline < nowS) :
    ∃ ts g, (step (run (Cluster.init sl ll) ops) (.fetch c nowC nowS k tags)).2 = .hit e.val ts e.deadline g := by
  rw [fetch_init_eq hok c nowC nowS tags hk]
  -- the responsible server has no limit: it holds what the ideal cache holds
  have hlt : shard sl.length k < sl.length := shard_lt sl.length k hn
  have hsrv : (arun (Cluster.init sl ll) ops).servers[shard sl.length k]? =
      some (C07.run (State.init sl[shard sl.length k] none) (ops.filterMap (projOp sl.length (shard sl.length k)))) := by
    rw [server_arun, init_length, init_servers, List.getElem?_eq_getElem hlt]; rfl
  have htk := track_run sl.length (shard sl.length k) ops hwf (track_init _ sl[shard sl.length k])
  obtain ⟨es, hes, heq⟩ := htk.ge ((config_run _ _).1.trans (hsl _ (List.getElem_mem hlt))) ((config_run _ _).2.trans rfl) k e rfl hid
  have hhome : home (arun (Cluster.init sl ll) ops) k = some es := by
    rw [home, arun_length, init_length, sabs_of hsrv, hes]
  cases fetch_agrees (fresh_init sl ll) ops hlen c nowC nowS k tags with
  | miss _ hdead => exact absurd (heq.deadline ▸ hdead es hhome) hlive
  | hit e' ts hheld _ hout _ =>
    cases hhome.symm.trans hheld
    exact ⟨ts, es.gen, by rw [hout, heq.val, heq.deadline]⟩

/-- **The whole coherence predicate holds of every fetch answer** (the predicate the check evaluates on the
real clients, with `mayEvict = false`): servers without limit, `WFwire` stores, NUL-free keys — a hit is the
ideal cache's current entry (value, deadline, all its triggers), a miss happens only if the ideal cache
holds nothing live for the key. -/
theorem answerOk_of_every_fetch_partial (sl : List Nat) (ll : List (Option Nat)) (hn : 0 < sl.length) (hsl : ∀ l ∈ sl, l = 0)
    (ops : List Op) (hlen : ops.length < 2 ^ 64) (hok : HistOk ops) (hwf : HistWF ops) (hkn : KeysNulFree ops)
    (c : Nat) (nowC nowS : Time) (k : Key) (tags : Bool) (hk : k.length < 2147483648) :
    Spec.answerOk (idealOf ops) nowS k false tags (step (run (Cluster.init sl ll) ops) (.fetch c nowC nowS k tags)).2 = true := by
  have hout : (step (run (Cluster.init sl ll) ops) (.fetch c nowC nowS k tags)).2 = .miss ∨
      ∃ v ts d g, (step (run (Cluster.init sl ll) ops) (.fetch c nowC nowS k tags)).2 = .hit v ts d g := by
    rw [fetch_init_eq hok c nowC nowS tags hk]
    cases fetch_agrees (fresh_init sl ll) ops hlen c nowC nowS k tags with
    | miss hout _ => exact Or.inl hout
    | hit e ts _ _ hout _ => exact Or.inr ⟨_, ts, _, _, hout⟩
  rcases hout with hm | ⟨v, ts, d, g, hh⟩
  · rw [hm]
    simp only [Spec.answerOk, Bool.false_or]
    cases hid : idealOf ops k with
    | none => rfl
    | some e =>
      simp only [decide_eq_true_eq]
      apply Classical.byContradiction
      intro hlive
      obtain ⟨ts, g, hhit⟩ := live_entry_found_on_every_node sl ll hn hsl ops hlen hok hwf c nowC nowS k tags hk e hid hlive
      cases hm.symm.trans hhit
  · rw [hh]
    exact (coherent_fetch_ideal_partial sl ll ops hlen hok hwf c nowC nowS k tags hk v ts d g hh false).2 hkn

private def k₁ : Key := [107]

/-- **tcp-trigger-nul.**  Client 0 (no L1) stores `k = v1` depending on the trigger `a\0b`; the name
is split on the server into `a` and `b`.  Client 1 (L1) raises `a\0b`: nothing is invalidated, and
the next fetch on either node still returns `v1`, which the ideal shared cache no longer holds. -/
theorem trigger_nul_counterexample :
    let h : List Op := [.store 0 1000 k₁ [118, 49] [[97, 0, 98]] 2000, .fetch 1 1000 1000 k₁ true, .rise 1 [97, 0, 98]]
    HistOk h ∧
    (step (run (Cluster.init [0] [none, some 5]) h) (.fetch 0 1000 1000 k₁ true)).2 = .hit [118, 49] [[97], [98], k₁] 2000 0 ∧
    (step (run (Cluster.init [0] [none, some 5]) h) (.fetch 1 1000 1000 k₁ false)).2 = .hit [118, 49] [] 2000 0 ∧
    idealOf h k₁ = none ∧
    Spec.answerOk (idealOf h) 1000 k₁ false false (.hit [118, 49] [] 2000 0) = false := by
  refine ⟨?_, by decide +kernel, by decide +kernel, by decide +kernel, by decide +kernel⟩
  intro op ho
  simp only [List.mem_cons, List.not_mem_nil, or_false] at ho
  rcases ho with h | h | h <;> subst h <;> simp [OpOk, namesSize, inI64, k₁]

/-- **tcp-trigger-empty.**  A store whose trigger set contains the empty name is answered with
`error` and dropped; `tcp_cache::store` does not look at the answer.  The previous value stays on
the server and is served to every node after the store completed. -/
theorem trigger_empty_counterexample :
    let h : List Op := [.store 0 1000 k₁ [111, 108, 100] [] 2000, .fetch 1 1000 1000 k₁ true, .store 0 1000 k₁ [110, 101, 119] [[]] 2000]
    HistOk h ∧
    (step (run (Cluster.init [0] [none, some 5]) h) (.fetch 0 1000 1000 k₁ false)).2 = .hit [111, 108, 100] [] 2000 0 ∧
    (step (run (Cluster.init [0] [none, some 5]) h) (.fetch 1 1000 1000 k₁ false)).2 = .hit [111, 108, 100] [] 2000 0 ∧
    (idealOf h k₁).map (·.val) = some [110, 101, 119] ∧
    Spec.answerOk (idealOf h) 1000 k₁ false false (.hit [111, 108, 100] [] 2000 0) = false := by
  refine ⟨?_, by decide +kernel, by decide +kernel, by decide +kernel, by decide +kernel⟩
  intro op ho
  simp only [List.mem_cons, List.not_mem_nil, or_false] at ho
  rcases ho with h | h | h <;> subst h <;> simp [OpOk, namesSize, inI64, k₁]

/-- the "no older value" clause is false without `WFwire` (witness: `trigger_empty_counterexample`) -/
theorem coherentIdealFull_false : ¬ CoherentIdealFull := by
  intro h
  have := h [0] [none, some 5]
    [.store 0 1000 k₁ [111, 108, 100] [] 2000, .fetch 1 1000 1000 k₁ true, .store 0 1000 k₁ [110, 101, 119] [[]] 2000]
    (by decide) trigger_empty_counterexample.1 0 1000 1000 k₁ false (by decide) [111, 108, 100] [] 2000 0
    trigger_empty_counterexample.2.1 false
  exact absurd this (by rw [trigger_empty_counterexample.2.2.2.2]; decide)

/-- the store round trip is false without `WFwire`: a store with an empty trigger name is dropped -/
theorem wireRoundtripStoreFull_false : ¬ WireRoundtripStoreFull := by
  intro h
  have h1 := h (State.init 0 none) 1000 k₁ [118] [[]] 2000
  -- the store was dropped: the server stays empty, whereas the store asked for leaves one entry
  have hl : (tcpStore (State.init 0 none) 1000 k₁ [118] [[]] 2000).size = 0 := by decide
  rw [h1] at hl
  exact absurd hl (by decide)

/-- **tcp-key-nul.**  The entry's own key is one of its triggers and travels back NUL-terminated:
for the key `k\0x` a fetch that asks for the trigger set receives `{k, x}`; the name `k\0x`, which
the ideal shared cache (and the thread cache) reports, is missing. -/
theorem key_nul_counterexample :
    let kk : Key := [107, 0, 120]
    let h : List Op := [.store 0 1000 kk [118] [] 2000]
    HistOk h ∧ HistWF h ∧
    (step (run (Cluster.init [0] [none, some 5]) h) (.fetch 0 1000 1000 kk true)).2 = .hit [118] [[107], [120]] 2000 0 ∧
    (idealOf h kk).map (·.trigs) = some [kk] ∧
    Spec.answerOk (idealOf h) 1000 kk false true (.hit [118] [[107], [120]] 2000 0) = false ∧
    Spec.answerOk (idealOf h) 1000 kk false false (.hit [118] [[107], [120]] 2000 0) = true := by
  refine ⟨?_, ?_, by decide +kernel, by decide +kernel, by decide +kernel, by decide +kernel⟩
  · intro op ho
    simp only [List.mem_cons, List.not_mem_nil, or_false] at ho
    subst ho; simp [OpOk, namesSize, inI64]
  · intro op ho
    simp only [List.mem_cons, List.not_mem_nil, or_false] at ho
    subst ho
    exact ⟨by decide, by decide, by decide, by decide, by decide⟩

private def t₁ : Key := [116]
/-- two servers, three clients (L1 with limit 5, no L1, unlimited L1); every store is `WFwire` -/
private def h₁ : List Op :=
  [.store 0 1000 k₁ [1, 0, 2] [t₁] 2000, .fetch 1 1001 1001 k₁ true, .fetch 0 1001 1001 k₁ true,
   .store 2 1002 k₁ [] [] 2000, .fetch 0 1003 1003 k₁ false]

example : HistOk h₁ := by
  intro op ho
  simp only [h₁, List.mem_cons, List.not_mem_nil, or_false] at ho
  rcases ho with h | h | h | h | h <;> subst h <;> simp [OpOk, namesSize, inI64, k₁, t₁]

example : HistWF h₁ := by
  intro op ho
  simp only [h₁, List.mem_cons, List.not_mem_nil, or_false] at ho
  rcases ho with h | h | h | h | h <;> subst h <;> (try trivial)
  · exact ⟨by decide, by decide, by decide, by decide, by decide⟩
  · exact ⟨by decide, by decide, by decide, by decide, by decide⟩

-- client 0's L1 holds the first value (generation 0); after client 2 replaced it the L1 entry is revalidated,
-- refreshed, and the *new* (empty) value is returned — with the old entry's trigger still in the returned set
example : (step (run (Cluster.init [0, 0] [some 5, none, some 0]) (h₁.take 3)) (.fetch 0 1001 1001 k₁ true)).2
    = .hit [1, 0, 2] [k₁, t₁] 2000 0 := by decide +kernel
example : (step (run (Cluster.init [0, 0] [some 5, none, some 0]) (h₁.take 4)) (.fetch 0 1003 1003 k₁ true)).2
    = .hit [] [k₁, t₁, k₁] 2000 1 := by decide +kernel
example : (step (run (Cluster.init [0, 0] [some 5, none, some 0]) h₁) (.fetch 0 1003 1003 k₁ true)).2
    = .hit [] [t₁, k₁] 2000 1 := by decide +kernel
example : (idealOf h₁ k₁).map (·.val) = some [] := by decide +kernel
example : KeysNulFree h₁ := by
  intro op ho
  simp only [h₁, List.mem_cons, List.not_mem_nil, or_false] at ho
  rcases ho with h | h | h | h | h <;> subst h <;> simp [k₁]
-- rise by the client without L1 invalidates what sits in the others' L1s
example : (step (run (Cluster.init [0, 0] [some 5, none, some 0]) (h₁ ++ [.rise 1 k₁])) (.fetch 0 1003 1003 k₁ true)).2 = .miss := by
  decide +kernel
-- an L1 entry and the server entry it copies (`l1_inv`), same generation (`gen_unique`)
example : (labs (run (Cluster.init [0, 0] [some 5, none, some 0]) (h₁.take 3)) 0 k₁).map (·.gen) = some 0 ∧
    (sabs (run (Cluster.init [0, 0] [some 5, none, some 0]) (h₁.take 1)) (shard 2 k₁) k₁).map (·.gen) = some 0 := by decide +kernel
-- session opcodes: hypotheses of `session_save_load_roundtrip`, and the negative-deadline quirk (saved, never loaded)
example :
    let sid : Bytes := List.replicate 32 97
    let st1 := (sessTransmit [] 1000 (reqSessSave sid 5000 [1, 0, 2])).1
    cliDecodeSessLoad (sessTransmit st1 4000 (reqSessLoad sid)).2.1 (sessTransmit st1 4000 (reqSessLoad sid)).2.2 = some (5000, [1, 0, 2]) ∧
    cliDecodeSessLoad (sessTransmit st1 5001 (reqSessLoad sid)).2.1 (sessTransmit st1 5001 (reqSessLoad sid)).2.2 = none := by decide +kernel
example :
    let sid : Bytes := List.replicate 32 97
    let st1 := (sessTransmit [] (-10) (reqSessSave sid (-5) [1])).1
    sessLoad st1 (-10) sid = some (-5, [1]) ∧
    cliDecodeSessLoad (sessTransmit st1 (-10) (reqSessLoad sid)).2.1 (sessTransmit st1 (-10) (reqSessLoad sid)).2.2 = none := by decide +kernel
-- generations keep growing across a clear issued by another node: the entry stored after it gets a fresh stamp,
-- so the L1 copy made before the clear (generation 0) is not confirmed
example :
    let h : List Op := [.store 1 1000 k₁ [1] [] 2000, .fetch 0 1000 1000 k₁ false, .clear 1, .store 1 1000 k₁ [2] [] 2000]
    (sabs (run (Cluster.init [0] [some 5, none]) h) 0 k₁).map (·.gen) = some 1 ∧
    (labs (run (Cluster.init [0] [some 5, none]) h) 0 k₁).map (·.gen) = some 0 ∧
    (step (run (Cluster.init [0] [some 5, none]) h) (.fetch 0 1000 1000 k₁ false)).2 = .hit [2] [] 2000 1 := by decide +kernel
-- hypotheses of `transmit_segmentation_independent`: byte-wise / 7-byte segmenters; the client's request frames
example : ∀ b, (chunksOf 1 b).flatten = b := chunksOf_flatten 1
example : ∀ b, (chunksOf 7 b).flatten = b := chunksOf_flatten 7
example : FrameWF (reqFetch k₁ true (some 5)).1 ((reqFetch k₁ true (some 5)).2.take ((reqFetch k₁ true (some 5)).1.get Gen.wSize)) :=
  frameWF_reqFetch k₁ true (some 5) (by decide)
example : (transmitSeg (chunksOf 1) (chunksOf 3) (State.init 0 none) 0 (reqFetch k₁ true none).1 (reqFetch k₁ true none).2).isSome = true := by
  decide +kernel
-- hypotheses of `wire_roundtrip_store_partial`
example : Spec.WFwire k₁ [0, 255] [t₁, [1, 2]] (-5) := ⟨by decide, by decide, by decide, by decide, by decide⟩
example : FrameWF (reqStore k₁ [0, 255] [t₁] 77).1 (reqStore k₁ [0, 255] [t₁] 77).2 :=
  (wire_roundtrip_store_partial (State.init 0 none) 0 k₁ [0, 255] [t₁] 77
    ⟨by decide, by decide, by decide, by decide, by decide⟩).1

end Cppcms.C10.Props
