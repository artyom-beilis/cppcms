import Cppcms.Common
import Cppcms.C07.Spec
/-!
# C10 — specification side (independent of `Gen.lean`, `Wire.lean`, `Model.lean`)

* `WFwire`: the contents the wire format can carry unchanged (the guards found by reading
  `tcp_cache::store`, `session::store`, `session::load_triggers`);
* the **ideal shared cache**: all nodes talk to one never-evicting map (`C07.Spec`); `ideal` says what
  a store / rise / clear by *any* node does to it;
* `answerOk`: the coherence predicate — a fetch answer is acceptable iff it is what the ideal shared
  cache holds for that key *now* (a hit must carry the current value and deadline, not an older
  one; a miss is acceptable where the real caches may have evicted or the entry is absent/expired).
  The check evaluates exactly this predicate on the answers of the real clients (`J` lines of the
  driver); `Props.coherent_fetch_ideal_partial` (hit clause) and `Props.answerOk_of_every_fetch_partial` (the whole
  predicate) prove it of the model for histories whose stores are `WFwire`.
-/
namespace Cppcms.C10.Spec
open Cppcms Cppcms.C07

/-- contents that survive the wire format unchanged -/
structure WFwire (k : Key) (v : Val) (ts : List Key) (d : Time) : Prop where
  /-- `session::store` answers `error` for `key_len == 0` -/
  key_ne : k ≠ []
  /-- `load_triggers` answers `error` for an empty name -/
  trig_ne : ∀ t ∈ ts, t ≠ []
  /-- names are NUL-terminated on the wire and split with `strlen` -/
  trig_nul : ∀ t ∈ ts, (0 : UInt8) ∉ t
  /-- `uint32_t` length fields, `int slen=len` / `int len=…` in the `strlen` loops of both directions (the
  entry's own key travels back as one more name: `+ 2` covers its terminator; sufficient, not tight) -/
  size : k.length + v.length + (ts.map (·.length + 1)).sum + 2 < 2147483648
  /-- `int64_t timeout` (always true of a 64-bit `time_t`) -/
  deadline : -9223372036854775808 ≤ d ∧ d < 9223372036854775808

/-- executable form -/
def wfWireB (k : Key) (v : Val) (ts : List Key) (d : Time) : Bool :=
  !k.isEmpty && ts.all (fun t => !t.isEmpty && !t.contains 0) &&
  decide (k.length + v.length + (ts.map (·.length + 1)).sum + 2 < 2147483648) &&
  decide (-9223372036854775808 ≤ d) && decide (d < 9223372036854775808)

/-- the key travels back as one of the entry's trigger names when a fetch asks for the trigger
set: it must be NUL-free for that set to arrive unchanged -/
def WFkey (k : Key) : Prop := (0 : UInt8) ∉ k

/-- what the nodes do to the shared cache -/
inductive SOp where
  | store (k : Key) (v : Val) (trigs : List Key) (deadline : Time)
  | rise (t : Key)
  | clear
  | other
deriving DecidableEq, Repr

/-- the ideal shared cache never evicts and performs every store (generation stamps are not part
of it: `gen = 0`) -/
def ideal (sp : C07.Spec) : SOp → C07.Spec
  | .store k v trigs d => C07.Spec.insert sp k ⟨v, ownTrigs k trigs, d, 0⟩
  | .rise t => C07.Spec.rise sp t
  | .clear => C07.Spec.empty
  | .other => sp

def idealRun (ops : List SOp) : C07.Spec := ops.foldl ideal C07.Spec.empty

/-- **coherence predicate** for the answer of a fetch of `k` issued when the shared cache is `sp`
and the responsible server's clock shows `now`.
`mayEvict`: some cache on the path has an entry limit (a live entry may then be missing).
`tags`: the caller asked for the trigger set. -/
def answerOk (sp : C07.Spec) (now : Time) (k : Key) (mayEvict tags : Bool) : Out → Bool
  | .hit v ts d _ =>
    match sp k with
    | some e => e.val == v && e.deadline == d && !decide (d < now) && (!tags || e.trigs.all (ts.contains ·))
    | none => false
  | .miss =>
    mayEvict || (match sp k with
      | some e => decide (e.deadline < now)
      | none => true)
  | _ => false

/-- every trigger name that any store of the history attached to a key (the key itself included), newest first.
An L1 refresh reports the union of what the L1 held for the key and what the server holds now
(`tags->insert` accumulates), so on a node with L1 this — not the current entry's set — is the upper
bound of the reported set; it is never reset by `clear` (another node's L1 survives a clear). -/
def everStep (ev : Key → List Key) : SOp → Key → List Key
  | .store k _ trigs _ => fun k' => if k' = k then ownTrigs k trigs ++ ev k else ev k'
  | _ => ev

/-- **upper bound of the reported trigger set**: no foreign names.  `exact`: the node has no L1 — the
set is the current entry's; otherwise names of earlier versions of the same key may linger. -/
-- (see the NUL remark inside)
def trigsBounded (sp : C07.Spec) (ev : Key → List Key) (k : Key) (exact : Bool) (ts : List Key) : Bool :=
  -- names containing NUL are split on the wire (findings tcp-trigger-nul / tcp-key-nul): the bound speaks
  -- about keys whose names (the key itself included) are all NUL-free
  if (ev k).any (·.contains 0) then true else
  match sp k with
  | some e => ts.all fun t => if exact then e.trigs.contains t else (ev k).contains t
  | none => true

/-! ### session opcodes: the ideal session store -/

/-- one record per session id: deadline and value of the latest save -/
abbrev SessSpec := Bytes → Option (Time × Bytes)

/-- what a load must answer at clock value `now` (clock not moving backwards): the latest save of the sid, unless
removed since, expired, or saved with a negative deadline (reported absent by the server) -/
def sessExpect (m : SessSpec) (now : Time) (sid : Bytes) : Option (Time × Bytes) :=
  match m sid with
  | some (t, v) => if t < now || t < 0 then none else some (t, v)
  | none => none

def sessSpecSave (m : SessSpec) (sid : Bytes) (t : Time) (v : Bytes) : SessSpec := fun s => if s = sid then some (t, v) else m s
def sessSpecRemove (m : SessSpec) (sid : Bytes) : SessSpec := fun s => if s = sid then none else m s

/-- `shard n k` is one of the `n` servers; that it depends on `n` and `k` alone is the type of `shard`
(stated in `Props.consistent_sharding` for the model's `shard`) -/
def ConsistentSharding (shard : Nat → Key → Nat) : Prop :=
  ∀ n k, 0 < n → shard n k < n

end Cppcms.C10.Spec
