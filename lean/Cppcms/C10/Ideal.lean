import Cppcms.C10.TrigLemmas
import Cppcms.C10.Coherence
import Cppcms.C10.Spec
/-!
# C10 — from the servers to the ideal shared cache

For histories whose stores are `WFwire`, what server `i` holds for its keys the ideal shared cache
(`Spec.ideal`, one map for all nodes) holds too, with the same value, deadline and trigger set; when the
server has no limit, also the other way round (`Sim`, `Track`, `track_step`).
-/
namespace Cppcms.C10
open Cppcms Cppcms.C07

def toSOp : Op → Spec.SOp
  | .store _ _ k v trigs d => .store k v trigs d
  | .rise _ t => .rise t
  | .clear _ => .clear
  | _ => .other

/-- what the ideal shared cache (`Spec.ideal`) holds after the history -/
def idealOf (ops : List Op) : C07.Spec := Spec.idealRun (ops.map toSOp)

/-- every store of the history carries contents the wire format preserves -/
def HistWF (ops : List Op) : Prop :=
  ∀ op ∈ ops, match op with
    | .store _ _ k v trigs d => Spec.WFwire k v trigs d
    | _ => True

/-- `HistWF`'s condition on one operation, by the same `match` (`track_run` passes one for the other) -/
def OpWF : Op → Prop
  | .store _ _ k v trigs d => Spec.WFwire k v trigs d
  | _ => True

/-- every store of the history uses a NUL-free key (needed only for the trigger *set* a fetch reports:
the key travels back as one of the entry's trigger names) -/
def KeysNulFree (ops : List Op) : Prop :=
  ∀ op ∈ ops, match op with
    | .store _ _ k _ _ _ => (0 : UInt8) ∉ k
    | _ => True

theorem storeOpOf_wf {now : Time} {k : Key} {v : Val} {trigs : List Key} {d : Time} (h : Spec.WFwire k v trigs d) :
    storeOpOf now k v trigs d = some (.store now k v (sortSet trigs) d) := by
  unfold storeOpOf
  rw [wireTrigs_wf trigs (fun t ht => ⟨h.trig_ne t ht, h.trig_nul t ht⟩)]
  simp [h.key_ne]

/-- same value, deadline and set of trigger names (generations are not part of the ideal cache) -/
structure EntryEq (e e' : Entry) : Prop where
  val : e.val = e'.val
  deadline : e.deadline = e'.deadline
  trigs : ∀ t, t ∈ e.trigs ↔ t ∈ e'.trigs

/-- on the keys `P`, what `a` holds `b` holds too, up to `EntryEq` -/
def Sim (P : Key → Prop) (a b : C07.Spec) : Prop := ∀ k e, P k → a k = some e → ∃ e', b k = some e' ∧ EntryEq e e'

theorem sim_empty (P : Key → Prop) (b : C07.Spec) : Sim P C07.Spec.empty b := fun _ _ _ h => nomatch h

theorem sim_rise {P : Key → Prop} {a b : C07.Spec} (h : Sim P a b) (t : Key) : Sim P (a.rise t) (b.rise t) := by
  intro k e hk he
  obtain ⟨ha, hnt⟩ := rise_some.mp he
  obtain ⟨e', hb, heq⟩ := h k e hk ha
  exact ⟨e', rise_some.mpr ⟨hb, fun ht => hnt ((heq.trigs t).mpr ht)⟩, heq⟩

theorem sim_insert {P : Key → Prop} {a b : C07.Spec} (h : Sim P a b) (k0 : Key) {e1 e2 : Entry} (heq : EntryEq e1 e2) :
    Sim P (a.insert k0 e1) (b.insert k0 e2) := by
  intro k e hk he
  simp only [C07.Spec.insert] at he ⊢
  by_cases hkk : k = k0
  · rw [if_pos hkk] at he ⊢; cases he; exact ⟨e2, rfl, heq⟩
  · rw [if_neg hkk] at he ⊢; exact h k e hk he

theorem sim_insert_right {P : Key → Prop} {a b : C07.Spec} (h : Sim P a b) {k0 : Key} (hk0 : P k0 → a k0 = none)
    (e0 : Entry) : Sim P a (b.insert k0 e0) := by
  intro k e hk he
  simp only [C07.Spec.insert]
  split
  · rename_i hkk; subst hkk; rw [hk0 hk] at he; cases he
  · exact h k e hk he

theorem sim_insert_left {P : Key → Prop} {a b : C07.Spec} (h : Sim P a b) {k0 : Key} (hk0 : ¬ P k0) (e0 : Entry) :
    Sim P (a.insert k0 e0) b := by
  intro k e hk he
  simp only [C07.Spec.insert] at he
  split at he
  · rename_i hkk; subst hkk; exact absurd hk hk0
  · exact h k e hk he

/-- on the keys `P` the ideal cache `g` holds what the server `s` holds; without entry limit and size cap
(`thread_cache_factory(0)`) also the converse -/
structure Track (P : Key → Prop) (s : State) (g : C07.Spec) : Prop where
  inv : Inv s
  le : Sim P (abs s) g
  ge : s.limit = 0 → s.sizeLimit = none → Sim P g (abs s)

theorem Sim.of_sub {P : Key → Prop} {a a' b : C07.Spec} (hs : Sub a' a) (h : Sim P a b) : Sim P a' b :=
  fun k e hk he => h k e hk (hs k e he)

theorem Track.map {P : Key → Prop} {s : State} {g : C07.Spec} (h : Track P s g) (o : C07.Op) (f : C07.Spec → C07.Spec)
    (hs : abs (C07.step s o).1 = f (abs s)) (hf : ∀ {a b}, Sim P a b → Sim P (f a) (f b)) :
    Track P (C07.step s o).1 (f g) :=
  ⟨inv_step h.inv o, hs ▸ hf h.le, fun hl hc =>
    hs ▸ hf (h.ge ((config_step s o).1.symm.trans hl) ((config_step s o).2.symm.trans hc))⟩

theorem track_step (n i : Nat) {op : Op} (hwf : OpWF op) {s : State} {g : C07.Spec}
    (h : Track (shard n · = i) s g) : Track (shard n · = i) (applyProj (projOp n i op) s) (Spec.ideal g (toSOp op)) := by
  cases op with
  | store c nowS k v trigs d =>
    have hw : Spec.WFwire k v trigs d := hwf
    have hnames : ∀ t, t ∈ ownTrigs k (sortSet trigs) ↔ t ∈ ownTrigs k trigs :=
      fun t => by simp only [mem_ownTrigs, mem_sortSet]
    by_cases hi : shard n k = i
    · simp only [projOp, hi, if_true, storeOpOf_wf hw, applyProj]
      refine ⟨inv_step h.inv _, ?_, fun hl hc => ?_⟩
      · -- performed or given up, the server holds at most what the store asked for
        refine Sim.of_sub (refines_step h.inv (sub_refl _) _).1 ?_
        simp only [C07.Spec.step]
        cases stamp s (C07.Op.store nowS k v (sortSet trigs) d) with
        | some gg => exact sim_insert h.le k ⟨rfl, rfl, hnames⟩
        | none => exact sim_insert_right (Sim.of_sub (sub_remove_left _ k) h.le) (fun _ => if_pos rfl) _
      · -- a server without limit performs every store
        have hl0 := (config_step s (C07.Op.store nowS k v (sortSet trigs) d)).1.symm.trans hl
        have hc0 := (config_step s (C07.Op.store nowS k v (sortSet trigs) d)).2.symm.trans hc
        have hq : (C07.Op.store nowS k v (sortSet trigs) d).quiet := ⟨rfl, rfl, fun _ hb => nomatch hb⟩
        rw [(exact_step h.inv hl0 _ hq).1, stamp_of_quiet hc0 hq]
        exact sim_insert (h.ge hl0 hc0) k ⟨rfl, rfl, fun t => (hnames t).symm⟩
    · simp only [projOp, hi, if_false, applyProj]
      exact ⟨h.inv, sim_insert_right h.le (fun hk => absurd hk hi) _, fun hl hc => sim_insert_left (h.ge hl hc) hi _⟩
  | rise c t => exact h.map (.rise t) (·.rise t) (abs_rise h.inv t) fun h => sim_rise h t
  | clear c => exact h.map .clear (fun _ => C07.Spec.empty) rfl fun _ => sim_empty _ _
  | fetch c nowC nowS k t =>
    by_cases hi : shard n k = i <;> simp only [projOp, hi, if_true, if_false, applyProj]
    · exact h.map (.fetch nowS k) id (abs_fetch s nowS k) id
    · exact h
  | remove c k => exact h
  | stats c => exact h

theorem track_run (n i : Nat) (ops : List Op) (hwf : HistWF ops) {s : State} {g : C07.Spec} (h : Track (shard n · = i) s g) :
    Track (shard n · = i) (C07.run s (ops.filterMap (projOp n i))) ((ops.map toSOp).foldl Spec.ideal g) := by
  induction ops generalizing s g with
  | nil => exact h
  | cons op ops ih =>
    have h2 := ih (fun o ho => hwf o (List.mem_cons_of_mem _ ho))
      (track_step n i (hwf op List.mem_cons_self) h)
    simp only [List.filterMap_cons, List.map_cons, List.foldl_cons]
    unfold applyProj at h2
    cases hp : projOp n i op <;> simp only [hp] at h2 ⊢ <;> exact h2

def NulFreeMap (g : C07.Spec) : Prop := ∀ k e, g k = some e → ∀ t ∈ e.trigs, (0 : UInt8) ∉ t

theorem ideal_nulfree (ops : List Op) (hwf : HistWF ops) (hk : KeysNulFree ops) (g : C07.Spec) (hg : NulFreeMap g) :
    NulFreeMap ((ops.map toSOp).foldl Spec.ideal g) := by
  induction ops generalizing g with
  | nil => exact hg
  | cons op ops ih =>
    apply ih (fun o ho => hwf o (List.mem_cons_of_mem _ ho)) (fun o ho => hk o (List.mem_cons_of_mem _ ho))
    cases op with
    | store c nowS k v trigs d =>
      have hw : Spec.WFwire k v trigs d := hwf _ List.mem_cons_self
      have hkk : (0 : UInt8) ∉ k := hk _ List.mem_cons_self
      intro k' e he t ht
      simp only [toSOp, Spec.ideal, C07.Spec.insert] at he
      split at he
      · cases he
        rcases mem_ownTrigs.mp ht with rfl | h1
        · exact hkk
        · exact hw.trig_nul t h1
      · exact hg k' e he t ht
    | rise c t0 => exact fun k' e he => hg k' e (rise_some.mp he).1
    | clear c => exact fun k' e he => nomatch he
    | fetch c a b k t => exact hg
    | remove c k => exact hg
    | stats c => exact hg

theorem init_servers (sl : List Nat) (ll : List (Option Nat)) (i : Nat) :
    (Cluster.init sl ll).servers[i]? = (sl[i]?).map fun l => State.init l none := List.getElem?_map

theorem init_length (sl : List Nat) (ll : List (Option Nat)) : (Cluster.init sl ll).servers.length = sl.length :=
  List.length_map _

theorem fresh_init (sl : List Nat) (ll : List (Option Nat)) : Fresh (Cluster.init sl ll) := by
  have hsrv : ∀ (i : Nat) (s : State), (Cluster.init sl ll).servers[i]? = some s → ∃ l, s = State.init l none := by
    intro i s h
    rw [init_servers] at h
    obtain ⟨l, _, rfl⟩ := Option.map_eq_some_iff.mp h
    exact ⟨l, rfl⟩
  have hl1 : ∀ (c : Nat) (l : State), (Cluster.init sl ll).l1 c = some l → ∃ lim, l = State.init lim none := by
    intro c l h
    simp only [Cluster.l1, Cluster.init, List.getD_eq_getElem?_getD, List.getElem?_map] at h
    cases hc : ll[c]? with
    | none => rw [hc] at h; cases h
    | some o =>
      rw [hc] at h
      cases o with
      | none => cases h
      | some lim => exact ⟨lim, (Option.some.inj h).symm⟩
  refine ⟨⟨fun i s h => ?_, fun c l h => ?_⟩, fun i s h => ?_, fun c l h => ?_⟩
  · obtain ⟨l, rfl⟩ := hsrv i s h; exact C07.inv_init l none
  · obtain ⟨lim, rfl⟩ := hl1 c l h; exact C07.inv_init lim none
  · obtain ⟨l, rfl⟩ := hsrv i s h; exact ⟨rfl, rfl⟩
  · obtain ⟨lim, rfl⟩ := hl1 c l h; rfl

theorem track_init (P : Key → Prop) (lim : Nat) : Track P (State.init lim none) C07.Spec.empty :=
  ⟨C07.inv_init lim none, sim_empty _ _, fun _ _ => sim_empty _ _⟩

theorem home_track (sl : List Nat) (ll : List (Option Nat)) (ops : List Op) (hwf : HistWF ops) (k : Key) {e : Entry}
    (he : home (arun (Cluster.init sl ll) ops) k = some e) :
    ∃ s, abs s k = some e ∧ Track (shard sl.length · = shard sl.length k) s (idealOf ops) := by
  simp only [home, arun_length, init_length] at he
  obtain ⟨s, hs, he⟩ := sabs_some he
  rw [server_arun, init_servers, Option.map_map, init_length] at hs
  obtain ⟨lim, _, rfl⟩ := Option.map_eq_some_iff.mp hs
  exact ⟨_, he, track_run _ _ ops hwf (track_init _ lim)⟩

/-- a hit on any node (from `Cluster.init`, below 2^64 operations) carries value, deadline and (asked for, keys NUL-free) all names of the ideal cache's live entry -/
theorem coherent_fetch_ideal_abs (sl : List Nat) (ll : List (Option Nat)) (ops : List Op) (hlen : ops.length < 2 ^ 64)
    (hwf : HistWF ops)
    (c : Nat) (nowC nowS : Time) (k : Key) (tags : Bool) (v : Val) (ts : List Key) (d : Time) (g : Gen)
    (hit : (astep (arun (Cluster.init sl ll) ops) (.fetch c nowC nowS k tags)).2 = .hit v ts d g) :
    ∃ e, idealOf ops k = some e ∧ e.val = v ∧ e.deadline = d ∧ ¬ d < nowS ∧
      (tags = true → KeysNulFree ops → ∀ t ∈ e.trigs, t ∈ ts) := by
  cases fetch_agrees (fresh_init sl ll) ops hlen c nowC nowS k tags with
  | miss hout _ => cases hout.symm.trans hit
  | hit e _ hheld hlive hout hnames =>
    cases hout.symm.trans hit
    obtain ⟨s, hes, htk⟩ := home_track sl ll ops hwf k hheld
    obtain ⟨e', hideal, heq⟩ := htk.le k e rfl hes
    refine ⟨e', hideal, heq.val.symm, heq.deadline.symm, hlive, fun ht hkn t hm => hnames ht t ?_⟩
    -- the ideal entry's names are NUL-free, hence so are the server entry's: they come back unchanged
    have hnf := ideal_nulfree ops hwf hkn C07.Spec.empty (fun k e h => nomatch h)
    rw [backTrigs_nulfree e.trigs fun t' ht' => hnf k e' hideal t' ((heq.trigs t').mp ht')]
    exact mem_sortSet.mpr ((heq.trigs t).mpr hm)

end Cppcms.C10
