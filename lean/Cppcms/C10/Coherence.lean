import Cppcms.C10.Effect
/-!
# C10 — generations are never reused, and every L1 entry copies a server entry of the past

On one C07 cache, along its own history, every generation handed out is below the counter, hence unique
(`GenInv`; the counter is at most the number of operations, so it does not wrap below 2^64).  Server `i`
of a cluster runs the projected history (`server_arun`), which carries this to a `Fresh` cluster (`was_uniq`).
There every L1 entry copies something the responsible server once held (`l1_copies`), so an L1 entry under
the generation of the server's present entry is a copy of that entry (`l1_coherent`), and a fetch on any node
answers what the responsible server holds at that moment (`fetch_agrees`).
-/
namespace Cppcms.C10
open Cppcms Cppcms.C07

/-- one C07 cache, started in `s0`, held `k ↦ e` after some prefix of its history `ops` -/
def Held (s0 : State) (ops : List C07.Op) (k : Key) (e : Entry) : Prop :=
  ∃ pre, pre <+: ops ∧ abs (C07.run s0 pre) k = some e

structure GenInv (s0 : State) (ops : List C07.Op) : Prop where
  inv : Inv (C07.run s0 ops)
  /-- so the next store gets a new generation -/
  below : ∀ k e, Held s0 ops k e → e.gen.toNat < (C07.run s0 ops).generation.toNat
  uniq : ∀ k k' e e', Held s0 ops k e → Held s0 ops k' e' → e.gen = e'.gen → k = k' ∧ e = e'
  /-- with `ops.length < 2^64`: `generation + 1` does not wrap, so `below` survives a store -/
  count : (C07.run s0 ops).generation.toNat ≤ ops.length

theorem toNat_succ {a : UInt64} (h : a.toNat + 1 < 2 ^ 64) : (a + 1).toNat = a.toNat + 1 := by
  rw [UInt64.toNat_add]
  simp
  omega

theorem genInv_snoc {s0 : State} {ops : List C07.Op} (h : GenInv s0 ops) (hlen : ops.length + 1 < 2 ^ 64)
    {op : C07.Op} (hop : ServerOp op) : GenInv s0 (ops ++ [op]) := by
  have hg := serverOp_generation (C07.run s0 ops) hop
  have hc := h.count
  have hsucc := toNat_succ (a := (C07.run s0 ops).generation) (by omega)
  -- what the server ever held: what it had held before, or the entry this operation creates
  have cls : ∀ k e, Held s0 (ops ++ [op]) k e → Held s0 ops k e ∨ newEntry (C07.run s0 ops) op = some (k, e) := by
    rintro k e ⟨pre, hp, hs⟩
    rcases List.prefix_concat_iff.mp hp with rfl | h1
    · rw [run_snoc] at hs
      exact (entries_step h.inv op hs).imp_left fun h' => ⟨ops, List.prefix_rfl, h'⟩
    · exact Or.inl ⟨pre, h1, hs⟩
  cases hne : newEntry (C07.run s0 ops) op with
  | none =>
    rw [hne] at hg
    have old : ∀ k e, Held s0 (ops ++ [op]) k e → Held s0 ops k e := fun k e hw =>
      (cls k e hw).resolve_right (by rw [hne]; nofun)
    refine ⟨run_snoc .. ▸ inv_step h.inv op, fun k e hw => ?_,
      fun k k' e e' hw hw' => h.uniq k k' e e' (old k e hw) (old k' e' hw'), ?_⟩
    · rw [run_snoc, hg]; exact h.below k e (old k e hw)
    · rw [run_snoc, hg, List.length_append]; omega
  | some p =>
    -- the new entry carries the old counter value, which is above every generation handed out before
    rw [hne] at hg
    obtain ⟨g1, g2⟩ := hg
    refine ⟨run_snoc .. ▸ inv_step h.inv op, fun k e hw => ?_, fun k k' e e' hw hw' hgen => ?_, ?_⟩
    · rw [run_snoc, g2, hsucc]
      rcases cls k e hw with h1 | h1
      · have := h.below k e h1; omega
      · cases hne.symm.trans h1; rw [g1]; omega
    · rcases cls k e hw with a1 | a1 <;> rcases cls k' e' hw' with a2 | a2
      · exact h.uniq k k' e e' a1 a2 hgen
      · cases hne.symm.trans a2; have := h.below k e a1; rw [hgen, g1] at this; omega
      · cases hne.symm.trans a1; have := h.below k' e' a2; rw [← hgen, g1] at this; omega
      · exact Prod.mk.inj (Option.some.inj (a1.symm.trans a2))
    · rw [run_snoc, g2, hsucc, List.length_append]; exact Nat.succ_le_succ hc

theorem genInv_run {s0 : State} (hinv : Inv s0) (hg : s0.generation = 0) (he : abs s0 = C07.Spec.empty)
    (ops : List C07.Op) (hops : ∀ o ∈ ops, ServerOp o) (hlen : ops.length < 2 ^ 64) : GenInv s0 ops := by
  induction hn : ops.length generalizing ops with
  | zero =>
    cases List.eq_nil_of_length_eq_zero hn
    have hnone : ∀ k e, ¬ Held s0 [] k e := by
      rintro k e ⟨pre, hp, hs⟩
      cases List.prefix_nil.mp hp
      rw [show C07.run s0 [] = s0 from rfl, he] at hs
      cases hs
    exact ⟨hinv, fun k e h => absurd h (hnone k e), fun k _ e _ h => absurd h (hnone k e), by rw [show C07.run s0 [] = s0 from rfl, hg]; exact Nat.le_refl 0⟩
  | succ n ih =>
    rcases List.eq_nil_or_concat ops with rfl | ⟨pre, op, rfl⟩
    · cases hn
    · simp only [List.concat_eq_append, List.length_append, List.length_cons, List.length_nil] at hn hlen ⊢
      exact genInv_snoc (ih pre (fun o ho => hops o (by simp [ho])) (by omega) (by omega)) (by omega) (hops op (by simp))

theorem arun_cons (cl : Cluster) (op : Op) (ops : List Op) : arun cl (op :: ops) = arun (astep cl op).1 ops := rfl

theorem arun_length (cl : Cluster) (ops : List Op) : (arun cl ops).servers.length = cl.servers.length := by
  induction ops generalizing cl with
  | nil => rfl
  | cons op ops ih => rw [arun_cons, ih, astep_length]

theorem cinvs_arun {cl : Cluster} (hi : CInvs cl) (ops : List Op) : CInvs (arun cl ops) := by
  induction ops generalizing cl with
  | nil => exact hi
  | cons op ops ih => exact ih (cinvs_astep hi op)

theorem server_arun (cl : Cluster) (ops : List Op) (i : Nat) :
    (arun cl ops).servers[i]? = (cl.servers[i]?).map fun s => C07.run s (ops.filterMap (projOp cl.servers.length i)) := by
  induction ops generalizing cl with
  | nil => exact Option.map_id'.symm
  | cons op ops ih =>
    rw [arun_cons, ih, astep_servers, astep_length, Option.map_map]
    congr 1
    funext s
    simp only [List.filterMap_cons]
    cases projOp cl.servers.length i op <;> rfl

/-- `Held` for server `i` of a cluster along the cluster's history -/
def Was (cl0 : Cluster) (ops : List Op) (i : Nat) (k : Key) (e : Entry) : Prop :=
  ∃ pre, pre <+: ops ∧ sabs (arun cl0 pre) i k = some e

structure Fresh (cl0 : Cluster) : Prop where
  invs : CInvs cl0
  srv : ∀ (i : Nat) (s : State), cl0.servers[i]? = some s → s.generation = 0 ∧ abs s = C07.Spec.empty
  l1 : ∀ (c : Nat) (l : State), cl0.l1 c = some l → abs l = C07.Spec.empty

theorem labs_fresh {cl0 : Cluster} (hf : Fresh cl0) (c : Nat) (k : Key) (e : Entry) : ¬ labs cl0 c k = some e := by
  intro h
  unfold labs at h
  cases hl : cl0.l1 c with
  | none => rw [hl] at h; cases h
  | some l => rw [hl] at h; simp only [hf.l1 c l hl] at h; cases h

theorem was_uniq {cl0 : Cluster} (hf : Fresh cl0) {ops : List Op} (hlen : ops.length < 2 ^ 64) {i : Nat} {k k' : Key}
    {e e' : Entry} (hw : Was cl0 ops i k e) (hw' : Was cl0 ops i k' e') (hg : e.gen = e'.gen) : k = k' ∧ e = e' := by
  -- server `i` runs the projected history; a prefix of the history projects to a prefix
  have held : ∀ {k e}, Was cl0 ops i k e → ∃ s0, cl0.servers[i]? = some s0 ∧
      Held s0 (ops.filterMap (projOp cl0.servers.length i)) k e := by
    rintro k e ⟨pre, hp, hs⟩
    obtain ⟨s, hs1, he⟩ := sabs_some hs
    rw [server_arun] at hs1
    obtain ⟨s0, h0, rfl⟩ := Option.map_eq_some_iff.mp hs1
    exact ⟨s0, h0, _, hp.filterMap _, he⟩
  obtain ⟨s0, h0, hh⟩ := held hw
  obtain ⟨_, h0', hh'⟩ := held hw'
  cases h0.symm.trans h0'
  exact (genInv_run (hf.invs.srv i s0 h0) (hf.srv i s0 h0).1 (hf.srv i s0 h0).2 _
    (fun o ho => have ⟨_, _, hop⟩ := List.mem_filterMap.mp ho; projOp_serverOp hop)
    (Nat.lt_of_le_of_lt (List.length_filterMap_le _ _) hlen)).uniq k k' e e' hh hh' hg

/-- from any start cluster with `CInvs`: an L1 entry was there at the start or copies what the responsible server once held -/
theorem l1_copies {cl : Cluster} (hi : CInvs cl) (ops : List Op) (c : Nat) (k : Key) (e : Entry)
    (h : labs (arun cl ops) c k = some e) :
    labs cl c k = some e ∨ ∃ e', Was cl ops (shard cl.servers.length k) k e' ∧ Copies e' e := by
  induction ops generalizing cl with
  | nil => exact Or.inl h
  | cons op ops ih =>
    rcases ih (cinvs_astep hi op) h with h1 | ⟨e', ⟨pre, hp, hs⟩, hc⟩
    · unfold labs at h1
      cases hl' : (astep cl op).1.l1 c with
      | none => rw [hl'] at h1; cases h1
      | some l' =>
        rw [hl'] at h1
        obtain ⟨l, hl, hr⟩ := astep_l1 hi op c l' hl'
        rcases hr.ent k e h1 with h2 | ⟨es, h2, hv, hd, hg, hts⟩
        · exact Or.inl (by simp [labs, hl, h2])
        · exact Or.inr ⟨es, ⟨[], List.nil_prefix, h2⟩, hv, hd, hg, hts⟩
    · rw [astep_length] at hs
      exact Or.inr ⟨e', ⟨op :: pre, List.cons_prefix_cons.mpr ⟨rfl, hp⟩, hs⟩, hc⟩

theorem l1_coherent {cl0 : Cluster} (hf : Fresh cl0) (ops : List Op) (hlen : ops.length < 2 ^ 64) (c : Nat) (k : Key) :
    L1Coh (arun cl0 ops) c k := by
  intro eL es hL hs hg
  obtain ⟨e', hw, hc⟩ := (l1_copies hf.invs ops c k eL hL).resolve_left (labs_fresh hf c k eL)
  have hws : Was cl0 ops (shard cl0.servers.length k) k es :=
    ⟨ops, List.prefix_rfl, by rwa [home, arun_length] at hs⟩
  obtain ⟨_, rfl⟩ := was_uniq hf hlen hw hws (hc.gen.trans hg.symm)
  exact hc

/-- from a `Fresh` cluster, below 2^64 operations: a fetch on any node answers the responsible server's live entry, or misses when it has none -/
theorem fetch_agrees {cl0 : Cluster} (hf : Fresh cl0) (ops : List Op) (hlen : ops.length < 2 ^ 64)
    (c : Nat) (nowC nowS : Time) (k : Key) (tags : Bool) :
    Served (arun cl0 ops) nowS k tags (astep (arun cl0 ops) (.fetch c nowC nowS k tags)).2 :=
  fetchOp_out (cinvs_arun hf.invs ops) c nowC nowS k tags (l1_coherent hf ops hlen c k)

end Cppcms.C10
