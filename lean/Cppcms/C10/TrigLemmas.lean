import Cppcms.C10.Abstract
/-!
# C10 — trigger names on the wire: `sortSet` keeps the set, `loadAux` inverts `trigBytes` on
NUL-free names `rej` lets through (the server's: non-empty; counterexamples in `Props.lean`); what the names weigh.
-/
namespace Cppcms.C10
open Cppcms Cppcms.C07

theorem mem_insertSet {t t' : Key} {l : List Key} : t' ∈ insertSet t l ↔ t' = t ∨ t' ∈ l := by
  induction l with
  | nil => simp [insertSet]
  | cons x r ih =>
    simp only [insertSet]
    split
    · rename_i h; subst h; simp
    · split
      · exact List.mem_cons
      · simp only [List.mem_cons, ih]; exact or_left_comm

theorem mem_sortSet {t : Key} {l : List Key} : t ∈ sortSet l ↔ t ∈ l := by
  induction l with
  | nil => rfl
  | cons x r ih => exact (mem_insertSet (l := sortSet r)).trans (by rw [ih, List.mem_cons])

theorem loadAux_name (rej : Nat → Bool) (t : Key) (ht : (0 : UInt8) ∉ t) (rest cur : Bytes) :
    loadAux rej (t ++ 0 :: rest) cur =
      if rej (cur.length + t.length) then none else (loadAux rej rest []).map ((cur.reverse ++ t) :: ·) := by
  induction t generalizing cur with
  | nil => simp [loadAux]
  | cons c t ih =>
    have hc : c ≠ 0 := fun h => ht (by simp [h])
    simp only [List.cons_append, loadAux, hc, if_false]
    rw [ih (fun h => ht (by simp [h]))]
    simp only [List.length_cons, List.reverse_cons, List.append_assoc, List.cons_append, List.nil_append,
      Nat.add_assoc, Nat.add_comm 1]

theorem loadAux_trigBytes (rej : Nat → Bool) (ts : List Key)
    (h : ∀ t ∈ ts, (0 : UInt8) ∉ t ∧ rej t.length = false) : loadAux rej (trigBytes ts) [] = some ts := by
  induction ts with
  | nil => rfl
  | cons t ts ih =>
    have h1 := h t (by simp)
    show loadAux rej ((t ++ [0]) ++ trigBytes ts) [] = _
    rw [List.append_assoc, List.singleton_append, loadAux_name rej t h1.1, ih fun t' ht' => h t' (by simp [ht'])]
    simp [h1.2]

theorem wireTrigs_wf (trigs : List Key) (h : ∀ t ∈ trigs, t ≠ [] ∧ (0 : UInt8) ∉ t) :
    wireTrigs trigs = some (sortSet trigs) :=
  loadAux_trigBytes _ _ fun t ht =>
    have ⟨h1, h2⟩ := h t (mem_sortSet.mp ht)
    ⟨h2, by simpa [Gen.trigRejected] using h1⟩

theorem backTrigs_nulfree (trigs : List Key) (h : ∀ t ∈ trigs, (0 : UInt8) ∉ t) : backTrigs trigs = sortSet trigs := by
  unfold backTrigs
  rw [loadAux_trigBytes _ _ fun t ht => ⟨h t (mem_sortSet.mp ht), rfl⟩]
  rfl

/-- total size of a list of names with their terminators -/
def namesSize (l : List Key) : Nat := (l.map (·.length + 1)).sum

theorem namesSize_cons (t : Key) (l : List Key) : namesSize (t :: l) = t.length + 1 + namesSize l := rfl

theorem length_trigBytes (l : List Key) : (trigBytes l).length = namesSize l := by
  induction l with
  | nil => rfl
  | cons t l ih =>
    show ((t ++ [0]) ++ trigBytes l).length = _
    rw [List.length_append, List.length_append, ih, namesSize_cons]; rfl

theorem namesSize_insertSet (t : Key) (l : List Key) : namesSize (insertSet t l) ≤ t.length + 1 + namesSize l := by
  induction l with
  | nil => exact Nat.le_refl _
  | cons x r ih =>
    simp only [insertSet]
    split
    · omega
    · split
      · exact Nat.le_refl _
      · simp only [namesSize_cons] at ih ⊢; omega

theorem namesSize_sortSet (l : List Key) : namesSize (sortSet l) ≤ namesSize l := by
  induction l with
  | nil => exact Nat.le_refl _
  | cons x r ih => exact Nat.le_trans (namesSize_insertSet x (sortSet r)) (Nat.add_le_add_left ih _)

theorem length_wire_le (l : List Key) : (trigBytes (sortSet l)).length ≤ namesSize l :=
  Nat.le_trans (Nat.le_of_eq (length_trigBytes _)) (namesSize_sortSet l)

theorem namesSize_ownTrigs (k : Key) (l : List Key) : namesSize (ownTrigs k l) ≤ k.length + 1 + namesSize l := by
  have hd : namesSize (dedup l) ≤ namesSize l := by
    induction l with
    | nil => exact Nat.le_refl _
    | cons x r ih => simp only [dedup]; split <;> simp only [namesSize_cons] <;> omega
  unfold ownTrigs
  split
  · omega
  · rw [namesSize_cons]; omega

theorem loadAux_size (rej : Nat → Bool) (bs cur : Bytes) (ts : List Key) (h : loadAux rej bs cur = some ts) :
    namesSize ts ≤ bs.length + cur.length + 1 := by
  induction bs generalizing cur ts with
  | nil =>
    simp only [loadAux] at h
    split at h
    · cases h; exact Nat.zero_le _
    · split at h
      · cases h
      · cases h; simp [namesSize]
  | cons c r ih =>
    simp only [loadAux] at h
    split at h
    · split at h
      · cases h
      · obtain ⟨ts', hr, rfl⟩ := Option.map_eq_some_iff.mp h
        have := ih [] ts' hr
        simp only [namesSize_cons, List.length_cons, List.length_nil, List.length_reverse] at this ⊢
        omega
    · have := ih (c :: cur) ts h
      simp only [List.length_cons] at this ⊢
      omega

end Cppcms.C10
