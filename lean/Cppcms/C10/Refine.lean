import Cppcms.C10.WireLemmas
import Cppcms.C10.Ideal
/-!
# C10 — the cluster model over the real codec equals the one over the message-level transport

as long as the sizes fit: `OpOk` (store: key, value and names with their terminators below 2^31 − 2 bytes, `int64_t` deadline;
fetched key, raised name: below 2^31) and `AllSmall` (every entry a server holds fits one data frame), which
histories of `OpOk` operations preserve from a cluster with `CInvs`.
-/
namespace Cppcms.C10
open Cppcms Cppcms.C07

/-- the sizes fit the header fields and the `int` counters of the `strlen` loops.  `+ 2` in a store: the entry the
server creates must be `EntrySmall` with the key among its names (one terminator more) and with what the `strlen`
loop may count beyond the region (`loadAux_size`) -/
def OpOk : Op → Prop
  | .fetch _ _ _ k _ => k.length < 2147483648
  | .store _ _ k v trigs d => k.length + v.length + namesSize trigs + 2 < 2147483648 ∧ inI64 d
  | .rise _ t => t.length < 2147483648
  | _ => True

def SrvSmall (s : State) : Prop := ∀ k e, abs s k = some e → EntrySmall e

def AllSmall (cl : Cluster) : Prop := ∀ (i : Nat) (s : State), cl.servers[i]? = some s → SrvSmall s

theorem mem_of_getElem? {α : Type} {l : List α} {i : Nat} {a : α} (h : l[i]? = some a) : a ∈ l :=
  List.mem_of_getElem? h

theorem step_eq_astep {cl : Cluster} (hsm : AllSmall cl) {op : Op} (hok : OpOk op) : step cl op = astep cl op := by
  cases op with
  | fetch c nowC nowS k t =>
    show fetchOp wireT cl c nowC nowS k t = fetchOp absT cl c nowC nowS k t
    rw [fetchOp_eq, fetchOp_eq]
    cases hs : cl.servers[shard cl.servers.length k]? with
    | none => rfl
    | some s =>
      -- `wireT.fetch` is a projection of a structure literal: reduce it to `tcpFetch` so that `tcpFetch_eq`
      -- rewrites syntactically (the unifier would unfold `tcpFetch` before `wireT`)
      simp only [wireT, absT]
      rw [tcpFetch_eq s nowS k _ _ (Nat.lt_trans hok (by decide)) (hsm _ s hs k)]
  | store c nowS k v trigs d =>
    show (storeOp wireT cl c nowS k v trigs d, Out.done) = (storeOp absT cl c nowS k v trigs d, Out.done)
    rw [storeOp_eq, storeOp_eq]
    cases cl.servers[shard cl.servers.length k]? with
    | none => rfl
    | some s =>
      have := length_wire_le trigs
      simp only [wireT, absT]
      rw [tcpStore_eq s nowS k v trigs d (by have := hok.1; omega) hok.2]
  | rise c t =>
    show (riseOp wireT cl c t, Out.done) = (riseOp absT cl c t, Out.done)
    rw [riseOp_eq, riseOp_eq]
    simp only [wireT, absT]
    rw [List.map_congr_left fun s _ => tcpRise_eq s t (Nat.lt_trans hok (by decide))]
  | clear c => rfl
  | remove c k => rfl
  | stats c => rfl

theorem srvSmall_applyProj {s : State} (hinv : C07.Inv s) (hsm : SrvSmall s) (n i : Nat) {op : Op} (hok : OpOk op) :
    SrvSmall (applyProj (projOp n i op) s) := by
  cases hp : projOp n i op with
  | none => exact hsm
  | some o =>
    intro k' e he
    rcases entries_step hinv o he with h1 | h1
    · exact hsm k' e h1
    · -- a new entry comes from a store; its names went over the wire
      cases o with
      | store now k v ts d gen env =>
        obtain ⟨c, trigs, rfl, hw, rfl, rfl⟩ := projOp_store hp
        obtain ⟨g, _, h6⟩ := Option.map_eq_some_iff.mp h1
        cases h6
        have h2 := loadAux_size _ _ _ _ hw
        have h3 := length_wire_le trigs
        have h4 := namesSize_ownTrigs k' ts
        have h5 := hok.1
        simp only [List.length_nil] at h2
        exact ⟨by simp only; omega, hok.2⟩
      | _ => cases h1

theorem allSmall_astep {cl : Cluster} (hi : CInvs cl) (hsm : AllSmall cl) {op : Op} (hok : OpOk op) :
    AllSmall (astep cl op).1 := by
  intro i s' hs'
  rw [astep_servers] at hs'
  obtain ⟨s, hs, rfl⟩ := Option.map_eq_some_iff.mp hs'
  exact srvSmall_applyProj (hi.srv i s hs) (hsm i s hs) _ _ hok

/-- sizes of every operation of the history fit the header fields -/
def HistOk (ops : List Op) : Prop := ∀ op ∈ ops, OpOk op

theorem run_eq_arun {cl : Cluster} (hi : CInvs cl) (hsm : AllSmall cl) (ops : List Op) (hok : HistOk ops) :
    run cl ops = arun cl ops ∧ AllSmall (arun cl ops) := by
  induction ops generalizing cl with
  | nil => exact ⟨(rfl : cl = cl), hsm⟩  -- both runs of `[]` are `cl`; a bare `rfl` would compare `wireT` with `absT` first
  | cons op ops ih =>
    have h1 : OpOk op := hok op List.mem_cons_self
    obtain ⟨e1, e2⟩ := ih (cinvs_astep hi op) (allSmall_astep hi hsm h1)
      fun o ho => hok o (List.mem_cons_of_mem _ ho)
    exact ⟨(congrArg (fun p => run p.1 ops) (step_eq_astep hsm h1)).trans e1, e2⟩

theorem histOk_prefix {pre ops : List Op} (hp : pre <+: ops) (h : HistOk ops) : HistOk pre :=
  fun op ho => h op (hp.subset ho)

theorem run_init_eq (sl : List Nat) (ll : List (Option Nat)) (ops : List Op) (hok : HistOk ops) :
    run (Cluster.init sl ll) ops = arun (Cluster.init sl ll) ops ∧ AllSmall (arun (Cluster.init sl ll) ops) :=
  run_eq_arun (fresh_init sl ll).invs
    (fun i s hs k e he => by rw [((fresh_init sl ll).srv i s hs).2] at he; cases he) ops hok

theorem fetch_init_eq {sl : List Nat} {ll : List (Option Nat)} {ops : List Op} (hok : HistOk ops)
    (c : Nat) (nowC nowS : Time) {k : Key} (tags : Bool) (hk : k.length < 2147483648) :
    step (run (Cluster.init sl ll) ops) (.fetch c nowC nowS k tags) =
      astep (arun (Cluster.init sl ll) ops) (.fetch c nowC nowS k tags) := by
  obtain ⟨hr, hsm⟩ := run_init_eq sl ll ops hok
  rw [hr, step_eq_astep hsm (op := .fetch c nowC nowS k tags) hk]

end Cppcms.C10
