import Cppcms.C16.Md5
import Cppcms.C16.Sha1
import Cppcms.C16.Laws
import Cppcms.C16.Compress
/-!
C16: "for every message, key and way of feeding the message in pieces, the MD5 and SHA-1 digests and the
HMACs built on them equal the values defined by the standards, a digest or HMAC object is ready for a new
message after each read-out; AES-CBC decryption undoes encryption on whole blocks."

`Spec.md5` and `Spec.sha1` are RFC 1321 and FIPS 180-4 transcribed independently of the source; the two
`*_compress_eq_*` theorems tie the translated compression functions to them.  SHA-2 and the AES block
function are OpenSSL's: they enter as the abstract lawful digest `H` and the block permutation `E`/`D`.
-/
namespace Cppcms.C16.Props
open Cppcms Cppcms.C16

/-- appends of any length, whatever the 64-byte buffer contained when the object was constructed -/
def md5Laws (buf0 : Bytes) (h : buf0.length = 64) : HashLaws (md5Obj buf0) Spec.md5 (fun _ => True) where
  rep := Md5Inv
  fresh := md5Init_inv buf0 h
  append := fun s m d hi _ => md5Append_inv s m d hi
  readout := fun s m hi => md5Hash_eq_spec m ▸ md5Readout_spec s m hi
  digest_len := fun m => md5Hash_eq_spec m ▸ md5Hash_length m
  digest_le_block := by show Gen.md5DigestSize ≤ Gen.md5BlockSize; decide
  block_ok := trivial
  ok_mono := fun _ _ _ _ => trivial

/-- `md5_process` as translated (64 `SET` lines, `T1..T64`, `F/G/H/I`, `ROTATE_LEFT`, the byte-to-word
expression, the final additions) is the compression function of RFC 1321 §3.4 -/
theorem md5_compress_eq_rfc1321 (a b c d : Nat) (blk : Bytes) :
    md5Process [a, b, c, d] blk = Spec.md5Compress [a, b, c, d] blk :=
  md5Process_eq a b c d blk

/-- reuse after read-out: one object, any number of messages, each fed in any pieces -/
theorem md5_session_eq_spec (buf0 : Bytes) (h : buf0.length = 64) (msgs : List (List Bytes)) :
    (md5Obj buf0).session (md5Obj buf0).fresh msgs = msgs.map fun cs => Spec.md5 cs.flatten :=
  (md5Laws buf0 h).session msgs _ (md5Laws buf0 h).fresh (fun _ _ _ _ => trivial)

/-- every way of feeding a message to a fresh (or re-initialised) MD5 object gives the RFC 1321 MD5 of
the concatenation, independent of stale buffer content -/
theorem md5_stream_eq_spec (buf0 : Bytes) (h : buf0.length = 64) (chunks : List Bytes) :
    (md5Readout (chunks.foldl md5Append (md5Init buf0))).1 = Spec.md5 chunks.flatten :=
  (md5Laws buf0 h).stream chunks (fun _ _ => trivial)

/-- `md5_append` takes its count as an `int`: a count of 2^31 is ignored (`md5AppendInt_ignored` has every such
count).  That is why `md5_digets::append` feeds its input in pieces of `Gen.md5MaxChunk` bytes and the theorems
above need no bound on the length of an append (D14). -/
theorem md5_append_int_truncation (s : Md5State) (d : Bytes) : md5AppendInt s d (2 ^ 31) = s :=
  md5AppendInt_ignored s d _ (.inl (by decide))

example : Gen.md5MaxChunk < 2 ^ 31 ∧ 0 < Gen.md5MaxChunk := by decide

/-- the eight length bytes `get_digest` appends are the big-endian 64-bit bit count, for every bit count
(D6; the 2^29-byte witness is gen/corpus/C16/d6_sha1_len.txt) -/
theorem sha1_len_bytes_eq_be64 (bc : Nat) :
    nats (Gen.sha1LenBytes bc) = Spec.be64 bc :=
  sha1LenBytes_eq bc

/-- the length bytes at D6's witness: for the bit count 2^32 (a message of 2^29 bytes) the fifth-from-last
byte is 1 -/
example : nats (Gen.sha1LenBytes (Gen.sha1BitCount (2 ^ 29))) = [0, 0, 0, 1, 0, 0, 0, 0] := by decide

def sha1Laws (block0 : Bytes) (h : block0.length = 64) : HashLaws (sha1Obj block0) Spec.sha1 (fun _ => True) where
  rep := Sha1Inv
  fresh := sha1Reset_inv block0 h
  append := fun s m d hi _ => sha1Append_inv d s m hi
  readout := fun s m hi => sha1Hash_eq_spec m ▸ sha1Readout_spec s m hi
  digest_len := fun m => sha1Hash_eq_spec m ▸ sha1Hash_length m
  digest_le_block := by show Gen.sha1DigestSize ≤ Gen.sha1BlockSize; decide
  block_ok := trivial
  ok_mono := fun _ _ _ _ => trivial

/-- `sha1::process_block()` as translated (byte-to-word lines, schedule, the four f/k arms, rotates,
final additions) is the compression function of FIPS 180-4 §6.1.2 on chaining values of 32-bit words -/
theorem sha1_compress_eq_fips180 (h0 h1 h2 h3 h4 : Nat) (blk : Bytes)
    (hw : h0 < 2 ^ 32 ∧ h1 < 2 ^ 32 ∧ h2 < 2 ^ 32 ∧ h3 < 2 ^ 32 ∧ h4 < 2 ^ 32) :
    sha1ProcessBlock [h0, h1, h2, h3, h4] blk = Spec.sha1Compress [h0, h1, h2, h3, h4] blk :=
  sha1ProcessBlock_eq h0 h1 h2 h3 h4 blk hw.1 hw.2.1

-- the two bounds the proof uses, at the initial value
example : (0x67452301 : Nat) < 2 ^ 32 ∧ (0xefcdab89 : Nat) < 2 ^ 32 := by decide

theorem sha1_session_eq_spec (block0 : Bytes) (h : block0.length = 64) (msgs : List (List Bytes)) :
    (sha1Obj block0).session (sha1Obj block0).fresh msgs = msgs.map fun cs => Spec.sha1 cs.flatten :=
  (sha1Laws block0 h).session msgs _ (sha1Laws block0 h).fresh (fun _ _ _ _ => trivial)

/-- every way of feeding a message to a fresh (or re-initialised) SHA-1 object gives the FIPS 180-4
SHA-1 of the concatenation (bit length taken modulo 2^64, as `Spec.pad` does beyond the standard's
domain), independent of stale block content -/
theorem sha1_stream_eq_spec (block0 : Bytes) (h : block0.length = 64) (chunks : List Bytes) :
    (sha1Readout (chunks.foldl sha1Append (sha1Reset block0))).1 = Spec.sha1 chunks.flatten :=
  (sha1Laws block0 h).stream chunks (fun _ _ => trivial)

/-! `Spec.pad` (and both state machines) carry the bit length modulo 2^64.  RFC 1321 §3.2 defines MD5 that way
for every length; FIPS 180-4 defines SHA-1 only below 2^64 bits, i.e. **fewer than 2^61 bytes**: there the length
field holds the true bit length and `sha1_stream_eq_spec` speaks of the standard's SHA-1; beyond, it says that code
and `Spec.sha1` agree on the wrapped length (a convention, not the standard). -/

theorem length_field_exact_domain (L : Nat) (h : L < 2 ^ 61) :
    Spec.beVal (Spec.be64 (8 * L % 2 ^ 64)) = 8 * L ∧ Spec.leVal (Spec.le64 (8 * L % 2 ^ 64)) = 8 * L ∧
    Gen.sha1BitCount (L % 2 ^ 64) = 8 * L ∧ Spec.beVal (nats (Gen.sha1LenBytes (Gen.sha1BitCount (L % 2 ^ 64)))) = 8 * L := by
  have hm : 8 * L % 2 ^ 64 = 8 * L := Nat.mod_eq_of_lt (by omega)
  have b : Spec.beVal (Spec.be64 (8 * L)) = 8 * L := by rw [beVal_be64, hm]
  rw [sha1BitCount_eq, sha1LenBytes_eq, hm]
  exact ⟨b, b, rfl, b⟩

/-- the first length outside the domain: 2^61 bytes = 2^64 bits wraps to a zero length field -/
example : Gen.sha1BitCount (2 ^ 61 % 2 ^ 64) = 0 ∧ Spec.be64 (8 * 2 ^ 61 % 2 ^ 64) = [0, 0, 0, 0, 0, 0, 0, 0] := by decide
example : (2 ^ 29 : Nat) < 2 ^ 61 := by decide

/-- RFC 2104 for every lawful streaming digest: key (hashed first iff longer than the block) and chunk
lengths within `ok`, any number of messages on one object -/
theorem hmac_eq_rfc2104 {σ : Type} (H : HashObj σ) (hash : Bytes → Bytes) (ok : Nat → Prop) (L : HashLaws H hash ok)
    (key : Bytes) (hk : ok key.length) (msgs : List (List Bytes)) (hc : ∀ cs ∈ msgs, ∀ c ∈ cs, ok c.length) :
    (hmacObj H key).session (hmacNew H key) msgs = msgs.map fun cs => Spec.hmac hash H.blockSize key cs.flatten :=
  (hmacLaws L key hk).session msgs _ (hmacLaws L key hk).fresh hc

theorem hmac_md5_eq_rfc2104 (buf0 : Bytes) (h : buf0.length = 64) (key : Bytes) (msgs : List (List Bytes)) :
    (hmacObj (md5Obj buf0) key).session (hmacNew (md5Obj buf0) key) msgs =
      msgs.map fun cs => Spec.hmac Spec.md5 64 key cs.flatten :=
  hmac_eq_rfc2104 _ _ _ (md5Laws buf0 h) key trivial msgs (fun _ _ _ _ => trivial)

theorem hmac_sha1_eq_rfc2104 (block0 : Bytes) (h : block0.length = 64) (key : Bytes) (msgs : List (List Bytes)) :
    (hmacObj (sha1Obj block0) key).session (hmacNew (sha1Obj block0) key) msgs =
      msgs.map fun cs => Spec.hmac Spec.sha1 64 key cs.flatten :=
  hmac_eq_rfc2104 _ _ _ (sha1Laws block0 h) key trivial msgs (fun _ _ _ _ => trivial)

/-- the external's contract is satisfiable: the stand-in the driver runs meets it -/
theorem osslCbc_standard {β : Type} (xor : β → β → β) (E D : β → β) : (osslCbc xor E D).Standard xor E D :=
  fun _ _ => ⟨rfl, rfl⟩

/-- **Any split of the data into whole-block pieces across calls gives the same result as one call**, for
`encrypt` and for `decrypt`, from any state of the object — outputs and the IV state left behind.
Depends on the translated facts that `encrypt` hands `iv_enc_` and `decrypt` hands `iv_dec_` (members,
not copies) to `AES_cbc_encrypt`. -/
theorem cbc_multi_call_eq_single_call {β : Type} (X : CbcExt β) (xor : β → β → β) (E D : β → β)
    (hX : X.Standard xor E D) (s : CbcState β) (pss css : List (List β)) :
    cbcRun X s (pss.map CbcOp.enc) = cbcRun X s [CbcOp.enc pss.flatten] ∧
    cbcRun X s (css.map CbcOp.dec) = cbcRun X s [CbcOp.dec css.flatten] := by
  simp only [cbcRun_spec hX, cbcInputsOf_map_enc, cbcInputsOf_map_dec, cbcInputsOf_enc, cbcInputsOf_dec,
    cbcInputsOf_nil, List.append_nil, and_self]

/-- any interleaving of `encrypt` and `decrypt` calls on one object after `set_iv`: each direction is one CBC
stream from that IV over its concatenated inputs; they do not disturb each other (`set_iv` fills both arrays,
each direction updates only its own) -/
theorem cbc_interleaved_calls {β : Type} (X : CbcExt β) (xor : β → β → β) (E D : β → β)
    (hX : X.Standard xor E D) (s0 : CbcState β) (iv : β) (ops : List (CbcOp β)) :
    (cbcRun X (cbcSetIv s0 iv) ops).1 = Spec.cbcEncrypt xor E iv (cbcInputsOf true ops) ∧
    (cbcRun X (cbcSetIv s0 iv) ops).2.1 = Spec.cbcDecrypt xor D iv (cbcInputsOf false ops) := by
  rw [cbcRun_spec hX, cbcSetIv_eq]
  exact ⟨rfl, rfl⟩

/-- from the same IV, decryption undoes encryption however sender and receiver cut the stream into calls -/
theorem cbc_dec_enc {β : Type} (W : β → Prop) (X : CbcExt β) (xor : β → β → β) (E D : β → β)
    (L : CbcLaws W xor E D) (hX : X.Standard xor E D) (sA sB : CbcState β)
    (iv : β) (hiv : W iv) (pss css : List (List β)) (hps : ∀ p ∈ pss.flatten, W p)
    (hsame : css.flatten = (cbcRun X (cbcSetIv sA iv) (pss.map CbcOp.enc)).1) :
    (cbcRun X (cbcSetIv sB iv) (css.map CbcOp.dec)).2.1 = pss.flatten := by
  rw [(cbc_interleaved_calls X xor E D hX sA iv _).1, (cbcInputsOf_map_enc pss).1] at hsame
  rw [(cbc_interleaved_calls X xor E D hX sB iv _).2, (cbcInputsOf_map_dec css).1, hsame]
  exact cbcDecrypt_cbcEncrypt L _ iv hiv hps

/-- what `aes_cipher` relies on (C05): a receiver whose IV differs (`iv'`; `set_nonce_iv` is not
modelled) loses only the first block of one encrypt call -/
theorem cbc_first_block_trick {β : Type} (W : β → Prop) (X : CbcExt β) (xor : β → β → β) (E D : β → β)
    (L : CbcLaws W xor E D) (hX : X.Standard xor E D) (sA sB : CbcState β)
    (iv iv' z : β) (bs : List β) (hiv : W iv) (hz : W z) (hbs : ∀ p ∈ bs, W p) (css : List (List β))
    (hsame : css.flatten = (cbcRun X (cbcSetIv sA iv) [CbcOp.enc (z :: bs)]).1) :
    ((cbcRun X (cbcSetIv sB iv') (css.map CbcOp.dec)).2.1).tail = bs := by
  rw [(cbc_interleaved_calls X xor E D hX sA iv _).1, show cbcInputsOf true [CbcOp.enc (z :: bs)] = z :: bs from
    List.append_nil _] at hsame
  rw [(cbc_interleaved_calls X xor E D hX sB iv' _).2, (cbcInputsOf_map_dec css).1, hsame]
  exact cbcDecrypt_cbcEncrypt L bs _ (L.enc_wf _ (L.xor_wf _ _ hz hiv)) hbs

/-- non-vacuity, in the shape in which the driver uses the model (block function here: add / subtract 1 in every
byte) -/
example : CbcLaws (fun b : Bytes => b.length = 16) xorBytes (fun b => b.map (· + 1)) (fun b => b.map (· - 1)) :=
  cbcLaws_bytes16 _ _ (fun x hx => by simpa using hx) (fun x _ => by simp [Function.comp_def])

theorem key_hex_strict (s : Bytes) :
    (∀ k, setHex s = .ok k ↔ (s.length % 2 = 0 ∧ Spec.fromHex s = some k)) ∧
    (setHex s = .oddLength ↔ s.length % 2 = 1) ∧
    (setHex s = .invalidChar ↔ (s.length % 2 = 0 ∧ Spec.fromHex s = none)) := by
  have hodd : Gen.hexOddLen s.length = decide (s.length % 2 ≠ 0) := by
    simp [Gen.hexOddLen]
  unfold setHex
  by_cases h0 : s.length = 0
  · -- the empty string: the empty key
    have : s = [] := List.eq_nil_of_length_eq_zero h0
    subst this
    simp [Spec.fromHex, eq_comm]
  · rw [if_neg h0, hodd]
    by_cases hpar : s.length % 2 = 0
    · have hp := hexPairs_spec s hpar
      simp only [hpar, ne_eq, not_true_eq_false, decide_false, Bool.false_eq_true, if_false]
      cases hall : (s.all fun c => Gen.hexCharOk c.toNat)
      · -- some byte is no hex digit
        simp [hp.2 hall]
      · -- hex digits only: the digit pairs are the key
        simp [hp.1 hall, eq_comm]
    · have : s.length % 2 = 1 := by omega
      simp [this]

/-- `key::read_from_file`, by content of the file: an empty file is refused; otherwise trailing blanks, tabs
and line ends are dropped (`Spec.rstrip`: the longest prefix not ending in white space) and the rest goes
through `set_hex` (other white space stays); a file of white space only yields
the empty key (set_hex's `len == 0` case; the session layer refuses empty keys later) -/
theorem key_file_strict (content : Bytes) :
    (readFromFile content = .emptyFile ↔ content = []) ∧
    (∀ k, readFromFile content = .parsed (.ok k) ↔
      (content ≠ [] ∧ (Spec.rstrip content).length % 2 = 0 ∧ Spec.fromHex (Spec.rstrip content) = some k)) ∧
    (readFromFile content = .parsed .oddLength ↔ (content ≠ [] ∧ (Spec.rstrip content).length % 2 = 1)) ∧
    (readFromFile content = .parsed .invalidChar ↔
      (content ≠ [] ∧ (Spec.rstrip content).length % 2 = 0 ∧ Spec.fromHex (Spec.rstrip content) = none)) ∧
    (∃ ws, content = Spec.rstrip content ++ ws ∧ ws.all Spec.isWs = true) ∧
    (∀ x, (Spec.rstrip content).getLast? = some x → Spec.isWs x = false) := by
  obtain ⟨hk, ho, hi⟩ := key_hex_strict (Spec.rstrip content)
  refine ⟨?_, ?_, ?_, ?_, rstrip_append_ws content, rstrip_last_not_ws content⟩
  all_goals
    unfold readFromFile
    rw [stripTrailingWs_eq]
    cases content with
    | nil => simp
    | cons c rest => simp [hk, ho, hi]

example : readFromFile [0x30, 0x61, 0x0d, 0x0a] = .parsed (.ok [0x0a]) := by decide
example : readFromFile [0x20, 0x0a] = .parsed (.ok []) := by decide
example : readFromFile [0x30, 0x20, 0x61, 0x31] = .parsed .invalidChar := by decide
example : readFromFile [0x30, 0x20, 0x61] = .parsed .oddLength := by decide
example : readFromFile [] = .emptyFile := by decide

/-! Test vectors: tests of the transcription of the standards (`Spec`), not part of the property; evaluated
in the forms of `Eval.lean`. -/

-- RFC 1321 A.5
example : Spec.md5 [] = [212, 29, 140, 217, 143, 0, 178, 4, 233, 128, 9, 152, 236, 248, 66, 126] := by
  rw [md5_eq_W]; decide +kernel
example : Spec.md5 [97] = [12, 193, 117, 185, 192, 241, 182, 168, 49, 195, 153, 226, 105, 119, 38, 97] := by
  rw [md5_eq_W]; decide +kernel
example : Spec.md5 [97, 98, 99] = [144, 1, 80, 152, 60, 210, 79, 176, 214, 150, 63, 125, 40, 225, 127, 114] := by
  rw [md5_eq_W]; decide +kernel
example : Spec.md5 [109, 101, 115, 115, 97, 103, 101, 32, 100, 105, 103, 101, 115, 116] = [249, 107, 105, 125, 124, 183, 147, 141, 82, 90, 47, 49, 170, 241, 97, 208] := by
  rw [md5_eq_W]; decide +kernel
example : Spec.md5 [97, 98, 99, 100, 101, 102, 103, 104, 105, 106, 107, 108, 109, 110, 111, 112, 113, 114, 115, 116, 117, 118, 119, 120, 121, 122] = [195, 252, 211, 215, 97, 146, 228, 0, 125, 251, 73, 108, 202, 103, 225, 59] := by
  rw [md5_eq_W]; decide +kernel
example : Spec.md5 [65, 66, 67, 68, 69, 70, 71, 72, 73, 74, 75, 76, 77, 78, 79, 80, 81, 82, 83, 84, 85, 86, 87, 88, 89, 90, 97, 98, 99, 100, 101, 102, 103, 104, 105, 106, 107, 108, 109, 110, 111, 112, 113, 114, 115, 116, 117, 118, 119, 120, 121, 122, 48, 49, 50, 51, 52, 53, 54, 55, 56, 57] = [209, 116, 171, 152, 210, 119, 217, 245, 165, 97, 28, 44, 159, 65, 157, 159] := by
  rw [md5_eq_W]; decide +kernel
example : Spec.md5 [49, 50, 51, 52, 53, 54, 55, 56, 57, 48, 49, 50, 51, 52, 53, 54, 55, 56, 57, 48, 49, 50, 51, 52, 53, 54, 55, 56, 57, 48, 49, 50, 51, 52, 53, 54, 55, 56, 57, 48, 49, 50, 51, 52, 53, 54, 55, 56, 57, 48, 49, 50, 51, 52, 53, 54, 55, 56, 57, 48, 49, 50, 51, 52, 53, 54, 55, 56, 57, 48, 49, 50, 51, 52, 53, 54, 55, 56, 57, 48] = [87, 237, 244, 162, 43, 227, 201, 85, 172, 73, 218, 46, 33, 7, 182, 122] := by
  rw [md5_eq_W]; decide +kernel
-- FIPS 180 examples
example : Spec.sha1 [97, 98, 99] = [169, 153, 62, 54, 71, 6, 129, 106, 186, 62, 37, 113, 120, 80, 194, 108, 156, 208, 216, 157] := by
  rw [sha1_eq_W]; decide +kernel
example : Spec.sha1 [97, 98, 99, 100, 98, 99, 100, 101, 99, 100, 101, 102, 100, 101, 102, 103, 101, 102, 103, 104, 102, 103, 104, 105, 103, 104, 105, 106, 104, 105, 106, 107, 105, 106, 107, 108, 106, 107, 108, 109, 107, 108, 109, 110, 108, 109, 110, 111, 109, 110, 111, 112, 110, 111, 112, 113] = [132, 152, 62, 68, 28, 59, 210, 110, 186, 174, 74, 161, 249, 81, 41, 229, 229, 70, 112, 241] := by
  rw [sha1_eq_W]; decide +kernel
-- RFC 2202 (test cases 1, 2 and 6: key longer than the block)
example : Spec.hmac Spec.md5 64 [11, 11, 11, 11, 11, 11, 11, 11, 11, 11, 11, 11, 11, 11, 11, 11] [72, 105, 32, 84, 104, 101, 114, 101] = [146, 148, 114, 122, 54, 56, 187, 28, 19, 244, 142, 248, 21, 139, 252, 157] := by
  rw [md5_eq_W]; decide +kernel
example : Spec.hmac Spec.md5 64 [74, 101, 102, 101] [119, 104, 97, 116, 32, 100, 111, 32, 121, 97, 32, 119, 97, 110, 116, 32, 102, 111, 114, 32, 110, 111, 116, 104, 105, 110, 103, 63] = [117, 12, 120, 62, 106, 176, 181, 3, 234, 168, 110, 49, 10, 93, 183, 56] := by
  rw [md5_eq_W]; decide +kernel
example : Spec.hmac Spec.md5 64 [170, 170, 170, 170, 170, 170, 170, 170, 170, 170, 170, 170, 170, 170, 170, 170, 170, 170, 170, 170, 170, 170, 170, 170, 170, 170, 170, 170, 170, 170, 170, 170, 170, 170, 170, 170, 170, 170, 170, 170, 170, 170, 170, 170, 170, 170, 170, 170, 170, 170, 170, 170, 170, 170, 170, 170, 170, 170, 170, 170, 170, 170, 170, 170, 170, 170, 170, 170, 170, 170, 170, 170, 170, 170, 170, 170, 170, 170, 170, 170] [84, 101, 115, 116, 32, 85, 115, 105, 110, 103, 32, 76, 97, 114, 103, 101, 114, 32, 84, 104, 97, 110, 32, 66, 108, 111, 99, 107, 45, 83, 105, 122, 101, 32, 75, 101, 121, 32, 45, 32, 72, 97, 115, 104, 32, 75, 101, 121, 32, 70, 105, 114, 115, 116] = [107, 26, 183, 254, 75, 215, 191, 143, 11, 98, 230, 206, 97, 185, 208, 205] := by
  rw [md5_eq_W]; decide +kernel
example : Spec.hmac Spec.sha1 64 [11, 11, 11, 11, 11, 11, 11, 11, 11, 11, 11, 11, 11, 11, 11, 11, 11, 11, 11, 11] [72, 105, 32, 84, 104, 101, 114, 101] = [182, 23, 49, 134, 85, 5, 114, 100, 226, 139, 192, 182, 251, 55, 140, 142, 241, 70, 190, 0] := by
  rw [sha1_eq_W]; decide +kernel
example : Spec.hmac Spec.sha1 64 [74, 101, 102, 101] [119, 104, 97, 116, 32, 100, 111, 32, 121, 97, 32, 119, 97, 110, 116, 32, 102, 111, 114, 32, 110, 111, 116, 104, 105, 110, 103, 63] = [239, 252, 223, 106, 229, 235, 47, 162, 210, 116, 22, 213, 241, 132, 223, 156, 37, 154, 124, 121] := by
  rw [sha1_eq_W]; decide +kernel
example : Spec.hmac Spec.sha1 64 [170, 170, 170, 170, 170, 170, 170, 170, 170, 170, 170, 170, 170, 170, 170, 170, 170, 170, 170, 170, 170, 170, 170, 170, 170, 170, 170, 170, 170, 170, 170, 170, 170, 170, 170, 170, 170, 170, 170, 170, 170, 170, 170, 170, 170, 170, 170, 170, 170, 170, 170, 170, 170, 170, 170, 170, 170, 170, 170, 170, 170, 170, 170, 170, 170, 170, 170, 170, 170, 170, 170, 170, 170, 170, 170, 170, 170, 170, 170, 170] [84, 101, 115, 116, 32, 85, 115, 105, 110, 103, 32, 76, 97, 114, 103, 101, 114, 32, 84, 104, 97, 110, 32, 66, 108, 111, 99, 107, 45, 83, 105, 122, 101, 32, 75, 101, 121, 32, 45, 32, 72, 97, 115, 104, 32, 75, 101, 121, 32, 70, 105, 114, 115, 116] = [170, 74, 229, 225, 82, 114, 208, 14, 149, 112, 86, 55, 206, 138, 59, 85, 237, 64, 33, 18] := by
  rw [sha1_eq_W]; decide +kernel
-- RFC 2202 test case 4: a 25-byte key, longer than the digest and shorter than the block, is used as it is
example : Spec.hmac Spec.md5 64 [1, 2, 3, 4, 5, 6, 7, 8, 9, 10, 11, 12, 13, 14, 15, 16, 17, 18, 19, 20, 21, 22, 23, 24, 25] [205, 205, 205, 205, 205, 205, 205, 205, 205, 205, 205, 205, 205, 205, 205, 205, 205, 205, 205, 205, 205, 205, 205, 205, 205, 205, 205, 205, 205, 205, 205, 205, 205, 205, 205, 205, 205, 205, 205, 205, 205, 205, 205, 205, 205, 205, 205, 205, 205, 205] = [105, 126, 175, 10, 202, 58, 58, 234, 58, 117, 22, 71, 70, 255, 170, 121] := by
  rw [md5_eq_W]; decide +kernel
example : Spec.hmac Spec.sha1 64 [1, 2, 3, 4, 5, 6, 7, 8, 9, 10, 11, 12, 13, 14, 15, 16, 17, 18, 19, 20, 21, 22, 23, 24, 25] [205, 205, 205, 205, 205, 205, 205, 205, 205, 205, 205, 205, 205, 205, 205, 205, 205, 205, 205, 205, 205, 205, 205, 205, 205, 205, 205, 205, 205, 205, 205, 205, 205, 205, 205, 205, 205, 205, 205, 205, 205, 205, 205, 205, 205, 205, 205, 205, 205, 205] = [76, 144, 7, 244, 2, 98, 80, 198, 188, 132, 20, 249, 191, 80, 200, 108, 45, 114, 53, 218] := by
  rw [sha1_eq_W]; decide +kernel
-- the state machines on a message cut across a block boundary, dirty buffer, object used twice (by the session theorems)
example : (md5Obj (List.replicate 64 0xee)).session (md5Obj (List.replicate 64 0xee)).fresh [[[0, 1, 2], [], [3, 4, 5, 6, 7, 8, 9, 10, 11, 12, 13, 14, 15, 16, 17, 18, 19, 20, 21, 22, 23, 24, 25, 26, 27, 28, 29, 30, 31, 32, 33, 34, 35, 36, 37, 38, 39, 40, 41, 42, 43, 44, 45, 46, 47, 48, 49, 50, 51, 52, 53, 54, 55, 56, 57, 58, 59, 60, 61, 62, 63, 64, 65], [66, 67, 68, 69]], [[97, 98, 99]]] = [[95, 31, 95, 100, 184, 68, 0, 251, 154, 214, 216, 236, 217, 193, 66, 160], [144, 1, 80, 152, 60, 210, 79, 176, 214, 150, 63, 125, 40, 225, 127, 114]] := by
  rw [md5_session_eq_spec _ List.length_replicate, md5_eq_W]; decide +kernel
example : (sha1Obj (List.replicate 64 0xee)).session (sha1Obj (List.replicate 64 0xee)).fresh [[[0, 1, 2], [], [3, 4, 5, 6, 7, 8, 9, 10, 11, 12, 13, 14, 15, 16, 17, 18, 19, 20, 21, 22, 23, 24, 25, 26, 27, 28, 29, 30, 31, 32, 33, 34, 35, 36, 37, 38, 39, 40, 41, 42, 43, 44, 45, 46, 47, 48, 49, 50, 51, 52, 53, 54, 55, 56, 57, 58, 59, 60, 61, 62, 63, 64, 65], [66, 67, 68, 69]], [[97, 98, 99]]] = [[194, 72, 135, 146, 79, 146, 173, 172, 90, 227, 103, 153, 93, 18, 105, 28, 102, 43, 115, 98], [169, 153, 62, 54, 71, 6, 129, 106, 186, 62, 37, 113, 120, 80, 194, 108, 156, 208, 216, 157]] := by
  rw [sha1_session_eq_spec _ List.length_replicate, sha1_eq_W]; decide +kernel
example : setHex [0x30, 0x61, 0x46, 0x66] = .ok [0x0a, 0xff] := by decide
example : setHex [0x30, 0x61, 0x46] = .oddLength := by decide
example : setHex [0x30, 0x67] = .invalidChar := by decide

end Cppcms.C16.Props
