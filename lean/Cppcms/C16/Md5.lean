import Cppcms.C16.Bytes
/-! The MD5 state machine keeps `Md5Inv`: `md5_append` in its three phases over `Buffered`, the two count words
as one two-limb sum, and `md5_finish` as two appends of the padding RFC 1321 §3.1–3.2 asks for. -/
namespace Cppcms.C16
open Cppcms Cppcms.C16.Spec

theorem md5Loop_spec : ∀ (fuel : Nat) (r : List Nat) (p : Bytes), p.length / 64 ≤ fuel →
    md5Loop fuel r p = (absorb md5Process r p, tailOf p)
  | 0, r, p, h => by
    have hp : p.length < 64 := by omega
    rw [md5Loop, absorb_short _ _ _ hp, tailOf_short _ hp]
  | f + 1, r, p, h => by
    rw [md5Loop, show Gen.md5BlockLen = 64 from rfl]
    split
    · next hp =>
      have hp : 64 ≤ p.length := hp
      rw [md5Loop_spec f _ _ (by rw [List.length_drop]; omega)]
      conv => rhs; rw [← List.take_append_drop 64 p]
      rw [absorb_cons_block _ _ _ _ (by rw [List.length_take]; omega),
        tailOf_append_of_dvd _ _ (by rw [List.length_take]; omega)]
    · next hp =>
      have hp : p.length < 64 := Nat.lt_of_not_le hp
      rw [absorb_short _ _ _ hp, tailOf_short _ hp]

theorem md5Tail_eq (s : Md5State) (p : Bytes) :
    md5Tail s p = { s with abcd := absorb md5Process s.abcd p, buf := memcpy s.buf 0 (tailOf p) } := by
  rw [md5Tail, md5Loop_spec _ _ _ (Nat.div_le_self _ _)]
  dsimp only
  split
  · rfl
  · next h =>
    rw [List.eq_nil_of_length_eq_zero (Decidable.of_not_not h)]
    simp [memcpy]

theorem count0_shift (L : Nat) : (8 * L % 2 ^ 32) >>> 3 = L % 2 ^ 29 := by
  rw [Nat.shiftRight_eq_div_pow, show 2 ^ 32 = 8 * 2 ^ 29 from rfl, Nat.mul_mod_mul_left]
  exact Nat.mul_div_cancel_left _ (by decide)

theorem md5Offset_eq (L : Nat) : Gen.md5Offset (8 * L % 2 ^ 32) = L % 64 := by
  rw [Gen.md5Offset, count0_shift, and_63]
  exact Nat.mod_mod_of_dvd L ⟨2 ^ 23, rfl⟩

theorem md5Nbits_eq (n : Nat) : Gen.md5Nbits n = 8 * n % 2 ^ 32 := by
  rw [Gen.md5Nbits, Nat.shiftLeft_eq, Nat.mod_mod, Nat.mul_comm]

theorem md5HiInc_eq (n : Nat) : Gen.md5HiInc n = 8 * n / 2 ^ 32 := by
  rw [Gen.md5HiInc, Nat.shiftRight_eq_div_pow, show 2 ^ 32 = 8 * 2 ^ 29 from rfl,
    Nat.mul_div_mul_left _ _ (by decide)]

theorem md5Copy_eq (off n : Nat) (ho : off < 64) (hn : n < 2 ^ 31) :
    Gen.md5Copy off n = if off + n > 64 then 64 - off else n := by
  rw [Gen.md5Copy, Nat.mod_eq_of_lt (by omega : off + n < 4294967296)]
  simp only [decide_eq_true_eq]
  split <;> omega

theorem md5EarlyRet_eq (off c : Nat) (h : off + c ≤ 64) : Gen.md5EarlyRet off c = decide (off + c < 64) := by
  rw [Gen.md5EarlyRet, Nat.mod_eq_of_lt (by omega)]

theorem carry_iff {a b B : Nat} (ha : a < B) (hb : b < B) : (a + b) % B < b ↔ B ≤ a + b := by
  by_cases h : B ≤ a + b
  · rw [Nat.mod_eq_sub_mod h, Nat.mod_eq_of_lt (by omega)]; omega
  · rw [Nat.mod_eq_of_lt (by omega)]; omega

/-- two-limb addition with the carry detected by comparison, as `md5_append` does -/
theorem limb_add (x y B : Nat) (hB : 0 < B) :
    (if (x % B + y % B) % B < y % B then ((x / B % B + y / B) % B + 1) % B else (x / B % B + y / B) % B) =
      (x + y) / B % B := by
  simp only [Nat.add_div hB, carry_iff (Nat.mod_lt x hB) (Nat.mod_lt y hB)]
  split
  · rw [Nat.mod_add_mod, Nat.add_assoc, Nat.mod_add_mod, Nat.add_assoc]
  · rw [Nat.mod_add_mod, Nat.add_zero]

structure Md5Inv (s : Md5State) (m : Bytes) : Prop where
  abcd : s.abcd = absorb md5Process Gen.md5Init m
  buflen : s.buf.length = 64
  buf : s.buf.take (m.length % 64) = tailOf m
  c0 : s.count0 = 8 * m.length % 2 ^ 32
  c1 : s.count1 = 8 * m.length / 2 ^ 32 % 2 ^ 32

theorem md5Init_inv (buf : Bytes) (h : buf.length = 64) : Md5Inv (md5Init buf) [] :=
  have b := Buffered.init md5Process Gen.md5Init buf h
  ⟨b.absorbed, b.buflen, b.waiting, rfl, rfl⟩

theorem md5AppendCore_inv (s : Md5State) (m d : Bytes) (hi : Md5Inv s m) (hd : d.length < 2 ^ 31) :
    Md5Inv (md5AppendCore s d) (m ++ d) := by
  have b : Buffered md5Process Gen.md5Init s.abcd s.buf m := ⟨hi.abcd, hi.buflen, hi.buf⟩
  have hc0 : (s.count0 + Gen.md5Nbits d.length) % 2 ^ 32 = 8 * (m ++ d).length % 2 ^ 32 := by
    rw [hi.c0, md5Nbits_eq, List.length_append, Nat.mul_add, ← Nat.add_mod]
  have hc1 : (if Gen.md5Carry (8 * (m ++ d).length % 2 ^ 32) (Gen.md5Nbits d.length)
      then ((s.count1 + Gen.md5HiInc d.length) % 2 ^ 32 + 1) % 2 ^ 32
      else (s.count1 + Gen.md5HiInc d.length) % 2 ^ 32) = 8 * (m ++ d).length / 2 ^ 32 % 2 ^ 32 := by
    rw [← hc0, hi.c0, hi.c1, md5Nbits_eq, md5HiInc_eq, List.length_append, Nat.mul_add,
      ← limb_add _ _ _ (by decide : 0 < 2 ^ 32)]
    simp only [Gen.md5Carry, decide_eq_true_eq]
  have hoff : Gen.md5Offset s.count0 = m.length % 64 := by rw [hi.c0, md5Offset_eq]
  have ho : m.length % 64 < 64 := Nat.mod_lt _ (by decide)
  rw [md5AppendCore]
  simp only [hc0, hc1, hoff, md5Copy_eq _ _ ho hd]
  clear hc0 hc1 hoff
  by_cases h0 : m.length % 64 = 0
  · -- nothing waiting in the buffer
    have x := b.blocks h0 d
    rw [if_neg (fun h => h h0), md5Tail_eq]
    exact ⟨x.absorbed, x.buflen, x.waiting, rfl, rfl⟩
  · rw [if_pos h0]
    generalize hc : (if m.length % 64 + d.length > 64 then 64 - m.length % 64 else d.length) = copy
    obtain ⟨hle, hfit, hshort⟩ :
        copy ≤ d.length ∧ m.length % 64 + copy ≤ 64 ∧ (m.length % 64 + copy < 64 → copy = d.length) := by
      rw [← hc]; split <;> omega
    have hl : (d.take copy).length = copy := by rw [List.length_take]; omega
    have x := b.fill (d.take copy) (by omega)
    rw [md5EarlyRet_eq _ _ hfit]
    rw [hl] at x
    by_cases he : m.length % 64 + copy < 64
    · -- still short of a block
      rw [if_pos (decide_eq_true he)]
      rw [if_neg (by omega), hshort he, List.take_of_length_le (Nat.le_refl _)] at x
      rw [hshort he, List.take_of_length_le (Nat.le_refl _)]
      exact ⟨x.absorbed, x.buflen, x.waiting, rfl, rfl⟩
    · -- the buffer is full: its block, then the rest of the input
      rw [if_neg (by simpa using he), md5Tail_eq]
      rw [if_pos (by omega)] at x
      have y := x.blocks (by rw [List.length_append, hl]; omega) (d.drop copy)
      rw [List.append_assoc, List.take_append_drop] at y
      exact ⟨y.absorbed, y.buflen, y.waiting, rfl, rfl⟩

theorem md5AppendN_inv (s : Md5State) (m data : Bytes) (n : Nat) (hi : Md5Inv s m) (hn : n < 2 ^ 31) :
    Md5Inv (md5AppendN s data n) (m ++ data.take n) := by
  unfold md5AppendN
  split
  · next h => subst h; simpa using hi
  · exact md5AppendCore_inv s m _ hi (by rw [List.length_take]; omega)

theorem md5AppendInt_inv (s : Md5State) (m data : Bytes) (n : Nat) (hi : Md5Inv s m) (hn : n < 2 ^ 31) :
    Md5Inv (md5AppendInt s data n) (m ++ data.take n) := by
  rw [md5AppendInt, Nat.mod_eq_of_lt (by omega : n < 2 ^ 32), if_neg (by omega)]
  exact md5AppendN_inv s m data n hi hn

/-- a count that is non-positive as a C `int` makes `md5_append` return at once -/
theorem md5AppendInt_ignored (s : Md5State) (d : Bytes) (n : Nat) (h : 2 ^ 31 ≤ n % 2 ^ 32 ∨ n % 2 ^ 32 = 0) :
    md5AppendInt s d n = s := by
  unfold md5AppendInt md5AppendN
  rcases h with h | h <;> simp [h]

theorem md5MaxChunk_eq : Gen.md5MaxChunk = 134217728 := by decide

theorem md5AppendLoop_inv : ∀ (fuel : Nat) (s : Md5State) (m d : Bytes), Md5Inv s m → d.length < fuel →
    Md5Inv (md5AppendLoop fuel s d) (m ++ d)
  | 0, _, _, _, _, hf => by omega
  | fuel + 1, s, m, d, hi, hf => by
    rw [md5AppendLoop, md5MaxChunk_eq]
    split
    · have h1 := md5AppendInt_inv s m d 134217728 hi (by decide)
      have h2 := md5AppendLoop_inv fuel _ _ (d.drop 134217728) h1 (by rw [List.length_drop]; omega)
      rwa [List.append_assoc, List.take_append_drop] at h2
    · have h1 := md5AppendInt_inv s m d d.length hi (by omega)
      rwa [List.take_of_length_le (Nat.le_refl _)] at h1

theorem md5Append_inv (s : Md5State) (m d : Bytes) (hi : Md5Inv s m) : Md5Inv (md5Append s d) (m ++ d) :=
  md5AppendLoop_inv _ s m d hi (Nat.lt_succ_self _)

/-- `foldl_append_inv` for `md5Append` itself; `md5Laws` goes through `HashLaws.foldl` -/
theorem md5_foldl_inv : ∀ (chunks : List Bytes) (s : Md5State) (m : Bytes), Md5Inv s m →
    Md5Inv (chunks.foldl md5Append s) (m ++ chunks.flatten) :=
  fun chunks s m hi => foldl_append_inv md5Append Md5Inv (fun _ => True) (fun s m d hi _ => md5Append_inv s m d hi)
    chunks s m hi (fun _ _ => trivial)

theorem md5Pad_eq : nats Gen.md5Pad = 0x80 :: List.replicate 63 0 := by decide

theorem zeroPad_le (L : Nat) : zeroPad L ≤ 63 := by unfold zeroPad; omega

/-- the low count word suffices: `count0_shift` recovers `L % 2 ^ 29`, hence `L % 64` -/
theorem md5PadLen_eq (L : Nat) : Gen.md5PadLen (8 * L % 2 ^ 32) = zeroPad L + 1 := by
  have h : L % 2 ^ 29 % 64 = L % 64 := Nat.mod_mod_of_dvd L ⟨2 ^ 23, rfl⟩
  rw [Gen.md5PadLen, count0_shift, and_63, zeroPad, ← h]
  have hl : L % 2 ^ 29 < 2 ^ 29 := Nat.mod_lt _ (by decide)
  generalize L % 2 ^ 29 = l at hl ⊢
  rw [Nat.mod_eq_of_lt (by omega : l < 4294967296), Nat.mod_mod_of_dvd _ (show 64 ∣ 4294967296 from ⟨2 ^ 26, rfl⟩),
    Nat.mod_eq_of_lt (by omega : _ % 64 + 1 < 4294967296)]
  omega

theorem md5LenBytes_eq (s : Md5State) (L : Nat) (h0 : s.count0 = 8 * L % 2 ^ 32)
    (h1 : s.count1 = 8 * L / 2 ^ 32 % 2 ^ 32) :
    ((List.range 8).map fun i => UInt8.ofNat (Gen.md5LenByte (md5Count s) i)) = le64 (8 * L % 2 ^ 64) := by
  rw [le64_eq, Nat.mod_mod_of_dvd _ (show 2 ^ 32 ∣ 2 ^ 64 from ⟨2 ^ 32, rfl⟩), show 2 ^ 64 = 2 ^ 32 * 2 ^ 32 from rfl,
    Nat.mod_mul_right_div_self, ← h0, ← h1]
  exact md5_word_bytes (md5Count s) 2

theorem md5Finish_spec (s : Md5State) (m : Bytes) (hi : Md5Inv s m) :
    (md5Finish s).1 = md5Hash m ∧ (md5Finish s).2.buf.length = 64 := by
  have e1 := md5AppendN_inv s m (nats Gen.md5Pad) (Gen.md5PadLen s.count0) hi
    (by rw [hi.c0, md5PadLen_eq]; have := zeroPad_le m.length; omega)
  have hp : (nats Gen.md5Pad).take (zeroPad m.length + 1) = 0x80 :: List.replicate (zeroPad m.length) 0 := by
    rw [md5Pad_eq, List.take_succ_cons, List.take_replicate,
      Nat.min_eq_left (zeroPad_le _)]
  rw [hi.c0, md5PadLen_eq, hp] at e1
  have e2 := md5AppendN_inv _ _ (le64 (8 * m.length % 2 ^ 64)) 8 e1 (by decide)
  rw [List.take_of_length_le (by simp [le64])] at e2
  unfold md5Finish
  dsimp only
  rw [md5LenBytes_eq s m.length hi.c0 hi.c1, hi.c0, md5PadLen_eq]
  refine ⟨?_, e2.buflen⟩
  rw [e2.abcd]
  rfl  -- `md5Hash m` unfolds to this

theorem md5Readout_spec (s : Md5State) (m : Bytes) (hi : Md5Inv s m) :
    (md5Readout s).1 = md5Hash m ∧ Md5Inv (md5Readout s).2 [] :=
  ⟨(md5Finish_spec s m hi).1, md5Init_inv _ (md5Finish_spec s m hi).2⟩

end Cppcms.C16
