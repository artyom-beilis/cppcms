import Cppcms.C16.Model
import Cppcms.Lib.Bytes
/-! Splitting a message into 64-byte blocks (`absorb`, `tailOf`), the block buffer both state machines keep
(`Buffered`), the byte encodings of words and lengths (`leBytes`, `md5_word_bytes`), and `foldl_append_inv`, the fold
that `md5_foldl_inv` and `HashLaws.foldl` both are. -/
namespace Cppcms.C16
open Cppcms Cppcms.C16.Spec

theorem chunks_eq (l : Bytes) :
    chunks 64 l = if l.length < 64 then [] else l.take 64 :: chunks 64 (l.drop 64) := by
  unfold chunks
  split
  · rw [show l.length / 64 = 0 by omega]; rfl
  · rw [show l.length / 64 = (l.drop 64).length / 64 + 1 by rw [List.length_drop]; omega]; rfl

section
variable {σ : Type} (f : σ → Bytes → σ) (st : σ)

theorem absorb_short (l : Bytes) (h : l.length < 64) : absorb f st l = st := by
  rw [absorb, chunks_eq, if_pos h]; rfl

theorem absorb_cons_block (blk rest : Bytes) (h : blk.length = 64) :
    absorb f st (blk ++ rest) = absorb f (f st blk) rest := by
  rw [absorb, chunks_eq, if_neg (by rw [List.length_append]; omega), List.take_left' h, List.drop_left' h]; rfl

theorem absorb_block (blk : Bytes) (h : blk.length = 64) : absorb f st blk = f st blk := by
  have := absorb_cons_block f st blk [] h
  rwa [List.append_nil] at this

theorem absorb_append (a b : Bytes) (h : a.length % 64 = 0) :
    absorb f st (a ++ b) = absorb f (absorb f st a) b := by
  obtain ⟨n, hn⟩ : ∃ n, a.length = 64 * n := ⟨a.length / 64, by omega⟩
  induction n generalizing st a with
  | zero => rw [List.eq_nil_of_length_eq_zero hn]; rfl
  | succ n ih =>
    have h64 : (a.take 64).length = 64 := by rw [List.length_take]; omega
    rw [← List.take_append_drop 64 a, List.append_assoc, absorb_cons_block f _ _ _ h64, absorb_cons_block f _ _ _ h64]
    exact ih _ _ (by rw [List.length_drop]; omega) (by rw [List.length_drop]; omega)

/-- the bytes after the last complete block -/
def tailOf (l : Bytes) : Bytes := l.drop (l.length / 64 * 64)

theorem tailOf_length (l : Bytes) : (tailOf l).length = l.length % 64 := by
  simp [tailOf, List.length_drop]; omega

theorem blocks_tailOf (l : Bytes) : ∃ a, a.length % 64 = 0 ∧ a ++ tailOf l = l :=
  ⟨l.take (l.length / 64 * 64), by rw [List.length_take]; omega, List.take_append_drop ..⟩

theorem tailOf_short (l : Bytes) (h : l.length < 64) : tailOf l = l := by
  have : l.length / 64 = 0 := by omega
  simp [tailOf, this]

theorem tailOf_block (l : Bytes) (h : l.length = 64) : tailOf l = [] := by
  simp [tailOf, h]

theorem tailOf_append_of_dvd (a b : Bytes) (h : a.length % 64 = 0) : tailOf (a ++ b) = tailOf b := by
  unfold tailOf
  have : (a ++ b).length / 64 * 64 = a.length + b.length / 64 * 64 := by
    rw [List.length_append]; omega
  rw [this, List.drop_append]
  simp

theorem absorb_append_tail (m d : Bytes) :
    absorb f st (m ++ d) = absorb f (absorb f st m) (tailOf m ++ d) := by
  obtain ⟨a, ha, hm⟩ := blocks_tailOf m
  have ht := tailOf_length m
  generalize tailOf m = t at hm ht ⊢
  subst hm
  rw [List.append_assoc, absorb_append f st a _ ha, absorb_append f st a t ha, absorb_short f _ t (by omega)]

end

theorem tailOf_append (m d : Bytes) : tailOf (m ++ d) = tailOf (tailOf m ++ d) := by
  obtain ⟨a, ha, hm⟩ := blocks_tailOf m
  conv => lhs; rw [← hm, List.append_assoc]
  exact tailOf_append_of_dvd a _ ha

/-- `le32` and `le64` are `leBytes 4` and `leBytes 8` by definition -/
def leBytes (k n : Nat) : Bytes := (List.range k).map fun i => UInt8.ofNat (n / 256 ^ i % 256)

theorem leBytes_add (j k n : Nat) : leBytes (j + k) n = leBytes j n ++ leBytes k (n / 256 ^ j) := by
  simp only [leBytes, List.range_add, List.map_append, List.map_map, Function.comp_def, Nat.pow_add,
    Nat.div_div_eq_div_mul]

theorem leBytes_mod (k n : Nat) : leBytes k (n % 256 ^ k) = leBytes k n := by
  apply List.map_congr_left
  intro i hi
  obtain ⟨d, rfl⟩ := Nat.exists_eq_add_of_lt (List.mem_range.mp hi)
  rw [Nat.add_assoc, Nat.pow_add, Nat.mod_mul_right_div_self, Nat.pow_succ',
    Nat.mod_mod_of_dvd _ (Nat.dvd_mul_right _ _)]

theorem leVal_cons (b : UInt8) (l : Bytes) : leVal (b :: l) = leVal l * 256 + b.toNat := by
  simp [leVal, beVal, List.foldl_append]

theorem leVal_leBytes : ∀ k n, leVal (leBytes k n) = n % 256 ^ k
  | 0, n => by simp [leBytes, leVal, beVal, Nat.mod_one]
  | k + 1, n => by
    rw [Nat.add_comm, leBytes_add 1 k, Nat.pow_add, Nat.mod_mul, ← leVal_leBytes k]
    simp [leBytes, leVal_cons, Nat.mul_comm, Nat.add_comm]

theorem le64_eq (n : Nat) : le64 n = le32 (n % 2 ^ 32) ++ le32 (n / 2 ^ 32) :=
  (leBytes_add 4 4 n).trans (congrArg (· ++ _) (leBytes_mod 4 n).symm)

-- by definition `be64 n = (le64 n).reverse`, `leVal l = beVal l.reverse` and `le64 = leBytes 8`
theorem beVal_be64 (n : Nat) : beVal (be64 n) = n % 2 ^ 64 := leVal_leBytes 8 n

theorem md5DigestByte_eq (f : Nat → Nat) (i : Nat) :
    Gen.md5DigestByte f i = f (i / 4) / 256 ^ (i % 4) % 256 := by
  have hlt : i % 4 * 2 ^ 3 % 4294967296 = 8 * (i % 4) := by omega
  rw [Gen.md5DigestByte, and_3, Nat.shiftRight_eq_div_pow, Nat.shiftRight_eq_div_pow, Nat.shiftLeft_eq, hlt, Nat.pow_mul]

theorem md5_word_bytes (f : Nat → Nat) : ∀ k,
    ((List.range (4 * k)).map fun i => UInt8.ofNat (Gen.md5DigestByte f i)) = (List.range k).flatMap fun j => le32 (f j)
  | 0 => rfl
  | k + 1 => by
    rw [Nat.mul_succ, List.range_add, List.map_append, md5_word_bytes f k, @List.range_succ k, List.flatMap_append,
      List.flatMap_singleton, List.map_map]
    congr 1
    apply List.map_congr_left
    intro i hi
    have := List.mem_range.mp hi
    simp only [Function.comp_apply, md5DigestByte_eq]
    rw [show (4 * k + i) / 4 = k by omega, show (4 * k + i) % 4 = i by omega]

theorem memcpy_length (dst src : Bytes) (off : Nat) (h : off + src.length ≤ dst.length) :
    (memcpy dst off src).length = dst.length := by
  simp [memcpy, List.length_take, List.length_drop]; omega

/-- `h` and `buf` have taken in `m`: complete blocks absorbed, the rest waiting at the front of `buf` -/
structure Buffered {σ : Type} (f : σ → Bytes → σ) (iv h : σ) (buf m : Bytes) : Prop where
  absorbed : h = absorb f iv m
  buflen : buf.length = 64
  waiting : buf.take (m.length % 64) = tailOf m

theorem Buffered.init {σ : Type} (f : σ → Bytes → σ) (iv : σ) (buf : Bytes) (h : buf.length = 64) :
    Buffered f iv iv buf [] :=
  ⟨(absorb_short _ _ [] (by decide)).symm, h, rfl⟩

section
variable {σ : Type} {f : σ → Bytes → σ} {iv h : σ} {buf m : Bytes} (b : Buffered f iv h buf m)
include b

theorem Buffered.fill (d : Bytes) (hd : m.length % 64 + d.length ≤ 64) :
    Buffered f iv (if m.length % 64 + d.length = 64 then f h (memcpy buf (m.length % 64) d) else h)
      (memcpy buf (m.length % 64) d) (m ++ d) := by
  have hl : (tailOf m ++ d).length = m.length % 64 + d.length := by rw [List.length_append, tailOf_length]
  have hcopy : memcpy buf (m.length % 64) d = tailOf m ++ d ++ buf.drop (m.length % 64 + d.length) := by
    rw [memcpy, b.waiting]
  have hlen : (memcpy buf (m.length % 64) d).length = 64 := by
    rw [memcpy_length _ _ _ (by rw [b.buflen]; exact hd), b.buflen]
  refine ⟨?_, hlen, ?_⟩
  · rw [absorb_append_tail, ← b.absorbed]
    split
    · next h64 =>
      rw [hcopy, List.drop_of_length_le (by rw [b.buflen, h64]; exact Nat.le_refl _), List.append_nil,
        absorb_block _ _ _ (hl.trans h64)]
    · exact (absorb_short _ _ (tailOf m ++ d) (by omega)).symm
  · rw [tailOf_append, hcopy, List.length_append, ← Nat.mod_add_mod, ← hl]
    by_cases h64 : (tailOf m ++ d).length = 64
    · rw [tailOf_block _ h64, h64]
      rfl
    · have hlt : (tailOf m ++ d).length < 64 := by omega
      rw [tailOf_short _ hlt, Nat.mod_eq_of_lt hlt]
      exact List.take_left' rfl

theorem Buffered.blocks (hm : m.length % 64 = 0) (p : Bytes) :
    Buffered f iv (absorb f h p) (memcpy buf 0 (tailOf p)) (m ++ p) := by
  have hl := tailOf_length p
  refine ⟨?_, ?_, ?_⟩
  · rw [absorb_append _ _ _ _ hm, ← b.absorbed]
  · rw [memcpy_length _ _ _ (by rw [b.buflen]; omega), b.buflen]
  · rw [tailOf_append_of_dvd _ _ hm, List.length_append, memcpy, List.take_zero, List.nil_append]
    exact List.take_left' (by omega)

end

theorem foldl_append_inv {σ : Type} (app : σ → Bytes → σ) (rep : σ → Bytes → Prop) (ok : Nat → Prop)
    (h : ∀ s m d, rep s m → ok d.length → rep (app s d) (m ++ d)) :
    ∀ (chunks : List Bytes) (s : σ) (m : Bytes), rep s m → (∀ c ∈ chunks, ok c.length) →
      rep (chunks.foldl app s) (m ++ chunks.flatten)
  | [], s, m, hi, _ => by simpa using hi
  | c :: cs, s, m, hi, hc => by
    have h2 := foldl_append_inv app rep ok h cs _ _ (h s m c hi (hc c (by simp))) (fun x hx => hc x (by simp [hx]))
    simpa [List.append_assoc] using h2

end Cppcms.C16
