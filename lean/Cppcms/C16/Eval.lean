import Cppcms.C16.Spec
/-! Lists of 32-bit words (`AllW32`, used by `Compress` as well) and forms of `Spec.md5Compress` and
`Spec.sha1Compress` for the test vectors.  The kernel walks a list cell by cell, so `getD` into the block, the table
`T` and the SHA-1 schedule is where the evaluation goes; here words are read out of one packed number by a shift and
`T` is zipped to the operation numbers. -/
namespace Cppcms.C16
open Cppcms Cppcms.C16.Spec

/-- four bytes a word; a shorter rest is filled up with zero bytes, as `getD _ 0` does -/
def words (w : UInt8 → UInt8 → UInt8 → UInt8 → Nat) : Bytes → List Nat
  | a :: b :: c :: d :: rest => w a b c d :: words w rest
  | [a, b, c] => [w a b c 0]
  | [a, b] => [w a b 0 0]
  | [a] => [w a 0 0 0]
  | [] => []

theorem words_getD (w : UInt8 → UInt8 → UInt8 → UInt8 → Nat) : ∀ (blk : Bytes) (k : Nat),
    (words w blk).getD k (w 0 0 0 0) =
      w (blk.getD (4 * k) 0) (blk.getD (4 * k + 1) 0) (blk.getD (4 * k + 2) 0) (blk.getD (4 * k + 3) 0)
  | _ :: _ :: _ :: _ :: rest, k + 1 => words_getD w rest k
  | _ :: _ :: _ :: _ :: _, 0 => rfl
  | [_, _, _], k | [_, _], k | [_], k | [], k => by cases k <;> rfl

def AllW32 (l : List Nat) : Prop := ∀ x ∈ l, x < 2 ^ 32

/-- the first word in the low bits -/
def pack : List Nat → Nat
  | [] => 0
  | x :: l => x + 2 ^ 32 * pack l

theorem pack_getD : ∀ (l : List Nat) (j : Nat), AllW32 l → pack l >>> (32 * j) % 2 ^ 32 = l.getD j 0
  | [], j, _ => by simp [pack]
  | x :: l, 0, h => by
    rw [pack, Nat.mul_zero, Nat.shiftRight_zero, Nat.add_mul_mod_self_left]
    exact Nat.mod_eq_of_lt (h x (List.mem_cons_self ..))
  | x :: l, j + 1, h => by
    rw [pack, Nat.mul_succ, Nat.add_comm (32 * j), Nat.shiftRight_add, Nat.shiftRight_eq_div_pow _ 32,
      Nat.add_mul_div_left _ _ (by decide), Nat.div_eq_of_lt (h x (List.mem_cons_self ..)), Nat.zero_add]
    exact pack_getD l j (fun y hy => h y (List.mem_cons_of_mem _ hy))

theorem getD_lt (l : List Nat) (h : AllW32 l) (i : Nat) : l.getD i 0 < 2 ^ 32 := by
  rw [List.getD_eq_getElem?_getD]
  cases hi : l[i]? with
  | none => simp
  | some v => simpa using h v (List.mem_of_getElem? hi)

theorem rotl32_lt (x n : Nat) (hx : x < 2 ^ 32) : rotl32 x n < 2 ^ 32 :=
  Nat.or_lt_two_pow (Nat.mod_lt _ (by decide)) (Nat.lt_of_le_of_lt (Nat.shiftRight_le _ _) hx)

theorem AllW32.cons {x : Nat} {l : List Nat} (hx : x < 2 ^ 32) (h : AllW32 l) : AllW32 (x :: l) :=
  fun y hy => (List.mem_cons.mp hy).elim (· ▸ hx) (h y)

theorem words_lt (w : UInt8 → UInt8 → UInt8 → UInt8 → Nat) (hw : ∀ a b c d, w a b c d < 2 ^ 32) :
    ∀ blk : Bytes, AllW32 (words w blk)
  | _ :: _ :: _ :: _ :: rest => .cons (hw ..) (words_lt w hw rest)
  | [_, _, _] | [_, _] | [_] => .cons (hw ..) nofun
  | [] => nofun

theorem sched_lt (w : List Nat) (h : AllW32 w) :
    w.getD 2 0 ^^^ w.getD 7 0 ^^^ w.getD 13 0 ^^^ w.getD 15 0 < 2 ^ 32 :=
  Nat.xor_lt_two_pow (Nat.xor_lt_two_pow (Nat.xor_lt_two_pow (getD_lt w h 2) (getD_lt w h 7)) (getD_lt w h 13))
    (getD_lt w h 15)

theorem zip_range_getD {α : Type} (l : List α) (d : α) :
    (List.range l.length).zip l = (List.range l.length).map fun i => (i, l.getD i d) := by
  apply List.ext_getElem
  · simp
  · intro i h _
    have hi : i < l.length := by simpa using h
    simp [List.getD_eq_getElem?_getD, hi]

def leWord (a b c d : UInt8) : Nat := a.toNat + 256 * b.toNat + 65536 * c.toNat + 16777216 * d.toNat

theorem leWord_lt (a b c d : UInt8) : leWord a b c d < 2 ^ 32 := by
  have := a.toNat_lt; have := b.toNat_lt; have := c.toNat_lt; have := d.toNat_lt
  unfold leWord; omega

def md5OpW (r : Nat × Nat × Nat × Nat) (i x t : Nat) : Nat × Nat × Nat × Nat :=
  let (a, b, c, d) := r
  let f := if i < 16 then md5F b c d else if i < 32 then md5G b c d else if i < 48 then md5H b c d else md5I b c d
  (d, (b + rotl32 ((a + f + x + t) % M32) ((md5S.getD (i / 16) []).getD (i % 4) 0)) % M32, b, c)

theorem md5Op_eq_W (blk : Bytes) :
    md5Op blk = fun r i => md5OpW r i (pack (words leWord blk) >>> (32 * md5K i) % 2 ^ 32) (md5T.getD i 0) := by
  funext r i
  rw [pack_getD _ _ (words_lt _ leWord_lt blk)]
  exact congrArg (fun x => md5OpW r i x _) (words_getD leWord blk (md5K i)).symm

def md5CompressW (st : List Nat) (blk : Bytes) : List Nat :=
  let a := st.getD 0 0; let b := st.getD 1 0; let c := st.getD 2 0; let d := st.getD 3 0
  let x := pack (words leWord blk)
  let (a', b', c', d') := ((List.range 64).zip md5T).foldl
    (fun r it => md5OpW r it.1 (x >>> (32 * md5K it.1) % 2 ^ 32) it.2) (a, b, c, d)
  [(a + a') % M32, (b + b') % M32, (c + c') % M32, (d + d') % M32]

theorem md5Compress_eq_W : md5Compress = md5CompressW := by
  funext st blk
  have hz : (List.range 64).zip md5T = _ := zip_range_getD md5T 0
  simp only [md5Compress, md5CompressW, hz, List.foldl_map, md5Op_eq_W]
  rfl

theorem md5_eq_W : Spec.md5 = mdHash md5CompressW md5IV le64 (fun st => st.flatMap le32) := by
  unfold Spec.md5
  rw [md5Compress_eq_W]

def beWord (a b c d : UInt8) : Nat := 16777216 * a.toNat + 65536 * b.toNat + 256 * c.toNat + d.toNat

theorem beWord_lt (a b c d : UInt8) : beWord a b c d < 2 ^ 32 := by
  have := a.toNat_lt; have := b.toNat_lt; have := c.toNat_lt; have := d.toNat_lt
  unfold beWord; omega

theorem beWordAt_eq (blk : Bytes) : beWordAt blk = fun k => (words beWord blk).getD k 0 :=
  funext fun k => (words_getD beWord blk k).symm

def sha1ExpandP : Nat → Nat → List Nat → List Nat
  | 0, _, w => w
  | n + 1, p, w =>
    let x := rotl32 ((p >>> 64 ^^^ p >>> 224 ^^^ p >>> 416 ^^^ p >>> 480) % 2 ^ 32) 1
    sha1ExpandP n (x + 2 ^ 32 * p) (x :: w)

theorem sha1ExpandP_eq : ∀ (n : Nat) (w : List Nat), AllW32 w → sha1ExpandP n (pack w) w = sha1Expand n w
  | 0, _, _ => rfl
  | n + 1, w, h => by
    rw [sha1ExpandP, sha1Expand, Nat.xor_mod_two_pow, Nat.xor_mod_two_pow, Nat.xor_mod_two_pow,
      pack_getD w 2 h, pack_getD w 7 h, pack_getD w 13 h, pack_getD w 15 h]
    exact sha1ExpandP_eq n _ (.cons (rotl32_lt _ 1 (sched_lt w h)) h)

def sha1CompressW (st : List Nat) (blk : Bytes) : List Nat :=
  let a := st.getD 0 0; let b := st.getD 1 0; let c := st.getD 2 0; let d := st.getD 3 0; let e := st.getD 4 0
  let w16 := ((List.range 16).map fun k => (words beWord blk).getD k 0).reverse
  let (a', b', c', d', e') := ((List.range 80).zip (sha1ExpandP 64 (pack w16) w16).reverse).foldl sha1Step (a, b, c, d, e)
  [(a + a') % M32, (b + b') % M32, (c + c') % M32, (d + d') % M32, (e + e') % M32]

theorem sha1Compress_eq_W : sha1Compress = sha1CompressW := by
  funext st blk
  have h : AllW32 ((List.range 16).map fun k => (words beWord blk).getD k 0).reverse := fun x hx => by
    obtain ⟨k, _, rfl⟩ := List.mem_map.mp (List.mem_reverse.mp hx)
    exact getD_lt _ (words_lt _ beWord_lt blk) k
  simp only [sha1Compress, sha1CompressW, Spec.sha1W, beWordAt_eq, sha1ExpandP_eq _ _ h]

theorem sha1_eq_W : Spec.sha1 = mdHash sha1CompressW sha1IV be64 (fun st => st.flatMap be32) := by
  unfold Spec.sha1
  rw [sha1Compress_eq_W]

end Cppcms.C16
