import Cppcms.C16.Bytes
/-! The SHA-1 state machine keeps `Sha1Inv`: `process_byte` is `Buffered.fill` with one byte, and `get_digest` is an
append of the padding of FIPS 180-4 §5.1.1. -/
namespace Cppcms.C16
open Cppcms Cppcms.C16.Spec

structure Sha1Inv (s : Sha1State) (m : Bytes) : Prop
    extends Buffered sha1ProcessBlock Gen.sha1Init s.h s.block m where
  idx : s.idx = m.length % 64
  count : s.byteCount = m.length % 2 ^ 64

theorem sha1Reset_inv (block : Bytes) (h : block.length = 64) : Sha1Inv (sha1Reset block) [] :=
  ⟨Buffered.init _ _ block h, rfl, rfl⟩

theorem set_eq_memcpy (l : Bytes) (i : Nat) (b : UInt8) (h : i < l.length) : l.set i b = memcpy l i [b] := by
  simp [memcpy, List.set_eq_take_append_cons_drop, h]

theorem sha1ProcessByte_fields (s : Sha1State) (b : UInt8) :
    (sha1ProcessByte s b).h = (if s.idx + 1 = 64 then sha1ProcessBlock s.h (s.block.set s.idx b) else s.h) ∧
    (sha1ProcessByte s b).block = s.block.set s.idx b ∧
    (sha1ProcessByte s b).idx = (if s.idx + 1 = 64 then 0 else s.idx + 1) ∧
    (sha1ProcessByte s b).byteCount = (s.byteCount + 1) % 2 ^ 64 := by
  rw [sha1ProcessByte, show Gen.sha1BlockLen = 64 from rfl]
  split <;> simp only [and_self]

theorem sha1ProcessByte_idx (s : Sha1State) (b : UInt8) :
    (sha1ProcessByte s b).idx = if s.idx + 1 = 64 then 0 else s.idx + 1 := by
  obtain ⟨_, _, hidx, _⟩ := sha1ProcessByte_fields s b
  exact hidx

theorem sha1ProcessByte_inv (s : Sha1State) (m : Bytes) (b : UInt8) (hi : Sha1Inv s m) :
    Sha1Inv (sha1ProcessByte s b) (m ++ [b]) := by
  have hidx : s.idx < 64 := by rw [hi.idx]; omega
  have x := hi.toBuffered.fill [b] (by rw [← hi.idx]; exact hidx)
  rw [← hi.idx, ← set_eq_memcpy _ _ _ (hi.buflen ▸ hidx), List.length_singleton] at x
  have hl : (m ++ [b]).length = m.length + 1 := List.length_append
  obtain ⟨e1, e2, e3, e4⟩ := sha1ProcessByte_fields s b
  refine ⟨?_, ?_, ?_⟩
  · rw [e1, e2]; exact x
  · rw [e3, hl, hi.idx]; split <;> omega
  · rw [e4, hi.count, hl, Nat.mod_add_mod]

theorem sha1Append_inv : ∀ (d : Bytes) (s : Sha1State) (m : Bytes), Sha1Inv s m →
    Sha1Inv (sha1Append s d) (m ++ d)
  | [], s, m, hi => by simpa [sha1Append] using hi
  | b :: d, s, m, hi => by
    have h2 := sha1Append_inv d _ _ (sha1ProcessByte_inv s m b hi)
    simpa [sha1Append, List.append_assoc] using h2

theorem sha1Append_append (s : Sha1State) (a b : Bytes) :
    sha1Append s (a ++ b) = sha1Append (sha1Append s a) b := List.foldl_append

/-- `k`: the zero bytes still missing to `lim` (in `sha1FillToZero_eq`, to the block boundary) -/
theorem sha1FillBelow_eq (lim : Nat) (hl : lim < 64) : ∀ (fuel k : Nat) (s : Sha1State), s.idx + k = lim → k ≤ fuel →
    sha1FillBelow lim fuel s = sha1Append s (List.replicate k 0)
  | 0, k, s, _, hf => by rw [Nat.le_zero.mp hf]; rfl
  | f + 1, k, s, h, hf => by
    rw [sha1FillBelow]
    split
    · obtain ⟨k, rfl⟩ : ∃ j, k = j + 1 := ⟨k - 1, by omega⟩
      rw [sha1FillBelow_eq lim hl f k _ (by rw [sha1ProcessByte_idx, if_neg (by omega)]; omega) (by omega)]
      rfl
    · rw [show k = 0 by omega]; rfl

theorem sha1FillToZero_eq : ∀ (fuel k : Nat) (s : Sha1State), 0 < s.idx → 0 < k → s.idx + k = 64 → k ≤ fuel →
    sha1FillToZero fuel s = sha1Append s (List.replicate k 0) ∧ (sha1FillToZero fuel s).idx = 0
  | 0, k, s, _, hpos, _, hf => by omega
  | f + 1, k, s, h0, hpos, h, hf => by
    obtain ⟨k, rfl⟩ : ∃ j, k = j + 1 := ⟨k - 1, by omega⟩
    have hi := sha1ProcessByte_idx s 0
    rw [sha1FillToZero, if_pos (by omega)]
    by_cases hlast : k = 0
    · -- the last zero byte: the index wraps to 0 and the loop stops
      subst hlast
      rw [if_pos (by omega)] at hi
      have : sha1FillToZero f (sha1ProcessByte s 0) = sha1ProcessByte s 0 := by
        cases f <;> rw [sha1FillToZero]; exact if_neg (by omega)
      rw [this]
      exact ⟨rfl, hi⟩
    · rw [if_neg (by omega)] at hi
      exact sha1FillToZero_eq f k _ (by omega) (by omega) (by omega) (by omega)

theorem sha1BitCount_eq (L : Nat) : Gen.sha1BitCount (L % 2 ^ 64) = 8 * L % 2 ^ 64 := by
  rw [Gen.sha1BitCount, Nat.mod_mod, Nat.mod_mul_mod, Nat.mul_comm]

theorem sha1LenBytes_eq (bc : Nat) : nats (Gen.sha1LenBytes bc) = be64 bc := by
  simp [Gen.sha1LenBytes, nats, be64, le64, List.range, List.range.loop, and_255, Nat.shiftRight_eq_div_pow]

theorem sha1GetDigest_eq (s : Sha1State) (m : Bytes) (hi : Sha1Inv s m) :
    sha1GetDigest s = sha1Append s ((0x80 :: List.replicate (zeroPad m.length) 0) ++ be64 (8 * m.length % 2 ^ 64)) := by
  have i1 := (sha1ProcessByte_inv s m 0x80 hi).idx
  rw [List.length_append, List.length_singleton, ← Nat.mod_add_mod] at i1
  have hlt : (sha1ProcessByte s 0x80).idx < 64 := i1 ▸ Nat.mod_lt _ (by decide)
  -- the number of zero bytes, by the position in the block after the byte 0x80
  have hz : zeroPad m.length = if (sha1ProcessByte s 0x80).idx > 56 then 64 - (sha1ProcessByte s 0x80).idx + 56
      else 56 - (sha1ProcessByte s 0x80).idx := by
    have hj : m.length % 64 < 64 := Nat.mod_lt _ (by decide)
    rw [i1, zeroPad]
    generalize m.length % 64 = j at hj
    split <;> omega
  rw [sha1GetDigest, hi.count, sha1BitCount_eq, sha1LenBytes_eq, hz, List.cons_append, ← List.singleton_append,
    sha1Append_append, sha1Append_append]
  clear hz i1
  simp only [show UInt8.ofNat Gen.sha1PadFirst = 0x80 from rfl, show Gen.sha1PadHigh = 56 from rfl,
    show Gen.sha1PadFill1 = 56 from rfl, show Gen.sha1PadFill2 = 56 from rfl]
  congr 1  -- peels off the append of the length bytes, the same on both sides
  show _ = sha1Append (sha1ProcessByte s 0x80) _
  split
  · obtain ⟨e, i0⟩ := sha1FillToZero_eq 64 (64 - (sha1ProcessByte s 0x80).idx) (sha1ProcessByte s 0x80)
      (by omega) (by omega) (by omega) (by omega)
    rw [sha1FillBelow_eq 56 (by decide) 64 56 _ (by rw [i0]) (by decide), e, ← sha1Append_append,
      List.replicate_append_replicate]
  · exact sha1FillBelow_eq 56 (by decide) 64 _ (sha1ProcessByte s 0x80) (by omega) (by omega)

theorem sha1Readout_spec (s : Sha1State) (m : Bytes) (hi : Sha1Inv s m) :
    (sha1Readout s).1 = sha1Hash m ∧ Sha1Inv (sha1Readout s).2 [] := by
  have x : Sha1Inv (sha1GetDigest s) (pad be64 m) := by
    rw [sha1GetDigest_eq s m hi, pad, List.append_assoc]
    exact sha1Append_inv _ s m hi
  refine ⟨?_, sha1Reset_inv _ x.buflen⟩
  rw [sha1Readout]
  dsimp only
  rw [x.absorbed]
  rfl  -- `sha1Hash m` unfolds to this

end Cppcms.C16
