import Cppcms.Common
import Cppcms.C16.Gen
import Cppcms.C16.Spec
/-!
# C16 model: the bundled MD5 and SHA-1 state machines, `hmac`, `cbc`, `key::set_hex` as written

Every arithmetic expression, constant, table and condition comes from `Gen.lean` (regenerated
from the source on every run).  Hand-written here: the order of statements, the loops, the
buffer hand-over (`memcpy` into the fixed 64-byte arrays, which are *not* cleared by
`md5_init` / `sha1::reset`), the chunking loop and the conversion `size_t → int` at `md5_digets::append`.
-/
namespace Cppcms.C16
open Cppcms

def nats (l : List Nat) : Bytes := l.map UInt8.ofNat

/-- `memcpy(dst + off, src, src.length)` into a fixed-size array -/
def memcpy (dst : Bytes) (off : Nat) (src : Bytes) : Bytes :=
  dst.take off ++ src ++ dst.drop (off + src.length)

/-! ## MD5 (src/md5.cpp) -/

def md5Fn (round x y z : Nat) : Nat :=
  match round with
  | 0 => Gen.md5F0 x y z
  | 1 => Gen.md5F1 x y z
  | 2 => Gen.md5F2 x y z
  | _ => Gen.md5F3 x y z

def byteAt (blk : Bytes) (i : Nat) : Nat := (blk.getD i 0).toNat

/-- `X[k]` -/
def md5X (blk : Bytes) (k : Nat) : Nat :=
  Gen.md5Word (byteAt blk (4 * k)) (byteAt blk (4 * k + 1)) (byteAt blk (4 * k + 2)) (byteAt blk (4 * k + 3))

/-- one `SET(a, b, c, d, k, s, Ti)` line; registers are addressed by position in `abcd` -/
def md5Step (blk : Bytes) (r : List Nat) (st : Nat × Nat × Nat × Nat × Nat × Nat × Nat × Nat) : List Nat :=
  let (round, ra, rb, rc, rd, k, s, ti) := st
  let t := Gen.md5SetT (r.getD ra 0) (md5Fn round (r.getD rb 0) (r.getD rc 0) (r.getD rd 0)) (md5X blk k) ti
  r.set ra (Gen.md5SetA t s (r.getD rb 0))

/-- `md5_process(pms, data)` on the chaining value -/
def md5Process (abcd : List Nat) (blk : Bytes) : List Nat :=
  List.zipWith Gen.md5Acc abcd (Gen.md5Steps.foldl (md5Step blk) abcd)

structure Md5State where
  count0 : Nat
  count1 : Nat
  abcd : List Nat
  /-- `buf[64]`; never cleared, `md5_init` leaves it as it is -/
  buf : Bytes
deriving DecidableEq, Repr

/-- `md5_init`: counts and chaining value only -/
def md5Init (buf : Bytes) : Md5State := ⟨0, 0, Gen.md5Init, buf⟩

/-- `for (; left >= 64; p += 64, left -= 64) md5_process(pms, p);` — returns the chaining value and
the unconsumed rest of `p` -/
def md5Loop : Nat → List Nat → Bytes → List Nat × Bytes
  | 0, r, p => (r, p)
  | f + 1, r, p =>
    if p.length ≥ Gen.md5BlockLen then
      md5Loop f (md5Process r (p.take Gen.md5BlockLen)) (p.drop Gen.md5BlockLen)
    else (r, p)

/-- "Process full blocks" and "Process a final partial block" of `md5_append` -/
def md5Tail (s : Md5State) (p : Bytes) : Md5State :=
  let (r, rest) := md5Loop p.length s.abcd p
  if rest.length ≠ 0 then { s with abcd := r, buf := memcpy s.buf 0 rest } else { s with abcd := r }

/-- body of `md5_append` after the `nbytes <= 0` test; `data` is exactly the `nbytes` bytes -/
def md5AppendCore (s : Md5State) (data : Bytes) : Md5State :=
  let nbytes := data.length
  let offset := Gen.md5Offset s.count0
  let nbits := Gen.md5Nbits nbytes
  let c1 := (s.count1 + Gen.md5HiInc nbytes) % 2 ^ 32
  let c0 := (s.count0 + nbits) % 2 ^ 32
  let c1 := if Gen.md5Carry c0 nbits then (c1 + 1) % 2 ^ 32 else c1
  if offset ≠ 0 then
    let copy := Gen.md5Copy offset nbytes
    let buf := memcpy s.buf offset (data.take copy)
    if Gen.md5EarlyRet offset copy then ⟨c0, c1, s.abcd, buf⟩
    else md5Tail ⟨c0, c1, md5Process s.abcd buf, buf⟩ (data.drop copy)
  else md5Tail ⟨c0, c1, s.abcd, s.buf⟩ data

/-- `md5_append(pms, data, nbytes)` with `nbytes` given as the value of the C `int` (already known to
be representable): non-positive counts are ignored, otherwise the first `nbytes` bytes are used -/
def md5AppendN (s : Md5State) (data : Bytes) (nbytes : Nat) : Md5State :=
  if nbytes = 0 then s else md5AppendCore s (data.take nbytes)

/-- a call `impl::md5_append(&state_, p, n)` with `n` a `size_t`: the argument is converted to `int`;
values that come out non-positive (n ≡ 0 or ≥ 2^31 modulo 2^32) make `md5_append` return at once -/
def md5AppendInt (s : Md5State) (data : Bytes) (n : Nat) : Md5State :=
  let nb := n % 2 ^ 32
  if nb ≥ 2 ^ 31 then s else md5AppendN s data nb

/-- the `while(size > max_chunk)` loop of `md5_digets::append` and the final call (explicit fuel:
every round consumes `max_chunk` bytes) -/
def md5AppendLoop : Nat → Md5State → Bytes → Md5State
  | 0, s, _ => s
  | fuel + 1, s, d =>
    if d.length > Gen.md5MaxChunk then
      md5AppendLoop fuel (md5AppendInt s d Gen.md5MaxChunk) (d.drop Gen.md5MaxChunk)
    else md5AppendInt s d d.length

/-- `md5_digets::append(ptr, size)` (src/crypto.cpp) -/
def md5Append (s : Md5State) (data : Bytes) : Md5State := md5AppendLoop (data.length + 1) s data

def md5Count (s : Md5State) (i : Nat) : Nat := if i = 0 then s.count0 else s.count1

/-- `md5_finish` -/
def md5Finish (s : Md5State) : Bytes × Md5State :=
  let data := (List.range 8).map fun i => UInt8.ofNat (Gen.md5LenByte (md5Count s) i)
  let s1 := md5AppendN s (nats Gen.md5Pad) (Gen.md5PadLen s.count0)
  let s2 := md5AppendN s1 data 8
  ((List.range 16).map fun i => UInt8.ofNat (Gen.md5DigestByte (fun j => s2.abcd.getD j 0) i), s2)

/-- `md5_digets::readout`: `md5_finish` then `md5_init` -/
def md5Readout (s : Md5State) : Bytes × Md5State :=
  let (d, s2) := md5Finish s
  (d, md5Init s2.buf)

/-! ## SHA-1 (private/sha1.h, `sha1_digets` in src/crypto.cpp) -/

def sha1Words16 (blk : Bytes) : List Nat :=
  (List.range Gen.sha1NFirst).map fun i =>
    Gen.sha1Word (byteAt blk (i * 4 + 0)) (byteAt blk (i * 4 + 1)) (byteAt blk (i * 4 + 2)) (byteAt blk (i * 4 + 3))

/-- second loop of `process_block()`; the list holds `w[i-1], w[i-2], …` (newest first) -/
def sha1Extend : Nat → List Nat → List Nat
  | 0, w => w
  | n + 1, w => sha1Extend n (Gen.sha1Sched (w.getD 2 0) (w.getD 7 0) (w.getD 13 0) (w.getD 15 0) :: w)

def sha1W (blk : Bytes) : List Nat :=
  (sha1Extend (Gen.sha1NWords - Gen.sha1NFirst) (sha1Words16 blk).reverse).reverse

/-- body of the third loop of `process_block()` -/
def sha1Round (r : Nat × Nat × Nat × Nat × Nat) (iw : Nat × Nat) : Nat × Nat × Nat × Nat × Nat :=
  let (a, b, c, d, e) := r
  let (i, wi) := iw
  let (f, k) :=
    if i < Gen.sha1Bounds.getD 0 0 then (Gen.sha1F0 b c d, Gen.sha1K0)
    else if i < Gen.sha1Bounds.getD 1 0 then (Gen.sha1F1 b c d, Gen.sha1K1)
    else if i < Gen.sha1Bounds.getD 2 0 then (Gen.sha1F2 b c d, Gen.sha1K2)
    else (Gen.sha1F3 b c d, Gen.sha1K3)
  let temp := Gen.sha1Temp a f e k wi
  (temp, a, Gen.sha1NewC b, c, d)

/-- `sha1::process_block()` on the chaining value -/
def sha1ProcessBlock (h : List Nat) (blk : Bytes) : List Nat :=
  let (a, b, c, d, e) :=
    ((List.range Gen.sha1NWords).zip (sha1W blk)).foldl sha1Round
      (h.getD 0 0, h.getD 1 0, h.getD 2 0, h.getD 3 0, h.getD 4 0)
  List.zipWith Gen.sha1Acc h [a, b, c, d, e]

structure Sha1State where
  h : List Nat
  /-- `block_[64]`; `reset()` does not clear it -/
  block : Bytes
  idx : Nat
  /-- `byte_count_` (`std::size_t`, 64 bits on this target) -/
  byteCount : Nat
deriving DecidableEq, Repr

def sha1Reset (block : Bytes) : Sha1State := ⟨Gen.sha1Init, block, 0, 0⟩

/-- `sha1::process_byte` -/
def sha1ProcessByte (s : Sha1State) (b : UInt8) : Sha1State :=
  let block := s.block.set s.idx b
  let idx := s.idx + 1
  let bc := (s.byteCount + 1) % 2 ^ 64
  if idx = Gen.sha1BlockLen then ⟨sha1ProcessBlock s.h block, block, 0, bc⟩ else ⟨s.h, block, idx, bc⟩

/-- `sha1::process_bytes` = `sha1_digets::append` -/
def sha1Append (s : Sha1State) (data : Bytes) : Sha1State := data.foldl sha1ProcessByte s

/-- `while (block_byte_index_ != 0) process_byte(0);` with explicit fuel -/
def sha1FillToZero : Nat → Sha1State → Sha1State
  | 0, s => s
  | f + 1, s => if s.idx ≠ 0 then sha1FillToZero f (sha1ProcessByte s 0) else s

/-- `while (block_byte_index_ < lim) process_byte(0);` with explicit fuel -/
def sha1FillBelow (lim : Nat) : Nat → Sha1State → Sha1State
  | 0, s => s
  | f + 1, s => if s.idx < lim then sha1FillBelow lim f (sha1ProcessByte s 0) else s

/-- `sha1::get_digest` (state after it, whose `h` is the digest).  Fuel 64 suffices for each loop
(`Sha1`: every iteration advances `block_byte_index_` and it is reset at 64). -/
def sha1GetDigest (s : Sha1State) : Sha1State :=
  let bitCount := Gen.sha1BitCount s.byteCount
  let s := sha1ProcessByte s (UInt8.ofNat Gen.sha1PadFirst)
  let s :=
    if s.idx > Gen.sha1PadHigh then
      sha1FillBelow Gen.sha1PadFill1 64 (sha1FillToZero 64 s)
    else sha1FillBelow Gen.sha1PadFill2 64 s
  sha1Append s (nats (Gen.sha1LenBytes bitCount))

/-- `sha1_digets::readout`: `get_digest`, `reset`, words written most significant byte first -/
def sha1Readout (s : Sha1State) : Bytes × Sha1State :=
  let s2 := sha1GetDigest s
  (nats (s2.h.flatMap Gen.sha1WordBytes), sha1Reset s2.block)

/-! ## the `message_digest` interface as a record of functions -/

structure HashObj (σ : Type) where
  /-- a newly constructed object (constructor, `clone()`) -/
  fresh : σ
  append : σ → Bytes → σ
  readout : σ → Bytes × σ
  blockSize : Nat
  digestSize : Nat

def md5Obj (buf0 : Bytes) : HashObj Md5State :=
  ⟨md5Init buf0, md5Append, md5Readout, Gen.md5BlockSize, Gen.md5DigestSize⟩

def sha1Obj (block0 : Bytes) : HashObj Sha1State :=
  ⟨sha1Reset block0, sha1Append, sha1Readout, Gen.sha1BlockSize, Gen.sha1DigestSize⟩

/-- use of one object for several messages, each fed as a list of chunks: the read-outs -/
def HashObj.session {σ : Type} (H : HashObj σ) : σ → List (List Bytes) → List Bytes
  | _, [] => []
  | s, chunks :: rest =>
    let (d, s') := H.readout (chunks.foldl H.append s)
    d :: H.session s' rest

/-! the hash functions the model computes, as iterated hashes over the *translated* compression
functions (`Compress` shows they equal `Spec.md5` / `Spec.sha1`: `md5Hash_eq_spec`, `sha1Hash_eq_spec`) -/

def md5Out (abcd : List Nat) : Bytes :=
  (List.range 16).map fun i => UInt8.ofNat (Gen.md5DigestByte (fun j => abcd.getD j 0) i)

def md5Hash (msg : Bytes) : Bytes := Spec.mdHash md5Process Gen.md5Init Spec.le64 md5Out msg

def sha1Out (h : List Nat) : Bytes := nats (h.flatMap Gen.sha1WordBytes)

def sha1Hash (msg : Bytes) : Bytes := Spec.mdHash sha1ProcessBlock Gen.sha1Init Spec.be64 sha1Out msg

/-! ## `hmac` (src/crypto.cpp) over any `message_digest` -/

structure HmacState (σ : Type) where
  md : σ
  mdOpad : σ
  key : Bytes

def xorPad (c : Nat) (l : Bytes) : Bytes := l.map (· ^^^ UInt8.ofNat c)

/-- `hmac::init()` -/
def hmacInit {σ : Type} (H : HashObj σ) (st : HmacState σ) : HmacState σ :=
  let bs := H.blockSize
  let zero : Bytes := List.replicate bs 0
  let (ipad, opad, md) :=
    if Gen.hmacKeyHashed st.key.length bs then
      let (dg, md') := H.readout (H.append st.md st.key)
      let ipad := memcpy zero 0 dg
      (ipad, memcpy zero 0 (ipad.take H.digestSize), md')
    else (memcpy zero 0 st.key, memcpy zero 0 st.key, st.md)
  let ipad := xorPad Gen.hmacIpad ipad
  let opad := xorPad Gen.hmacOpad opad
  let mdOpad := H.append st.mdOpad (opad.take bs)
  let md := H.append md (ipad.take bs)
  ⟨md, mdOpad, st.key⟩

/-- constructor: `md_`, `md_opad_ = md_->clone()`, `init()` -/
def hmacNew {σ : Type} (H : HashObj σ) (key : Bytes) : HmacState σ := hmacInit H ⟨H.fresh, H.fresh, key⟩

def hmacAppend {σ : Type} (H : HashObj σ) (st : HmacState σ) (d : Bytes) : HmacState σ :=
  { st with md := H.append st.md d }

/-- `hmac::readout` -/
def hmacReadout {σ : Type} (H : HashObj σ) (st : HmacState σ) : Bytes × HmacState σ :=
  let (dg, md) := H.readout st.md
  let digest := memcpy (List.replicate H.digestSize 0) 0 dg
  let (out, mdOpad) := H.readout (H.append st.mdOpad (digest.take H.digestSize))
  (out, hmacInit H ⟨md, mdOpad, st.key⟩)

def hmacObj {σ : Type} (H : HashObj σ) (key : Bytes) : HashObj (HmacState σ) :=
  ⟨hmacNew H key, hmacAppend H, hmacReadout H, H.blockSize, H.digestSize⟩

/-! ## `cbc` (src/aes.cpp, OpenSSL-backed)

The object owns two IV arrays, `iv_enc_` (slot 0) and `iv_dec_` (slot 1).  `set_iv` copies the caller's
IV into the slots listed in `Gen.cbcSetIvTargets`; `encrypt` / `decrypt` pass the slot named by
`Gen.cbcEncIvec` / `Gen.cbcDecIvec` to OpenSSL's `AES_cbc_encrypt`, which uses it as the IV **and
overwrites it in place** — that is the whole running-IV bookkeeping, so which array is passed where is
what decides whether several calls chain.  `AES_cbc_encrypt` itself is an external: the parameter
`CbcExt`, with its documented behaviour as the explicit hypothesis `CbcExt.Standard`. -/

structure CbcState (β : Type) where
  ivEnc : β
  ivDec : β

def CbcState.get {β : Type} (s : CbcState β) (slot : Nat) : β := if slot = 0 then s.ivEnc else s.ivDec

def CbcState.put {β : Type} (s : CbcState β) (slot : Nat) (v : β) : CbcState β :=
  if slot = 0 then { s with ivEnc := v } else { s with ivDec := v }

/-- `AES_cbc_encrypt(in, out, len, key, ivec, enc)` on whole blocks: `run enc ivec in = (out, ivec')` -/
structure CbcExt (β : Type) where
  run : Bool → β → List β → List β × β

/-- OpenSSL's contract (SP 800-38A chaining; `ivec` is left holding the last cipher block, unchanged
for an empty input) -/
def CbcExt.Standard {β : Type} (X : CbcExt β) (xor : β → β → β) (E D : β → β) : Prop :=
  ∀ iv bs, X.run true iv bs = (Spec.cbcEncrypt xor E iv bs, (Spec.cbcEncrypt xor E iv bs).getLastD iv) ∧
           X.run false iv bs = (Spec.cbcDecrypt xor D iv bs, bs.getLastD iv)

/-- the executable stand-in the driver uses (it satisfies `Standard` by `rfl`) -/
def osslCbc {β : Type} (xor : β → β → β) (E D : β → β) : CbcExt β :=
  ⟨fun enc iv bs =>
    if enc then (Spec.cbcEncrypt xor E iv bs, (Spec.cbcEncrypt xor E iv bs).getLastD iv)
    else (Spec.cbcDecrypt xor D iv bs, bs.getLastD iv)⟩

/-- `set_iv(ptr, 16)` on an object whose IV arrays hold `s` (all zero after construction / `reset()`) -/
def cbcSetIv {β : Type} (s : CbcState β) (iv : β) : CbcState β :=
  Gen.cbcSetIvTargets.foldl (fun st slot => st.put slot iv) s

/-- `encrypt(in, out, len)` on whole blocks -/
def cbcEncryptCall {β : Type} (X : CbcExt β) (s : CbcState β) (ps : List β) : List β × CbcState β :=
  let r := X.run Gen.cbcEncDir (s.get Gen.cbcEncIvec) ps
  (r.1, s.put Gen.cbcEncIvec r.2)

/-- `decrypt(in, out, len)` on whole blocks -/
def cbcDecryptCall {β : Type} (X : CbcExt β) (s : CbcState β) (cs : List β) : List β × CbcState β :=
  let r := X.run Gen.cbcDecDir (s.get Gen.cbcDecIvec) cs
  (r.1, s.put Gen.cbcDecIvec r.2)

/-- one call on the object -/
inductive CbcOp (β : Type) where
  | enc (ps : List β)
  | dec (cs : List β)

def CbcOp.isEnc {β : Type} : CbcOp β → Bool
  | .enc _ => true
  | .dec _ => false

def CbcOp.data {β : Type} : CbcOp β → List β
  | .enc ps => ps
  | .dec cs => cs

/-- any sequence of `encrypt` / `decrypt` calls on one object: the concatenated outputs of the encrypt
calls, the concatenated outputs of the decrypt calls, and the final state -/
def cbcRun {β : Type} (X : CbcExt β) : CbcState β → List (CbcOp β) → List β × List β × CbcState β
  | s, [] => ([], [], s)
  | s, .enc ps :: rest =>
    let r := cbcEncryptCall X s ps
    let q := cbcRun X r.2 rest
    (r.1 ++ q.1, q.2.1, q.2.2)
  | s, .dec cs :: rest =>
    let r := cbcDecryptCall X s cs
    let q := cbcRun X r.2 rest
    (q.1, r.1 ++ q.2.1, q.2.2)

/-- the inputs of the calls of one direction, concatenated -/
def cbcInputsOf {β : Type} (enc : Bool) (ops : List (CbcOp β)) : List β :=
  (ops.filter fun o => o.isEnc == enc).flatMap CbcOp.data

/-- what a use of the object ends in: `set_key` (if called), `set_iv` (if called), then `encrypt` -/
inductive CbcUse where
  | ok
  | keySize   -- `set_key`: invalid_argument "Invalid key size"
  | ivSize    -- `set_iv`: invalid_argument "Invalid IV size"
  | noKey     -- `check()`: "attempt to use cbc without key"
  | noIv      -- `check()`: "attempt to use cbc without initial vector set"
deriving DecidableEq, Repr

def cbcUse (bits : Nat) (key iv : Option Bytes) : CbcUse :=
  if (match key with | some k => k.length != Gen.cbcKeySize bits | none => false) then .keySize
  else if (match iv with | some v => v.length != Gen.cbcIvSize | none => false) then .ivSize
  else if key.isNone then .noKey
  else if iv.isNone then .noIv
  else .ok

def xorBytes (a b : Bytes) : Bytes := List.zipWith (· ^^^ ·) a b

/-! ## `key::set_hex` -/

inductive KeyResult where
  | ok (k : Bytes)
  | oddLength
  | invalidChar
deriving DecidableEq, Repr

def hexPairs : Bytes → Bytes
  | hi :: lo :: rest => UInt8.ofNat (Gen.hexByte hi.toNat lo.toNat) :: hexPairs rest
  | _ => []

def setHex (s : Bytes) : KeyResult :=
  if s.length = 0 then .ok []
  else if Gen.hexOddLen s.length then .oddLength
  else if !(s.all fun c => Gen.hexCharOk c.toNat) then .invalidChar
  else .ok (hexPairs s)

/-- `key::read_from_file` on a file with the given content (I/O errors are not modelled) -/
inductive KeyFileResult where
  | emptyFile
  | parsed (r : KeyResult)
deriving DecidableEq, Repr

def stripTrailingWs (s : Bytes) : Bytes := (s.reverse.dropWhile fun c => Gen.keyFileWs c.toNat).reverse

def readFromFile (content : Bytes) : KeyFileResult :=
  if content.length = 0 then .emptyFile else .parsed (setHex (stripTrailingWs content))

end Cppcms.C16
