import Cppcms.Common
/-!
# C16 specifications, written from the standards (no import of Gen / Model)

* Merkle–Damgård hashing as RFC 1321 §3 / FIPS 180-4 §5–6 describe it: pad, split into 64-byte
  blocks, fold a compression function.  The compression function and the initial value are
  parameters here; `Model.lean` instantiates them with the functions assembled from the
  translated source, and `Spec.md5Compress`
  / `Spec.sha1Compress` below are independent transcriptions of the standards' round structure
  which `Compress` proves equal to the translated ones (`Props` restates it).
* HMAC as RFC 2104 §2 over an arbitrary hash function.
* CBC as NIST SP 800-38A §6.2 over an arbitrary block permutation.
* hexadecimal key text.
-/
namespace Cppcms.C16.Spec
open Cppcms

/-! ## padding, splitting, folding -/

/-- number of zero bytes after the 0x80 byte: the least `k` with `(len + 1 + k) % 64 = 56` -/
def zeroPad (len : Nat) : Nat := (119 - len % 64) % 64

/-- 64-bit length, least significant byte first (RFC 1321 §3.2) -/
def le64 (n : Nat) : Bytes := (List.range 8).map fun i => UInt8.ofNat (n / 256 ^ i % 256)

/-- 64-bit length, most significant byte first (FIPS 180-4 §5.1.1) -/
def be64 (n : Nat) : Bytes := (le64 n).reverse

/-- value of a big-endian byte string -/
def beVal (l : Bytes) : Nat := l.foldl (fun acc b => acc * 256 + b.toNat) 0
/-- value of a little-endian byte string -/
def leVal (l : Bytes) : Nat := beVal l.reverse

/-- the padded message.  The bit length is taken modulo 2^64 (RFC 1321: "only the low-order 64
bits"; FIPS 180-4 defines SHA-1 only for lengths < 2^64 bits, where the reduction is the identity). -/
def pad (enc : Nat → Bytes) (msg : Bytes) : Bytes :=
  msg ++ (0x80 :: List.replicate (zeroPad msg.length) 0) ++ enc (8 * msg.length % 2 ^ 64)

def chunksAux (n : Nat) : Nat → Bytes → List Bytes
  | 0, _ => []
  | k + 1, l => l.take n :: chunksAux n k (l.drop n)

/-- consecutive `n`-byte blocks of `l` (an incomplete last block is dropped) -/
def chunks (n : Nat) (l : Bytes) : List Bytes := chunksAux n (l.length / n) l

/-- fold `compress` over the 64-byte blocks of `l` -/
def absorb {σ : Type} (compress : σ → Bytes → σ) (st : σ) (l : Bytes) : σ :=
  (chunks 64 l).foldl compress st

/-- an iterated hash: pad, split, fold, encode the final chaining value -/
def mdHash {σ : Type} (compress : σ → Bytes → σ) (iv : σ) (enc : Nat → Bytes) (out : σ → Bytes)
    (msg : Bytes) : Bytes :=
  out (absorb compress iv (pad enc msg))

/-- 32-bit word as 4 bytes, least significant first -/
def le32 (w : Nat) : Bytes := (List.range 4).map fun i => UInt8.ofNat (w / 256 ^ i % 256)
/-- 32-bit word as 4 bytes, most significant first -/
def be32 (w : Nat) : Bytes := (le32 w).reverse

/-! ## MD5 compression function, transcribed from RFC 1321 §3.4 -/

def M32 : Nat := 4294967296
def rotl32 (x s : Nat) : Nat := (x <<< s) % M32 ||| x >>> (32 - s)
def not32 (x : Nat) : Nat := M32 - 1 - x % M32

def md5F (x y z : Nat) : Nat := x &&& y ||| not32 x &&& z
def md5G (x y z : Nat) : Nat := x &&& z ||| y &&& not32 z
def md5H (x y z : Nat) : Nat := x ^^^ y ^^^ z
def md5I (x y z : Nat) : Nat := y ^^^ (x ||| not32 z)

/-- T[i] = floor(2^32 * |sin i|), i = 1..64 (table of RFC 1321 §3.4, typed in from the RFC) -/
def md5T : List Nat := [
  0xd76aa478, 0xe8c7b756, 0x242070db, 0xc1bdceee, 0xf57c0faf, 0x4787c62a, 0xa8304613, 0xfd469501,
  0x698098d8, 0x8b44f7af, 0xffff5bb1, 0x895cd7be, 0x6b901122, 0xfd987193, 0xa679438e, 0x49b40821,
  0xf61e2562, 0xc040b340, 0x265e5a51, 0xe9b6c7aa, 0xd62f105d, 0x02441453, 0xd8a1e681, 0xe7d3fbc8,
  0x21e1cde6, 0xc33707d6, 0xf4d50d87, 0x455a14ed, 0xa9e3e905, 0xfcefa3f8, 0x676f02d9, 0x8d2a4c8a,
  0xfffa3942, 0x8771f681, 0x6d9d6122, 0xfde5380c, 0xa4beea44, 0x4bdecfa9, 0xf6bb4b60, 0xbebfbc70,
  0x289b7ec6, 0xeaa127fa, 0xd4ef3085, 0x04881d05, 0xd9d4d039, 0xe6db99e5, 0x1fa27cf8, 0xc4ac5665,
  0xf4292244, 0x432aff97, 0xab9423a7, 0xfc93a039, 0x655b59c3, 0x8f0ccc92, 0xffeff47d, 0x85845dd1,
  0x6fa87e4f, 0xfe2ce6e0, 0xa3014314, 0x4e0811a1, 0xf7537e82, 0xbd3af235, 0x2ad7d2bb, 0xeb86d391]

/-- per-round shift amounts -/
def md5S : List (List Nat) := [[7, 12, 17, 22], [5, 9, 14, 20], [4, 11, 16, 23], [6, 10, 15, 21]]

/-- message word index used by operation `i` (0-based) -/
def md5K (i : Nat) : Nat :=
  if i < 16 then i else if i < 32 then (5 * i + 1) % 16 else if i < 48 then (3 * i + 5) % 16 else 7 * i % 16

/-- little-endian 32-bit word `k` of a block -/
def leWordAt (blk : Bytes) (k : Nat) : Nat :=
  (blk.getD (4 * k) 0).toNat + 256 * (blk.getD (4 * k + 1) 0).toNat
    + 65536 * (blk.getD (4 * k + 2) 0).toNat + 16777216 * (blk.getD (4 * k + 3) 0).toNat

/-- one operation `[abcd k s i]`: `a = b + ((a + f(b,c,d) + X[k] + T[i]) <<< s)`, followed by the
rotation of the register roles `(a,b,c,d) ↦ (d,a,b,c)` -/
def md5Op (blk : Bytes) (r : Nat × Nat × Nat × Nat) (i : Nat) : Nat × Nat × Nat × Nat :=
  let (a, b, c, d) := r
  let f := if i < 16 then md5F b c d else if i < 32 then md5G b c d else if i < 48 then md5H b c d else md5I b c d
  let s := (md5S.getD (i / 16) []).getD (i % 4) 0
  let t := (a + f + leWordAt blk (md5K i) + md5T.getD i 0) % M32
  (d, (b + rotl32 t s) % M32, b, c)

def md5Compress (st : List Nat) (blk : Bytes) : List Nat :=
  let a := st.getD 0 0; let b := st.getD 1 0; let c := st.getD 2 0; let d := st.getD 3 0
  let (a', b', c', d') := (List.range 64).foldl (md5Op blk) (a, b, c, d)
  [(a + a') % M32, (b + b') % M32, (c + c') % M32, (d + d') % M32]

def md5IV : List Nat := [0x67452301, 0xefcdab89, 0x98badcfe, 0x10325476]

/-- MD5 of a byte string, RFC 1321 -/
def md5 (msg : Bytes) : Bytes :=
  mdHash md5Compress md5IV le64 (fun st => st.flatMap le32) msg

/-! ## SHA-1 compression function, transcribed from FIPS 180-4 §6.1.2 -/

def beWordAt (blk : Bytes) (k : Nat) : Nat :=
  16777216 * (blk.getD (4 * k) 0).toNat + 65536 * (blk.getD (4 * k + 1) 0).toNat
    + 256 * (blk.getD (4 * k + 2) 0).toNat + (blk.getD (4 * k + 3) 0).toNat

def sha1Ch (x y z : Nat) : Nat := x &&& y ^^^ not32 x &&& z
def sha1Parity (x y z : Nat) : Nat := x ^^^ y ^^^ z
def sha1Maj (x y z : Nat) : Nat := x &&& y ^^^ x &&& z ^^^ y &&& z

def sha1F (t x y z : Nat) : Nat :=
  if t < 20 then sha1Ch x y z else if t < 40 then sha1Parity x y z else if t < 60 then sha1Maj x y z else sha1Parity x y z
def sha1K (t : Nat) : Nat :=
  if t < 20 then 0x5a827999 else if t < 40 then 0x6ed9eba1 else if t < 60 then 0x8f1bbcdc else 0xca62c1d6

/-- message schedule, newest word first: `W_t = ROTL^1(W_{t-3} ⊕ W_{t-8} ⊕ W_{t-14} ⊕ W_{t-16})` -/
def sha1Expand : Nat → List Nat → List Nat
  | 0, w => w
  | n + 1, w => sha1Expand n (rotl32 (w.getD 2 0 ^^^ w.getD 7 0 ^^^ w.getD 13 0 ^^^ w.getD 15 0) 1 :: w)

def sha1W (blk : Bytes) : List Nat :=
  (sha1Expand 64 (((List.range 16).map (beWordAt blk)).reverse)).reverse

def sha1Step (r : Nat × Nat × Nat × Nat × Nat) (tw : Nat × Nat) : Nat × Nat × Nat × Nat × Nat :=
  let (a, b, c, d, e) := r
  let (t, w) := tw
  ((rotl32 a 5 + sha1F t b c d + e + sha1K t + w) % M32, a, rotl32 b 30, c, d)

def sha1Compress (st : List Nat) (blk : Bytes) : List Nat :=
  let a := st.getD 0 0; let b := st.getD 1 0; let c := st.getD 2 0; let d := st.getD 3 0; let e := st.getD 4 0
  let (a', b', c', d', e') := ((List.range 80).zip (sha1W blk)).foldl sha1Step (a, b, c, d, e)
  [(a + a') % M32, (b + b') % M32, (c + c') % M32, (d + d') % M32, (e + e') % M32]

def sha1IV : List Nat := [0x67452301, 0xefcdab89, 0x98badcfe, 0x10325476, 0xc3d2e1f0]

/-- SHA-1 of a byte string, FIPS 180-4 (length reduced mod 2^64 beyond the standard's domain) -/
def sha1 (msg : Bytes) : Bytes :=
  mdHash sha1Compress sha1IV be64 (fun st => st.flatMap be32) msg

/-! ## HMAC, RFC 2104 §2 -/

/-- `H((K ⊕ opad) ‖ H((K ⊕ ipad) ‖ text))`, `K` = key zero-padded to the block size `B`, keys longer
than `B` are hashed first -/
def hmac (H : Bytes → Bytes) (B : Nat) (key text : Bytes) : Bytes :=
  let k0 := if key.length > B then H key else key
  let k := k0 ++ List.replicate (B - k0.length) 0
  H (k.map (· ^^^ 0x5c) ++ H (k.map (· ^^^ 0x36) ++ text))

/-! ## CBC, SP 800-38A §6.2, over any block type with an xor and a block function -/

def cbcEncrypt {β : Type} (xor : β → β → β) (E : β → β) : β → List β → List β
  | _, [] => []
  | iv, p :: ps => let c := E (xor p iv); c :: cbcEncrypt xor E c ps

def cbcDecrypt {β : Type} (xor : β → β → β) (D : β → β) : β → List β → List β
  | _, [] => []
  | iv, c :: cs => xor (D c) iv :: cbcDecrypt xor D c cs

/-! ## hexadecimal keys -/

def hexVal (c : UInt8) : Option Nat :=
  if 0x30 ≤ c ∧ c ≤ 0x39 then some (c.toNat - 0x30)
  else if 0x61 ≤ c ∧ c ≤ 0x66 then some (c.toNat - 0x61 + 10)
  else if 0x41 ≤ c ∧ c ≤ 0x46 then some (c.toNat - 0x41 + 10)
  else none

/-- bytes denoted by a string of hex digit pairs; `none` for odd length or a non-hex character -/
def fromHex : Bytes → Option Bytes
  | [] => some []
  | [_] => none
  | hi :: lo :: rest =>
    match hexVal hi, hexVal lo, fromHex rest with
    | some h, some l, some r => some (UInt8.ofNat (16 * h + l) :: r)
    | _, _, _ => none

/-! ## key files: hexadecimal text, trailing blanks / line ends ignored -/

/-- space, LF, CR, TAB -/
def isWs (c : UInt8) : Bool := c == 0x20 || c == 0x0a || c == 0x0d || c == 0x09

/-- `s` without its trailing white space -/
def rstrip : Bytes → Bytes
  | [] => []
  | c :: rest =>
    match rstrip rest with
    | [] => if isWs c then [] else [c]
    | r => c :: r

end Cppcms.C16.Spec
