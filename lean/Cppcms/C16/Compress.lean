import Cppcms.C16.Bytes
import Cppcms.C16.Eval
/-! `md5Process` and `sha1ProcessBlock`, assembled from the translated source, equal the transcriptions of
RFC 1321 §3.4 and FIPS 180-4 §6.1.2 in `Spec.lean`: MD5 by a step-by-step simulation between the source's fixed
register array and the RFC's rotating roles, SHA-1 round by round on 32-bit words. -/
namespace Cppcms.C16
open Cppcms Cppcms.C16.Spec

/-- `f` and `g` agree where `P` holds and `g` preserves `P`: they fold alike (over a block's rounds, over the blocks) -/
theorem foldl_congr_inv {σ α : Type} (P : σ → Prop) (f g : σ → α → σ) (hfg : ∀ s x, P s → f s x = g s x)
    (hP : ∀ s x, P s → P (g s x)) : ∀ (l : List α) (s : σ), P s → l.foldl f s = l.foldl g s ∧ P (l.foldl g s)
  | [], _, h => ⟨rfl, h⟩
  | x :: l, s, h => by
    rw [List.foldl_cons, List.foldl_cons, hfg _ _ h]
    exact foldl_congr_inv P f g hfg hP l _ (hP _ _ h)

def md5Round (i : Nat) : Nat := if i < 16 then 0 else if i < 32 then 1 else if i < 48 then 2 else 3

/-- operation `i` of RFC 1321 in the format of the translated SET table: which register is written
(the RFC cycles ABCD, DABC, CDAB, BCDA), `k`, `s`, `T[i+1]` -/
def md5SpecStep (i : Nat) : Nat × Nat × Nat × Nat × Nat × Nat × Nat × Nat :=
  (md5Round i, (4 - i % 4) % 4, (5 - i % 4) % 4, (6 - i % 4) % 4, (7 - i % 4) % 4, md5K i,
   (md5S.getD (i / 16) []).getD (i % 4) 0, Spec.md5T.getD i 0)

theorem md5Steps_eq : Gen.md5Steps = (List.range 64).map md5SpecStep :=
  eq_of_beq (by decide +kernel)

/-- where the RFC's rotating roles `(a, b, c, d)` sit in the register array before operation `i` -/
def md5ToL (i : Nat) (t : Nat × Nat × Nat × Nat) : List Nat :=
  match i % 4 with
  | 0 => [t.1, t.2.1, t.2.2.1, t.2.2.2]
  | 1 => [t.2.1, t.2.2.1, t.2.2.2, t.1]
  | 2 => [t.2.2.1, t.2.2.2, t.1, t.2.1]
  | _ => [t.2.2.2, t.1, t.2.1, t.2.2.1]

theorem md5S_le (i : Nat) (h : i < 64) : (md5S.getD (i / 16) []).getD (i % 4) 0 ≤ 32 := by
  have : ∀ j : Fin 64, (md5S.getD (j.val / 16) []).getD (j.val % 4) 0 ≤ 32 := by decide
  exact this ⟨i, h⟩

theorem md5Fn_eq (i x y z : Nat) :
    md5Fn (md5Round i) x y z =
      if i < 16 then md5F x y z else if i < 32 then md5G x y z else if i < 48 then md5H x y z else md5I x y z := by
  unfold md5Round
  split
  · rfl
  · split
    · rfl
    · split <;> rfl

theorem md5Word_eq (b0 b1 b2 b3 : Nat) (h0 : b0 < 256) (h1 : b1 < 256) (h2 : b2 < 256) (h3 : b3 < 256) :
    Gen.md5Word b0 b1 b2 b3 = b0 + 256 * b1 + 65536 * b2 + 16777216 * b3 := by
  simp only [Gen.md5Word, Nat.shiftLeft_eq, Nat.add_mod_mod, Nat.mod_add_mod]
  omega

theorem md5X_eq (blk : Bytes) (k : Nat) : md5X blk k = leWordAt blk k :=
  md5Word_eq _ _ _ _ (UInt8.toNat_lt _) (UInt8.toNat_lt _) (UInt8.toNat_lt _) (UInt8.toNat_lt _)

theorem md5RotL_eq (x s : Nat) (h : s ≤ 32) : Gen.md5RotL x s = rotl32 x s := by
  have : (32 + 4294967296 - s % 4294967296) % 4294967296 = 32 - s := by omega
  simp only [Gen.md5RotL, rotl32, M32, this]

/-- what one translated `SET` line computes is the new `b` of the RFC's operation `i` -/
theorem md5Set_eq_md5Op (blk : Bytes) (i A B C D : Nat) (hi : i < 64) :
    Gen.md5SetA (Gen.md5SetT A (md5Fn (md5Round i) B C D) (md5X blk (md5K i)) (Spec.md5T.getD i 0))
      ((md5S.getD (i / 16) []).getD (i % 4) 0) B = (md5Op blk (A, B, C, D) i).2.1 := by
  simp only [md5Fn_eq, md5X_eq, Gen.md5SetA, Gen.md5SetT, md5RotL_eq _ _ (md5S_le i hi), Nat.mod_add_mod]
  rw [Nat.add_comm]
  rfl

theorem md5_sim (blk : Bytes) (i : Nat) (hi : i < 64) (t : Nat × Nat × Nat × Nat) :
    md5Step blk (md5ToL i t) (md5SpecStep i) = md5ToL (i + 1) (md5Op blk t i) := by
  obtain ⟨A, B, C, D⟩ := t
  have hv := md5Set_eq_md5Op blk i A B C D hi
  rw [show md5Op blk (A, B, C, D) i = (D, (md5Op blk (A, B, C, D) i).2.1, B, C) from rfl]
  -- The source keeps a, b, c, d in fixed array slots and permutes the arguments of `SET` from line to line; the
  -- RFC keeps the argument order and rotates the roles.  Before operation `i` the roles sit in the array rotated
  -- by `i % 4` (`md5ToL`); the line writes slot `(4 - i % 4) % 4` from the next three slots: role `a` replaced by
  -- the new `b` (`hv`), which is the array of phase `(i + 1) % 4` after the RFC's rotation.
  have h' : (i + 1) % 4 = (i % 4 + 1) % 4 := by omega
  have phases : i % 4 = 0 ∨ i % 4 = 1 ∨ i % 4 = 2 ∨ i % 4 = 3 := by omega
  rcases phases with h | h | h | h
  all_goals
    rw [h] at hv h'
    simp only [md5Step, md5SpecStep, md5ToL, h, h', Nat.reduceAdd, Nat.reduceSub, Nat.reduceMod,
      List.getD_cons_zero, List.getD_cons_succ, List.set_cons_zero, List.set_cons_succ, hv]

theorem md5_sim_n (blk : Bytes) (t : Nat × Nat × Nat × Nat) : ∀ n, n ≤ 64 →
    (List.range n).foldl (fun r i => md5Step blk r (md5SpecStep i)) (md5ToL 0 t) =
      md5ToL n ((List.range n).foldl (md5Op blk) t)
  | 0, _ => rfl
  | n + 1, h => by
    rw [List.range_succ, List.foldl_append, List.foldl_append, md5_sim_n blk t n (by omega)]
    exact md5_sim blk n (by omega) _

theorem md5Process_eq (a b c d : Nat) (blk : Bytes) :
    md5Process [a, b, c, d] blk = md5Compress [a, b, c, d] blk := by
  have := md5_sim_n blk (a, b, c, d) 64 (Nat.le_refl _)
  simp only [md5ToL] at this
  simp only [md5Process, md5Compress, md5Steps_eq, List.foldl_map, this, List.getD_cons_zero, List.getD_cons_succ]
  generalize (List.range 64).foldl (md5Op blk) (a, b, c, d) = r
  obtain ⟨a', b', c', d'⟩ := r
  rfl

theorem md5Compress_length (st : List Nat) (blk : Bytes) : (md5Compress st blk).length = 4 := rfl

theorem md5Out_eq (st : List Nat) (h : st.length = 4) : md5Out st = st.flatMap le32 := by
  match st, h with
  | [a, b, c, d], _ => exact md5_word_bytes _ 4

theorem md5Hash_eq_spec (m : Bytes) : md5Hash m = Spec.md5 m := by
  -- over the blocks; the invariant is `length = 4`
  have e := foldl_congr_inv (fun st : List Nat => st.length = 4) md5Process md5Compress
    (fun st blk h => by match st, h with | [a, b, c, d], _ => exact md5Process_eq a b c d blk)
    (fun s b _ => md5Compress_length s b) (chunks 64 (pad le64 m)) md5IV rfl
  rw [md5Hash, Spec.md5, mdHash, mdHash, absorb, absorb, show Gen.md5Init = md5IV from rfl, e.1, md5Out_eq _ e.2]

theorem md5Hash_length (m : Bytes) : (md5Hash m).length = 16 := by
  simp [md5Hash, mdHash, md5Out]

/-! The source rotates with `^` instead of `|` and writes `Ch`/`Maj` with `|` where FIPS 180-4 has `⊕`;
rotate and `Ch` agree on 32-bit words, `Maj` always.  The rounds keep the two variables that are rotated, `a` and `b`, below
2^32 (`W2`) if the first two chaining words are, and that is an invariant of the iteration (`St5`:
`Gen.sha1Init` has it and every addition is reduced). -/

theorem testBit_false_of_lt {x k i : Nat} (h : x < 2 ^ k) (hki : k ≤ i) : x.testBit i = false :=
  Nat.testBit_lt_two_pow (Nat.lt_of_lt_of_le h (Nat.pow_le_pow_right (by decide) hki))

theorem rot_xor_eq_or (x n : Nat) (hx : x < 2 ^ 32) (hn : n ≤ 32) :
    ((x <<< n) % 2 ^ 32) ^^^ (x >>> (32 - n)) = ((x <<< n) % 2 ^ 32) ||| (x >>> (32 - n)) := by
  apply Nat.eq_of_testBit_eq
  intro j
  simp only [Nat.testBit_xor, Nat.testBit_or, Nat.testBit_mod_two_pow, Nat.testBit_shiftLeft,
    Nat.testBit_shiftRight]
  by_cases hj : j ≥ n
  · have : x.testBit (32 - n + j) = false := testBit_false_of_lt hx (by omega)
    simp [this]
  · simp [hj]

theorem sha1RotL_eq (x n : Nat) (hx : x < 2 ^ 32) (hn : n ≤ 32) : Gen.sha1RotL x n = rotl32 x n := by
  have e : (32 + 4294967296 - n % 4294967296) % 4294967296 = 32 - n := by omega
  have := rot_xor_eq_or x n hx hn
  simp only [Gen.sha1RotL, rotl32, M32, e]
  exact this

theorem sha1Word_eq (b0 b1 b2 b3 : Nat) (h0 : b0 < 256) (h1 : b1 < 256) (h2 : b2 < 256) (h3 : b3 < 256) :
    Gen.sha1Word b0 b1 b2 b3 = 16777216 * b0 + 65536 * b1 + 256 * b2 + b3 := by
  -- the four `|` of shifted bytes in nested form, where each `|` adds a byte below a multiple of 2^8
  have hor : ((b0 <<< 8 ||| b1) <<< 8 ||| b2) <<< 8 ||| b3 = b0 <<< 24 ||| b1 <<< 16 ||| b2 <<< 8 ||| b3 := by
    simp only [Nat.shiftLeft_or_distrib, ← Nat.shiftLeft_add]
  rw [Gen.sha1Word, Nat.mod_eq_of_lt (by rw [Nat.shiftLeft_eq]; omega), Nat.mod_eq_of_lt (by rw [Nat.shiftLeft_eq]; omega),
    Nat.mod_eq_of_lt (by rw [Nat.shiftLeft_eq]; omega), ← hor, ← Nat.shiftLeft_add_eq_or_of_lt (i := 8) h1,
    ← Nat.shiftLeft_add_eq_or_of_lt (i := 8) h2, ← Nat.shiftLeft_add_eq_or_of_lt (i := 8) h3]
  simp only [Nat.shiftLeft_eq]
  omega

theorem beWordAt_lt (blk : Bytes) (k : Nat) : beWordAt blk k < 2 ^ 32 := beWord_lt ..

theorem sha1Words16_eq (blk : Bytes) : sha1Words16 blk = (List.range 16).map (beWordAt blk) := by
  unfold sha1Words16
  have : Gen.sha1NFirst = 16 := rfl
  rw [this]
  apply List.map_congr_left
  intro i _
  have e : ∀ j, i * 4 + j = 4 * i + j := by intro j; omega
  simp only [byteAt, e, Nat.add_zero]
  exact sha1Word_eq _ _ _ _ (UInt8.toNat_lt _) (UInt8.toNat_lt _) (UInt8.toNat_lt _) (UInt8.toNat_lt _)

theorem sha1Extend_eq : ∀ (n : Nat) (w : List Nat), AllW32 w → sha1Extend n w = sha1Expand n w
  | 0, _, _ => rfl
  | n + 1, w, hw => by
    rw [sha1Extend, Gen.sha1Sched, sha1RotL_eq _ 1 (sched_lt w hw) (by decide)]
    exact sha1Extend_eq n _ (.cons (rotl32_lt _ 1 (sched_lt w hw)) hw)

theorem sha1W_eq (blk : Bytes) : sha1W blk = Spec.sha1W blk := by
  unfold sha1W Spec.sha1W
  have : Gen.sha1NWords - Gen.sha1NFirst = 64 := rfl
  rw [this, sha1Words16_eq, sha1Extend_eq]
  intro x hx
  simp only [List.mem_reverse, List.mem_map] at hx
  obtain ⟨k, _, rfl⟩ := hx
  exact beWordAt_lt blk k

theorem not32_testBit (x j : Nat) (hx : x < 2 ^ 32) :
    (4294967295 - x % 4294967296).testBit j = (decide (j < 32) && !x.testBit j) := by
  have e : 4294967295 - x % 4294967296 = 2 ^ 32 - (x + 1) := by omega
  rw [e, Nat.testBit_two_pow_sub_succ hx]

theorem sha1F0_eq (b c d : Nat) (hb : b < 2 ^ 32) : Gen.sha1F0 b c d = sha1Ch b c d := by
  unfold Gen.sha1F0 sha1Ch not32 M32
  have e : 4294967296 - 1 - b % 4294967296 = 4294967295 - b % 4294967296 := by omega
  rw [e]
  apply Nat.eq_of_testBit_eq
  intro j
  simp only [Nat.testBit_or, Nat.testBit_xor, Nat.testBit_and, not32_testBit b j hb]
  cases b.testBit j <;> cases c.testBit j <;> cases d.testBit j <;> simp

theorem sha1F2_eq (b c d : Nat) : Gen.sha1F2 b c d = sha1Maj b c d := by
  unfold Gen.sha1F2 sha1Maj
  apply Nat.eq_of_testBit_eq
  intro j
  simp only [Nat.testBit_or, Nat.testBit_xor, Nat.testBit_and]
  cases b.testBit j <;> cases c.testBit j <;> cases d.testBit j <;> rfl

def W2 (r : Nat × Nat × Nat × Nat × Nat) : Prop := r.1 < 2 ^ 32 ∧ r.2.1 < 2 ^ 32

theorem sha1Round_eq (r : Nat × Nat × Nat × Nat × Nat) (iw : Nat × Nat) (h : W2 r) :
    sha1Round r iw = sha1Step r iw := by
  obtain ⟨a, b, c, d, e⟩ := r
  obtain ⟨i, w⟩ := iw
  obtain ⟨ha, hb⟩ := h
  have hfk : (if i < 20 then (Gen.sha1F0 b c d, Gen.sha1K0) else if i < 40 then (Gen.sha1F1 b c d, Gen.sha1K1)
      else if i < 60 then (Gen.sha1F2 b c d, Gen.sha1K2) else (Gen.sha1F3 b c d, Gen.sha1K3)) = (sha1F i b c d, sha1K i) := by
    rw [sha1F0_eq b c d hb, sha1F2_eq, sha1F, sha1K]
    split
    · rfl
    · split
      · rfl
      · split <;> rfl
  simp only [sha1Round, sha1Step, show Gen.sha1Bounds = [20, 40, 60] from rfl, List.getD_cons_zero, List.getD_cons_succ,
    hfk, Gen.sha1NewC, Gen.sha1Temp, sha1RotL_eq a 5 ha (by decide), sha1RotL_eq b 30 hb (by decide), Nat.mod_add_mod]
  rfl

theorem sha1Step_w2 (r : Nat × Nat × Nat × Nat × Nat) (iw : Nat × Nat) (h : W2 r) : W2 (sha1Step r iw) :=
  ⟨Nat.mod_lt _ (by decide), h.1⟩

/-- only the first two chaining words have to be 32-bit words: they are the ones the first rounds rotate -/
theorem sha1ProcessBlock_eq (h0 h1 h2 h3 h4 : Nat) (blk : Bytes) (hw0 : h0 < 2 ^ 32) (hw1 : h1 < 2 ^ 32) :
    sha1ProcessBlock [h0, h1, h2, h3, h4] blk = sha1Compress [h0, h1, h2, h3, h4] blk := by
  unfold sha1ProcessBlock sha1Compress
  simp only [List.getD_cons_zero, List.getD_cons_succ, show Gen.sha1NWords = 80 from rfl, sha1W_eq]
  rw [(foldl_congr_inv W2 sha1Round sha1Step sha1Round_eq sha1Step_w2 _ (h0, h1, h2, h3, h4) ⟨hw0, hw1⟩).1]
  generalize ((List.range 80).zip (Spec.sha1W blk)).foldl sha1Step (h0, h1, h2, h3, h4) = r
  obtain ⟨a, b, c, d, e⟩ := r
  rfl

def St5 (st : List Nat) : Prop := st.length = 5 ∧ st.getD 0 0 < 2 ^ 32 ∧ st.getD 1 0 < 2 ^ 32

theorem sha1ProcessBlock_eq_St5 (st : List Nat) (blk : Bytes) (h : St5 st) :
    sha1ProcessBlock st blk = sha1Compress st blk := by
  match st, h with
  | [h0, h1, h2, h3, h4], ⟨_, hw0, hw1⟩ => exact sha1ProcessBlock_eq h0 h1 h2 h3 h4 blk hw0 hw1

theorem sha1Compress_st5 (st : List Nat) (blk : Bytes) : St5 (sha1Compress st blk) := by
  unfold sha1Compress
  dsimp only
  generalize ((List.range 80).zip (Spec.sha1W blk)).foldl sha1Step
    (st.getD 0 0, st.getD 1 0, st.getD 2 0, st.getD 3 0, st.getD 4 0) = r
  obtain ⟨a, b, c, d, e⟩ := r
  exact ⟨rfl, Nat.mod_lt _ (by decide), Nat.mod_lt _ (by decide)⟩

theorem sha1WordBytes_eq (w : Nat) : nats (Gen.sha1WordBytes w) = be32 w := by
  simp [Gen.sha1WordBytes, nats, be32, le32, List.range, List.range.loop, and_255, Nat.shiftRight_eq_div_pow]

theorem sha1Out_eq (st : List Nat) : sha1Out st = st.flatMap be32 := by
  rw [sha1Out, nats, List.map_flatMap]
  exact congrArg (List.flatMap · st) (funext sha1WordBytes_eq)

theorem sha1_absorb_eq (m : Bytes) :
    absorb sha1ProcessBlock Gen.sha1Init (pad be64 m) = absorb sha1Compress sha1IV (pad be64 m) ∧
    St5 (absorb sha1Compress sha1IV (pad be64 m)) :=
  foldl_congr_inv St5 sha1ProcessBlock sha1Compress sha1ProcessBlock_eq_St5 (fun s b _ => sha1Compress_st5 s b)
    _ sha1IV ⟨rfl, by decide, by decide⟩

theorem sha1Hash_eq_spec (m : Bytes) : sha1Hash m = Spec.sha1 m := by
  rw [sha1Hash, Spec.sha1, mdHash, mdHash, (sha1_absorb_eq m).1, sha1Out_eq]

theorem sha1Hash_length (m : Bytes) : (sha1Hash m).length = 20 := by
  have hl := (sha1_absorb_eq m).2.1
  rw [sha1Hash_eq_spec, Spec.sha1, mdHash]
  generalize absorb sha1Compress sha1IV (pad be64 m) = st at hl
  match st, hl with
  | [a, b, c, d, e], _ => rfl

end Cppcms.C16
