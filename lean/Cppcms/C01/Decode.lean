import Cppcms.C01.Request
import Cppcms.Lib.Scan
/-!
# C01 — the scanners on `piece ++ rest`

The common step of the round trips: a scanner of the model (`cstr`, `tocken`, `splitAt1`) applied to what the peer wrote
followed by anything reads back exactly that piece and leaves the rest.  At the end two list facts
(`length_le_flatMap` bounds the fuel of the decoding loops).
-/
namespace Cppcms.C01
open Cppcms

theorem tocken_app (a b : Bytes) (ha : ∀ x ∈ a, isTockenChar x = true) (hb : Scan.Stops isTockenChar b) :
    tocken (a ++ b) = (a, b) :=
  Scan.span_append ha hb

theorem splitAt1_hit (c : UInt8) (a b : Bytes) (ha : ∀ x ∈ a, x ≠ c) : splitAt1 c (a ++ c :: b) = some (a, b) := by
  rw [splitAt1, Scan.span_append (fun x hx => by simpa using ha x hx) (Scan.stops_cons (by simp))]

theorem splitAt1_miss (c : UInt8) (a : Bytes) (ha : ∀ x ∈ a, x ≠ c) : splitAt1 c a = none := by
  have := Scan.span_append (p := (· != c)) (b := []) (fun x hx => by simpa using ha x hx) Scan.stops_nil
  rw [List.append_nil] at this
  rw [splitAt1, this]

theorem nonul_pass {a : Bytes} (h : 0 ∉ a) : ∀ x ∈ a, decide (x ≠ 0) = true :=
  fun x hx => by simpa using fun e : x = 0 => h (e ▸ hx)

theorem cstr_append_nul (a b : Bytes) (h : 0 ∉ a) : cstr (a ++ 0 :: b) = a :=
  (Scan.takeWhile_append_cons b (nonul_pass h) (by simp)).1

theorem cstr_of_nonul (a : Bytes) (h : 0 ∉ a) : cstr a = a :=
  Scan.takeWhile_of_all (nonul_pass h)

theorem drop_length_succ {α : Type} (a : List α) (c : α) (b : List α) : (a ++ c :: b).drop (a.length + 1) = b := by
  rw [← List.drop_drop, List.drop_left]; rfl

theorem length_le_flatMap {α β : Type} (f : α → List β) (l : List α) (h : ∀ x ∈ l, f x ≠ []) :
    l.length ≤ (l.flatMap f).length := by
  induction l with
  | nil => simp
  | cons x t ih =>
    have := List.length_pos_iff.2 (h x (by simp))
    have := ih (fun y hy => h y (by simp [hy]))
    simp only [List.flatMap_cons, List.length_append, List.length_cons]
    omega

end Cppcms.C01
