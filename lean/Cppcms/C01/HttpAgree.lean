import Cppcms.C01.HttpRequestRT
import Cppcms.C01.StringMap
/-!
# C01 — the embedded HTTP server delivers what a gateway would send over SCGI / FastCGI

`HttpPeer.envPairs`: the CGI variables the embedded server derives from the peer's request, in the order it adds
them.  The head it hands to the request layer (`HttpPeer.head`) is `Head.ofEnv` of exactly these variables
(when no name occurs twice), i.e. what the SCGI and FastCGI front-ends hand over when a gateway sends these pairs.
-/
namespace Cppcms.C01
open Cppcms

def HttpPeer.envPairs (cfg : HttpCfg) (q : HttpPeer) : List (Bytes × Bytes) :=
  [(bs Gen.env_SERVER_SOFTWARE, cfg.software), (bs Gen.env_SERVER_NAME, cfg.serverName),
   (bs Gen.env_SERVER_PORT, cfg.port), (bs Gen.env_GATEWAY_INTERFACE, bs Gen.envGateway),
   (bs Gen.env_SERVER_PROTOCOL, q.proto)] ++ q.fields.map fieldPair ++
  [(bs Gen.env_REQUEST_METHOD, q.method), (bs Gen.env_REMOTE_HOST, cfg.remote), (bs Gen.env_REMOTE_ADDR, cfg.remote)] ++
  (match q.query with | none => [] | some s => [(bs Gen.env_QUERY_STRING, s)]) ++
  (if q.script.isEmpty then [] else [(bs Gen.env_SCRIPT_NAME, q.script)]) ++
  [(bs Gen.env_PATH_INFO, pctValue q.path)]

/-- the end of `envPairs`: the three names `process_request` adds last, in its order -/
def HttpPeer.processPairs (q : HttpPeer) : List (Bytes × Bytes) :=
  (match q.query with | none => [] | some s => [(bs Gen.env_QUERY_STRING, s)]) ++
  (if q.script.isEmpty then [] else [(bs Gen.env_SCRIPT_NAME, q.script)]) ++
  [(bs Gen.env_PATH_INFO, pctValue q.path)]

theorem addAll_append (e : Env) (a b : List (Bytes × Bytes)) : (e.addAll a).addAll b = e.addAll (a ++ b) := by
  simp [Env.addAll, List.foldl_append]

theorem addAll_one (e : Env) (k v : Bytes) : e.add k v = e.addAll [(k, v)] := rfl

theorem head_env (cfg : HttpCfg) (q : HttpPeer) : (q.head cfg).env = Env.empty.addAll (q.envPairs cfg) := by
  unfold HttpPeer.head HttpPeer.envPairs
  simp only [regs_eq]
  cases q.query <;> cases q.script.isEmpty <;>
    simp only [httpEnv0, addAll_one, addAll_append, Bool.false_eq_true, if_false, if_true, List.append_assoc,
      List.cons_append, List.nil_append, List.append_nil]

theorem lastVal_append (k : Bytes) (a b : List (Bytes × Bytes)) (d : Bytes) :
    lastVal k (a ++ b) d = lastVal k b (lastVal k a d) := by
  simp [lastVal, List.foldl_append]

theorem lastVal_cons (k : Bytes) (kv : Bytes × Bytes) (l : List (Bytes × Bytes)) (d : Bytes) :
    lastVal k (kv :: l) d = lastVal k l (if kv.1 == k then kv.2 else d) := rfl

theorem lastVal_nil (k d : Bytes) : lastVal k [] d = d := rfl

theorem lastVal_skip (k : Bytes) (l : List (Bytes × Bytes)) (d : Bytes) (h : ∀ e ∈ l, e.1 ≠ k) : lastVal k l d = d := by
  induction l generalizing d with
  | nil => rfl
  | cons e t ih =>
    rw [lastVal_cons, if_neg (by simpa using h e (by simp))]
    exact ih d (fun x hx => h x (by simp [hx]))

theorem lastVal_const (k v : Bytes) (l : List (Bytes × Bytes)) (hall : ∀ e ∈ l, e.1 = k → e.2 = v) (d : Bytes)
    (h : d = v ∨ (k, v) ∈ l) : lastVal k l d = v := by
  induction l generalizing d with
  | nil => rcases h with h | h; exact h; cases h
  | cons e t ih =>
    rw [lastVal_cons]
    refine ih (fun x hx => hall x (by simp [hx])) _ ?_
    by_cases hek : e.1 = k
    · rw [if_pos (by simpa using hek)]; exact Or.inl (hall e (by simp) hek)
    · rw [if_neg (by simpa using hek)]
      refine h.imp id fun h => ?_
      rcases List.mem_cons.1 h with h | h
      · exact absurd (congrArg Prod.fst h).symm hek
      · exact h

theorem getSafe_lastVal (adds : List (Bytes × Bytes)) (hd : Distinct adds) (k : Bytes) :
    (Env.empty.addAll adds).getSafe k = lastVal k adds [] := by
  unfold Env.getSafe
  by_cases hex : ∃ v, (k, v) ∈ adds
  · obtain ⟨v, hv⟩ := hex
    rw [env_get_distinct adds k v hd hv, lastVal_const k v adds (fun e he hek => by rw [hd e he (k, v) hv hek]) [] (Or.inr hv)]
    rfl
  · have hab : ∀ e ∈ adds, e.1 ≠ k := fun e he hek => hex ⟨e.2, by rw [← hek]; exact he⟩
    rw [env_get_absent adds k hab, lastVal_skip k adds [] hab]
    rfl

theorem fieldPair_key (f : HttpField) :
    (fieldPair f).1 = bs Gen.hdrContentLength ∨ (fieldPair f).1 = bs Gen.hdrContentType ∨
    ∃ n, (fieldPair f).1 = bs Gen.hdrPrefix ++ n := by
  unfold fieldPair
  by_cases h1 : canonName f.name = bs Gen.hdrContentLength
  · exact Or.inl (by simp [h1])
  · by_cases h2 : canonName f.name = bs Gen.hdrContentType
    · exact Or.inr (Or.inl (by simp [h2]))
    · exact Or.inr (Or.inr ⟨canonName f.name, by simp [h1, h2]⟩)

theorem lastVal_fields_other (k : Bytes) (h1 : k ≠ bs Gen.hdrContentLength) (h2 : k ≠ bs Gen.hdrContentType)
    (h3 : k.head? ≠ some 72) (fs : List HttpField) (d : Bytes) : lastVal k (fs.map fieldPair) d = d := by
  refine lastVal_skip k _ d fun e he hek => ?_
  obtain ⟨f, _, rfl⟩ := List.mem_map.1 he
  rcases fieldPair_key f with h | h | ⟨n, h⟩
  · exact h1 (hek ▸ h)
  · exact h2 (hek ▸ h)
  · exact h3 (by rw [← hek, h]; rfl)

/-- a look-up on the peer's variables, for a name other than the eight the server always sets:
only the header fields and `processPairs` matter -/
theorem lastVal_envPairs (cfg : HttpCfg) (q : HttpPeer) (k : Bytes)
    (hk : ([bs Gen.env_SERVER_SOFTWARE, bs Gen.env_SERVER_NAME, bs Gen.env_SERVER_PORT, bs Gen.env_GATEWAY_INTERFACE,
      bs Gen.env_SERVER_PROTOCOL, bs Gen.env_REQUEST_METHOD, bs Gen.env_REMOTE_HOST, bs Gen.env_REMOTE_ADDR].all
        (· != k)) = true) :
    lastVal k (q.envPairs cfg) [] =
      lastVal k q.processPairs (lastVal k (q.fields.map fieldPair) []) := by
  simp only [List.all_cons, List.all_nil, Bool.and_true, Bool.and_eq_true, bne_iff_ne, ne_eq] at hk
  simp only [HttpPeer.envPairs, HttpPeer.processPairs, lastVal_append, lastVal_cons, lastVal_nil, beq_iff_eq, hk, if_false]

/-- **the head the embedded server hands over is `Head.ofEnv` of the variables it derived** (no name twice) -/
theorem head_ofEnv_http (cfg : HttpCfg) (q : HttpPeer) (hd : Distinct (q.envPairs cfg)) :
    Head.ofEnv (Env.empty.addAll (q.envPairs cfg)) = q.head cfg := by
  -- the three names of `processPairs`: pairwise different, and no header field sets them
  have n1 : (bs Gen.env_QUERY_STRING == bs Gen.env_SCRIPT_NAME) = false := by decide
  have n2 : (bs Gen.env_PATH_INFO == bs Gen.env_SCRIPT_NAME) = false := by decide
  have n3 : (bs Gen.env_SCRIPT_NAME == bs Gen.env_QUERY_STRING) = false := by decide
  have n4 : (bs Gen.env_PATH_INFO == bs Gen.env_QUERY_STRING) = false := by decide
  have hs : lastVal (bs Gen.env_SCRIPT_NAME) (q.envPairs cfg) [] = q.script := by
    rw [lastVal_envPairs cfg q _ (by decide), lastVal_fields_other _ (by decide) (by decide) (by decide), HttpPeer.processPairs]
    cases q.query <;> cases hse : q.script.isEmpty <;> simp [lastVal_cons, lastVal_nil, n1, n2]
    all_goals exact List.isEmpty_iff.1 hse
  have hp : lastVal (bs Gen.env_PATH_INFO) (q.envPairs cfg) [] = pctValue q.path := by
    rw [lastVal_envPairs cfg q _ (by decide), HttpPeer.processPairs, lastVal_append, lastVal_cons, lastVal_nil,
      if_pos (beq_self_eq_true _)]
  have hq' : lastVal (bs Gen.env_QUERY_STRING) (q.envPairs cfg) [] = q.query.getD [] := by
    rw [lastVal_envPairs cfg q _ (by decide), lastVal_fields_other _ (by decide) (by decide) (by decide), HttpPeer.processPairs]
    cases q.query <;> cases q.script.isEmpty <;> simp [lastVal_cons, lastVal_nil, n3, n4]
  -- `CONTENT_TYPE`, `CONTENT_LENGTH`: set by header fields only
  have hhdr : ∀ k, (bs Gen.env_QUERY_STRING == k) = false → (bs Gen.env_SCRIPT_NAME == k) = false →
      (bs Gen.env_PATH_INFO == k) = false → ∀ d, lastVal k q.processPairs d = d := fun k h1 h2 h3 d => by
    rw [HttpPeer.processPairs]
    cases q.query <;> cases q.script.isEmpty <;> simp [lastVal_cons, lastVal_nil, h1, h2, h3]
  have hCT : lastVal (bs Gen.hdrContentType) (q.envPairs cfg) [] = (q.regs cfg).contentType := by
    rw [lastVal_envPairs cfg q _ (by decide), hhdr (bs Gen.hdrContentType) (by decide) (by decide) (by decide), regs_eq]
  have hCL : clOf (lastVal (bs Gen.hdrContentLength) (q.envPairs cfg) []) = (q.regs cfg).contentLength := by
    rw [lastVal_envPairs cfg q _ (by decide), hhdr (bs Gen.hdrContentLength) (by decide) (by decide) (by decide), regs_eq]
  unfold Head.ofEnv
  simp only [getSafe_lastVal _ hd, hs, hp, hq', hCT]
  rw [← clOf, hCL, ← head_env]
  rfl

end Cppcms.C01
