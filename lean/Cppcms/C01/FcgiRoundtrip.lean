import Cppcms.C01.FcgiProofs
import Cppcms.C01.Decode
import Cppcms.Lib.Bytes
/-! FastCGI round trip: BEGIN_REQUEST, the name-value block cut into PARAMS records anywhere with any padding, empty
PARAMS, the body cut into STDIN records, empty STDIN — decoded to exactly the peer's environment and body.

`flatReader`'s state is the unread stream and a flag, `body_` owns storage (`RecReader.alloc`).  Only the crash guards
of `fcgiOnStart` for GET_VALUES read it and no well-formed request reaches them: the lemmas take any `alloc` and say
`∃ a` for the flag afterwards. -/
namespace Cppcms.C01
open Cppcms

def encHdr (t rid clen pad : Nat) : Bytes :=
  [1, UInt8.ofNat t, UInt8.ofNat (rid / 256), UInt8.ofNat (rid % 256),
   UInt8.ofNat (clen / 256), UInt8.ofNat (clen % 256), UInt8.ofNat pad, 0]

def encRec (t rid : Nat) (content : Bytes) (pad : Nat) : Bytes :=
  encHdr t rid content.length pad ++ content ++ List.replicate pad 0

theorem encHdr_len (t rid clen pad : Nat) : (encHdr t rid clen pad).length = Gen.hdrSize := by
  simp [encHdr, Gen.hdrSize]

theorem parseFcgiHdr_eight (a0 a1 a2 a3 a4 a5 a6 a7 : UInt8) :
    parseFcgiHdr [a0, a1, a2, a3, a4, a5, a6, a7] =
      { version := a0.toNat, type := a1.toNat, requestId := a2.toNat * 256 + a3.toNat,
        contentLength := a4.toNat * 256 + a5.toNat, paddingLength := a6.toNat } := rfl

theorem parse_encHdr (t rid clen pad : Nat) (ht : t < 256) (hr : rid < 65536) (hc : clen < 65536) (hp : pad < 256) :
    parseFcgiHdr (encHdr t rid clen pad) =
      { version := 1, type := t, requestId := rid, contentLength := clen, paddingLength := pad } := by
  unfold encHdr
  rw [parseFcgiHdr_eight]
  rw [toNat_ofNat_lt t ht, toNat_ofNat_lt (rid / 256) (by omega), toNat_ofNat_lt (rid % 256) (by omega),
    toNat_ofNat_lt (clen / 256) (by omega), toNat_ofNat_lt (clen % 256) (by omega), toNat_ofNat_lt pad hp]
  have e1 : rid / 256 * 256 + rid % 256 = rid := Nat.div_add_mod' rid 256
  have e2 : clen / 256 * 256 + clen % 256 = clen := Nat.div_add_mod' clen 256
  rw [e1, e2]
  rfl

theorem flatReader_encRec (t rid : Nat) (content : Bytes) (pad : Nat) (rest : Bytes) (alloc : Bool) (body : Bytes)
    (ht : t < 256) (hr : rid < 65536) (hc : content.length < 65536) (hp : pad < 256) :
    flatReader.read (encRec t rid content pad ++ rest, alloc) body =
      (.got { version := 1, type := t, requestId := rid, contentLength := content.length, paddingLength := pad }
            (body ++ content),
       (rest, alloc || decide (0 < content.length + pad))) := by
  have hl := encHdr_len t rid content.length pad
  have h0 : ∀ k, ¬ (Gen.hdrSize + k < Gen.hdrSize) := fun k => by omega
  rw [show flatReader.read = fcgiReadRecordF from rfl, fcgiReadRecordF, encRec, List.append_assoc, List.append_assoc]
  simp only [List.take_left' hl, List.drop_left' hl, parse_encHdr t rid content.length pad ht hr hc hp,
    List.length_append, hl, h0, if_false]
  by_cases hz : content.length + pad = 0
  · obtain ⟨h1, rfl⟩ : content = [] ∧ pad = 0 := ⟨List.eq_nil_of_length_eq_zero (by omega), by omega⟩
    subst h1
    simp
  · have h1 : ¬ (Gen.hdrSize + (content.length + ((List.replicate pad (0 : UInt8)).length + rest.length)) <
        Gen.hdrSize + (content.length + pad)) := by simp
    have h2 : ((content ++ (List.replicate pad 0 ++ rest)).take (content.length + pad)).take content.length = content := by
      rw [List.take_take, Nat.min_eq_left (Nat.le_add_right _ _), List.take_left]
    have h3 : (encHdr t rid content.length pad ++ (content ++ (List.replicate pad 0 ++ rest))).drop
        (Gen.hdrSize + (content.length + pad)) = rest := by
      rw [← List.append_assoc, ← List.append_assoc]; exact List.drop_left' (by simp [hl])
    simp only [beq_iff_eq, hz, h1, h2, h3, if_false, Nat.pos_of_ne_zero hz, decide_true, Bool.or_true]

/-- one byte below 128, else four bytes with the top bit set; the peer may use the long form for short lengths too -/
def encLen (n : Nat) (long : Bool) : Bytes :=
  if long || decide (128 ≤ n) then
    [UInt8.ofNat (128 + n / 16777216), UInt8.ofNat (n / 65536 % 256), UInt8.ofNat (n / 256 % 256), UInt8.ofNat (n % 256)]
  else [UInt8.ofNat n]

theorem readLenLong_enc (n : Nat) (hn : n < 2147483648) :
    Gen.readLenLong (128 + n / 16777216) (n / 65536 % 256) (n / 256 % 256) (n % 256) = n := by
  have e1 := Nat.div_add_mod n 256
  have e2 := Nat.div_add_mod (n / 256) 256
  have e3 := Nat.div_add_mod (n / 65536) 256
  rw [Nat.div_div_eq_div_mul] at e2 e3
  have h3 : n / 16777216 < 128 := Nat.div_lt_of_lt_mul hn
  rw [Gen.readLenLong, show (127 : Nat) = 2 ^ 7 - 1 from rfl, Nat.and_two_pow_sub_one_eq_mod, Nat.add_mod_left,
    Nat.mod_eq_of_lt h3]
  simp only [Nat.shiftLeft_eq, Nat.reducePow, Nat.reduceMul] at e2 e3 ⊢
  -- linear in the digits once the quotients are opaque
  generalize n / 16777216 = a at *
  generalize n / 65536 = b at *
  generalize n / 256 = c at *
  generalize b % 256 = b' at *
  generalize c % 256 = c' at *
  generalize n % 256 = d' at *
  omega

theorem fcgiReadLen_encLen (n : Nat) (long : Bool) (rest : Bytes) (hn : n < 2147483648) :
    fcgiReadLen (encLen n long ++ rest) = (n, rest) := by
  rw [encLen]
  split
  · have h3 : ¬ (128 + n / 16777216 < Gen.readLenShortBelow) := by simp [Gen.readLenShortBelow]
    simp only [List.cons_append, List.nil_append, fcgiReadLen, toNat_ofNat_lt (128 + n / 16777216) (by omega),
      toNat_ofNat_lt (n / 65536 % 256) (by omega), toNat_ofNat_lt (n / 256 % 256) (by omega),
      toNat_ofNat_lt (n % 256) (by omega), h3, if_false, readLenLong_enc n hn]
    simp [Gen.readLenLongNeed]
  · rename_i hl
    simp only [Bool.or_eq_true, decide_eq_true_eq, not_or, Nat.not_le] at hl
    simp only [List.cons_append, List.nil_append, fcgiReadLen, toNat_ofNat_lt n (by omega)]
    rw [if_pos (by simp only [Gen.readLenShortBelow]; omega)]

structure EncPair where
  name : Bytes
  value : Bytes
  longName : Bool := false
  longValue : Bool := false

def encPair (p : EncPair) : Bytes :=
  encLen p.name.length p.longName ++ encLen p.value.length p.longValue ++ p.name ++ p.value

def encPairs (ps : List EncPair) : Bytes := ps.flatMap encPair

def pairsOf (ps : List EncPair) : List (Bytes × Bytes) := ps.map fun p => (p.name, p.value)

theorem encLen_pos (n : Nat) (l : Bool) : 0 < (encLen n l).length := by
  unfold encLen; split <;> simp

theorem fcgiPairs_encPair (p : EncPair) (hk : 0 ∉ p.name) (hv : 0 ∉ p.value) (rest : Bytes)
    (acc : List (Bytes × Bytes)) (fuel : Nat) (hlen : (encPair p ++ rest).length < 2147483648) :
    fcgiPairs true (fuel + 1) (encPair p ++ rest) acc = fcgiPairs true fuel rest (acc ++ [(p.name, p.value)]) := by
  have hshape : encPair p ++ rest =
      encLen p.name.length p.longName ++ (encLen p.value.length p.longValue ++ (p.name ++ (p.value ++ rest))) := by
    simp [encPair]
  rw [hshape] at hlen ⊢
  simp only [List.length_append] at hlen
  have hne : (encLen p.name.length p.longName ++
      (encLen p.value.length p.longValue ++ (p.name ++ (p.value ++ rest)))).isEmpty = false := by
    have := encLen_pos p.name.length p.longName
    simp only [List.isEmpty_eq_false_iff, ne_eq, List.append_eq_nil_iff, not_and]
    intro h; rw [h] at this; cases this
  have hs : ∀ n, n < 2147483648 → (n == Gen.pairsFailSentinel) = false := fun n h => by
    simp only [Gen.pairsFailSentinel, beq_eq_false_iff_ne]; omega
  have hf1 : Gen.pairFitsName (p.name ++ (p.value ++ rest)).length p.name.length = true := by
    simp only [Gen.pairFitsName, List.length_append, decide_eq_true_eq]
    rw [Nat.mod_eq_of_lt (by omega)]; omega
  have hf2 : Gen.pairFitsValue (p.value ++ rest).length p.value.length = true := by
    simp only [Gen.pairFitsValue, List.length_append, decide_eq_true_eq]
    rw [Nat.mod_eq_of_lt (by omega)]; omega
  rw [fcgiPairs]
  simp only [hne, fcgiReadLen_encLen _ _ _ (show p.name.length < 2147483648 by omega),
    fcgiReadLen_encLen _ _ _ (show p.value.length < 2147483648 by omega), hs _ (show p.name.length < 2147483648 by omega),
    hs _ (show p.value.length < 2147483648 by omega), hf1, hf2, List.take_left, List.drop_left, cstr_of_nonul _ hk,
    cstr_of_nonul _ hv, Bool.false_eq_true, if_false, if_true, Bool.or_self, Bool.not_true]

theorem fcgiPairs_encPairs (ps : List EncPair)
    (hn : ∀ p ∈ ps, 0 ∉ p.name ∧ 0 ∉ p.value)
    (hlen : (encPairs ps).length < 2147483648) :
    ∀ (fuel : Nat) (acc : List (Bytes × Bytes)), ps.length < fuel →
      fcgiPairs true fuel (encPairs ps) acc = (true, acc ++ pairsOf ps) := by
  induction ps with
  | nil =>
    intro fuel acc hf
    obtain ⟨f, rfl⟩ : ∃ f, fuel = f + 1 := ⟨fuel - 1, by omega⟩
    simp [encPairs, fcgiPairs, pairsOf]
  | cons p ps ih =>
    intro fuel acc hf
    obtain ⟨f, rfl⟩ : ∃ f, fuel = f + 1 := ⟨fuel - 1, by omega⟩
    have hshape : encPairs (p :: ps) = encPair p ++ encPairs ps := rfl
    rw [hshape] at hlen ⊢
    rw [fcgiPairs_encPair p (hn p (by simp)).1 (hn p (by simp)).2 _ _ _ hlen,
      ih (fun q hq => hn q (by simp [hq])) (by rw [List.length_append] at hlen; omega) f _ (by simpa using hf)]
    simp [pairsOf]

structure Piece where
  content : Bytes
  pad : Nat

def encPieces (t rid : Nat) (ps : List Piece) : Bytes := ps.flatMap fun p => encRec t rid p.content p.pad
def piecesData (ps : List Piece) : Bytes := ps.flatMap (·.content)
def WFPieces (ps : List Piece) : Prop := ∀ p ∈ ps, p.content ≠ [] ∧ p.content.length < 65536 ∧ p.pad < 256

theorem WFPieces.tail {p : Piece} {ps : List Piece} (hw : WFPieces (p :: ps)) : WFPieces ps :=
  fun q hq => hw q (by simp [hq])

theorem piecesData_nil_iff (ps : List Piece) (hw : WFPieces ps) : piecesData ps = [] ↔ ps = [] := by
  cases ps with
  | nil => simp [piecesData]
  | cons p t => simp [piecesData, (hw p (by simp)).1]

theorem flatReader_piece (t rid : Nat) (p : Piece) (ps : List Piece) (tail : Bytes) (alloc : Bool) (body : Bytes)
    (ht : t < 256) (hr : rid < 65536) (hw : WFPieces (p :: ps)) :
    flatReader.read (encPieces t rid (p :: ps) ++ tail, alloc) body =
      (.got { version := 1, type := t, requestId := rid, contentLength := p.content.length, paddingLength := p.pad }
            (body ++ p.content),
       (encPieces t rid ps ++ tail, alloc || decide (0 < p.content.length + p.pad))) := by
  obtain ⟨_, hpl, hpp⟩ := hw p (by simp)
  rw [show encPieces t rid (p :: ps) ++ tail = encRec t rid p.content p.pad ++ (encPieces t rid ps ++ tail) by
    simp [encPieces], flatReader_encRec _ _ _ _ _ _ _ ht hr hpl hpp]

theorem flatReader_end (t rid pad : Nat) (rest : Bytes) (alloc : Bool) (body : Bytes)
    (ht : t < 256) (hr : rid < 65536) (hp : pad < 256) :
    flatReader.read (encRec t rid [] pad ++ rest, alloc) body =
      (.got { version := 1, type := t, requestId := rid, contentLength := 0, paddingLength := pad } body,
       (rest, alloc || decide (0 < pad))) := by
  rw [flatReader_encRec _ _ _ _ _ _ _ ht hr (by simp) hp]
  simp

/-- stated from the read of the next record, so that the caller need not know whether there is a first piece: that read
and the accumulation loop started on its result deliver the block and stop behind the empty record -/
theorem params_read (rid padE : Nat) (rest : Bytes) (hr : rid < 65536) (hpe : padE < 256) :
    ∀ (ps : List Piece) (acc : Bytes) (alloc : Bool), WFPieces ps → (acc ++ piecesData ps).length < Gen.paramsLimit →
      ∃ h b st, flatReader.read
          (encPieces Gen.fcgi_params rid ps ++ (encRec Gen.fcgi_params rid [] padE ++ rest), alloc) acc = (.got h b, st) ∧
        ∃ a, ∀ fuel, ps.length < fuel →
          fcgiParams flatReader (fuel + 1) h b rid st = (.ok (acc ++ piecesData ps), (rest, a)) := by
  intro ps
  induction ps with
  | nil =>
    intro acc alloc _ _
    refine ⟨_, _, _, flatReader_end Gen.fcgi_params _ _ _ _ _ (by decide) hr hpe, alloc || decide (0 < padE), fun fuel _ => ?_⟩
    rw [fcgiParams]
    simp [Gen.fcgi_params, piecesData]
  | cons p ps ih =>
    intro acc alloc hw hlim
    have hdata : piecesData (p :: ps) = p.content ++ piecesData ps := rfl
    rw [hdata, ← List.append_assoc] at hlim
    obtain ⟨h', b', st', hread, a, hloop⟩ := ih (acc ++ p.content) (alloc || decide (0 < p.content.length + p.pad)) hw.tail hlim
    refine ⟨_, _, _, flatReader_piece Gen.fcgi_params _ _ _ _ _ _ (by decide) hr hw, a, fun fuel hf => ?_⟩
    obtain ⟨f, rfl⟩ : ∃ f, fuel = f + 1 := ⟨fuel - 1, by simp at hf; omega⟩
    have c3 : (acc ++ p.content).length < Gen.paramsLimit := by simp only [List.length_append] at hlim ⊢; omega
    have hcl : p.content.length ≠ 0 := fun h0 => (hw p (by simp)).1 (List.eq_nil_of_length_eq_zero h0)
    rw [fcgiParams]
    simp only [hcl, c3, bne_self_eq_false, Bool.or_self, ne_eq, not_false_eq_true, bne_iff_ne,
      Bool.false_eq_true, if_false, if_true, hread]
    rw [hloop f (by simpa using hf), hdata, List.append_assoc]

/-- BEGIN_REQUEST body: role responder, flags -/
def encBeginBody (keep : Bool) : Bytes := [0, 1, if keep then 1 else 0, 0, 0, 0, 0, 0]

theorem fcgiOnStart_begin (conc : Bytes) (alloc : Bool) (rid pad : Nat) (keep : Bool) :
    fcgiOnStart conc alloc { version := 1, type := Gen.fcgi_begin_request, requestId := rid, contentLength := 8, paddingLength := pad }
      (encBeginBody keep) = .begin rid keep := by
  unfold fcgiOnStart
  have h1 : ((1 : Nat) != Gen.fcgi_version_1) = false := by decide
  have h2 : (Gen.fcgi_begin_request == Gen.fcgi_get_values) = false := by decide
  have h3 : (Gen.fcgi_begin_request != Gen.fcgi_begin_request) = false := by decide
  have h4 : ((encBeginBody keep).length != Gen.beginBodySize) = false := by cases keep <;> decide
  have h5 : (be16 (encBeginBody keep) Gen.beginOff_role != Gen.fcgi_responder) = false := by cases keep <;> decide
  simp only [h1, h2, h3, h4, h5, Bool.false_eq_true, if_false]
  cases keep <;> rfl

/-- the unread rest of the current record -/
def FcgiBody.cur {σ : Type} (b : FcgiBody σ) : Bytes := b.body.drop b.ptr

/-- what `fcgiAdvance want b` (the `memcpy` and the cursor arithmetic of `async_read_some`) returns, said through `cur` -/
structure Advanced {σ : Type} (want : Nat) (b : FcgiBody σ) (p : Bytes × FcgiBody σ) : Prop where
  chunk : p.1 = b.cur.take want
  cur : p.2.cur = b.cur.drop want
  readLen : p.2.readLen = b.readLen + (b.cur.take want).length
  st : p.2.st = b.st
  cl : p.2.cl = b.cl
  reqId : p.2.reqId = b.reqId
  /-- a `body_` that is used up is cleared -/
  buf : p.2.ptr < p.2.body.length ∨ (p.2.body = [] ∧ p.2.ptr = 0)

theorem fcgiAdvance_spec {σ : Type} (want : Nat) (b : FcgiBody σ) (hptr : b.ptr ≤ b.body.length) :
    Advanced want b (fcgiAdvance want b) := by
  have hlen : b.cur.length = b.body.length - b.ptr := List.length_drop
  have htake : (b.body.drop b.ptr).take (min want (b.body.length - b.ptr)) = b.cur.take want := by
    rw [← hlen, FcgiBody.cur, List.take_eq_take_iff]; omega
  have hl : (b.cur.take want).length = min want (b.body.length - b.ptr) := by rw [List.length_take, hlen]
  unfold fcgiAdvance
  simp only [htake]
  split
  · -- the chunk reaches the end of `body_`
    rename_i h
    have h : b.ptr + min want (b.body.length - b.ptr) = b.body.length := by simpa using h
    refine ⟨rfl, ?_, by rw [hl], rfl, rfl, rfl, Or.inr ⟨rfl, rfl⟩⟩
    symm
    apply List.eq_nil_of_length_eq_zero
    simp only [FcgiBody.cur, List.length_drop] at hlen ⊢
    omega
  · rename_i h
    have h : b.ptr + min want (b.body.length - b.ptr) ≠ b.body.length := by simpa using h
    refine ⟨rfl, ?_, by rw [hl], rfl, rfl, rfl, Or.inl (by simp only; omega)⟩
    simp only [FcgiBody.cur, List.drop_drop] at hlen ⊢
    congr 1
    omega

/-- invariant of the STDIN reader on a well-formed stream: `v` is what is still to be delivered; when nothing is, the
record that ends STDIN is read and the stream stands at `rest` -/
structure StdinInv (rid padS : Nat) (rest : Bytes) (cl : Nat) (b : FcgiBody (Bytes × Bool)) (v : Bytes) : Prop where
  pieces : ∃ ps : List Piece, WFPieces ps ∧
        b.st.1 = (if v = [] then rest else encPieces Gen.fcgi_stdin rid ps ++ (encRec Gen.fcgi_stdin rid [] padS ++ rest)) ∧
        v = b.cur ++ piecesData ps
  buf : b.ptr < b.body.length ∨ (b.body = [] ∧ b.ptr = 0)
  len : b.readLen + v.length = cl
  rid : b.reqId = rid
  cl : b.cl = cl

/-- apart from its caller, in whose context `omega` is slow -/
theorem readLen_reaches_cl {readLen due chunk left cl : Nat} (hlen : readLen + due = cl) (hdue : due = chunk + left) :
    (cl ≤ readLen + chunk ↔ left = 0) ∧ readLen + chunk + left = cl := by
  omega

/-- the `body_ptr_ < body_.size()` branch of `async_read_some`; when nothing remains, the record that ends STDIN is read in
the same call -/
theorem stdin_take_step (rid padS : Nat) (rest : Bytes) (cl : Nat) (hr : rid < 65536) (hps : padS < 256)
    (b : FcgiBody (Bytes × Bool)) (v : Bytes) (hi : StdinInv rid padS rest cl b v) (want : Nat) (hw : 0 < want)
    (hcur : b.ptr < b.body.length) :
    ∃ g b', fcgiTake flatReader want b = .ok (g, b') ∧ g ≠ [] ∧ g.length ≤ want ∧
      ∃ v', v = g ++ v' ∧ StdinInv rid padS rest cl b' v' := by
  obtain ⟨⟨ps, hwp, hst, hv⟩, _, hlen, hrid, hcl⟩ := hi
  have adv := fcgiAdvance_spec want b (Nat.le_of_lt hcur)
  have hcurpos : 0 < b.cur.length := by rw [FcgiBody.cur, List.length_drop]; exact Nat.sub_pos_of_lt hcur
  rw [if_neg (fun h0 => by rw [h0] at hv; exact absurd (List.append_eq_nil_iff.1 hv.symm).1 (List.length_pos_iff.1 hcurpos))] at hst
  unfold fcgiTake
  generalize fcgiAdvance want b = p at adv ⊢
  have hgl : p.1.length = min want b.cur.length := by rw [adv.chunk, List.length_take]
  have hsplit : v = p.1 ++ (p.2.cur ++ piecesData ps) := by
    rw [hv, adv.chunk, adv.cur, ← List.append_assoc, List.take_append_drop]
  have hgne : p.1 ≠ [] := fun h0 => by
    rw [h0, List.length_nil] at hgl
    exact absurd hgl.symm (Nat.ne_of_gt (Nat.lt_min.2 ⟨hw, hcurpos⟩))
  have hcount : (p.2.cl ≤ p.2.readLen ↔ (p.2.cur ++ piecesData ps).length = 0) ∧
      p.2.readLen + (p.2.cur ++ piecesData ps).length = cl := by
    have hvl : v.length = p.1.length + (p.2.cur ++ piecesData ps).length := by rw [hsplit, List.length_append]
    rw [adv.readLen, adv.cl, hcl, ← adv.chunk]
    exact readLen_reaches_cl hlen hvl
  simp only []
  by_cases hdone : p.2.cur ++ piecesData ps = []
  · -- everything is delivered: the end-of-stream record is read now
    have hnil : ps = [] := (piecesData_nil_iff ps hwp).1 (List.append_eq_nil_iff.1 hdone).2
    subst hnil
    have hge : p.2.readLen ≥ p.2.cl := hcount.1.2 (by rw [hdone]; rfl)
    have hstream : p.2.st = (encRec Gen.fcgi_stdin rid [] padS ++ rest, b.st.2) := by
      rw [adv.st]; exact Prod.ext (by simpa [encPieces] using hst) rfl
    simp only [hge, if_true, hstream, flatReader_end Gen.fcgi_stdin _ _ _ _ _ (by decide) hr hps, adv.reqId, hrid,
      bne_self_eq_false, Bool.or_self, Bool.false_eq_true, if_false]
    exact ⟨_, _, rfl, hgne, hgl ▸ Nat.min_le_left _ _, [], by rw [hsplit, hdone],
      { pieces := ⟨[], nofun, rfl, hdone.symm⟩, buf := adv.buf, len := hdone ▸ hcount.2, rid := rfl, cl := adv.cl.trans hcl }⟩
  · -- something remains
    have hlt : ¬ p.2.readLen ≥ p.2.cl := fun h => hdone (List.eq_nil_of_length_eq_zero (hcount.1.1 h))
    simp only [hlt, if_false]
    exact ⟨p.1, p.2, rfl, hgne, hgl ▸ Nat.min_le_left _ _, _, hsplit,
      { pieces := ⟨ps, hwp, by rw [adv.st, if_neg hdone]; exact hst, rfl⟩, buf := adv.buf, len := hcount.2,
        rid := adv.reqId.trans hrid, cl := adv.cl.trans hcl }⟩

/-- one `async_read_some`: as `stdin_take_step`, after the next record was read when `body_` is used up -/
theorem stdin_step (rid padS : Nat) (rest : Bytes) (cl : Nat) (hr : rid < 65536) (hps : padS < 256)
    (b : FcgiBody (Bytes × Bool)) (v : Bytes) (hi : StdinInv rid padS rest cl b v) (hv : v ≠ []) (want : Nat) (hw : 0 < want) :
    ∃ g b', fcgiReadSome flatReader want b = .ok (g, b') ∧ g ≠ [] ∧ g.length ≤ want ∧
      ∃ v', v = g ++ v' ∧ StdinInv rid padS rest cl b' v' := by
  have hvl := List.length_pos_iff.2 hv
  have hneb : (b.readLen == b.cl) = false := by have := hi.len; have := hi.cl; simp; omega
  unfold fcgiReadSome
  simp only [hneb, Bool.false_eq_true, if_false]
  by_cases hcur : b.ptr < b.body.length
  · simp only [hcur, if_true]
    exact stdin_take_step rid padS rest cl hr hps b v hi want hw hcur
  · -- `body_` is used up: the next record is read first
    obtain ⟨⟨ps, hwp, hst, hvv⟩, hbuf, hlen, hrid, hcl⟩ := hi
    rw [if_neg hv] at hst
    obtain ⟨hbody, hptr0⟩ := hbuf.resolve_left hcur
    rw [FcgiBody.cur, hbody, List.drop_nil, List.nil_append] at hvv
    subst hvv
    cases ps with
    | nil => exact absurd rfl hv
    | cons p ps' =>
      have hne0 : p.content.length ≠ 0 := fun h0 => (hwp p (by simp)).1 (List.eq_nil_of_length_eq_zero h0)
      rw [show b.st = (_, b.st.2) from Prod.ext hst rfl]
      simp only [if_false, flatReader_piece Gen.fcgi_stdin _ _ _ _ _ _ (by decide) hr hwp, hbody, List.nil_append, hrid,
        bne_self_eq_false, Bool.false_or, beq_iff_eq, hne0, hptr0, Nat.pos_of_ne_zero hne0, if_true]
      refine stdin_take_step rid padS rest cl hr hps _ _ ?inv want hw ?cur
      case cur => exact Nat.pos_of_ne_zero hne0
      case inv =>
        exact { pieces := ⟨ps', hwp.tail, (if_neg hv).symm, by simp [FcgiBody.cur, piecesData]⟩,
                buf := Or.inl (Nat.pos_of_ne_zero hne0), len := hlen, rid := rfl, cl := hcl }

/-- the view is computed from the counter `read_length_`, what the stream holds is in the invariant; a request whose
`CONTENT_LENGTH` is the body's length never reaches `fin` (`hend` of `runRequest_reads`) -/
theorem stdin_reads (rid padS : Nat) (rest body : Bytes) (hr : rid < 65536) (hps : padS < 256) :
    ReadsView (fcgiReadSome flatReader) (fun b => body.drop b.readLen)
      (fun b => StdinInv rid padS rest body.length b (body.drop b.readLen)) .violation where
  fin := by
    intro want b hi hv
    have hlen := hi.len
    rw [hv, List.length_nil, Nat.add_zero, ← hi.cl] at hlen
    simp [fcgiReadSome, hlen]
  some := by
    intro want b hi hw hv
    obtain ⟨g, b', hrd, hg, hgl, v', hsplit, hi'⟩ := stdin_step rid padS rest body.length hr hps b _ hi hv want hw
    have hrl : b'.readLen = b.readLen + g.length := by
      have h1 := hi.len; have h2 := hi'.len
      rw [hsplit, List.length_append] at h1
      omega
    have hview : body.drop b'.readLen = v' := by rw [hrl, ← List.drop_drop, hsplit, List.drop_left]
    exact ⟨g, b', hrd, hg, hgl, by rw [hview, hsplit], hview ▸ hi'⟩

structure FcgiFraming where
  rid : Nat
  padBegin : Nat
  padParamsEnd : Nat
  padStdinEnd : Nat
  /-- cut of the name-value block into PARAMS records -/
  params : List Piece
  /-- cut of the body into STDIN records -/
  stdin : List Piece

/-- one FastCGI request as a peer (web server) sends it, followed by whatever comes next on the connection -/
def encFcgiK (keep : Bool) (fr : FcgiFraming) (rest : Bytes) : Bytes :=
  encRec Gen.fcgi_begin_request fr.rid (encBeginBody keep) fr.padBegin ++
  (encPieces Gen.fcgi_params fr.rid fr.params ++ (encRec Gen.fcgi_params fr.rid [] fr.padParamsEnd ++
  (encPieces Gen.fcgi_stdin fr.rid fr.stdin ++ (encRec Gen.fcgi_stdin fr.rid [] fr.padStdinEnd ++ rest))))

def encFcgi (fr : FcgiFraming) : Bytes := encFcgiK false fr []

/-- well-formed: C strings, name-value block below the 16 KiB accumulation limit, records of legal size
cut anywhere, `CONTENT_LENGTH` equal to the length of the body sent -/
structure WFFcgi (eps : List EncPair) (body : Bytes) (fr : FcgiFraming) : Prop where
  rid : fr.rid < 65536
  pb : fr.padBegin < 256
  pe : fr.padParamsEnd < 256
  ps : fr.padStdinEnd < 256
  nonul : ∀ p ∈ eps, 0 ∉ p.name ∧ 0 ∉ p.value
  size : (encPairs eps).length < Gen.paramsLimit
  params : WFPieces fr.params
  paramsData : piecesData fr.params = encPairs eps
  stdin : WFPieces fr.stdin
  stdinData : piecesData fr.stdin = body
  cl : (Head.ofEnv (Env.empty.addAll (pairsOf eps))).contentLength = body.length

theorem fcgiOwnContentLength_eq (env : Env) : fcgiOwnContentLength env = (Head.ofEnv env).contentLength.toNat := by
  unfold fcgiOwnContentLength Head.ofEnv Env.getSafe
  cases env.get? (bs Gen.hdrContentLength) with
  | none => rfl
  | some v =>
    simp only [Option.getD_some]
    split
    · rfl
    · split
      · omega
      · rfl

/-- for the fuel: BEGIN_REQUEST 16 bytes, the two empty records 8 each, at least one byte per PARAMS record -/
theorem encFcgiK_len (keep : Bool) (fr : FcgiFraming) (rest : Bytes) :
    fr.params.length + 32 + rest.length ≤ (encFcgiK keep fr rest).length := by
  have := length_le_flatMap (fun p : Piece => encRec Gen.fcgi_params fr.rid p.content p.pad) fr.params
    (fun p _ => by simp [encRec, encHdr])
  have h8 : (encBeginBody keep).length = 8 := rfl
  simp only [encFcgiK, encPieces, List.length_append, encRec, encHdr, List.length_cons, List.length_nil] at this ⊢
  omega

theorem fcgiHeaders_enc (conc : Bytes) (eps : List EncPair) (body : Bytes) (fr : FcgiFraming) (hw : WFFcgi eps body fr)
    (keep : Bool) (rest : Bytes) (alloc : Bool) (fuel : Nat) (hf : fr.params.length + 1 < fuel) :
    ∃ a, fcgiHeaders flatReader conc (fuel + 1) (encFcgiK keep fr rest, alloc) [] =
      ([], some { env := Env.empty.addAll (pairsOf eps), requestId := fr.rid, keep := keep, cl := body.length },
       (if body = [] then rest
        else encPieces Gen.fcgi_stdin fr.rid fr.stdin ++ (encRec Gen.fcgi_stdin fr.rid [] fr.padStdinEnd ++ rest), a)) := by
  obtain ⟨hr, hpb, hpe, hps, hn, hsize, hwp, hdp, hws, hds, hcl⟩ := hw
  rw [fcgiHeaders, encFcgiK, flatReader_encRec _ _ _ _ _ _ _ (by decide) hr (by simp [encBeginBody]) hpb]
  simp only [List.nil_append, show (encBeginBody keep).length = 8 by simp [encBeginBody], fcgiOnStart_begin]
  obtain ⟨h, b, st, hread, a, hloop⟩ := params_read fr.rid fr.padParamsEnd
    (encPieces Gen.fcgi_stdin fr.rid fr.stdin ++ (encRec Gen.fcgi_stdin fr.rid [] fr.padStdinEnd ++ rest)) hr hpe fr.params []
    (alloc || decide (0 < 8 + fr.padBegin)) hwp (by rw [List.nil_append, hdp]; exact hsize)
  rw [fcgiAfterBegin, hread]
  simp only []
  rw [hloop fuel (by omega)]
  simp only [List.nil_append, hdp]
  have := length_le_flatMap encPair eps (fun e _ h => by
    have := encLen_pos e.name.length e.longName
    rw [encPair] at h
    simp only [List.append_eq_nil_iff] at h
    rw [h.1.1.1] at this; cases this)
  rw [fcgiAfterParams, fcgiPairs_encPairs eps hn (by have : Gen.paramsLimit = 16384 := rfl; omega) _ _
    (by rw [encPairs]; omega)]
  simp only [List.nil_append, fcgiOwnContentLength_eq, hcl, Int.toNat_natCast]
  by_cases hz : body = []
  · -- no body: the empty STDIN record belongs to the header phase
    have hstd : fr.stdin = [] := (piecesData_nil_iff _ hws).1 (hds.trans hz)
    simp only [hz, List.length_nil, beq_self_eq_true, if_true, hstd, encPieces, List.flatMap_nil, List.nil_append,
      fcgiStdinEof, flatReader_end Gen.fcgi_stdin _ _ _ _ _ (by decide) hr hps, bne_self_eq_false, Bool.or_self,
      Bool.false_eq_true, if_false]
    exact ⟨_, rfl⟩
  · have : (body.length == 0) = false := by simpa using hz
    simp only [this, hz, Bool.false_eq_true, if_false]
    exact ⟨a, rfl⟩

/-- one well-formed request at the head of the stream: its outcome, and — after an answered request with
`FCGI_KEEP_CONN` — the connection continues with the rest of the stream -/
theorem fcgiConn_one (lim : Limits) (hb : 0 < lim.bufSize) (conc : Bytes) (eps : List EncPair) (body : Bytes)
    (fr : FcgiFraming) (hw : WFFcgi eps body fr) (keep : Bool) (rest : Bytes) (alloc : Bool) (fuel : Nat)
    (hf : fr.params.length + 1 < fuel) :
    ∃ a, fcgiConn flatReader lim conc (fuel + 1) (encFcgiK keep fr rest, alloc) =
      (if isApp (reqOutcome lim (Head.ofEnv (Env.empty.addAll (pairsOf eps))) body).1 && keep then
        (reqOutcome lim (Head.ofEnv (Env.empty.addAll (pairsOf eps))) body).1 :: fcgiConn flatReader lim conc fuel (rest, a)
       else [(reqOutcome lim (Head.ofEnv (Env.empty.addAll (pairsOf eps))) body).1]) := by
  obtain ⟨a, ha⟩ := fcgiHeaders_enc conc eps body fr hw keep rest alloc fuel hf
  have hcl := hw.cl
  rw [fcgiConn, ha]
  simp only [List.nil_append]
  have r := runRequest_reads (stdin_reads fr.rid fr.padStdinEnd rest body hw.rid hw.ps) lim hb
    (Head.ofEnv (Env.empty.addAll (pairsOf eps)))
    ({ st := (if body = [] then rest else encPieces Gen.fcgi_stdin fr.rid fr.stdin ++
        (encRec Gen.fcgi_stdin fr.rid [] fr.padStdinEnd ++ rest), a),
       cl := body.length, reqId := fr.rid } : FcgiBody (Bytes × Bool))
    { pieces := ⟨fr.stdin, hw.stdin, rfl, by simp [FcgiBody.cur, hw.stdinData]⟩, buf := Or.inr ⟨rfl, rfl⟩,
      len := by simp, rid := rfl, cl := rfl }
    (Or.inr (by rw [hcl]; simp))
  generalize runRequest lim (fcgiReadSome flatReader) _ _ = res at r ⊢
  obtain ⟨o, b'⟩ := res
  obtain ⟨ho, hstate⟩ := r
  simp only [List.drop_zero] at ho hstate
  subst ho
  simp only []
  split
  · rename_i hk
    rw [Bool.and_eq_true] at hk
    -- an answered request has read all of `body`
    obtain ⟨hview, hi'⟩ := hstate hk.1
    have hnil := congrArg Prod.snd (reqOutcome_exact lim _ body [] hcl hk.1)
    rw [List.append_nil] at hnil
    obtain ⟨_, _, hst, _⟩ := hi'.pieces
    rw [if_pos (hview.trans hnil)] at hst
    exact ⟨b'.st.2, by rw [← hst]⟩
  · exact ⟨false, rfl⟩

theorem fcgiFlat_roundtrip (lim : Limits) (hb : 0 < lim.bufSize) (conc : Bytes) (eps : List EncPair) (body : Bytes)
    (fr : FcgiFraming) (hw : WFFcgi eps body fr) :
    fcgiFlat lim conc (encFcgi fr) = [(reqOutcome lim (Head.ofEnv (Env.empty.addAll (pairsOf eps))) body).1] := by
  have hlen := encFcgiK_len false fr []
  obtain ⟨a, ha⟩ := fcgiConn_one lim hb conc eps body fr hw false [] false ((encFcgiK false fr []).length + 1) (by omega)
  rw [fcgiFlat, encFcgi, ha]
  simp

structure FcgiReqSpec where
  eps : List EncPair
  body : Bytes
  fr : FcgiFraming

def encSeq : List FcgiReqSpec → Bytes
  | [] => []
  | q :: qs => encFcgiK true q.fr (encSeq qs)

def outcomeOf (lim : Limits) (q : FcgiReqSpec) : Outcome :=
  (reqOutcome lim (Head.ofEnv (Env.empty.addAll (pairsOf q.eps))) q.body).1

theorem fcgiConn_seq (lim : Limits) (hb : 0 < lim.bufSize) (conc : Bytes) :
    ∀ (qs : List FcgiReqSpec) (alloc : Bool) (fuel : Nat),
      (∀ q ∈ qs, WFFcgi q.eps q.body q.fr ∧ isApp (outcomeOf lim q) = true) → (encSeq qs).length < fuel →
      fcgiConn flatReader lim conc fuel (encSeq qs, alloc) = qs.map (outcomeOf lim) ++ [.aborted .eof false false] := by
  intro qs
  induction qs with
  | nil =>
    intro alloc fuel _ hf
    obtain ⟨f, rfl⟩ : ∃ f, fuel = f + 1 := ⟨fuel - 1, by omega⟩
    have : fcgiHeaders flatReader conc (f + 1) (([] : Bytes), alloc) [] = ([.aborted .eof false false], none, ([], alloc)) := by
      rw [fcgiHeaders, show flatReader.read = fcgiReadRecordF from rfl]
      simp [fcgiReadRecordF, Gen.hdrSize]
    rw [fcgiConn, encSeq, this]
    rfl
  | cons q qs ih =>
    intro alloc fuel hq hf
    obtain ⟨hwq, happ⟩ := hq q (by simp)
    obtain ⟨f, rfl⟩ : ∃ f, fuel = f + 1 := ⟨fuel - 1, by omega⟩
    have hlen := encFcgiK_len true q.fr (encSeq qs)
    rw [encSeq] at hf ⊢
    obtain ⟨a, ha⟩ := fcgiConn_one lim hb conc q.eps q.body q.fr hwq true (encSeq qs) alloc f (by omega)
    rw [ha, show isApp (reqOutcome lim (Head.ofEnv (Env.empty.addAll (pairsOf q.eps))) q.body).1 = true from happ,
      ih a f (fun x hx => hq x (by simp [hx])) (by omega)]
    rfl

end Cppcms.C01
