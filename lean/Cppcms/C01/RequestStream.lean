import Cppcms.C01.Request
/-! The request layer over a byte stream: `readSome` delivers a non-empty prefix of the concatenated segments,
`readExact` / the content loop depend on them only (`StreamReader`, `ReadsView`), and on that footing the stream-level specification every front
end is compared with (`contentFlat`, `PlanCase`, `reqOutcome`). -/
namespace Cppcms.C01
open Cppcms

theorem take_ne_nil {n : Nat} {l : Bytes} (hn : 0 < n) (hl : l ≠ []) : l.take n ≠ [] := by
  simp only [ne_eq, List.take_eq_nil_iff, hl, or_false]
  omega

theorem readSome_none {cap : Nat} {segs : Segs} (h : readSome cap segs = none) : segs.flatten = [] := by
  fun_induction readSome cap segs with
  | case1 => rfl
  | case2 s rest he ih => simp [List.isEmpty_iff.mp he, ih h]
  | case3 => cases h
  | case4 => cases h

theorem readSome_some {cap : Nat} (hc : 0 < cap) {segs : Segs} {g : Bytes} {r : Segs}
    (h : readSome cap segs = some (g, r)) :
    g ≠ [] ∧ g.length ≤ cap ∧ g ++ r.flatten = segs.flatten := by
  fun_induction readSome cap segs with
  | case1 => cases h
  | case2 s rest he ih => simpa [List.isEmpty_iff.mp he] using ih h
  | case3 s rest hne hle =>
    cases h
    exact ⟨by simpa using hne, hle, by simp⟩
  | case4 s rest hne hle =>
    cases h
    exact ⟨take_ne_nil hc (by simpa using hne), by simp; omega, by simp [← List.append_assoc]⟩

theorem readSome_flatten_nil {cap : Nat} {segs : Segs} (h : segs.flatten = []) : readSome cap segs = none := by
  fun_induction readSome cap segs with
  | case1 => rfl
  | case2 s rest he ih => exact ih (by simpa [List.isEmpty_iff.mp he] using h)
  | case3 s rest hne => simp at h; simp [h.1] at hne
  | case4 s rest hne => simp at h; simp [h.1] at hne

theorem readExact_spec (n : Nat) (segs : Segs) :
    ∃ segs', readExact n segs = (segs.flatten.take n, segs', decide (n ≤ segs.flatten.length)) ∧
      (n ≤ segs.flatten.length → segs'.flatten = segs.flatten.drop n) := by
  induction segs generalizing n with
  | nil => cases n <;> exact ⟨[], by simp [readExact], fun _ => by simp⟩
  | cons s rest ih =>
    cases n with
    | zero => exact ⟨s :: rest, by simp [readExact], fun _ => rfl⟩
    | succ n =>
      unfold readExact
      split
      · rename_i hle
        obtain ⟨segs', h1, h2⟩ := ih (n + 1 - s.length)
        refine ⟨segs', ?_, fun hn => ?_⟩
        · rw [h1]
          simp only [List.flatten_cons, List.length_append, List.take_append, List.take_of_length_le hle,
            Prod.mk.injEq, true_and, decide_eq_decide]
          omega
        · simp only [List.flatten_cons, List.length_append] at hn ⊢
          rw [h2 (by omega), List.drop_append, List.drop_of_length_le hle, List.nil_append]
      · have hlt : n + 1 ≤ s.length := by omega
        refine ⟨s.drop (n + 1) :: rest, ?_, fun _ => ?_⟩
        · simp [List.take_append_of_le_length hlt]; omega
        · simp [List.drop_append_of_le_length hlt]

/-- reader over a plain byte string: the specification-level socket -/
def flatRead (want : Nat) (s : Bytes) : Except Err (Bytes × Bytes) :=
  if s.isEmpty then .error .eof else .ok (s.take want, s.drop want)

/-- A content reader that behaves like reading from a byte stream `view st`: end of stream is the
only error, otherwise a non-empty prefix of at most `want` bytes is delivered and removed. -/
structure StreamReader {σ : Type} (rd : Nat → σ → Except Err (Bytes × σ)) (view : σ → Bytes) : Prop where
  eof : ∀ want st, view st = [] → rd want st = .error .eof
  some : ∀ want st, 0 < want → view st ≠ [] →
    ∃ g st', rd want st = .ok (g, st') ∧ g ≠ [] ∧ g.length ≤ want ∧ g ++ view st' = view st

/-- the same on the states that satisfy `I`, answering `atEnd` at the end of the stream (FastCGI's STDIN: `stdin_reads`) -/
structure ReadsView {σ : Type} (rd : Nat → σ → Except Err (Bytes × σ)) (view : σ → Bytes) (I : σ → Prop) (atEnd : Err) :
    Prop where
  fin : ∀ want st, I st → view st = [] → rd want st = .error atEnd
  some : ∀ want st, I st → 0 < want → view st ≠ [] →
    ∃ g st', rd want st = .ok (g, st') ∧ g ≠ [] ∧ g.length ≤ want ∧ g ++ view st' = view st ∧ I st'

theorem StreamReader.readsView {σ : Type} {rd : Nat → σ → Except Err (Bytes × σ)} {view : σ → Bytes}
    (h : StreamReader rd view) : ReadsView rd view (fun _ => True) .eof :=
  ⟨fun want st _ hv => h.eof want st hv, fun want st _ hw hv => by
    obtain ⟨g, st', h1, h2, h3, h4⟩ := h.some want st hw hv
    exact ⟨g, st', h1, h2, h3, h4, trivial⟩⟩

theorem sockRead_stream : StreamReader sockRead List.flatten where
  eof := by
    intro want st h
    simp [sockRead, readSome_flatten_nil h]
  some := by
    intro want st hw h
    cases hr : readSome want st with
    | none => exact absurd (readSome_none hr) h
    | some p => exact ⟨p.1, p.2, by simp [sockRead, hr], readSome_some hw hr⟩

theorem flatRead_stream : StreamReader flatRead id where
  eof := by
    intro want st h
    simp only [id] at h
    simp [flatRead, h]
  some := by
    intro want st hw h
    have h : st ≠ [] := h
    exact ⟨st.take want, st.drop want, by simp [flatRead, h], take_ne_nil hw h, by simp; omega, by simp⟩

/-- the content phase over a byte stream: the first `n` bytes, or `eof` when the stream is shorter -/
def contentFlat (n : Nat) (s : Bytes) : Except Err Bytes :=
  if n ≤ s.length then .ok (s.take n) else .error .eof

theorem wantOf_le (chunk : Option Nat) (rem : Nat) : wantOf chunk rem ≤ rem := by
  cases chunk <;> simp only [wantOf] <;> omega

theorem wantOf_pos {chunk : Option Nat} (hc : ∀ b, chunk = some b → 0 < b) {rem : Nat} (h : 0 < rem) :
    0 < wantOf chunk rem := by
  cases chunk with
  | none => exact h
  | some b =>
    have := hc b rfl
    simp only [wantOf]
    omega

theorem contentLoop_reads {σ : Type} {rd : Nat → σ → Except Err (Bytes × σ)} {view : σ → Bytes} {I : σ → Prop} {atEnd : Err}
    (hrd : ReadsView rd view I atEnd) (chunk : Option Nat) (hchunk : ∀ b, chunk = some b → 0 < b) :
    ∀ (fuel n : Nat) (acc : Bytes) (st : σ), n < fuel → I st →
      (contentLoop rd chunk fuel n acc st).1 =
        (if n ≤ (view st).length then .ok (acc ++ (view st).take n) else .error atEnd) ∧
      (n ≤ (view st).length → view (contentLoop rd chunk fuel n acc st).2 = (view st).drop n ∧
        I (contentLoop rd chunk fuel n acc st).2) := by
  intro fuel
  induction fuel with
  | zero => intro n acc st h; omega
  | succ fuel ih =>
    intro n acc st hlt hi
    unfold contentLoop
    by_cases hn : n = 0
    · subst hn
      simp [hi]
    · have hnb : (n == 0) = false := by simp [hn]
      simp only [hnb, Bool.false_eq_true, if_false]
      have hpos := wantOf_pos hchunk (Nat.pos_of_ne_zero hn)
      have hle := wantOf_le chunk n
      generalize wantOf chunk n = want at hpos hle ⊢
      by_cases hv : view st = []
      · rw [hrd.fin want st hi hv, hv]
        have : ¬ (n ≤ 0) := by omega
        simp [this]
      · obtain ⟨g, st', hr, hg, hgl, hgv, hi'⟩ := hrd.some want st hi hpos hv
        rw [hr]
        simp only
        have hgpos : 0 < g.length := List.length_pos_iff.mpr hg
        obtain ⟨ih1, ih2⟩ := ih (n - g.length) (acc ++ g) st' (by omega) hi'
        rw [← hgv, List.length_append]
        refine ⟨?_, fun hfit => ?_⟩
        · rw [ih1]
          by_cases hfit : n ≤ g.length + (view st').length
          · rw [if_pos (by omega), if_pos hfit, List.take_append, List.take_of_length_le (by omega : g.length ≤ n),
              List.append_assoc]
          · rw [if_neg (by omega), if_neg hfit]
        · obtain ⟨h1, h2⟩ := ih2 (by omega)
          exact ⟨by rw [h1, List.drop_append, List.drop_of_length_le (by omega : g.length ≤ n), List.nil_append], h2⟩

theorem chunkOf_pos (lim : Limits) (hb : 0 < lim.bufSize) (pre : Bool) (a : Bytes) :
    ∀ b, chunkOf lim pre a = some b → 0 < b := by
  intro b h
  unfold chunkOf at h
  split at h
  · simp only [Option.some.injEq] at h
    subst h
    split
    · split <;> omega
    · exact hb
  · simp at h

theorem contentStartEarly_eq (cl : Int) :
    Gen.contentStartEarly cl = if cl = 0 then some 0 else if cl < 0 then some 400 else none := by
  simp [Gen.contentStartEarly]

/-- the results `requestPlan lim h` can have, each with what its guards establish -/
inductive PlanCase (lim : Limits) (h : Head) : Plan → Prop
  /-- `abort_upload` thrown by the early `main()` of a filter application -/
  | abort (c : Nat) (hc : 400 ≤ c ∧ c ≤ 599) : PlanCase lim h (.done (.status c true false))
  | noContent (k : Kind) (v : View) (hcl : h.contentLength = 0) : PlanCase lim h (.done (.app k false v))
  /-- negative or too large `CONTENT_LENGTH` -/
  | refused (c : Nat) (pre : Bool) (hc : 400 ≤ c ∧ c ≤ 599) : PlanCase lim h (.done (.status c pre pre))
  | multipart : PlanCase lim h (.done .multipart)
  /-- `post_data.resize` with a length that passed the content limit and is still not a valid size -/
  | resize (w : String) (hle : h.contentLength ≤ lim.contentLimit) (hbig : ¬ h.contentLength < 2 ^ 62) :
      PlanCase lim h (.done (.crash w))
  | read (k : Kind) (pre : Bool) (bsArg : Bytes) (fin : Bytes → Outcome) (hcl : 0 < h.contentLength)
      (hfin : ∀ body, (∃ v, fin body = .app k pre v) ∨
        (pre = false ∧ ∃ c, (400 ≤ c ∧ c ≤ 599) ∧ fin body = .status c false false)) :
      PlanCase lim h (.read h.contentLength.toNat (chunkOf lim pre bsArg) pre fin)

theorem requestPlan_case (lim : Limits) (h : Head) : PlanCase lim h (requestPlan lim h) := by
  unfold requestPlan
  extract_lets kind cookies cl pre mt isMp
  obtain ⟨gok, g⟩ := parseForm (h.queryString.length + 1) h.queryString []
  dsimp -zeta only
  extract_lets get mkView bsArg abortArg
  -- one `by_cases` and `rw [if_pos _]`/`rw [if_neg _]` per guard: `split` on the whole unfolded term is slow to check
  by_cases hab : (pre && !abortArg.isEmpty) = true
  · rw [if_pos hab]
    refine .abort _ ?_
    split
    · omega
    · rename_i hc
      simp only [Bool.or_eq_true, decide_eq_true_eq, not_or] at hc
      omega
  rw [if_neg hab, contentStartEarly_eq]
  by_cases h0 : cl = 0
  · have hpre : pre = false := by simp [pre, h0]
    simp only [h0, hpre, if_true]
    exact .noContent _ _ h0
  by_cases hneg : cl < 0
  · simp only [h0, hneg, if_true, if_false]
    exact .refused _ _ (by decide)
  simp only [h0, hneg, if_false]
  by_cases hmp : (isMp && decide (cl > lim.multipartLimit)) = true
  · rw [if_pos hmp]
    exact .refused _ _ (by decide)
  rw [if_neg hmp]
  by_cases hlim : (!isMp && decide (cl > lim.contentLimit)) = true
  · rw [if_pos hlim]
    exact .refused _ _ (by decide)
  rw [if_neg hlim]
  by_cases hm : (isMp && !pre) = true
  · rw [if_pos hm]
    exact .multipart
  rw [if_neg hm]
  by_cases hres : (!pre && !vecResizeOk cl) = true
  · rw [if_pos hres]
    simp only [Bool.and_eq_true, Bool.not_eq_true', decide_eq_true_eq, not_and, Bool.not_eq_false] at hres hlim hm
    have hnmp : isMp = false := by
      cases hi : isMp
      · rfl
      · exact absurd (hm hi) (by simp [hres.1])
    refine .resize _ (by have := hlim hnmp; omega) ?_
    have hv := hres.2
    simp only [vecResizeOk, Bool.and_eq_false_iff, decide_eq_false_iff_not] at hv
    omega
  rw [if_neg hres, if_neg (by omega)]
  refine .read kind pre bsArg _ (by omega) ?_
  intro body
  split
  · rename_i hu
    obtain ⟨ok, f⟩ := parseForm (body.length + 1) body []
    dsimp only
    split
    · rename_i code hq
      simp only [Gen.postParseFailure, Option.some.injEq] at hq
      subst hq
      simp only [Bool.and_eq_true, Bool.not_eq_true'] at hu
      exact Or.inr ⟨hu.1, 400, by decide, rfl⟩
    · exact Or.inl ⟨_, rfl⟩
  · exact Or.inl ⟨_, rfl⟩

section contentLength
variable {lim : Limits} {h : Head} {body : Bytes} (hcl : h.contentLength = body.length)
include hcl

/-- with `CONTENT_LENGTH = body.length`, a request given to the application unread has no body -/
theorem requestPlan_done_nil {o : Outcome} (hp : requestPlan lim h = .done o) (happ : isApp o = true) : body = [] := by
  cases hp ▸ requestPlan_case lim h with
  | noContent k v h0 => exact List.eq_nil_of_length_eq_zero (by omega)
  | _ => cases happ

theorem requestPlan_read_length {n : Nat} {chunk : Option Nat} {pre : Bool} {fin : Bytes → Outcome}
    (hp : requestPlan lim h = .read n chunk pre fin) : n = body.length := by
  cases hp ▸ requestPlan_case lim h with
  | read k _ a _ hpos hfin => omega

end contentLength

/-- specification of the request phase over a byte stream: the outcome and the unread rest -/
def reqOutcome (lim : Limits) (h : Head) (s : Bytes) : Outcome × Bytes :=
  match requestPlan lim h with
  | .done o => (o, s)
  | .read n _ pre fin =>
    match contentFlat n s with
    | .error e => (.aborted e pre pre, [])
    | .ok body => (fin body, s.drop n)

theorem reqOutcome_exact (lim : Limits) (h : Head) (body tail : Bytes) (hcl : h.contentLength = body.length)
    (happ : isApp (reqOutcome lim h body).1 = true) :
    reqOutcome lim h (body ++ tail) = ((reqOutcome lim h body).1, tail) := by
  unfold reqOutcome at happ ⊢
  cases hp : requestPlan lim h with
  | done o =>
    rw [hp] at happ
    simp [requestPlan_done_nil hcl hp happ]
  | read n chunk pre fin =>
    obtain rfl := requestPlan_read_length hcl hp
    simp [contentFlat]

theorem reqOutcome_rest_le (lim : Limits) (h : Head) (s : Bytes) : (reqOutcome lim h s).2.length ≤ s.length := by
  unfold reqOutcome
  split
  · exact Nat.le_refl _
  · split <;> simp

/-- `hend`: `reqOutcome` answers `eof` for a short body, so a stream that ends otherwise must hold the announced content.
The state half only for an answered request: after an error `reqOutcome` drops the rest. -/
theorem runRequest_reads {σ : Type} {rd : Nat → σ → Except Err (Bytes × σ)} {view : σ → Bytes} {I : σ → Prop} {atEnd : Err}
    (hrd : ReadsView rd view I atEnd) (lim : Limits) (hb : 0 < lim.bufSize) (h : Head) (st : σ) (hi : I st)
    (hend : atEnd = .eof ∨ h.contentLength.toNat ≤ (view st).length) :
    (runRequest lim rd h st).1 = (reqOutcome lim h (view st)).1 ∧
    (isApp (runRequest lim rd h st).1 = true →
      view (runRequest lim rd h st).2 = (reqOutcome lim h (view st)).2 ∧ I (runRequest lim rd h st).2) := by
  unfold runRequest reqOutcome
  have hc := requestPlan_case lim h
  generalize requestPlan lim h = p at hc ⊢
  cases hc with
  | read k pre a fin hpos hfin =>
    generalize h.contentLength.toNat = n at hend
    obtain ⟨h1, h2⟩ := contentLoop_reads hrd (chunkOf lim pre a) (chunkOf_pos lim hb _ _) (n + 1) n [] st (by omega) hi
    simp only
    cases hl : contentLoop rd (chunkOf lim pre a) (n + 1) n [] st with
    | mk res st' =>
      rw [hl] at h1 h2
      simp only at h1 h2
      subst h1
      unfold contentFlat
      by_cases hfit : n ≤ (view st).length
      · simp only [hfit, if_true, List.nil_append]
        exact ⟨trivial, fun _ => h2 hfit⟩
      · rcases hend with rfl | hend
        · simp [hfit, isApp]
        · exact absurd hend hfit
  | _ => simp [hi]

end Cppcms.C01
