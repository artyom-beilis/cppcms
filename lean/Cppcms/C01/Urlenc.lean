import Cppcms.C01.Decode
/-!
# C01 — the peer's side of `urldecode`, `parse_form_urlencoded` and `parse_cookies`

Peer-side encoders (every choice the peer has is a parameter: which bytes to escape, upper/lower case hex
digits, `+` or `%20` for a blank, `;` or `,` between cookies, blanks after it, token or quoted cookie
values) and the round-trip theorems of the modelled library functions against them.
-/
namespace Cppcms.C01
open Cppcms

inductive PctPiece
  /-- the byte itself -/
  | lit (b : UInt8)
  /-- `+` for a blank -/
  | plus
  /-- `%XY`; each hex digit in upper or lower case -/
  | esc (b : UInt8) (u1 u2 : Bool)
deriving Repr, DecidableEq

def hexDigit (n : Nat) (upper : Bool) : UInt8 :=
  if n < 10 then UInt8.ofNat (48 + n) else if upper then UInt8.ofNat (55 + n) else UInt8.ofNat (87 + n)

def PctPiece.wire : PctPiece → Bytes
  | .lit b => [b]
  | .plus => [43]
  | .esc b u1 u2 => [37, hexDigit (b.toNat / 16) u1, hexDigit (b.toNat % 16) u2]

def PctPiece.value : PctPiece → UInt8
  | .lit b => b
  | .plus => 32
  | .esc b _ _ => b

/-- a byte may be sent as it is unless `urldecode` gives it a meaning -/
def PctPiece.ok : PctPiece → Prop
  | .lit b => b ≠ 37 ∧ b ≠ 43
  | _ => True

def pctWire (ps : List PctPiece) : Bytes := ps.flatMap PctPiece.wire
def pctValue (ps : List PctPiece) : Bytes := ps.map PctPiece.value

theorem hexDigit_spec (n : Nat) (hn : n < 16) (u : Bool) :
    isXdigit (hexDigit n u) = true ∧ hexVal (hexDigit n u) = n := by
  have : ∀ n : Fin 16, ∀ u : Bool, isXdigit (hexDigit n.val u) = true ∧ hexVal (hexDigit n.val u) = n.val := by decide
  exact this ⟨n, hn⟩ u

theorem urldecode_nil : urldecode [] = [] := by
  rw [urldecode.eq_def]

theorem urldecode_lit (b : UInt8) (rest : Bytes) (h1 : b ≠ 37) (h2 : b ≠ 43) :
    urldecode (b :: rest) = b :: urldecode rest := by
  have e1 : b.toNat ≠ 43 := fun h => h2 (UInt8.toNat_inj.mp h)
  have e2 : b.toNat ≠ 37 := fun h => h1 (UInt8.toNat_inj.mp h)
  conv => lhs; rw [urldecode.eq_def]
  simp [Gen.urldecPlus, Gen.urldecPct, e1, e2]

theorem urldecode_plus (rest : Bytes) : urldecode (43 :: rest) = 32 :: urldecode rest := by
  conv => lhs; rw [urldecode.eq_def]
  simp [Gen.urldecPlus, Gen.urldecSpace]

theorem urldecode_esc (b : UInt8) (u1 u2 : Bool) (rest : Bytes) :
    urldecode (37 :: hexDigit (b.toNat / 16) u1 :: hexDigit (b.toNat % 16) u2 :: rest) = b :: urldecode rest := by
  have hb := b.toNat_lt
  obtain ⟨x1, v1⟩ := hexDigit_spec (b.toNat / 16) (by omega) u1
  obtain ⟨x2, v2⟩ := hexDigit_spec (b.toNat % 16) (by omega) u2
  conv => lhs; rw [urldecode.eq_def]
  simp [Gen.urldecPlus, Gen.urldecPct, Gen.urldecNeed, x1, x2, v1, v2, Nat.div_add_mod']

theorem urldecode_pct (ps : List PctPiece) (h : ∀ p ∈ ps, p.ok) : urldecode (pctWire ps) = pctValue ps := by
  induction ps with
  | nil => exact urldecode_nil
  | cons p r ih =>
    have ihr : urldecode (pctWire r) = pctValue r := ih (fun q hq => h q (by simp [hq]))
    have hp := h p (by simp)
    show urldecode (p.wire ++ pctWire r) = p.value :: pctValue r
    rw [← ihr]
    cases p with
    | lit b => exact urldecode_lit b _ hp.1 hp.2
    | plus => exact urldecode_plus _
    | esc b u1 u2 => exact urldecode_esc b u1 u2 _

structure FormField where
  name : List PctPiece
  value : List PctPiece
deriving Repr

def FormField.wire (f : FormField) : Bytes := pctWire f.name ++ 61 :: pctWire f.value
def FormField.meant (f : FormField) : Bytes × Bytes := (pctValue f.name, pctValue f.value)

/-- `&` and `=` have to be escaped in a name, `&` in a value; names are not empty -/
structure FormField.ok (f : FormField) : Prop where
  name : ∀ p ∈ f.name, p.ok ∧ p ≠ .lit 38 ∧ p ≠ .lit 61
  value : ∀ p ∈ f.value, p.ok ∧ p ≠ .lit 38
  nonempty : f.name ≠ []

def encForm : List FormField → Bytes
  | [] => []
  | [f] => f.wire
  | f :: g :: r => f.wire ++ 38 :: encForm (g :: r)

theorem pctWire_avoid (c : UInt8) (hc : c ≠ 37 ∧ c ≠ 43 ∧ isXdigit c = false) (ps : List PctPiece)
    (h : ∀ p ∈ ps, p ≠ .lit c) : ∀ x ∈ pctWire ps, x ≠ c := by
  intro x hx e
  subst e
  obtain ⟨p, hp, hxp⟩ := List.mem_flatMap.1 hx
  cases p with
  | lit b => exact h _ hp (by rw [List.mem_singleton.1 hxp])
  | plus => exact hc.2.1 (List.mem_singleton.1 hxp)
  | esc b u1 u2 =>
    have hb := b.toNat_lt
    have h1 := (hexDigit_spec (b.toNat / 16) (by omega) u1).1
    have h2 := (hexDigit_spec (b.toNat % 16) (by omega) u2).1
    simp only [PctPiece.wire, List.mem_cons, List.not_mem_nil, or_false] at hxp
    rcases hxp with e | e | e
    · exact hc.1 e
    · rw [← e, hc.2.2] at h1; cases h1
    · rw [← e, hc.2.2] at h2; cases h2

theorem pctWire_ne_nil {ps : List PctPiece} (h : ps ≠ []) : pctWire ps ≠ [] := by
  cases ps with
  | nil => exact absurd rfl h
  | cons p r => cases p <;> simp [pctWire, PctPiece.wire]

theorem FormField.wire_no_amp (f : FormField) (hf : f.ok) : ∀ x ∈ f.wire, x ≠ 38 := by
  intro x hx
  simp only [FormField.wire, List.mem_append, List.mem_cons] at hx
  rcases hx with hx | rfl | hx
  · exact pctWire_avoid 38 (by decide) f.name (fun p hp => (hf.name p hp).2.1) x hx
  · decide
  · exact pctWire_avoid 38 (by decide) f.value (fun p hp => (hf.value p hp).2) x hx

theorem parseForm_field (fuel : Nat) (f : FormField) (hf : f.ok) (rest : Bytes) (acc : Form)
    (hrest : rest = [] ∨ ∃ r, rest = 38 :: r) :
    parseForm (fuel + 1) (f.wire ++ rest) acc = parseForm fuel rest.tail (acc ++ [f.meant]) := by
  have hname := pctWire_avoid 61 (by decide) f.name (fun p hp => (hf.name p hp).2.2)
  have hsplit2 : splitAt1 61 f.wire = some (pctWire f.name, pctWire f.value) := splitAt1_hit 61 _ _ hname
  have hdec : (urldecode (pctWire f.name), urldecode (pctWire f.value)) = f.meant := by
    rw [urldecode_pct _ (fun p hp => (hf.name p hp).1), urldecode_pct _ (fun p hp => (hf.value p hp).1)]
    rfl
  have hemp : (f.wire ++ rest).isEmpty = false := by simp [FormField.wire]
  have hnemp : (pctWire f.name).isEmpty = false := by simpa using pctWire_ne_nil hf.nonempty
  rw [parseForm]
  rcases hrest with rfl | ⟨r, rfl⟩
  · rw [List.append_nil] at hemp ⊢
    simp only [hemp, splitAt1_miss 38 _ (f.wire_no_amp hf), hsplit2, hnemp, hdec, List.tail_nil, Bool.false_eq_true,
      if_false]
  · simp only [hemp, splitAt1_hit 38 _ _ (f.wire_no_amp hf), hsplit2, hnemp, hdec, List.tail_cons, Bool.false_eq_true,
      if_false]

theorem encForm_cons (f : FormField) (r : List FormField) :
    encForm (f :: r) = f.wire ++ (if r.isEmpty then [] else 38 :: encForm r) := by
  cases r <;> simp [encForm]

theorem parseForm_roundtrip (fs : List FormField) (hfs : ∀ f ∈ fs, f.ok) :
    ∀ (fuel : Nat) (acc : Form), fs.length ≤ fuel → parseForm fuel (encForm fs) acc = (true, acc ++ fs.map FormField.meant) := by
  induction fs with
  | nil => intro fuel acc _; cases fuel <;> simp [encForm, parseForm]
  | cons f r ih =>
    intro fuel acc hfuel
    obtain ⟨fu, rfl⟩ : ∃ fu, fuel = fu + 1 := ⟨fuel - 1, by simp at hfuel; omega⟩
    rw [encForm_cons, parseForm_field fu f (hfs f (by simp)) _ acc (by cases r <;> simp),
      show (if r.isEmpty then [] else 38 :: encForm r).tail = encForm r by cases r <;> rfl]
    exact (ih (fun x hx => hfs x (by simp [hx])) fu _ (by simpa using hfuel)).trans (by simp)

/-- not a blank, a tab or a CR: `skip_ws` stops here -/
def NotWs (c : UInt8) : Prop := c ≠ 32 ∧ c ≠ 9 ∧ c ≠ 13

theorem skipWs_stop (c : UInt8) (r : Bytes) (h : NotWs c) : skipWs (c :: r) = c :: r := by
  obtain ⟨h1, h2, h3⟩ := h
  rw [skipWs.eq_def]
  split
  · rename_i heq; exact absurd (List.cons.inj heq).1 h3
  · rename_i heq; cases heq; simp [h1, h2]
  · rename_i heq; cases heq

theorem skipWs_nil : skipWs [] = [] := by rw [skipWs.eq_def]

theorem skipWs_blank (c : UInt8) (r : Bytes) (h : c = 32 ∨ c = 9) : skipWs (c :: r) = skipWs r := by
  conv => lhs; rw [skipWs.eq_def]
  split
  · rename_i heq; rcases h with rfl | rfl <;> cases (List.cons.inj heq).1
  · rename_i heq; cases heq; rcases h with rfl | rfl <;> simp
  · rename_i heq; cases heq

theorem skipWs_blanks (ws r : Bytes) (hws : ∀ x ∈ ws, x = 32 ∨ x = 9) (hr : r = [] ∨ ∃ c t, r = c :: t ∧ NotWs c) :
    skipWs (ws ++ r) = r := by
  induction ws with
  | nil =>
    rcases hr with rfl | ⟨c, t, rfl, hc⟩
    · exact skipWs_nil
    · exact skipWs_stop c t hc
  | cons w rest ih =>
    simp only [List.cons_append]
    rw [skipWs_blank w _ (hws w (by simp))]
    exact ih (fun x hx => hws x (by simp [hx]))

theorem tockenChar_notWs {c : UInt8} (h : isTockenChar c = true) : NotWs c := by
  refine ⟨fun e => ?_, fun e => ?_, fun e => ?_⟩ <;> (subst e; revert h; decide)

/-- one cookie as the peer sends it: `name=value`, then (unless it is the last) `;` or `,` and any blanks -/
structure CookieItem where
  name : Bytes
  value : Bytes
  /-- the separator that follows (`;` or `,`) and the blanks/tabs after it -/
  sep : UInt8 := 59
  ws : Bytes := [32]
  /-- `none`: the value is sent as a token; `some flags`: as a quoted string, `flags` telling for every byte
  whether it is written with a backslash in front -/
  esc : Option (List Bool) := none
deriving Repr

def qenc (l : List (UInt8 × Bool)) : Bytes := l.flatMap fun p => if p.2 then [92, p.1] else [p.1]

def CookieItem.valWire (c : CookieItem) : Bytes :=
  match c.esc with
  | none => c.value
  | some fl => 34 :: (qenc (c.value.zip fl) ++ [34])

structure CookieItem.ok (c : CookieItem) : Prop where
  name_tok : ∀ x ∈ c.name, isTockenChar x = true
  name_ne : c.name ≠ []
  /-- `$Path`, `$Domain`, `$Version` are attributes, not cookies -/
  name_plain : c.name.head? ≠ some 36
  value_tok : c.esc = none → ∀ x ∈ c.value, isTockenChar x = true
  /-- in a quoted string `"` and `\` carry a backslash; any other byte may -/
  value_quoted : ∀ fl, c.esc = some fl → fl.length = c.value.length ∧
    ∀ p ∈ c.value.zip fl, (p.1 = 34 ∨ p.1 = 92) → p.2 = true
  sep : c.sep = 59 ∨ c.sep = 44
  ws : ∀ x ∈ c.ws, x = 32 ∨ x = 9

def encCookies : List CookieItem → Bytes
  | [] => []
  | [c] => c.name ++ 61 :: c.valWire
  | c :: d :: r => c.name ++ 61 :: (c.valWire ++ c.sep :: (c.ws ++ encCookies (d :: r)))

theorem encCookies_cons (c : CookieItem) (r : List CookieItem) :
    encCookies (c :: r) =
      c.name ++ 61 :: (c.valWire ++ (if r.isEmpty then [] else c.sep :: (c.ws ++ encCookies r))) := by
  cases r <;> simp [encCookies]

theorem encCookies_head (cs : List CookieItem) (h : ∀ c ∈ cs, c.ok) :
    encCookies cs = [] ∨ ∃ c t, encCookies cs = c :: t ∧ NotWs c := by
  cases cs with
  | nil => exact Or.inl rfl
  | cons c r =>
    have hc := h c (by simp)
    obtain ⟨x, xs, hn⟩ := List.exists_cons_of_ne_nil hc.name_ne
    exact Or.inr ⟨x, _, by rw [encCookies_cons, hn]; rfl, tockenChar_notWs (hc.name_tok x (by simp [hn]))⟩

theorem unquoteBody_enc (l : List (UInt8 × Bool)) (h : ∀ p ∈ l, (p.1 = 34 ∨ p.1 = 92) → p.2 = true) (rest : Bytes) :
    ∀ acc, unquoteBody (qenc l ++ 34 :: rest) acc = some (acc.reverse ++ l.map Prod.fst, rest) := by
  induction l with
  | nil => intro acc; simp [qenc, unquoteBody]
  | cons p t ih =>
    intro acc
    obtain ⟨b, e⟩ := p
    have ht := ih (fun q hq => h q (by simp [hq])) (b :: acc)
    rw [List.reverse_cons, List.append_assoc] at ht
    cases e with
    | true =>
      show unquoteBody (92 :: b :: (qenc t ++ 34 :: rest)) acc = _
      rw [unquoteBody]
      exact ht
    | false =>
      have hb : b ≠ 34 ∧ b ≠ 92 := by
        constructor <;> (intro e; have := h (b, false) (by simp) (by simp [e]); cases this)
      show unquoteBody (b :: (qenc t ++ 34 :: rest)) acc = _
      rw [unquoteBody]
      · exact ht
      · exact hb.1
      · intro c r e _; exact hb.2 e

theorem readKeyValue_item (c : CookieItem) (hc : c.ok) (next : Bytes)
    (hnext : next = [] ∨ ∃ x t, next = x :: t ∧ NotWs x) (last : Bool) :
    readKeyValue (c.name ++ 61 :: (c.valWire ++ (if last then [] else c.sep :: (c.ws ++ next)))) =
      (true, c.name, c.value, if last then [] else next) := by
  -- `e1 … e5` follow `read_key_value`: skip_ws, key token, skip_ws, `=`, skip_ws, value (quoted or token), separator
  obtain ⟨x, xs, hn⟩ := List.exists_cons_of_ne_nil hc.name_ne
  have hx := tockenChar_notWs (hc.name_tok x (by simp [hn]))
  have hsepd : (c.sep == 59 || c.sep == 44) = true := by rcases hc.sep with h | h <;> (rw [h]; decide)
  -- what follows the value: nothing, or a separator
  generalize htl : (if last then [] else c.sep :: (c.ws ++ next)) = tl
  have htl0 : tl = [] ∨ ∃ y r, tl = y :: r ∧ isTockenChar y = false ∧ NotWs y := by
    subst htl
    cases last
    · exact Or.inr ⟨_, _, rfl, by rcases hc.sep with h | h <;> (rw [h]; exact ⟨by decide, by decide, by decide, by decide⟩)⟩
    · exact Or.inl rfl
  have hsk : skipWs tl = tl := by
    rcases htl0 with rfl | ⟨y, r, rfl, _, hy⟩
    · exact skipWs_nil
    · exact skipWs_stop y r hy
  have e1 : skipWs (c.name ++ 61 :: (c.valWire ++ tl)) = c.name ++ 61 :: (c.valWire ++ tl) := by
    rw [hn]; exact skipWs_stop x _ hx
  have e2 : tocken (c.name ++ 61 :: (c.valWire ++ tl)) = (c.name, 61 :: (c.valWire ++ tl)) :=
    tocken_app _ _ hc.name_tok (Scan.stops_cons (by decide))
  have e3 : skipWs (61 :: (c.valWire ++ tl)) = 61 :: (c.valWire ++ tl) :=
    skipWs_stop 61 _ ⟨by decide, by decide, by decide⟩
  have hne : c.name.isEmpty = false := by rw [hn]; rfl
  have e4 : ((61 : UInt8) != 61 && ((61 : UInt8) == 59 || (61 : UInt8) == 44)) = false := by decide
  simp only [readKeyValue, e1, e2, hne, Bool.false_eq_true, Bool.false_and, if_false, e3, e4]
  cases hesc : c.esc with
  | some fl =>
    obtain ⟨hlen, hq⟩ := hc.value_quoted fl hesc
    have hvw : c.valWire ++ tl = 34 :: (qenc (c.value.zip fl) ++ 34 :: tl) := by simp [CookieItem.valWire, hesc]
    have e5 : unquote (34 :: (qenc (c.value.zip fl) ++ 34 :: tl)) = some (c.value, tl) := by
      have := unquoteBody_enc (c.value.zip fl) hq tl []
      rwa [List.reverse_nil, List.nil_append, List.map_fst_zip (by omega)] at this
    rw [hvw, skipWs_stop 34 _ ⟨by decide, by decide, by decide⟩]
    simp only [beq_self_eq_true, if_true, e5, hsk]
    subst htl
    cases last <;> simp [hsepd, skipWs_blanks c.ws next hc.ws hnext]
  | none =>
    have hvw : c.valWire = c.value := by simp [CookieItem.valWire, hesc]
    have hvt := hc.value_tok hesc
    have e5 : tocken (c.value ++ tl) = (c.value, tl) :=
      tocken_app _ _ hvt (htl0.elim (· ▸ Scan.stops_nil) fun ⟨_, _, h, hy, _⟩ => h ▸ Scan.stops_cons hy)
    rw [hvw]
    cases hv : c.value with
    | nil =>
      rw [hv] at e5
      simp only [List.nil_append, hsk] at e5 ⊢
      simp only [e5, hsk]
      subst htl
      cases last
      · rcases hc.sep with h | h <;> simp [h, skipWs_blanks c.ws next hc.ws hnext]
      · rfl
    | cons v vs =>
      rw [hv] at hvt e5
      have hv34 : (v == 34) = false := by
        have h1 := hvt v (by simp)
        cases h34 : (v == 34) with
        | false => rfl
        | true => rw [beq_iff_eq.1 h34] at h1; revert h1; decide
      rw [List.cons_append] at e5 ⊢
      rw [skipWs_stop v _ (tockenChar_notWs (hvt v (by simp)))]
      simp only [hv34, Bool.false_eq_true, if_false, e5, hsk]
      subst htl
      cases last <;> simp [hsepd, skipWs_blanks c.ws next hc.ws hnext]

def CookieItem.cookie (c : CookieItem) : Cookie := { name := c.name, value := c.value }

/-- what the application's `cookies()` map must hold: every cookie under its name, the first one winning when a
name is sent twice (`std::map::insert`) -/
def cookiesMeant (m : Cookies) (cs : List CookieItem) : Cookies :=
  cs.foldl (fun m c => mapInsert c.name c.cookie m) m

theorem encCookies_length (cs : List CookieItem) : cs.length ≤ (encCookies cs).length := by
  induction cs with
  | nil => simp
  | cons c r ih =>
    rw [encCookies_cons]
    cases r with
    | nil => simp; omega
    | cons d r' =>
      simp only [List.isEmpty_cons, Bool.false_eq_true, if_false, List.length_append, List.length_cons] at ih ⊢
      omega

theorem parseCookiesLoop_items (cs : List CookieItem) (hcs : ∀ c ∈ cs, c.ok) :
    ∀ (fuel : Nat) (cur : Cookie) (acc : Cookies), cs.length < fuel →
      parseCookiesLoop fuel (encCookies cs) cur acc =
        cookiesMeant (if cur.name.isEmpty then acc else mapInsert cur.name cur acc) cs := by
  induction cs with
  | nil =>
    intro fuel cur acc hf
    obtain ⟨f, rfl⟩ : ∃ f, fuel = f + 1 := ⟨fuel - 1, by simp at hf; omega⟩
    simp [parseCookiesLoop, encCookies, cookiesMeant]
  | cons c r ih =>
    intro fuel cur acc hf
    obtain ⟨f, rfl⟩ : ∃ f, fuel = f + 1 := ⟨fuel - 1, by simp at hf; omega⟩
    have hc := hcs c (by simp)
    have hr : ∀ d ∈ r, d.ok := fun d hd => hcs d (by simp [hd])
    obtain ⟨x, xs, hn⟩ := List.exists_cons_of_ne_nil hc.name_ne
    have hkey : (c.name.head? == some 36) = false := by simpa using hc.name_plain
    have hrk := readKeyValue_item c hc (encCookies r) (encCookies_head r hr) r.isEmpty
    have hrest : (if r.isEmpty then [] else encCookies r) = encCookies r := by cases r <;> rfl
    rw [← encCookies_cons, hrest] at hrk
    have hne : (encCookies (c :: r)).isEmpty = false := by simp [encCookies_cons, hn]
    rw [parseCookiesLoop]
    simp only [hne, hrk, hkey, Bool.not_true, Bool.false_eq_true, if_false]
    rw [show ({ name := c.name, value := c.value } : Cookie) = c.cookie from rfl,
      ih hr f c.cookie _ (by simpa using hf)]
    simp [cookiesMeant, CookieItem.cookie, hn]

theorem parseCookies_roundtrip (cs : List CookieItem) (hcs : ∀ c ∈ cs, c.ok) :
    parseCookies (encCookies cs) = cookiesMeant [] cs := by
  have hsk : skipWs (encCookies cs) = encCookies cs := by
    rcases encCookies_head cs hcs with h | ⟨c, t, h, hc⟩
    · rw [h]; exact skipWs_nil
    · rw [h]; exact skipWs_stop c t hc
  have := encCookies_length cs
  rw [parseCookies, hsk, parseCookiesLoop_items cs hcs _ {} [] (by omega)]
  rfl

end Cppcms.C01
