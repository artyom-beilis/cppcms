import Cppcms.C01.Urlenc
import Cppcms.C01.RequestStream
/-!
# C01 — from the head to what the application observes

`reqOutcome` (the function all three front-end round trips end in) on a head whose query string, cookie header
and urlencoded body were written by the peer-side encoders.  The GET case is here; the POST case is proved in `Props`
from `parseForm_enc` and `mediaType_urlencoded`.
-/
namespace Cppcms.C01
open Cppcms

def sHTTP_COOKIE : Bytes := [72, 84, 84, 80, 95, 67, 79, 79, 75, 73, 69]

theorem encForm_length (fs : List FormField) (h : ∀ f ∈ fs, f.ok) : fs.length ≤ (encForm fs).length := by
  induction fs with
  | nil => exact Nat.le_refl _
  | cons f r ih =>
    have hn := List.length_pos_iff.2 (pctWire_ne_nil (h f (by simp)).nonempty)
    have := ih (fun g hg => h g (by simp [hg]))
    rw [encForm_cons, FormField.wire]
    cases r <;> simp at this ⊢ <;> omega

theorem parseForm_enc (fs : List FormField) (h : ∀ f ∈ fs, f.ok) :
    parseForm ((encForm fs).length + 1) (encForm fs) [] = (true, fs.map FormField.meant) := by
  have := encForm_length fs h
  simpa using parseForm_roundtrip fs h ((encForm fs).length + 1) [] (by omega)

def viewOf (h : Head) (get post : Form) (cookies : Cookies) (body : Bytes) : View :=
  { env := h.env.toMap, names := h.env.toMap.map (fun kv => (kv.1, h.env.getSafe kv.1)), get := formSorted get,
    post := formSorted post, cookies := cookies, body := body }

/-- see `Props.view_roundtrip_get` -/
theorem view_roundtrip_get (lim : Limits) (h : Head) (gs : List FormField) (hgs : ∀ f ∈ gs, f.ok)
    (cs : List CookieItem) (hcs : ∀ c ∈ cs, c.ok) (hq : h.queryString = encForm gs)
    (hck : h.env.getSafe sHTTP_COOKIE = encCookies cs) (hcl : h.contentLength = 0) (rest : Bytes) :
    reqOutcome lim h rest =
      (.app (kindOf h.scriptName) false (viewOf h (gs.map FormField.meant) [] (cookiesMeant [] cs) []), rest) := by
  unfold reqOutcome requestPlan
  -- `requestPlan` spells `HTTP_COOKIE` as a literal
  simp only [hq, parseForm_enc gs hgs, show h.env.getSafe [72, 84, 84, 80, 95, 67, 79, 79, 75, 73, 69] = encCookies cs from hck,
    parseCookies_roundtrip cs hcs, hcl, if_true]
  simp [Gen.contentStartEarly, viewOf, formSorted]

theorem mediaType_urlencoded : mediaType mtFormUrlencoded = mtFormUrlencoded := by
  have e1 : skipWs mtFormUrlencoded = mtFormUrlencoded := skipWs_stop 97 _ ⟨by decide, by decide, by decide⟩
  have e2 : tocken mtFormUrlencoded = ([97, 112, 112, 108, 105, 99, 97, 116, 105, 111, 110],
      47 :: [120, 45, 119, 119, 119, 45, 102, 111, 114, 109, 45, 117, 114, 108, 101, 110, 99, 111, 100, 101, 100]) :=
    tocken_app [97, 112, 112, 108, 105, 99, 97, 116, 105, 111, 110] _ (by decide) (Scan.stops_cons (by decide))
  have e3 : tocken [120, 45, 119, 119, 119, 45, 102, 111, 114, 109, 45, 117, 114, 108, 101, 110, 99, 111, 100, 101, 100] =
      ([120, 45, 119, 119, 119, 45, 102, 111, 114, 109, 45, 117, 114, 108, 101, 110, 99, 111, 100, 101, 100], []) := by
    simpa using tocken_app [120, 45, 119, 119, 119, 45, 102, 111, 114, 109, 45, 117, 114, 108, 101, 110, 99, 111, 100, 101, 100] []
      (by decide) Scan.stops_nil
  unfold mediaType
  simp only [e1, e2, e3]
  decide

end Cppcms.C01
