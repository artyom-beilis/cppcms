import Cppcms.Common
import Cppcms.C01.Scgi
import Cppcms.C01.Fcgi
import Cppcms.C01.Http
import Cppcms.C01.Spec
import Cppcms.C01.PeerJudge
/-! Line-protocol driver library for C01/C02 (shared by `c01_model` and `c02_model`).
`scgi <seg>…` / `fastcgi <concurrency> <seg>…` / `http <software> <name> <port> <remote> <hints> <seg>…` run the buffer-level model on
the given segmentation and print the fate of every request on the connection. -/
open Cppcms Cppcms.C01

def hx (b : Bytes) : String := if b.isEmpty then "." else toHex b

def showPairs (l : List (Bytes × Bytes)) : String :=
  if l.isEmpty then "-" else ",".intercalate (l.map fun kv => hx kv.1 ++ ":" ++ hx kv.2)

def showCookies (l : Cookies) : String :=
  if l.isEmpty then "-" else ",".intercalate (l.map fun kc =>
    hx kc.1 ++ ":" ++ hx kc.2.value ++ ":" ++ hx kc.2.path ++ ":" ++ hx kc.2.domain)

def showKind : Kind → String
  | .sync => "sync" | .async => "async" | .filter => "filter" | .dflt => "default"

def showErr : Err → String
  | .eof => "eof" | .violation => "violation"

def showOutcome : Outcome → String
  | .app k pre v => s!"app kind={showKind k} pre={boolStr pre} env={showPairs v.env} names={showPairs v.names} get={showPairs v.get} post={showPairs v.post} cookies={showCookies v.cookies} body={hx v.body}"
  | .status c pre oe => s!"status {c} pre={boolStr pre} onerr={boolStr oe}"
  | .raw400 => "raw400"
  | .aborted e pre oe => s!"aborted {showErr e} pre={boolStr pre} onerr={boolStr oe}"
  | .mgmt t c f => s!"mgmt {t} {hx c} framed={boolStr f}"
  | .multipart => "multipart"
  | .crash w => "crash " ++ w.replace " " "_"

def showOutcomes (l : List Outcome) : String := " ; ".intercalate (l.map showOutcome)

def parseSegs (ws : List String) : Option Segs := ws.mapM parseHex

/-- `scgi <seg>…` | `fastcgi <concurrency> <seg>…` | `http <software> <name> <port> <remote> <hints> <seg>…` -/
def runModel : List String → Option (List Outcome)
  | "scgi" :: segs => (parseSegs segs).map (scgiConn {})
  | "fastcgi" :: conc :: segs => do
    let c ← parseHex conc
    let s ← parseSegs segs
    pure (fcgiRun {} c s)
  | "http" :: sw :: nm :: port :: remote :: hints :: segs => do
    let sw ← parseHex sw
    let nm ← parseHex nm
    let port ← parseHex port
    let remote ← parseHex remote
    let s ← parseSegs segs
    let hs := hints.toList.filterMap fun c => if c == '1' then some true else if c == '0' then some false else none
    pure (httpRun {} { software := sw, serverName := nm, port := port, remote := remote } hs s)
  | _ => none

def unhx (s : String) : Option Bytes := if s == "." then some [] else parseHex s

def parsePairs (s : String) : Option (List (Bytes × Bytes)) :=
  if s == "-" then some []
  else (s.splitOn ",").mapM fun kv =>
    match kv.splitOn ":" with
    | [k, v] => do pure ((← unhx k), (← unhx v))
    | _ => none

def parseCookies4 (s : String) : Option (List (Bytes × Bytes × Bytes × Bytes)) :=
  if s == "-" then some []
  else (s.splitOn ",").mapM fun kv =>
    match kv.splitOn ":" with
    | [k, v, p, d] => do pure ((← unhx k), (← unhx v), (← unhx p), (← unhx d))
    | _ => none

def isCrash : Outcome → Bool
  | .crash _ => true
  | _ => false

def preOf : Outcome → Nat
  | .app _ pre _ => if pre then 1 else 0
  | .status _ pre _ => if pre then 1 else 0
  | .aborted _ pre _ => if pre then 1 else 0
  | _ => 0

def b01 (s : String) : Bool := s == "1"

/-! peer-form judges: the hypotheses of the round-trip theorems (executable, sound versions), the Lean encoders
against the bytes python sent, and the right-hand sides of the theorems against what the real application saw -/

def parsePiece (s : String) : Option PctPiece :=
  match s.toList with
  | ['p'] => some .plus
  | 'l' :: h => (parseHex (String.ofList h)).bind fun b => match b with | [x] => some (.lit x) | _ => none
  | ['e', a, b, u1, u2] =>
    (parseHex (String.ofList [a, b])).bind fun x => match x with
      | [y] => some (.esc y (u1 == '1') (u2 == '1'))
      | _ => none
  | _ => none

def parsePieces (s : String) : Option (List PctPiece) :=
  if s == "-" then some [] else (s.splitOn ",").mapM parsePiece

def parseFields (s : String) : Option (List HttpField) :=
  if s == "-" then some []
  else (s.splitOn ",").mapM fun f =>
    match f.splitOn ":" with
    | [n, w, v] => do pure { name := (← unhx n), ws := (← unhx w), value := (← unhx v) }
    | _ => none

def parseFLines (s : String) : Option (List FLine) :=
  (s.splitOn ";").mapM fun l =>
    match (l.splitOn "|").mapM unhx with
    | some (h :: t) => some { head := h, tail := t }
    | _ => none

def parseFormFields (s : String) : Option (List FormField) :=
  if s == "-" then some []
  else (s.splitOn ";").mapM fun f =>
    match f.splitOn "=" with
    | [n, v] => do pure { name := (← parsePieces n), value := (← parsePieces v) }
    | _ => none

def parseCookieItems (s : String) : Option (List CookieItem) :=
  if s == "-" then some []
  else (s.splitOn ",").mapM fun c =>
    match c.splitOn ":" with
    | [n, v, sp, w, e] => do
      let sp ← unhx sp
      let esc : Option (List Bool) := if e == "t" then none else some (e.toList.map (· == '1'))
      match sp with
      | [x] => pure { name := (← unhx n), value := (← unhx v), sep := x, ws := (← unhx w), esc := esc }
      | _ => none
    | _ => none

def judgePeer : List String → String
  | [sw, nm, port, remote, m, sc, pa, qs, proto, fields, lines, body, wire, oenv, obody] =>
    match unhx sw, unhx nm, unhx port, unhx remote, unhx m, unhx sc, parsePieces pa,
          (if qs == "-" then some none else (unhx qs).map some), unhx proto, parseFields fields, parseFLines lines,
          unhx body, unhx wire, parsePairs oenv, unhx obody with
    | some sw, some nm, some port, some remote, some m, some sc, some pa, some qs, some proto, some fields, some ls,
      some body, some wire, some oenv, some obody =>
      let cfg : HttpCfg := { software := sw, serverName := nm, port := port, remote := remote }
      let q : HttpPeer := { method := m, script := sc, path := pa, query := qs, proto := proto, fields := fields }
      let okq := q.okB cfg
      let okw := wireB q ls
      let same := encFLines ls ++ body == wire
      let env := (q.head cfg).env.toMap == oenv
      let bd := obody == body
      if okq && okw && same && env && bd then "1"
      else s!"0 ok={boolStr okq} wire={boolStr okw} enc={boolStr same} env={boolStr env} body={boolStr bd}"
    | _, _, _, _, _, _, _, _, _, _, _, _, _, _, _ => "bad-op"
  | _ => "bad-op"

def judgeForm : List String → String
  | [fs, wire, obs] =>
    match parseFormFields fs, unhx wire, parsePairs obs with
    | some fs, some wire, some obs =>
      let ok := fs.all FormField.okB
      let same := encForm fs == wire
      let parsed := parseForm (wire.length + 1) wire []
      let val := formSorted (fs.map FormField.meant) == obs
      if ok && same && val && parsed.1 then "1" else s!"0 ok={boolStr ok} enc={boolStr same} val={boolStr val}"
    | _, _, _ => "bad-op"
  | _ => "bad-op"

def judgeCookies : List String → String
  | [cs, wire, obs] =>
    match parseCookieItems cs, unhx wire, parseCookies4 obs with
    | some cs, some wire, some obs =>
      let ok := cs.all CookieItem.okB
      let same := encCookies cs == wire
      let val := (cookiesMeant [] cs).map (fun kc => (kc.1, kc.2.value, kc.2.path, kc.2.domain)) == obs
      if ok && same && val then "1" else s!"0 ok={boolStr ok} enc={boolStr same} val={boolStr val}"
    | _, _, _ => "bad-op"
  | _ => "bad-op"

def judge : List String → String
  | ["view", m, sc, pa, q, hd, g, po, ck, bo, rf, env, nm, og, op, oc, ob] =>
    match unhx m, unhx sc, unhx pa, unhx q, parsePairs hd, parsePairs g, parsePairs po, parsePairs ck, unhx bo,
          parsePairs env, parsePairs nm, parsePairs og, parsePairs op, parseCookies4 oc, unhx ob with
    | some m, some sc, some pa, some q, some hd, some g, some po, some ck, some bo,
      some env, some nm, some og, some op, some oc, some ob =>
      boolStr (Spec.viewOk { method := m, script := sc, path := pa, query := q, hdrs := hd, get := g, post := po,
                             cookies := ck, body := bo, rawFilter := b01 rf }
                           { env := env, names := nm, get := og, post := op, cookies := oc, body := ob })
    | _, _, _, _, _, _, _, _, _, _, _, _, _, _, _ => "bad-op"
  | "peer" :: rest => judgePeer rest
  | "form" :: rest => judgeForm rest
  | "cookies" :: rest => judgeCookies rest
  | ["fwd", exc, probeOk, closed, reset, expectAnswer, answered] =>
    boolStr (Spec.fwdOk { exc := b01 exc, probeOk := b01 probeOk, closed := b01 closed, reset := b01 reset,
                          expectAnswer := b01 expectAnswer, answered := b01 answered })
  | "c02" :: exc :: probeOk :: closed :: reset :: pre :: ready :: onerr :: eoc :: n200 :: nErr :: framed :: cmd =>
    match runModel cmd, pre.toNat?, ready.toNat?, onerr.toNat?, eoc.toNat?, n200.toNat?, nErr.toNat? with
    | some outs, some pre, some ready, some onerr, some eoc, some n200, some nErr =>
      boolStr (Spec.c02ok { exc := b01 exc, probeOk := b01 probeOk, closed := b01 closed, reset := b01 reset,
                            pre := pre, ready := ready, onError := onerr, eoc := eoc, n200 := n200, nErr := nErr, framed := b01 framed,
                            specApps := (outs.filter isApp).length, specPre := (outs.map preOf).sum,
                            specCrash := outs.any isCrash })
    | _, _, _, _, _, _, _ => "bad-op"
  | _ => "bad-op"

def step (_ : Unit) (line : String) : Unit × String :=
  match words line with
  | "J" :: rest => ((), judge rest)
  | ws => match runModel ws with
    | some outs => ((), showOutcomes outs)
    | none => ((), "bad-op")
