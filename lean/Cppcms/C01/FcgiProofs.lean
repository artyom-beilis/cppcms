import Cppcms.C01.Fcgi
import Cppcms.C01.RequestStream
/-! FastCGI: the record reader over the read-ahead cache delivers the records of the concatenated
stream; everything above it is generic in the record reader, so the buffer-level connection equals
the connection over a plain byte stream.  At the end, read by C02: inversions of `fcgiOnStart`, `fcgiTake`,
`fcgiReadSome`. -/
namespace Cppcms.C01
open Cppcms

def FcgiSt.stream (st : FcgiSt) : Bytes := st.cache ++ st.segs.flatten

theorem fcgiFill_spec (fuel n : Nat) (st : FcgiSt) (hf : n ≤ fuel + st.cache.length) :
    (fcgiFill fuel n st).1 = some (contentFlat n st.stream) ∧
    (fcgiFill fuel n st).2.stream = (if n ≤ st.stream.length then st.stream.drop n else st.stream) ∧
    (fcgiFill fuel n st).2.bodyAlloc = st.bodyAlloc := by
  induction fuel generalizing st with
  | zero =>
    have hc : st.cache.length ≥ n := by omega
    simp [fcgiFill, hc, contentFlat, FcgiSt.stream, FcgiSt.consume, List.take_append_of_le_length hc,
      List.drop_append_of_le_length hc, Nat.le_add_right_of_le hc]
  | succ fuel ih =>
    by_cases hc : st.cache.length ≥ n
    · simp [fcgiFill, hc, contentFlat, FcgiSt.stream, FcgiSt.consume, List.take_append_of_le_length hc,
        List.drop_append_of_le_length hc, Nat.le_add_right_of_le hc]
    · have hroom : (fcgiCap st n - st.cache.length == 0) = false := by
        unfold fcgiCap
        split <;> simp <;> omega
      rw [fcgiFill]
      simp only [hc, hroom, Bool.false_eq_true, if_false]
      cases hr : readSome (fcgiCap st n - st.cache.length) st.segs with
      | none =>
        have : ¬ (n ≤ st.cache.length) := hc
        simp [contentFlat, this, FcgiSt.stream, readSome_none hr, FcgiSt.refill]
      | some p =>
        obtain ⟨hg, _, hcat⟩ := readSome_some (by simp at hroom; omega) hr
        have hgl := List.length_pos_iff.mpr hg
        have hst : (st.refill n p.1 p.2).stream = st.stream := by
          simp [FcgiSt.stream, FcgiSt.refill, List.append_assoc, hcat]
        have := ih (st.refill n p.1 p.2) (by simp [FcgiSt.refill]; omega)
        rwa [hst] at this

/-- the FastCGI record reader over a plain byte stream (stream, `body_` allocated): specification of `fcgiReadRecord` -/
def fcgiReadRecordF (s : Bytes × Bool) (body : Bytes) : RecRes × (Bytes × Bool) :=
  if s.1.length < Gen.hdrSize then (.err .eof, s)
  else
    let h := parseFcgiHdr (s.1.take Gen.hdrSize)
    let rec_size := h.contentLength + h.paddingLength
    if rec_size == 0 then (.got h body, (s.1.drop Gen.hdrSize, s.2))
    else if s.1.length < Gen.hdrSize + rec_size then (.err .eof, (s.1.drop Gen.hdrSize, true))
    else (.got h (body ++ ((s.1.drop Gen.hdrSize).take rec_size).take h.contentLength), (s.1.drop (Gen.hdrSize + rec_size), true))

/-- `fcgiReadRecordF` as a record reader: the FastCGI connection over it is the stream-level specification -/
def flatReader : RecReader (Bytes × Bool) := ⟨fcgiReadRecordF, (·.2)⟩

theorem be16_lt (b : Bytes) (off : Nat) : be16 b off < 65536 := by
  unfold be16
  have h1 := (b.getD off 0).toNat_lt
  have h2 := (b.getD (off + 1) 0).toNat_lt
  omega

/-- the record size is computed without wrap-around in the declared type of `rec_size` (both paths) -/
theorem recSize_no_wrap (hb : Bytes) :
    Gen.fcgiRecSizeAsync (parseFcgiHdr hb).contentLength (parseFcgiHdr hb).paddingLength =
      (parseFcgiHdr hb).contentLength + (parseFcgiHdr hb).paddingLength ∧
    Gen.fcgiRecSizeCached (parseFcgiHdr hb).contentLength (parseFcgiHdr hb).paddingLength =
      (parseFcgiHdr hb).contentLength + (parseFcgiHdr hb).paddingLength := by
  have h1 : (parseFcgiHdr hb).contentLength < 65536 := be16_lt _ _
  have h2 : (parseFcgiHdr hb).paddingLength < 256 := (hb.getD Gen.hdrOff_padding_length 0).toNat_lt
  unfold Gen.fcgiRecSizeAsync Gen.fcgiRecSizeCached
  constructor <;> (apply Nat.mod_eq_of_lt; omega)

/-- `fcgiReadRecordF` has no `.crash` in its range: this equation is where "read into full cache" and "resize wraps"
are excluded (`hroom` in `fcgiFill_spec`, `recSize_no_wrap`, `hpl`) -/
theorem fcgiReadRecord_sim (st : FcgiSt) (body : Bytes) :
    fcgiReadRecordF (st.stream, st.bodyAlloc) body =
      Prod.map id (fun st => (st.stream, st.bodyAlloc)) (fcgiReadRecord st body) := by
  unfold fcgiReadRecord fcgiReadRecordF
  obtain ⟨h1, h1s, h1a⟩ := fcgiFill_spec (Gen.hdrSize + 1) Gen.hdrSize st (by omega)
  cases hfill : fcgiFill (Gen.hdrSize + 1) Gen.hdrSize st with
  | mk r1 st1 =>
    rw [hfill] at h1 h1s h1a
    subst h1
    simp only at h1a
    unfold contentFlat
    by_cases hlen : Gen.hdrSize ≤ st.stream.length
    · -- the stream holds a complete record header
      simp only [hlen, Nat.not_lt.mpr hlen, if_true, if_false] at h1s ⊢
      rw [(recSize_no_wrap _).1]
      generalize parseFcgiHdr (st.stream.take Gen.hdrSize) = h
      cases hz : (h.contentLength + h.paddingLength == 0)
      · -- content or padding follows: a second fill
        obtain ⟨h2, h2s, h2a⟩ := fcgiFill_spec (h.contentLength + h.paddingLength + 1)
          (h.contentLength + h.paddingLength) { st1 with bodyAlloc := true } (by omega)
        have hstr : ({ st1 with bodyAlloc := true } : FcgiSt).stream = st.stream.drop Gen.hdrSize := h1s
        cases hfill2 : fcgiFill (h.contentLength + h.paddingLength + 1) (h.contentLength + h.paddingLength)
            { st1 with bodyAlloc := true } with
        | mk r2 st2 =>
          rw [hfill2, hstr] at h2 h2s
          rw [hfill2] at h2a
          subst h2
          simp only at h2a
          unfold contentFlat
          simp only [List.length_drop] at h2s ⊢
          by_cases hlen2 : h.contentLength + h.paddingLength ≤ st.stream.length - Gen.hdrSize
          · -- the record is complete
            have : ¬ st.stream.length < Gen.hdrSize + (h.contentLength + h.paddingLength) := by omega
            have hpl : ¬ (h.contentLength + h.paddingLength < h.paddingLength) := by omega
            simp only [hlen2, this, hpl, if_true, if_false, Bool.false_eq_true, Prod.map, id, h2s, h2a,
              List.drop_drop, Nat.add_sub_cancel]
          · -- the stream ends inside the record
            have : st.stream.length < Gen.hdrSize + (h.contentLength + h.paddingLength) := by omega
            simp only [hlen2, this, if_true, if_false, Bool.false_eq_true, Prod.map, id, h2s, h2a]
      · -- an empty record: the header is all of it
        simp only [if_true, Prod.map, id, h1s, h1a]
    · -- the stream ends inside the record header
      simp only [hlen, Nat.lt_of_not_le hlen, if_true, if_false, Prod.map, id] at h1s ⊢
      rw [h1s, h1a]

/-- `φ` maps the states of the record reader `R₁` to those of `R₂` so that both deliver the same records -/
structure RecMap {σ₁ σ₂ : Type} (R₁ : RecReader σ₁) (R₂ : RecReader σ₂) (φ : σ₁ → σ₂) : Prop where
  read : ∀ s body, R₂.read (φ s) body = Prod.map id φ (R₁.read s body)
  alloc : ∀ s, R₂.alloc (φ s) = R₁.alloc s

theorem contentLoop_map {τ₁ τ₂ : Type} {ψ : τ₁ → τ₂}
    {rd1 : Nat → τ₁ → Except Err (Bytes × τ₁)} {rd2 : Nat → τ₂ → Except Err (Bytes × τ₂)}
    (hrd : ∀ w t, rd2 w (ψ t) = (rd1 w t).map (Prod.map id ψ)) (chunk : Option Nat) :
    ∀ (fuel n : Nat) (acc : Bytes) (t : τ₁),
      contentLoop rd2 chunk fuel n acc (ψ t) = Prod.map id ψ (contentLoop rd1 chunk fuel n acc t) := by
  intro fuel
  induction fuel with
  | zero => intros; rfl
  | succ fuel ih =>
    intro n acc t
    simp only [contentLoop, hrd]
    split
    · rfl
    · cases rd1 (wantOf chunk n) t with
      | error e => rfl
      | ok p => exact ih _ _ _

theorem runRequest_map {τ₁ τ₂ : Type} {ψ : τ₁ → τ₂}
    {rd1 : Nat → τ₁ → Except Err (Bytes × τ₁)} {rd2 : Nat → τ₂ → Except Err (Bytes × τ₂)}
    (hrd : ∀ w t, rd2 w (ψ t) = (rd1 w t).map (Prod.map id ψ)) (lim : Limits) (h : Head) (t : τ₁) :
    runRequest lim rd2 h (ψ t) = Prod.map id ψ (runRequest lim rd1 h t) := by
  simp only [runRequest]
  cases requestPlan lim h with
  | done o => rfl
  | read n chunk pre fin =>
    simp only [contentLoop_map hrd]
    cases contentLoop rd1 chunk (n + 1) n [] t with
    | mk r u => cases r <;> rfl

section map
variable {σ₁ σ₂ : Type} {R₁ : RecReader σ₁} {R₂ : RecReader σ₂} {φ : σ₁ → σ₂}

theorem fcgiParams_map (hs : RecMap R₁ R₂ φ) : ∀ (fuel : Nat) (h : FcgiHdr) (body : Bytes) (reqId : Nat) (s : σ₁),
    fcgiParams R₂ fuel h body reqId (φ s) = Prod.map id φ (fcgiParams R₁ fuel h body reqId s) := by
  intro fuel
  induction fuel with
  | zero => intros; rfl
  | succ fuel ih =>
    intro h body reqId s
    simp only [fcgiParams, hs.read]
    split
    · rfl  -- wrong record type or request id
    · split
      · split
        · -- a non-empty record below the limit: the next record is read
          cases R₁.read s body with
          | mk res s' =>
            cases res with
            | got h' body' => exact ih _ _ _ _
            | _ => rfl
        · rfl  -- over the limit
      · rfl  -- the empty record that ends the stream

theorem fcgiStdinEof_map (hs : RecMap R₁ R₂ φ) (r : FcgiReq) (s : σ₁) (out : List Outcome) :
    fcgiStdinEof R₂ r (φ s) out = Prod.map id (Prod.map id φ) (fcgiStdinEof R₁ r s out) := by
  simp only [fcgiStdinEof, hs.read]
  cases R₁.read s [] with
  | mk res s' =>
    cases res with
    | got h b => simp only [Prod.map, id]; split <;> rfl
    | _ => rfl

theorem fcgiAfterBegin_map (hs : RecMap R₁ R₂ φ) (fuel reqId : Nat) (keep : Bool) (s : σ₁) (out : List Outcome) :
    fcgiAfterBegin R₂ fuel reqId keep (φ s) out = Prod.map id (Prod.map id φ) (fcgiAfterBegin R₁ fuel reqId keep s out) := by
  simp only [fcgiAfterBegin, hs.read]
  cases R₁.read s [] with
  | mk res s' =>
    cases res with
    | got h1 b1 =>
      simp only [Prod.map, id, fcgiParams_map hs]
      cases fcgiParams R₁ fuel h1 b1 reqId s' with
      | mk pr t =>
        cases pr with
        | ok pbody => simp only [fcgiAfterParams, fcgiStdinEof_map hs]; split <;> rfl
        | error o => rfl
    | _ => rfl

theorem fcgiHeaders_map (hs : RecMap R₁ R₂ φ) (conc : Bytes) : ∀ (fuel : Nat) (s : σ₁) (out : List Outcome),
    fcgiHeaders R₂ conc fuel (φ s) out = Prod.map id (Prod.map id φ) (fcgiHeaders R₁ conc fuel s out) := by
  intro fuel
  induction fuel with
  | zero => intros; rfl
  | succ fuel ih =>
    intro s out
    simp only [fcgiHeaders, hs.read]
    cases R₁.read s [] with
    | mk res s' =>
      cases res with
      | got h body =>
        simp only [Prod.map, id, hs.alloc]
        cases fcgiOnStart conc (R₁.alloc s') h body with
        | again reply => cases reply <;> exact ih _ _
        | begin reqId keep => exact fcgiAfterBegin_map hs _ _ _ _ _
        | stop o => rfl
      | _ => rfl

def FcgiBody.map (φ : σ₁ → σ₂) (b : FcgiBody σ₁) : FcgiBody σ₂ :=
  { st := φ b.st, body := b.body, ptr := b.ptr, readLen := b.readLen, cl := b.cl, reqId := b.reqId }

theorem fcgiAdvance_map (want : Nat) (b : FcgiBody σ₁) :
    fcgiAdvance want (b.map φ) = Prod.map id (FcgiBody.map φ) (fcgiAdvance want b) := by
  cases hc : (b.ptr + min want (b.body.length - b.ptr) == b.body.length) <;>
    simp only [fcgiAdvance, FcgiBody.map, hc] <;> rfl

theorem fcgiTake_map (hs : RecMap R₁ R₂ φ) (want : Nat) (b : FcgiBody σ₁) :
    fcgiTake R₂ want (b.map φ) = (fcgiTake R₁ want b).map (Prod.map id (FcgiBody.map φ)) := by
  simp only [fcgiTake, fcgiAdvance_map]
  generalize fcgiAdvance want b = p
  cases hq : R₁.read p.2.st p.2.body with
  | mk res s' =>
    simp only [Prod.map, id, FcgiBody.map, hs.read, hq]
    split
    · cases res with
      | got h body' => simp only [apply_ite (Except.map _)]; rfl
      | _ => rfl
    · rfl

theorem fcgiReadSome_map (hs : RecMap R₁ R₂ φ) (want : Nat) (b : FcgiBody σ₁) :
    fcgiReadSome R₂ want (b.map φ) = (fcgiReadSome R₁ want b).map (Prod.map id (FcgiBody.map φ)) := by
  have ht := fcgiTake_map hs want
  simp only [FcgiBody.map] at ht
  cases hq : R₁.read b.st b.body with
  | mk res s' =>
    simp only [fcgiReadSome, FcgiBody.map, hs.read, ht, hq, Prod.map, id]
    simp only [apply_ite (Except.map _)]
    cases res with
    | got h body' =>
      have ht' := ht { b with st := s', body := body' }
      simp only at ht'
      simp only [apply_ite (Except.map _), ht']
      rfl
    | _ => rfl
theorem fcgiConn_map (hs : RecMap R₁ R₂ φ) (lim : Limits) (conc : Bytes) : ∀ (fuel : Nat) (s : σ₁),
    fcgiConn R₂ lim conc fuel (φ s) = fcgiConn R₁ lim conc fuel s := by
  intro fuel
  induction fuel with
  | zero => intros; rfl
  | succ fuel ih =>
    intro s
    simp only [fcgiConn, fcgiHeaders_map hs]
    cases fcgiHeaders R₁ conc (fuel + 1) s [] with
    | mk out rest =>
      obtain ⟨req, t⟩ := rest
      cases req with
      | none => rfl
      | some r =>
        have := runRequest_map (fcgiReadSome_map hs) lim (Head.ofEnv r.env) { st := t, cl := r.cl, reqId := r.requestId }
        simp only [FcgiBody.map] at this
        simp only [Prod.map, id, this]
        cases runRequest lim (fcgiReadSome R₁) (Head.ofEnv r.env) { st := t, cl := r.cl, reqId := r.requestId } with
        | mk o b => simp only [FcgiBody.map, ih]

end map

theorem buf_flat_map : RecMap bufReader flatReader (fun st => (st.stream, st.bodyAlloc)) :=
  ⟨fcgiReadRecord_sim, fun _ => rfl⟩

/-- FastCGI connection over a plain byte stream (no segmentation, no cache) -/
def fcgiFlat (lim : Limits) (concurrency : Bytes) (s : Bytes) : List Outcome :=
  fcgiConn flatReader lim concurrency (s.length + 2) (s, false)

theorem streamLen_eq (segs : Segs) : streamLen segs = segs.flatten.length := by
  simp [streamLen, List.length_flatten]

theorem fcgiRun_eq_flat (lim : Limits) (conc : Bytes) (segs : Segs) :
    fcgiRun lim conc segs = fcgiFlat lim conc segs.flatten := by
  unfold fcgiRun fcgiFlat
  rw [streamLen_eq, ← fcgiConn_map buf_flat_map]
  simp [FcgiSt.stream]

/-- `on_start_request` stops only with a protocol violation and replies only with management records; the regenerated
guards (`Gen.pairsEmptyGuard`, `Gen.replyEmptyBodyGuard`, `Gen.unknownRoleAssign`) exclude the undefined operations -/
theorem fcgiOnStart_cases (conc : Bytes) (alloc : Bool) (h : FcgiHdr) (body : Bytes) :
    match fcgiOnStart conc alloc h body with
    | .stop o => o = .aborted .violation false false
    | .again (some o) => ∃ t c f, o = .mgmt t c f
    | _ => True := by
  have g1 : Gen.pairsEmptyGuard = true := by decide
  have g2 : Gen.replyEmptyBodyGuard = true := by decide
  have g3 : ¬ ((List.replicate Gen.unknownRoleAssign.1 (UInt8.ofNat Gen.unknownRoleAssign.2)).length < Gen.endBodySize) := by
    decide
  unfold fcgiOnStart
  simp only [g1, g2, g3, Bool.not_true, Bool.false_and, Bool.false_eq_true, if_false]
  by_cases hv : (h.version != Gen.fcgi_version_1) = true
  · rw [if_pos hv]
  rw [if_neg hv]
  by_cases hg : (h.type == Gen.fcgi_get_values) = true
  · rw [if_pos hg]
    cases fcgiGetValuesReply conc body with
    | none => rfl
    | some reply => exact ⟨_, _, _, rfl⟩
  rw [if_neg hg]
  by_cases hb : (h.type != Gen.fcgi_begin_request) = true
  · rw [if_pos hb]; trivial
  rw [if_neg hb]
  by_cases hl : (body.length != Gen.beginBodySize) = true
  · rw [if_pos hl]
  rw [if_neg hl]
  by_cases hr : (be16 body Gen.beginOff_role != Gen.fcgi_responder) = true
  · rw [if_pos hr]; exact ⟨_, _, _, rfl⟩
  · rw [if_neg hr]; trivial

/-- a successful take performs at most one record read (the empty STDIN record that ends the content) -/
theorem fcgiTake_ok {σ : Type} {R : RecReader σ} {want : Nat} {b b' : FcgiBody σ} {g : Bytes}
    (h : fcgiTake R want b = .ok (g, b')) :
    g = (fcgiAdvance want b).1 ∧
    (b'.st = b.st ∨ ∃ body, b'.st = (R.read b.st body).2) := by
  have hst : (fcgiAdvance want b).2.st = b.st := by
    unfold fcgiAdvance
    simp only
    split <;> rfl
  unfold fcgiTake at h
  simp only at h
  split at h
  · rw [hst] at h
    cases hr : R.read b.st (fcgiAdvance want b).2.body with
    | mk res st' =>
      rw [hr] at h
      cases res with
      | got hd body' =>
        simp only at h
        split at h
        · cases h
        · cases h
          exact ⟨rfl, .inr ⟨_, by rw [hr]⟩⟩
      | _ => cases h
  · simp only [Except.ok.injEq] at h
    rw [h] at hst
    exact ⟨by rw [h], .inl hst⟩

/-- a successful `async_read_some` is a take from a non-empty `body_`, after at most one record read that refilled it -/
theorem fcgiReadSome_ok {σ : Type} {R : RecReader σ} {want : Nat} {b b' : FcgiBody σ} {g : Bytes}
    (h : fcgiReadSome R want b = .ok (g, b')) :
    ∃ b1 : FcgiBody σ, b1.ptr < b1.body.length ∧ fcgiTake R want b1 = .ok (g, b') ∧
      (b1.st = b.st ∨ b1.st = (R.read b.st b.body).2) := by
  unfold fcgiReadSome at h
  split at h
  · cases h
  · split at h
    · exact ⟨b, ‹_›, h, .inl rfl⟩
    · cases hr : R.read b.st b.body with
      | mk res st' =>
        rw [hr] at h
        cases res with
        | got hd body' =>
          simp only at h
          split at h
          · cases h
          · split at h
            · exact ⟨_, ‹_›, h, .inr rfl⟩
            · cases h
        | _ => cases h

end Cppcms.C01
