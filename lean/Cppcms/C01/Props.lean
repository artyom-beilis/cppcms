import Cppcms.C01.ScgiRoundtrip
import Cppcms.C01.FcgiRoundtrip
import Cppcms.C01.HttpAgree
import Cppcms.C01.ViewRT
import Cppcms.C01.PeerJudge
/-!
# C01 — property theorems

"Every front-end delivers the request the peer sent, however it is segmented."

A socket is a list of segments; every read returns a non-empty prefix of the next non-empty segment, at most
as long as the buffer offered (`readSome`).  `scgiConn`, `fcgiRun`, `httpRun` are the buffer-level
models of one connection (`Scgi.lean`, `Fcgi.lean`, `Http.lean`), built on constants, guards and the
parser transition regenerated from the C++ source (`Gen.lean`).
-/
namespace Cppcms.C01.Props
open Cppcms Cppcms.C01

/-- SCGI: the buffer-level connection (16 eager bytes, netstring arithmetic, pair walk, content loop)
computes a function of the concatenated byte stream. -/
theorem scgi_buffer_eq_stream (lim : Limits) (hb : 0 < lim.bufSize) (segs : Segs) :
    scgiConn lim segs = scgiFlat lim segs.flatten :=
  scgiConn_eq_flat lim hb segs

/-- SCGI: for **every** byte stream (malformed ones included) the fate of the connection does not
depend on how the stream is cut into segments. -/
theorem segmentation_independent_scgi (lim : Limits) (hb : 0 < lim.bufSize) (segs₁ segs₂ : Segs)
    (h : segs₁.flatten = segs₂.flatten) : scgiConn lim segs₁ = scgiConn lim segs₂ := by
  rw [scgiConn_eq_flat lim hb, scgiConn_eq_flat lim hb, h]

/-- FastCGI: the record reader over the read-ahead cache (`cache_start_`/`cache_end_`, compaction,
padding skip) and everything above it (record dispatch, PARAMS accumulation, STDIN reassembly with
`body_ptr_`, keep-alive loop) computes a function of the concatenated byte stream. -/
theorem fcgi_buffer_eq_stream (lim : Limits) (conc : Bytes) (segs : Segs) :
    fcgiRun lim conc segs = fcgiFlat lim conc segs.flatten :=
  fcgiRun_eq_flat lim conc segs

/-- FastCGI: segmentation independence for every byte stream, whole keep-alive connections. -/
theorem segmentation_independent_fcgi (lim : Limits) (conc : Bytes) (segs₁ segs₂ : Segs)
    (h : segs₁.flatten = segs₂.flatten) : fcgiRun lim conc segs₁ = fcgiRun lim conc segs₂ := by
  rw [fcgiRun_eq_flat, fcgiRun_eq_flat, h]

/-- HTTP: whenever every request's header section ends within the 16 KiB cap (`httpFlatConn … = some outs`;
well-formed or not), the connection over the read-ahead buffer (`input_body_`/`input_body_ptr_`, the
generated `parser::step()` with `getc`/`ungetc`, `total_read_` accounting, body drained from the buffer
exactly once, unread bytes kept for the next keep-alive request) computes the stream-level result. -/
theorem http_buffer_eq_stream (lim : Limits) (hb : 0 < lim.bufSize) (cfg : HttpCfg) (hints : List Bool) (segs : Segs)
    (outs : List Outcome) (h : httpFlatConn cfg lim (segs.flatten.length + 2) hints segs.flatten = some outs) :
    httpRun lim cfg hints segs = outs :=
  httpRun_eq_flat cfg lim hb hints segs outs h

/-- HTTP: segmentation independence for every byte stream whose header sections fit the cap. -/
theorem segmentation_independent_http (lim : Limits) (hb : 0 < lim.bufSize) (cfg : HttpCfg) (hints : List Bool)
    (segs₁ segs₂ : Segs) (h : segs₁.flatten = segs₂.flatten)
    (hcap : (httpFlatConn cfg lim (segs₁.flatten.length + 2) hints segs₁.flatten).isSome) :
    httpRun lim cfg hints segs₁ = httpRun lim cfg hints segs₂ := by
  cases hf : httpFlatConn cfg lim (segs₁.flatten.length + 2) hints segs₁.flatten with
  | none => rw [hf] at hcap; simp at hcap
  | some outs =>
    rw [httpRun_eq_flat cfg lim hb hints segs₁ outs hf]
    rw [h] at hf
    rw [httpRun_eq_flat cfg lim hb hints segs₂ outs hf]

/-- The unrestricted statement for HTTP.  It is **false** of the code: beyond 16 KiB of header bytes
`some_headers_data_read` answers "protocol violation" or accepts, depending on where a read ends
(`total_read_` is only compared at `more_data`).  The check replays a witness pair on model and code
(`gen/corpus/C01/capdep_*.case`); no property of C01/C02 is affected (well-formed requests have header
sections of at most 16 KiB, oversized ones are either answered or closed). -/
def segmentation_independent_http_unrestricted : Prop :=
  ∀ (lim : Limits) (cfg : HttpCfg) (hints : List Bool) (segs₁ segs₂ : Segs),
    segs₁.flatten = segs₂.flatten → httpRun lim cfg hints segs₁ = httpRun lim cfg hints segs₂

/-- the three header-size limits of the front-ends, as regenerated from the source, are the 16 KiB of the
well-formedness predicates (`WFScgi.size`, FastCGI PARAMS accumulation, HTTP header section): a changed
constant in the source breaks this theorem -/
theorem limits_admit_wf :
    Gen.httpHeaderCap = 16384 ∧ Gen.httpReadCap = 16384 ∧ Gen.paramsLimit = 16384 ∧
    Gen.scgiLenBad 16384 = false ∧ Gen.scgiLenBad 16385 = true ∧ Gen.scgiFirstRead = 16 := by decide

/-- **SCGI round trip**, any segmentation: a well-formed request (`WFScgi`: C strings, header block
≤ 16384 bytes, netstring longer than the 16 eager bytes) encoded by the peer (`encScgi`: decimal length,
`:`, `name NUL value NUL`…, `,`, body) is delivered as exactly that environment (same pairs, same
order) and that body stream; the rest is the request layer's function of the two. -/
theorem scgi_roundtrip (lim : Limits) (hb : 0 < lim.bufSize) (pairs : List (Bytes × Bytes)) (body : Bytes)
    (hw : WFScgi pairs) (segs : Segs) (h : segs.flatten = encScgi pairs body) :
    scgiConn lim segs = [(reqOutcome lim (Head.ofEnv (Env.empty.addAll pairs)) body).1] := by
  rw [scgiConn_eq_flat lim hb, h]
  exact scgiFlat_roundtrip lim pairs body hw

/-- non-vacuity of `WFScgi`: a small POST request -/
example : WFScgi [([67, 79, 78, 84, 69, 78, 84, 95, 76, 69, 78, 71, 84, 72], [51]), ([83, 67, 82, 73, 80, 84, 95, 78, 65, 77, 69], [47, 115])] :=
  ⟨by decide, by decide, by decide⟩

/-- **FastCGI round trip**, any segmentation, any cut of the name-value block into PARAMS records and of the
body into STDIN records, any padding, either length encoding: a well-formed request (`WFFcgi`) is delivered
as exactly the peer's environment and body stream. -/
theorem fcgi_roundtrip (lim : Limits) (hb : 0 < lim.bufSize) (conc : Bytes) (eps : List EncPair) (body : Bytes)
    (fr : FcgiFraming) (hw : WFFcgi eps body fr) (segs : Segs) (h : segs.flatten = encFcgi fr) :
    fcgiRun lim conc segs = [(reqOutcome lim (Head.ofEnv (Env.empty.addAll (pairsOf eps))) body).1] := by
  rw [fcgiRun_eq_flat, h]
  exact fcgiFlat_roundtrip lim hb conc eps body fr hw

/-- **keep-alive sequence** (FastCGI, any segmentation): well-formed requests with `FCGI_KEEP_CONN` sent back
to back on one connection — each framed freely — are each delivered exactly, in order, as long as each is
answered by the application; the connection ends when the peer closes. -/
theorem keepalive_sequence_fcgi (lim : Limits) (hb : 0 < lim.bufSize) (conc : Bytes) (qs : List FcgiReqSpec)
    (hq : ∀ q ∈ qs, WFFcgi q.eps q.body q.fr ∧ isApp (outcomeOf lim q) = true)
    (segs : Segs) (h : segs.flatten = encSeq qs) :
    fcgiRun lim conc segs = qs.map (outcomeOf lim) ++ [.aborted .eof false false] := by
  rw [fcgiRun_eq_flat, h]
  unfold fcgiFlat
  exact fcgiConn_seq lim hb conc qs false _ hq (by omega)

/-- **SCGI and FastCGI agree**: the same environment and body sent over either front-end, however
framed and segmented, have the same fate (same application view, same error answer). -/
theorem frontends_agree_scgi_fcgi (lim : Limits) (hb : 0 < lim.bufSize) (conc : Bytes) (eps : List EncPair) (body : Bytes)
    (fr : FcgiFraming) (hwf : WFFcgi eps body fr) (hws : WFScgi (pairsOf eps))
    (segsS segsF : Segs) (hS : segsS.flatten = encScgi (pairsOf eps) body) (hF : segsF.flatten = encFcgi fr) :
    scgiConn lim segsS = fcgiRun lim conc segsF := by
  rw [scgi_roundtrip lim hb _ body hws segsS hS, fcgi_roundtrip lim hb conc eps body fr hwf segsF hF]

/-- non-vacuity of `WFFcgi`: `CONTENT_LENGTH=3`, the block in one PARAMS record (long-form value length),
the body `abc` cut into two STDIN records with padding -/
example : WFFcgi [{ name := [67, 79, 78, 84, 69, 78, 84, 95, 76, 69, 78, 71, 84, 72], value := [51], longValue := true }] [97, 98, 99]
    { rid := 1, padBegin := 0, padParamsEnd := 3, padStdinEnd := 0,
      params := [⟨encPairs [{ name := [67, 79, 78, 84, 69, 78, 84, 95, 76, 69, 78, 71, 84, 72], value := [51], longValue := true }], 5⟩],
      stdin := [⟨[97], 1⟩, ⟨[98, 99], 0⟩] } :=
  ⟨by decide, by decide, by decide, by decide, by decide, by decide, by unfold WFPieces; decide, by decide,
   by unfold WFPieces; decide, by decide, by decide⟩

/-- **HTTP header lines round trip** (over the *generated* `parser::step()`): header lines (`PlainLine`: not empty,
not starting with a blank, `Balanced` — any bytes, quoted strings `"…"` with `\c` escapes and comments `(…)` closed
within the line, no CR outside them, no backslash-escaped byte ≥ 127) written by the peer as `line CRLF … CRLF` reach the
per-header code of `some_headers_data_read` (`httpGotHeader`: request-line split / `parse_single_header`)
unchanged, one by one and in order (`feedLines`); after the empty line `process_request` runs and the body
is left unread in the buffer.  Together with `http_buffer_eq_stream` this holds for every segmentation. -/
theorem http_header_lines_roundtrip (cfg : HttpCfg) (ls : List Bytes) (r r' : HttpReq) (body : Bytes)
    (hw : ∀ l ∈ ls, PlainLine l) (hs : r.ps.state = Gen.ps_idle) (hb : r.ps.bc = 0) (hu : r.ps.under = false)
    (hg : r.ps.unget = false) (hf : feedLines r ls = some r') :
    hdrFlat cfg r (encLines ls ++ body) =
      (match httpProcess cfg { r' with ps := { r'.ps with state := Gen.ps_last_lf_exptected, rhdr := [] } } with
       | none => (.done .raw400, body)
       | some h => (.head h r'.is11, body)) := by
  rw [encLines_eq]
  refine hdrFlat_flines cfg _ r r' body ?_ hs hb hu hg (by simpa [FLine.value, Function.comp_def] using hf)
  simp only [List.mem_map]
  rintro _ ⟨l, hl, rfl⟩
  exact ⟨hw l hl, by simp⟩

/-- **HTTP folded header round trip** (obs-fold = CRLF 1*(SP / HTAB), over the generated `parser::step()`):
a header whose value is continued on lines that start with a space **or a horizontal tab** is reported with
the unfolded value in `header_` — normalisation the code really applies: the CRLF of every fold is dropped, the
blank/tab that starts the continuation line is kept (RFC 7230 would allow replacing it by one SP) — and the
look-ahead byte is pushed back.  A parser that does not treat HTAB (or SP) as a fold breaks this theorem. -/
theorem http_folded_header_roundtrip (l : FLine) (hl : WFLine l) (c : UInt8) (hc : c ≠ 32 ∧ c ≠ 9) (rest : Bytes)
    (ps : Gen.PState) (hs : ps.state = Gen.ps_idle) (hb : ps.bc = 0) (hu : ps.under = false) (hg : ps.unget = false) :
    parserRun ps (l.wire ++ 13 :: 10 :: c :: rest) =
      (Gen.pr_got_header, { ps with state := Gen.ps_idle, rhdr := (natsOf l.value).reverse }, c :: rest) :=
  parserRun_fline l hl c hc rest ps hs hb hu hg

/-- header section with folded headers (any number of folds in any number of headers; with
`http_buffer_eq_stream`: folds split across segments anywhere): every header reaches the per-header code with
its unfolded value, in order; then `process_request`, which does not look at the parser registers (the `ps` on the right
is what the parser leaves behind the empty line); the body is left unread. -/
theorem http_folded_lines_roundtrip (cfg : HttpCfg) (ls : List FLine) (r r' : HttpReq) (body : Bytes)
    (hw : ∀ l ∈ ls, WFLine l) (hs : r.ps.state = Gen.ps_idle) (hb : r.ps.bc = 0) (hu : r.ps.under = false)
    (hg : r.ps.unget = false) (hf : feedLines r (ls.map FLine.value) = some r') :
    hdrFlat cfg r (encFLines ls ++ body) =
      (match httpProcess cfg { r' with ps := { r'.ps with state := Gen.ps_last_lf_exptected, rhdr := [] } } with
       | none => (.done .raw400, body)
       | some h => (.head h r'.is11, body)) :=
  hdrFlat_flines cfg ls r r' body hw hs hb hu hg hf

/-! ## by-name lookup in the request's variable table (`string_map`)

The CGI variables are stored in an open-addressing hash table (`private/string_map.h`, the `#elif 1` variant); its
initial size, growth test and the start/step expressions of insertion and look-up are regenerated from the source
(`Gen.sm*`).  `SMap` is that table next to the abstract `Env` the rest of the model uses. -/

/-- for every hash function and every sequence of `add`s (through any number of growths) `get` answers what
the abstract environment answers: the value of the entry with that name that went into the current table
first (`add` does not look for an existing name), nothing for a name that was never added.  Breaks when
`get` does not probe the way `add` inserted (start, step or table size). -/
theorem get_after_adds (h : Bytes → Nat) (adds : List (Bytes × Bytes)) (k : Bytes) :
    (SMap.ofAdds h adds).get h k = (Env.empty.addAll adds).get? k :=
  Cppcms.C01.get_after_adds h adds k

/-- the same in terms of the `add`s alone: a name never added is not found; with pairwise different names
every variable is found by name with the value it was added with -/
theorem get_after_adds_plain (h : Bytes → Nat) (adds : List (Bytes × Bytes)) :
    (∀ k, (∀ e ∈ adds, e.1 ≠ k) → (SMap.ofAdds h adds).get h k = none) ∧
    ((∀ a ∈ adds, ∀ b ∈ adds, a.1 = b.1 → a = b) →
      ∀ k v, (k, v) ∈ adds → (SMap.ofAdds h adds).get h k = some v) :=
  ⟨fun k hk => get_absent h adds k hk, fun hd k v hkv => get_distinct h adds k v hd hkv⟩

/-- the table the model carries is the abstract environment of the rest of the model -/
theorem smap_env (h : Bytes → Nat) (adds : List (Bytes × Bytes)) :
    (SMap.ofAdds h adds).env = Env.empty.addAll adds := (sinv_ofAdds h adds).2

set_option maxRecDepth 100000 in
/-- non-vacuity: 40 variables whose hashes all collide, two growths, every one found -/
example : (List.range 40).all (fun i =>
    (SMap.ofAdds (fun _ => 7) ((List.range 40).map (fun j => ([j.toUInt8], [j.toUInt8, 1])))).get (fun _ => 7) [i.toUInt8]
      == some [i.toUInt8, 1]) = true := by
  simp only [List.all_eq_true, beq_iff_eq]
  intro i hi
  refine (get_after_adds_plain _ _).2 ?_ _ _ (List.mem_map.2 ⟨i, hi, rfl⟩)
  simp only [List.mem_map, List.mem_range]
  rintro _ ⟨a, ha, rfl⟩ _ ⟨b, hb, rfl⟩ h
  have : a.toUInt8.toNat = b.toUInt8.toNat := by rw [(List.cons.inj h).1]
  simp only [Nat.toUInt8, UInt8.toNat_ofNat'] at this
  have : a = b := by omega
  rw [this]

/-! ## HTTP at request level, the request layer's parsers

`HttpPeer` is the peer's view of an HTTP request head, every choice the peer has being a parameter (percent-encoding
piece by piece, spelling of the field names, blanks after the colon).  `HttpPeer.head cfg q` is what the peer means: the
CGI environment in the order the embedded server builds it (canonical names, `HTTP_` prefix, `CONTENT_TYPE` /
`CONTENT_LENGTH` unprefixed, `REQUEST_METHOD`, `REMOTE_*`, `QUERY_STRING`, `SCRIPT_NAME`, decoded `PATH_INFO`) and the
five values the request layer asks the front-end for. -/

/-- `util::urldecode` inverts every percent-encoding (upper/lower case digits, `+` or `%20` for a blank, any set
of escaped bytes as long as `%` and `+` themselves are escaped) -/
theorem urldecode_inverts_percent_encoding (ps : List PctPiece) (h : ∀ p ∈ ps, p.ok) :
    urldecode (pctWire ps) = pctValue ps :=
  urldecode_pct ps h

/-- `request::parse_form_urlencoded` round trip: for every list of fields (non-empty names; `&`, `=` escaped in
names, `&` in values; any admissible encoding) the form holds the fields the peer meant, in order -/
theorem parse_form_urlencoded_roundtrip (fs : List FormField) (hfs : ∀ f ∈ fs, f.ok) (fuel : Nat) (hf : fs.length ≤ fuel) :
    parseForm fuel (encForm fs) [] = (true, fs.map FormField.meant) := by
  have := parseForm_roundtrip fs hfs fuel [] hf
  simpa using this

/-- `request::parse_cookies` round trip: every list of cookies with token names (not starting with `$`) and values
sent as tokens (possibly empty) or as quoted strings (any bytes; `"` and `\` with a backslash, any other byte with
or without), separated by `;` or `,` and any blanks/tabs, is delivered as the map the peer meant (first one wins
for a repeated name) -/
theorem parse_cookies_roundtrip (cs : List CookieItem) (hcs : ∀ c ∈ cs, c.ok) :
    parseCookies (encCookies cs) = cookiesMeant [] cs :=
  parseCookies_roundtrip cs hcs

/-- HTTP request head through the per-line code: request line split (method / URI / protocol), every header field
through `parse_single_header` (canonical name, blanks after the colon dropped), then `process_request` (method
token check, `?` split, script-name match, percent-decoding of the path): exactly `HttpPeer.head`; `process_request` does
not look at the parser registers, hence `∀ ps`. -/
theorem http_head_roundtrip (cfg : HttpCfg) (q : HttpPeer) (hq : q.ok cfg) :
    ∃ r', feedLines { env := httpEnv0 cfg } q.lines = some r' ∧ r'.is11 = (q.proto == bs Gen.http11) ∧
      ∀ ps, httpProcess cfg { r' with ps := ps } = some (q.head cfg) :=
  Cppcms.C01.http_head_roundtrip cfg q hq

/-- **HTTP round trip** (`http_roundtrip` of DESIGN.md): a well-formed request, its header lines folded any way the
peer likes (`HttpWire`: obs-fold with SP or HTAB anywhere a `WFLine` allows, header section within the 16 KiB
the server accepts), followed by its body, cut into segments **anywhere**: the request layer gets exactly the
head the peer meant and the body stream; what the application then observes is `reqOutcome` of those, the same
function the SCGI and FastCGI round trips end in.  `hclose`: the connection is not kept alive after this request
(`keepalive_sequence_http` is the other case). -/
theorem http_roundtrip (cfg : HttpCfg) (lim : Limits) (hb : 0 < lim.bufSize) (q : HttpPeer) (hq : q.ok cfg)
    (ls : List FLine) (hw : HttpWire q ls) (body : Bytes) (hints : List Bool) (segs : Segs)
    (hseg : segs.flatten = encFLines ls ++ body)
    (hclose : (isApp (reqOutcome lim (q.head cfg) body).1 &&
      httpKeep (q.head cfg) (q.proto == bs Gen.http11) (hints.headD true)) = false) :
    httpRun lim cfg hints segs = [(reqOutcome lim (q.head cfg) body).1] := by
  apply httpRun_eq_flat cfg lim hb
  rw [hseg, httpFlatConn_step cfg lim q hq ls hw body]
  simp only [hclose, Bool.false_eq_true, if_false]

/-- the embedded server's 16 KiB budget for a header section (`total_read_`) is **per request**: whatever the previous
requests of a kept-alive connection made it count, the header phase of the next request starts at 0
(`Gen.httpTotalReadResetPerRequest`: regenerated from the assignments to `total_read_` in `async_read_headers` /
`reset_all`; `httpConn` carries the counter from request to request).  `keepalive_sequence_http`,
`http_buffer_eq_stream` rest on it. -/
theorem http_header_budget_per_request (cfg : HttpCfg) (t0 : Nat) (st : HttpSt) : httpNextTotal cfg t0 st = 0 :=
  httpNextTotal_zero cfg t0 st

/-- **HTTP keep-alive sequence**: well-formed requests sent back to back on one connection (each with its own
folding, `Content-Length` = length of its body, answered by the application, `Connection: keep-alive` honoured),
cut into segments anywhere — e.g. the end of one request and the start of the next in one segment — are each
delivered exactly, in order; the connection ends when the peer closes. -/
theorem keepalive_sequence_http (cfg : HttpCfg) (lim : Limits) (hb : 0 < lim.bufSize) (xs : List HttpItem)
    (hok : ∀ x ∈ xs, x.ok cfg lim) (hints : List Bool) (segs : Segs) (hseg : segs.flatten = encHttpSeq xs) :
    httpRun lim cfg hints segs = xs.map (HttpItem.outcome cfg lim) ++ [.aborted .eof false false] := by
  have := length_le_flatMap HttpItem.wire xs (fun x _ => by simp [HttpItem.wire, encFLines])
  apply httpRun_eq_flat cfg lim hb
  rw [hseg]
  exact httpFlatConn_seq cfg lim xs _ hints hok (by rw [encHttpSeq]; omega)

/-- **all three front-ends agree**: the request `q` over the embedded HTTP server (any folding, any segmentation),
and the CGI variables the embedded server derives from it (`HttpPeer.envPairs`, no name twice) sent by a gateway
over SCGI and over FastCGI (any record framing, padding, length encoding, segmentation), with the same body, have
the same fate: same application view or same error answer. -/
theorem frontends_agree_http (cfg : HttpCfg) (lim : Limits) (hb : 0 < lim.bufSize) (q : HttpPeer) (hq : q.ok cfg)
    (ls : List FLine) (hw : HttpWire q ls) (body : Bytes) (hints : List Bool)
    (hd : Distinct (q.envPairs cfg))
    (hclose : (isApp (reqOutcome lim (q.head cfg) body).1 &&
      httpKeep (q.head cfg) (q.proto == bs Gen.http11) (hints.headD true)) = false)
    (conc : Bytes) (eps : List EncPair) (fr : FcgiFraming) (hpairs : pairsOf eps = q.envPairs cfg)
    (hwf : WFFcgi eps body fr) (hws : WFScgi (pairsOf eps))
    (segsH segsS segsF : Segs) (hH : segsH.flatten = encFLines ls ++ body)
    (hS : segsS.flatten = encScgi (pairsOf eps) body) (hF : segsF.flatten = encFcgi fr) :
    httpRun lim cfg hints segsH = scgiConn lim segsS ∧ scgiConn lim segsS = fcgiRun lim conc segsF := by
  rw [http_roundtrip cfg lim hb q hq ls hw body hints segsH hH hclose,
    scgi_roundtrip lim hb _ body hws segsS hS, fcgi_roundtrip lim hb conc eps body fr hwf segsF hF, hpairs,
    head_ofEnv_http cfg q hd]
  exact ⟨rfl, rfl⟩

/-- from the head to the application's view, GET: query string and cookie header written by the peer-side encoders,
no content — the application (any of the three front-ends: `reqOutcome` is what all round trips end in) gets exactly
those GET fields (multimap order) and cookies -/
theorem view_roundtrip_get (lim : Limits) (h : Head) (gs : List FormField) (hgs : ∀ f ∈ gs, f.ok)
    (cs : List CookieItem) (hcs : ∀ c ∈ cs, c.ok) (hq : h.queryString = encForm gs)
    (hck : h.env.getSafe sHTTP_COOKIE = encCookies cs) (hcl : h.contentLength = 0) (rest : Bytes) :
    reqOutcome lim h rest =
      (.app (kindOf h.scriptName) false (viewOf h (gs.map FormField.meant) [] (cookiesMeant [] cs) []), rest) :=
  Cppcms.C01.view_roundtrip_get lim h gs hgs cs hcs hq hck hcl rest

/-- POST with an `application/x-www-form-urlencoded` body written by the peer-side encoder: GET fields, cookies, POST
fields and the raw body as the peer meant them; exactly the body is consumed.  Needs no content filter, a non-empty
body within `contentLimit`, the limit (`hlim2`) inside what `post_data.resize` accepts. -/
theorem view_roundtrip_post (lim : Limits) (h : Head) (gs : List FormField) (hgs : ∀ f ∈ gs, f.ok)
    (cs : List CookieItem) (hcs : ∀ c ∈ cs, c.ok) (ps : List FormField) (hps : ∀ f ∈ ps, f.ok)
    (hq : h.queryString = encForm gs) (hck : h.env.getSafe sHTTP_COOKIE = encCookies cs)
    (hct : h.contentType = mtFormUrlencoded) (hne : encForm ps ≠ [])
    (hcl : h.contentLength = ((encForm ps).length : Int)) (hlim : (encForm ps).length ≤ lim.contentLimit)
    (hlim2 : (lim.contentLimit : Int) < 2 ^ 62) (hk : kindOf h.scriptName ≠ .filter) (rest : Bytes) :
    reqOutcome lim h (encForm ps ++ rest) =
      (.app (kindOf h.scriptName) false
        (viewOf h (gs.map FormField.meant) (ps.map FormField.meant) (cookiesMeant [] cs) (encForm ps)), rest) := by
  have hpos := List.length_pos_iff.2 hne
  have hkf : (kindOf h.scriptName == Kind.filter) = false := by simpa using hk
  have hmp : (mtFormUrlencoded == mtMultipart) = false := by decide
  have hcs0 : Gen.contentStartEarly ((encForm ps).length : Int) = none := by
    simp only [Gen.contentStartEarly, beq_iff_eq, decide_eq_true_eq]
    rw [if_neg (by omega), if_neg (by omega)]
  have hvr : vecResizeOk ((encForm ps).length : Int) = true := by
    simp only [vecResizeOk, Bool.and_eq_true, decide_eq_true_eq]
    constructor <;> omega
  have hgt : ¬ (((encForm ps).length : Int) > (lim.contentLimit : Int)) := by omega
  have hle : ¬ (((encForm ps).length : Int) ≤ 0) := by omega
  unfold reqOutcome requestPlan
  -- `request::prepare`: query string and cookie header parse to what the peer meant
  simp only [hq, parseForm_enc gs hgs, show h.env.getSafe [72, 84, 84, 80, 95, 67, 79, 79, 75, 73, 69] = encCookies cs from hck,
    parseCookies_roundtrip cs hcs]
  -- every guard of the plan is decided: no content filter, a positive length within the limit, urlencoded: read it all
  simp only [hcl, hct, hkf, hcs0, mediaType_urlencoded, hmp, hvr, hgt, hle, Bool.false_and, Bool.false_eq_true, if_false,
    Bool.not_true, Bool.and_false, Bool.not_false, Bool.true_and, decide_false, beq_self_eq_true, if_true]
  -- the content phase takes exactly the body off the stream, and the body parses to the fields the peer meant
  simp only [Int.toNat_natCast, contentFlat, List.length_append, Nat.le_add_right, List.take_left, List.drop_left,
    parseForm_enc ps hps, if_true]
  simp [viewOf]

/-- **end to end over HTTP**: a well-formed GET request
whose query string and `Cookie` field the peer wrote with the encoders above, header lines folded any way, cut into
segments anywhere, on a connection that is not kept alive: the application runs once, on exactly this view. -/
theorem http_get_end_to_end (cfg : HttpCfg) (lim : Limits) (hb : 0 < lim.bufSize) (q : HttpPeer) (hq : q.ok cfg)
    (ls : List FLine) (hw : HttpWire q ls) (hints : List Bool) (segs : Segs) (hseg : segs.flatten = encFLines ls)
    (gs : List FormField) (hgs : ∀ f ∈ gs, f.ok) (cs : List CookieItem) (hcs : ∀ c ∈ cs, c.ok)
    (hquery : q.query.getD [] = encForm gs) (hck : (q.head cfg).env.getSafe sHTTP_COOKIE = encCookies cs)
    (hcl : (q.head cfg).contentLength = 0)
    (hclose : httpKeep (q.head cfg) (q.proto == bs Gen.http11) (hints.headD true) = false) :
    httpRun lim cfg hints segs =
      [.app (kindOf q.script) false (viewOf (q.head cfg) (gs.map FormField.meant) [] (cookiesMeant [] cs) [])] := by
  have hv := view_roundtrip_get lim (q.head cfg) gs hgs cs hcs hquery hck hcl []
  have := http_roundtrip cfg lim hb q hq ls hw [] hints segs (by simpa using hseg) (by rw [hv, hclose]; simp)
  rw [this, hv]
  rfl

/-- non-vacuity: `GET /s/a%2Fb+c?x=1 HTTP/1.1` with `Host: h` and a folded `X-Y:` field, default configuration -/
example : ∃ (q : HttpPeer) (ls : List FLine),
    q.ok { software := [], serverName := [], port := [], remote := [] } ∧ HttpWire q ls ∧ ls.length = 3 :=
  ⟨{ method := [71, 69, 84], script := [47, 115],
     path := [.lit 47, .lit 97, .esc 47 false true, .lit 98, .plus, .lit 99], query := some [120, 61, 49],
     proto := [72, 84, 84, 80, 47, 49, 46, 49],
     fields := [{ name := [72, 111, 115, 116], ws := [32], value := [104] },
                { name := [88, 45, 89], ws := [], value := [49, 44, 9, 50] }] },
   [{ head := [71, 69, 84, 32, 47, 115, 47, 97, 37, 50, 70, 98, 43, 99, 63, 120, 61, 49, 32, 72, 84, 84, 80, 47, 49, 46, 49] },
    { head := [72, 111, 115, 116, 58, 32, 104] },
    { head := [88, 45, 89, 58, 49, 44], tail := [[9, 50]] }],
   HttpPeer.okB_sound (by decide), wireB_sound (by decide), rfl⟩

/-- non-vacuity of `FormField.ok` / `CookieItem.ok` (through its sound executable version): `a%20b=1&c=` and
`sid=abc; t=; q="a\" \b"` -/
example : (∀ f ∈ [({ name := [.lit 97, .esc 32 false false, .lit 98], value := [.lit 49] } : FormField),
                  { name := [.lit 99], value := [] }], f.ok) ∧
    (∀ c ∈ [({ name := [115, 105, 100], value := [97, 98, 99] } : CookieItem), { name := [116], value := [] },
            { name := [113], value := [97, 34, 32, 98], esc := some [false, true, false, true] }], c.ok) :=
  ⟨fun _ hf => FormField.okB_sound (List.all_eq_true.1 (by decide) _ hf),
   fun _ hc => CookieItem.okB_sound (List.all_eq_true.1 (by decide) _ hc)⟩

/-- non-vacuity of `WFLine`: `A: x,` CRLF HTAB `y` CRLF SP `z` (a TAB fold and a SP fold) -/
example : WFLine { head := [65, 58, 32, 120, 44], tail := [[9, 121], [32, 122]] } :=
  ⟨plainLineB_sound (by decide), fun _ hp => contPieceB_sound (List.all_eq_true.1 (by decide) _ hp)⟩

/-- non-vacuity of `PlainLine` with a quoted string and a comment: `X: "a\"b; c" (d\)e)` -/
example : PlainLine [88, 58, 32, 34, 97, 92, 34, 98, 59, 32, 99, 34, 32, 40, 100, 92, 41, 101, 41] :=
  ⟨by decide, by decide, by decide⟩

/-- non-vacuity of `PlainLine`: `GET / H` -/
example : PlainLine [71, 69, 84, 32, 47, 32, 72] := ⟨by decide, by decide, by decide⟩

/-- non-vacuity: different segmentations of the same stream exist -/
example : ([[1, 2], [3]] : Segs).flatten = ([[1], [], [2, 3]] : Segs).flatten := by decide

end Cppcms.C01.Props
