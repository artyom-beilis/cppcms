import Cppcms.C01.Scgi
import Cppcms.C01.RequestStream
/-! SCGI: the buffer-level connection model equals a function of the concatenated stream. -/
namespace Cppcms.C01
open Cppcms

/-- SCGI connection over a plain byte stream (no segmentation, no buffers) -/
def scgiFlat (lim : Limits) (s : Bytes) : List Outcome :=
  if s.length < Gen.scgiFirstRead then [.aborted .eof false false]
  else match scgiOnFirstRead (s.take Gen.scgiFirstRead) with
  | .bad e => [.aborted e false false]
  | .crash w => [.crash w]
  | .more sep size =>
    if s.length < size then [.aborted .eof false false]
    else match scgiOnHeaders (s.take size) sep with
    | .error o => [o]
    | .ok env => [(reqOutcome lim (Head.ofEnv env) (s.drop size)).1]

/-- `on_first_read` reaches an undefined operation only on fewer than the 16 bytes it is always given; when it
continues, the separator is among them and the header block ends behind what was read -/
theorem scgiOnFirstRead_cases (buf : Bytes) :
    match scgiOnFirstRead buf with
    | .bad _ => True
    | .crash _ => buf.length < Gen.scgiFirstRead
    | .more sep size => sep < Gen.scgiFirstRead ∧ buf.length < size := by
  unfold scgiOnFirstRead
  extract_lets n sep len newSize
  by_cases hsep : Gen.scgiSepBad sep = true
  · rw [if_pos hsep]; trivial
  rw [if_neg hsep]
  have hs : sep < Gen.scgiFirstRead := by simpa [Gen.scgiSepBad, Gen.scgiFirstRead] using hsep
  by_cases hn : sep ≥ n
  · rw [if_pos hn]; exact Nat.lt_of_le_of_lt hn hs
  rw [if_neg hn]
  by_cases hlen : Gen.scgiLenBad len = true
  · rw [if_pos hlen]; trivial
  rw [if_neg hlen]
  have hl : 0 ≤ len ∧ len ≤ 16384 := by simpa [Gen.scgiLenBad] using hlen
  have hok : vecResizeOk newSize = true := by
    simp only [Gen.scgiFirstRead] at hs
    simp only [newSize, vecResizeOk, Gen.scgiNewSize, Bool.and_eq_true, decide_eq_true_eq]
    omega
  rw [hok]
  by_cases hts : Gen.scgiTooShort newSize.toNat n = true
  · simp only [Bool.not_true, Bool.false_eq_true, if_false, if_pos hts]
  · simp only [Bool.not_true, Bool.false_eq_true, if_false, if_neg hts]
    refine ⟨hs, ?_⟩
    simpa [Gen.scgiTooShort] using hts

theorem scgiConn_eq_flat (lim : Limits) (hb : 0 < lim.bufSize) (segs : Segs) :
    scgiConn lim segs = scgiFlat lim segs.flatten := by
  unfold scgiConn scgiFlat
  obtain ⟨segs1, h1, r1⟩ := readExact_spec Gen.scgiFirstRead segs
  rw [h1]
  generalize segs.flatten = s at r1 ⊢
  simp only
  by_cases hlen : Gen.scgiFirstRead ≤ s.length
  · have hl16 : (s.take Gen.scgiFirstRead).length = Gen.scgiFirstRead := by rw [List.length_take]; omega
    simp only [hlen, Nat.not_lt.mpr hlen, decide_true, Bool.not_true, Bool.false_eq_true, if_false]
    cases hf : scgiOnFirstRead (s.take Gen.scgiFirstRead) with
    | bad e => rfl
    | crash w => rfl
    | more sep size =>
      have hsz := scgiOnFirstRead_cases (s.take Gen.scgiFirstRead)
      rw [hf, hl16] at hsz
      obtain ⟨segs2, h2, r2⟩ := readExact_spec (size - Gen.scgiFirstRead) segs1
      simp only [hl16, h2, r1 hlen, List.length_drop]
      by_cases hlen2 : size ≤ s.length
      · have hd : size - Gen.scgiFirstRead ≤ s.length - Gen.scgiFirstRead := by omega
        have hcat : s.take Gen.scgiFirstRead ++ (s.drop Gen.scgiFirstRead).take (size - Gen.scgiFirstRead) = s.take size := by
          rw [← List.take_add]; congr 1; omega
        simp only [hd, Nat.not_lt.mpr hlen2, decide_true, Bool.not_true, Bool.false_eq_true, if_false, hcat]
        cases scgiOnHeaders (s.take size) sep with
        | error o => rfl
        | ok env =>
          simp only
          rw [(runRequest_reads sockRead_stream.readsView lim hb (Head.ofEnv env) segs2 trivial (.inl rfl)).1, r2 (by rw [r1 hlen, List.length_drop]; exact hd),
            r1 hlen, List.drop_drop, show Gen.scgiFirstRead + (size - Gen.scgiFirstRead) = size by omega]
      · have hd : ¬ size - Gen.scgiFirstRead ≤ s.length - Gen.scgiFirstRead := by omega
        simp only [hd, Nat.lt_of_not_le hlen2, decide_false, Bool.not_false, if_true]
  · simp only [hlen, Nat.lt_of_not_le hlen, decide_false, Bool.not_false, if_true]

end Cppcms.C01
