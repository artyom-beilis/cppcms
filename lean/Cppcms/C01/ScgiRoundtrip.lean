import Cppcms.C01.ScgiProofs
import Cppcms.C01.Decode
import Cppcms.Lib.Bytes
/-! SCGI round trip: the netstring a peer builds from (pairs, body) is decoded to exactly that
environment and that body stream. -/
namespace Cppcms.C01
open Cppcms

/-- decimal digits of `n`, least significant first (`fuel` ≥ number of digits) -/
def decRev : Nat → Nat → Bytes
  | 0, _ => []
  | f + 1, n => if n < 10 then [UInt8.ofNat (48 + n)] else UInt8.ofNat (48 + n % 10) :: decRev f (n / 10)

/-- the peer's decimal; the judge has its own (`Spec.decimal`, by `toString`) -/
def decimal (n : Nat) : Bytes := (decRev (n + 1) n).reverse

def IsDigit (d : UInt8) : Prop := 48 ≤ d.toNat ∧ d.toNat ≤ 57

theorem isDigit_ofNat (k : Nat) (hk : k < 10) : IsDigit (UInt8.ofNat (48 + k)) := by
  rw [IsDigit, toNat_ofNat_lt _ (by omega)]; omega

theorem IsDigit.cdigit {d : UInt8} (h : IsDigit d) : isCDigit d = true := by
  simp only [isCDigit, UInt8.le_iff_toNat_le, Bool.and_eq_true, decide_eq_true_eq]
  exact h

/-- none of the bytes that mean something to the netstring scanner (`:`), to `strlen` (NUL) or to `atoi` (blanks, signs) -/
structure NoMeaning (d : UInt8) : Prop where
  ne_colon : d ≠ 58
  ne_nul : d ≠ 0
  not_space : isCSpace d = false
  ne_minus : d ≠ 45
  ne_plus : d ≠ 43

theorem IsDigit.noMeaning {d : UInt8} (h : IsDigit d) : NoMeaning d := by
  have hne : ∀ k : UInt8, (k.toNat < 48 ∨ 57 < k.toNat) → d ≠ k := fun k hk e => by rw [e] at h; have := h.1; have := h.2; omega
  refine ⟨hne _ (by decide), hne _ (by decide), ?_, hne _ (by decide), hne _ (by decide)⟩
  simp only [isCSpace, Bool.or_eq_false_iff, beq_eq_false_iff_ne, Bool.and_eq_false_iff, decide_eq_false_iff_not,
    UInt8.le_iff_toNat_le, Nat.not_le]
  exact ⟨hne _ (by decide), Or.inr (by have := h.1; show 13 < d.toNat; omega)⟩

theorem decRev_digits (f n : Nat) : ∀ d ∈ decRev f n, IsDigit d := by
  induction f generalizing n with
  | zero => intro d hd; cases hd
  | succ f ih =>
    intro d hd
    rw [decRev] at hd
    split at hd
    · rw [List.mem_singleton.1 hd]; exact isDigit_ofNat n (by omega)
    · rcases List.mem_cons.1 hd with rfl | hd
      · exact isDigit_ofNat _ (Nat.mod_lt _ (by decide))
      · exact ih _ d hd

theorem decRev_len (f n k : Nat) (hk : 0 < k) (h : n < 10 ^ k) : (decRev f n).length ≤ k := by
  induction f generalizing n k with
  | zero => exact Nat.zero_le _
  | succ f ih =>
    rw [decRev]
    split
    · exact hk
    · obtain ⟨k, rfl⟩ : ∃ j, k = j + 1 := ⟨k - 1, by omega⟩
      rw [Nat.pow_succ] at h
      have hk0 : 0 < k := Nat.pos_of_ne_zero (fun h0 => by subst h0; omega)
      exact Nat.succ_le_succ (ih (n / 10) k hk0 (by omega))

theorem digitsVal_append (a b : Bytes) (acc : Nat) (ha : ∀ d ∈ a, isCDigit d = true) :
    digitsVal (a ++ b) acc = digitsVal b (digitsVal a acc) := by
  induction a generalizing acc with
  | nil => rfl
  | cons d t ih =>
    simp only [List.cons_append, digitsVal, ha d (by simp), if_true]
    exact ih _ (fun x hx => ha x (by simp [hx]))

theorem digitsVal_decRev (f n : Nat) (h : n < 10 ^ f) : digitsVal (decRev f n).reverse 0 = n := by
  induction f generalizing n with
  | zero => rw [Nat.pow_zero, Nat.lt_one_iff] at h; rw [h]; rfl
  | succ f ih =>
    have hone : ∀ k acc, k < 10 → digitsVal [UInt8.ofNat (48 + k)] acc = acc * 10 + k := fun k acc hk => by
      simp only [digitsVal, (isDigit_ofNat k hk).cdigit, if_true, toNat_ofNat_lt (48 + k) (by omega)]
      omega
    rw [decRev]
    split
    · rw [List.reverse_singleton, hone n 0 (by omega), Nat.zero_mul, Nat.zero_add]
    · rw [List.reverse_cons, digitsVal_append _ _ _ (fun d hd => (decRev_digits f _ d (List.mem_reverse.1 hd)).cdigit),
        ih (n / 10) (by rw [Nat.pow_succ] at h; omega), hone _ _ (Nat.mod_lt _ (by decide))]
      omega

theorem lt_pow_succ (n : Nat) : n < 10 ^ (n + 1) := by
  induction n with
  | zero => decide
  | succ n ih => rw [Nat.pow_succ]; omega

theorem decimal_digits (n : Nat) : ∀ d ∈ decimal n, IsDigit d :=
  fun d hd => decRev_digits _ _ d (List.mem_reverse.1 hd)

theorem strtolRaw_decimal (n : Nat) : strtolRaw (decimal n) = n := by
  have hval : digitsVal (decimal n) 0 = n := digitsVal_decRev _ _ (lt_pow_succ n)
  rw [strtolRaw]
  cases hr : decimal n with
  | nil => rw [hr] at hval; exact congrArg Int.ofNat hval
  | cons c t =>
    -- no leading blanks, no sign
    have hc := (decimal_digits n c (by rw [hr]; simp)).noMeaning
    rw [hr] at hval
    simp only [List.dropWhile_cons, hc.not_space, Bool.false_eq_true, if_false]
    split
    · rename_i heq; exact absurd (List.cons.inj heq).1 hc.ne_minus
    · rename_i heq; exact absurd (List.cons.inj heq).1 hc.ne_plus
    · rw [hval]

theorem atoi_decimal (n : Nat) (h : n ≤ 16384) : atoi (decimal n) = n := by
  unfold atoi atoll clampInt toInt32
  rw [strtolRaw_decimal]
  have h1 : ¬ ((n : Int) < -(2 ^ 63)) := by omega
  have h2 : ¬ ((n : Int) > 2 ^ 63 - 1) := by omega
  simp only [h1, h2, if_false]
  omega

theorem decimal_len (n : Nat) (h : n ≤ 16384) : (decimal n).length ≤ 5 := by
  rw [decimal, List.length_reverse]
  exact decRev_len _ _ 5 (by decide) (by omega)

def scgiBlock (pairs : List (Bytes × Bytes)) : Bytes := pairs.flatMap fun kv => kv.1 ++ [0] ++ kv.2 ++ [0]

def encScgi (pairs : List (Bytes × Bytes)) (body : Bytes) : Bytes :=
  decimal (scgiBlock pairs).length ++ [58] ++ scgiBlock pairs ++ [44] ++ body

/-- well-formed SCGI request: C strings, header block within the 16 KiB limit, netstring longer than
the 16 bytes read eagerly (true of every real request: `CONTENT_LENGTH` alone takes 15) -/
structure WFScgi (pairs : List (Bytes × Bytes)) : Prop where
  nonul : ∀ kv ∈ pairs, 0 ∉ kv.1 ∧ 0 ∉ kv.2
  size : (scgiBlock pairs).length ≤ 16384
  long : 16 < (decimal (scgiBlock pairs).length).length + 2 + (scgiBlock pairs).length

theorem scgiBlock_len (pairs : List (Bytes × Bytes)) : pairs.length ≤ (scgiBlock pairs).length :=
  length_le_flatMap _ pairs (fun kv _ => by simp)

theorem scgiWalk_block (pairs : List (Bytes × Bytes)) (hn : ∀ kv ∈ pairs, 0 ∉ kv.1 ∧ 0 ∉ kv.2) :
    ∀ (fuel : Nat) (env : Env), pairs.length < fuel → scgiWalk fuel (scgiBlock pairs ++ [0]) env = some (env.addAll pairs) := by
  induction pairs with
  | nil =>
    intro fuel env hf
    obtain ⟨f, rfl⟩ : ∃ f, fuel = f + 1 := ⟨fuel - 1, by simp at hf; omega⟩
    rfl
  | cons kv ps ih =>
    intro fuel env hf
    obtain ⟨f, rfl⟩ : ∃ f, fuel = f + 1 := ⟨fuel - 1, by omega⟩
    obtain ⟨k, v⟩ := kv
    obtain ⟨hk, hv⟩ := hn (k, v) (by simp)
    have hshape : scgiBlock ((k, v) :: ps) ++ [0] = k ++ 0 :: (v ++ 0 :: (scgiBlock ps ++ [0])) := by
      simp [scgiBlock]
    have h1 : ¬ ((k ++ 0 :: (v ++ 0 :: (scgiBlock ps ++ [0]))).length ≤ 1) := by simp; omega
    have h2 : ¬ ((v ++ 0 :: (scgiBlock ps ++ [0])).length ≤ 1) := by simp; omega
    rw [hshape, scgiWalk]
    simp only [h1, h2, cstr_append_nul _ _ hk, cstr_append_nul _ _ hv, drop_length_succ, List.contains_append, List.contains_cons,
      beq_self_eq_true, Bool.true_or, Bool.or_true, Bool.not_true, Bool.false_eq_true, if_false]
    exact ih (fun kv h => hn kv (by simp [h])) f (env.add k v) (by simpa using hf)

theorem scgiOnFirstRead_enc (n : Nat) (tail : Bytes) (hn : n ≤ 16384)
    (hlong : 16 < (decimal n).length + 2 + n) (hlen : Gen.scgiFirstRead ≤ (decimal n ++ 58 :: tail).length) :
    scgiOnFirstRead ((decimal n ++ 58 :: tail).take Gen.scgiFirstRead) =
      .more (decimal n).length ((decimal n).length + 2 + n) := by
  have hdl := decimal_len n hn
  have hdig := decimal_digits n
  generalize hd : decimal n = d at *
  -- the 16 bytes read eagerly, then one fact per guard of `scgiOnFirstRead`, in its order
  have hbuf : (d ++ 58 :: tail).take Gen.scgiFirstRead = d ++ 58 :: tail.take (15 - d.length) := by
    rw [List.take_append, List.take_of_length_le (by simp only [Gen.scgiFirstRead]; omega),
      show Gen.scgiFirstRead - d.length = (15 - d.length) + 1 by simp only [Gen.scgiFirstRead]; omega, List.take_succ_cons]
  have hbl : (d ++ 58 :: tail.take (15 - d.length)).length = 16 := by
    rw [← hbuf, List.length_take, Nat.min_eq_left hlen]; rfl
  have htw : (d ++ 58 :: tail.take (15 - d.length)).takeWhile (· != UInt8.ofNat Gen.scgiSepChar) = d := by
    rw [List.takeWhile_append_of_pos (fun x hx => by simpa [Gen.scgiSepChar] using (hdig x hx).noMeaning.ne_colon),
      List.takeWhile_cons_of_neg (by simp [Gen.scgiSepChar]), List.append_nil]
  have hsb : Gen.scgiSepBad d.length = false := by simp only [Gen.scgiSepBad, decide_eq_false_iff_not]; omega
  have hat : atoi (cstr d) = (n : Int) := by
    rw [cstr_of_nonul d (fun h0 => (hdig 0 h0).noMeaning.ne_nul rfl), ← hd]; exact atoi_decimal n hn
  have hlb : Gen.scgiLenBad (n : Int) = false := by simp [Gen.scgiLenBad]; omega
  have hns : Gen.scgiNewSize (d.length : Nat) (n : Int) = ((d.length + 2 + n : Nat) : Int) := by simp [Gen.scgiNewSize]
  have hvr : vecResizeOk ((d.length + 2 + n : Nat) : Int) = true := by
    simp only [vecResizeOk, Bool.and_eq_true, decide_eq_true_eq]; omega
  have hts : Gen.scgiTooShort (d.length + 2 + n) 16 = false := by simp [Gen.scgiTooShort]; omega
  rw [hbuf, scgiOnFirstRead]
  simp only [htw, hbl, hsb, List.take_left, hat, hlb, hns, hvr, hts, Bool.false_eq_true, if_false, Bool.not_true,
    Int.toNat_natCast, show ¬ d.length ≥ 16 by omega]

theorem scgiOnHeaders_enc (d : Bytes) (pairs : List (Bytes × Bytes)) (hn : ∀ kv ∈ pairs, 0 ∉ kv.1 ∧ 0 ∉ kv.2) :
    scgiOnHeaders (d ++ 58 :: (scgiBlock pairs ++ [44])) d.length = .ok (Env.empty.addAll pairs) := by
  have hsnoc : d ++ 58 :: (scgiBlock pairs ++ [44]) = (d ++ 58 :: scgiBlock pairs) ++ [44] := by simp
  have hl := scgiBlock_len pairs
  rw [scgiOnHeaders, hsnoc, List.getLast?_concat, List.dropLast_concat]
  simp only [show ((44 : UInt8) != UInt8.ofNat Gen.scgiTermChar) = false by decide, Bool.false_eq_true, if_false,
    show Gen.scgiNulTerminated = true by decide, if_true, List.append_assoc, List.cons_append]
  rw [if_neg (by simp only [List.length_append, List.length_cons]; omega), drop_length_succ,
    scgiWalk_block pairs hn _ _ (by simp only [List.length_append, List.length_cons]; omega)]

theorem scgiFlat_roundtrip (lim : Limits) (pairs : List (Bytes × Bytes)) (body : Bytes) (hw : WFScgi pairs) :
    scgiFlat lim (encScgi pairs body) = [(reqOutcome lim (Head.ofEnv (Env.empty.addAll pairs)) body).1] := by
  obtain ⟨hn, hsize, hlong⟩ := hw
  generalize hd : decimal (scgiBlock pairs).length = d at hlong
  have hs : encScgi pairs body = (d ++ 58 :: (scgiBlock pairs ++ [44])) ++ body := by simp [encScgi, hd]
  have hl : (d ++ 58 :: (scgiBlock pairs ++ [44])).length = d.length + 2 + (scgiBlock pairs).length := by simp; omega
  have h16 : ¬ ((d ++ 58 :: (scgiBlock pairs ++ [44]) ++ body).length < Gen.scgiFirstRead) := by
    rw [List.length_append, hl]; simp only [Gen.scgiFirstRead]; omega
  have hfirst := scgiOnFirstRead_enc (scgiBlock pairs).length (scgiBlock pairs ++ 44 :: body) hsize (hd ▸ hlong)
    (by rw [hd]; simp only [Gen.scgiFirstRead, List.length_append, List.length_cons]; omega)
  rw [hd, show d ++ 58 :: (scgiBlock pairs ++ 44 :: body) = d ++ 58 :: (scgiBlock pairs ++ [44]) ++ body by simp] at hfirst
  rw [hs, scgiFlat]
  simp only [h16, if_false, hfirst, List.take_left' hl, List.drop_left' hl, scgiOnHeaders_enc d pairs hn,
    show ¬ ((d ++ 58 :: (scgiBlock pairs ++ [44]) ++ body).length < d.length + 2 + (scgiBlock pairs).length) by
      rw [List.length_append, hl]; omega]

end Cppcms.C01
