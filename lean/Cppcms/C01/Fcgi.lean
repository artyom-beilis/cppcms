import Cppcms.C01.Request
/-!
# FastCGI front-end (`src/fastcgi_api.cpp`) at buffer level

Record reader over the read-ahead cache (`cache_`, `cache_start_`, `cache_end_`, compaction),
`on_start_request` (version, GET_VALUES, role, keep-conn), PARAMS accumulation, `read_len` /
`parse_pairs`, STDIN reassembly in `async_read_some`, keep-alive loop.
-/
namespace Cppcms.C01
open Cppcms

/-- connection state that survives `reset_all()` -/
structure FcgiSt where
  /-- `cache_[cache_start_ .. cache_end_)` -/
  cache : Bytes := []
  /-- `cache_start_` -/
  start : Nat := 0
  /-- `cache_.size()` -/
  cap : Nat := 0
  segs : Segs
  /-- `body_` owns storage (`capacity() != 0`): `&body_.front()` is not a null reference -/
  bodyAlloc : Bool := false
deriving Repr

/-- `cache_` size after `if(cache_.size() < n) cache_.resize(max(n,16384),0)` -/
def fcgiCap (st : FcgiSt) (n : Nat) : Nat := if st.cap < n then max n Gen.cacheMin else st.cap

/-- state after `memcpy(ptr,&cache_[cache_start_],n); cache_start_+=n` -/
def FcgiSt.consume (st : FcgiSt) (n : Nat) : FcgiSt := { st with cache := st.cache.drop n, start := st.start + n }

/-- state after compaction, resize and one `read_some` that delivered `got` -/
def FcgiSt.refill (st : FcgiSt) (n : Nat) (got : Bytes) (segs' : Segs) : FcgiSt :=
  { st with cache := st.cache ++ got, start := 0, cap := fcgiCap st n, segs := segs' }

/-- `async_read_from_socket(ptr,n,cb)` (+ `on_some_read_from_socket`) for `n > 0`:
the `n` bytes, or the error passed to `cb`.  `none` in the first component flags a read started
with an empty buffer (`&cache_[cache_end_]` at `cache_.size()`).  `fuel` bounds the number of socket reads. -/
def fcgiFill (fuel : Nat) (n : Nat) (st : FcgiSt) : Option (Except Err Bytes) × FcgiSt :=
  if st.cache.length ≥ n then (some (.ok (st.cache.take n)), st.consume n)
  else match fuel with
    | 0 => (some (.error .eof), st)
    | fuel + 1 =>
      -- window moved to the front (both branches of the compaction give cache_start_ = 0)
      let room := fcgiCap st n - st.cache.length
      if room == 0 then (none, st)
      else match readSome room st.segs with
      | none => (some (.error .eof), st.refill n [] [])
      | some (got, segs') => fcgiFill fuel n (st.refill n got segs')

structure FcgiHdr where
  version : Nat
  type : Nat
  requestId : Nat
  contentLength : Nat
  paddingLength : Nat
deriving Repr, DecidableEq, Inhabited

def be16 (b : Bytes) (off : Nat) : Nat := (b.getD off 0).toNat * 256 + (b.getD (off + 1) 0).toNat

/-- `fcgi_header` as laid out in memory + `to_host()` -/
def parseFcgiHdr (b : Bytes) : FcgiHdr :=
  { version := (b.getD Gen.hdrOff_version 0).toNat
    type := (b.getD Gen.hdrOff_type 0).toNat
    requestId := be16 b Gen.hdrOff_request_id
    contentLength := be16 b Gen.hdrOff_content_length
    paddingLength := (b.getD Gen.hdrOff_padding_length 0).toNat }

inductive RecRes
  | err (e : Err)
  | crash (what : String)
  /-- header and the new `body_` (old contents with the record content appended) -/
  | got (h : FcgiHdr) (body : Bytes)
deriving Repr

/-- `async_read_record` / `non_blocking_read_record` (they deliver the same record; the latter only
when it is completely cached): header, then `content_length + padding_length` bytes appended to
`body_`, padding trimmed. -/
def fcgiReadRecord (st : FcgiSt) (body : Bytes) : RecRes × FcgiSt :=
  match fcgiFill (Gen.hdrSize + 1) Gen.hdrSize st with
  | (none, st) => (.crash "read into full cache", st)
  | (some (.error e), st) => (.err e, st)
  | (some (.ok hb), st) =>
    let h := parseFcgiHdr hb
    -- computed in the declared type of `rec_size` (regenerated): a narrow type wraps
    let rec_size := Gen.fcgiRecSizeAsync h.contentLength h.paddingLength
    if rec_size == 0 then (.got h body, st)
    else
      match fcgiFill (rec_size + 1) rec_size { st with bodyAlloc := true } with
      | (none, st) => (.crash "read into full cache", st)
      | (some (.error e), st) => (.err e, st)
      | (some (.ok rb), st) =>
        -- `on_body_read`: `body_.resize(body_.size() - header_.padding_length)` in `size_t`
        if rec_size < h.paddingLength then (.crash "on_body_read: body_.resize(body_.size() - padding_length) wraps", st)
        else (.got h (body ++ rb.take (rec_size - h.paddingLength)), st)

/-- how the protocol state machine gets its records: from the buffer-level connection state
(`bufReader`) or, in the specification, from a plain byte stream (`flatReader`) -/
structure RecReader (σ : Type) where
  read : σ → Bytes → RecRes × σ
  /-- `body_` owns storage -/
  alloc : σ → Bool

def bufReader : RecReader FcgiSt := ⟨fcgiReadRecord, (·.bodyAlloc)⟩

/-! ## name-value pairs -/

/-- `read_len(p,e)`: (length or the failure sentinel, remaining bytes) -/
def fcgiReadLen (p : Bytes) : Nat × Bytes :=
  match p with
  | c :: rest =>
    if c.toNat < Gen.readLenShortBelow then (c.toNat, rest)
    else match p with
      | b3 :: b2 :: b1 :: b0 :: rest4 =>
        if p.length ≥ Gen.readLenLongNeed then (Gen.readLenLong b3.toNat b2.toNat b1.toNat b0.toNat, rest4)
        else (Gen.readLenFail, p)
      | _ => (Gen.readLenFail, p)
  | [] => (Gen.readLenFail, p)

/-- the loop of `parse_pairs`; `trunc = true` for the `pool_.add(p,len)` flavour (C strings) -/
def fcgiPairs (trunc : Bool) : Nat → Bytes → List (Bytes × Bytes) → Bool × List (Bytes × Bytes)
  | 0, _, acc => (true, acc)
  | fuel + 1, p, acc =>
    if p.isEmpty then (true, acc)
    else
      let (nlen, p1) := fcgiReadLen p
      let (vlen, p2) := fcgiReadLen p1
      if nlen == Gen.pairsFailSentinel || vlen == Gen.pairsFailSentinel then (false, acc)
      else if !Gen.pairFitsName p2.length nlen then (false, acc)
      else
        let name := p2.take nlen
        let p3 := p2.drop nlen
        if !Gen.pairFitsValue p3.length vlen then (false, acc)
        else
          let value := p3.take vlen
          let kv := if trunc then (cstr name, cstr value) else (name, value)
          fcgiPairs trunc fuel (p3.drop vlen) (acc ++ [kv])

/-- `add_value` -/
def fcgiEncLen (n : Nat) : Bytes :=
  if n < 128 then [UInt8.ofNat n]
  else [UInt8.ofNat (128 + n / 16777216 % 128), UInt8.ofNat (n / 65536 % 256), UInt8.ofNat (n / 256 % 256), UInt8.ofNat (n % 256)]

def fcgiAddPair (name value : Bytes) : Bytes := fcgiEncLen name.length ++ fcgiEncLen value.length ++ name ++ value

/-- `async_send_respnse`: (content bytes, declared padding equals the padding actually sent) -/
def fcgiShortReply (body : Bytes) (stalePadding : Nat) : Bytes × Bool :=
  let framed := Gen.replyPaddingReset || body.length % 8 != 0 || stalePadding == 0
  (body, framed)

/-! ## header phase -/

structure FcgiReq where
  env : Env
  requestId : Nat
  keep : Bool
  /-- FastCGI's own `content_length_` (`<= 0` mapped to 0) -/
  cl : Nat
deriving Repr

inductive HdrRes
  | done (o : Outcome)
  | req (r : FcgiReq)
deriving Repr

/-- `params_record_expected` loop: `h` is the record just read, `body` the accumulated `body_` -/
def fcgiParams {σ : Type} (R : RecReader σ) : Nat → FcgiHdr → Bytes → Nat → σ → Except Outcome Bytes × σ
  | 0, _, _, _, st => (.error (.crash "out of fuel"), st)
  | fuel + 1, h, body, reqId, st =>
    if h.type != Gen.fcgi_params || h.requestId != reqId then (.error (.aborted .violation false false), st)
    else if h.contentLength != 0 then
      if body.length < Gen.paramsLimit then
        match R.read st body with
        | (.err e, st) => (.error (.aborted e false false), st)
        | (.crash w, st) => (.error (.crash w), st)
        | (.got h' body', st) => fcgiParams R fuel h' body' reqId st
      else (.error (.aborted .violation false false), st)
    else (.ok body, st)

/-- `content_length_` as computed in `params_record_expected` -/
def fcgiOwnContentLength (env : Env) : Nat :=
  match env.get? (bs Gen.hdrContentLength) with
  | none => 0
  | some v => if v.isEmpty then 0 else if atoll v ≤ 0 then 0 else (atoll v).toNat

/-- the tail of `params_record_expected` for `content_length_ == 0`: the empty STDIN record is read
as part of the header phase (`stdin_eof_expected`) -/
def fcgiStdinEof {σ : Type} (R : RecReader σ) (r : FcgiReq) (st : σ) (out : List Outcome) :
    List Outcome × Option FcgiReq × σ :=
  match R.read st [] with
  | (.err e, st) => (out ++ [.aborted e false false], none, st)
  | (.crash w, st) => (out ++ [.crash w], none, st)
  | (.got h2 _, st) =>
    if h2.type != Gen.fcgi_stdin || h2.contentLength != 0 then (out ++ [.aborted .violation false false], none, st)
    else (out, some r, st)

/-- the tail of `params_record_expected` once the PARAMS stream ended: `parse_pairs`, `CONTENT_LENGTH` -/
def fcgiAfterParams {σ : Type} (R : RecReader σ) (reqId : Nat) (keep : Bool) (pbody : Bytes) (st : σ) (out : List Outcome) :
    List Outcome × Option FcgiReq × σ :=
  let env := Env.empty.addAll (fcgiPairs true (pbody.length + 1) pbody []).2
  let r : FcgiReq := { env := env, requestId := reqId, keep := keep, cl := fcgiOwnContentLength env }
  if r.cl == 0 then fcgiStdinEof R r st out else (out, some r, st)

/-- `on_start_request` after a BEGIN_REQUEST for the responder role was accepted: PARAMS records,
`parse_pairs`, `CONTENT_LENGTH` -/
def fcgiAfterBegin {σ : Type} (R : RecReader σ) (fuel : Nat) (reqId : Nat) (keep : Bool) (st : σ) (out : List Outcome) :
    List Outcome × Option FcgiReq × σ :=
  match R.read st [] with
  | (.err e, st) => (out ++ [.aborted e false false], none, st)
  | (.crash w, st) => (out ++ [.crash w], none, st)
  | (.got h1 body1, st) =>
    match fcgiParams R fuel h1 body1 reqId st with
    | (.error o, st) => (out ++ [o], none, st)
    | (.ok pbody, st) => fcgiAfterParams R reqId keep pbody st out

/-- answer to `FCGI_GET_VALUES`: `none` = malformed pairs (protocol violation) -/
def fcgiGetValuesReply (concurrency : Bytes) (body : Bytes) : Option Bytes :=
  let (ok, pairs) := fcgiPairs false (body.length + 1) body []
  if !ok then none
  else some (pairs.foldl (fun acc kv =>
    if kv.1 == bs Gen.gvName0 || kv.1 == bs Gen.gvName1 then acc ++ fcgiAddPair kv.1 concurrency
    else if kv.1 == bs Gen.gvName2 then acc ++ fcgiAddPair kv.1 [48]
    else acc) [])

/-- what `on_start_request` does with the first record of a request -/
inductive StartRes
  /-- stop: this outcome ends the connection -/
  | stop (o : Outcome)
  /-- a management reply was written (or the record ignored: `none`); read the next record -/
  | again (reply : Option Outcome)
  /-- BEGIN_REQUEST accepted -/
  | begin (reqId : Nat) (keep : Bool)
deriving Repr

def fcgiOnStart (concurrency : Bytes) (alloc : Bool) (h : FcgiHdr) (body : Bytes) : StartRes :=
  if h.version != Gen.fcgi_version_1 then .stop (.aborted .violation false false)
  else if h.type == Gen.fcgi_get_values then
    if !Gen.pairsEmptyGuard && body.isEmpty && !alloc then .stop (.crash "parse_pairs: &body_.front() of an unallocated vector")
    else match fcgiGetValuesReply concurrency body with
    | none => .stop (.aborted .violation false false)
    | some reply =>
      if !Gen.replyEmptyBodyGuard && reply.isEmpty && !alloc then .stop (.crash "io::buffer(body_): &front() of an unallocated vector")
      else
        let (content, framed) := fcgiShortReply reply h.paddingLength
        .again (some (.mgmt Gen.fcgi_get_values_result content framed))
  else if h.type != Gen.fcgi_begin_request then .again none
  else if body.length != Gen.beginBodySize then .stop (.aborted .violation false false)
  else
    let role := be16 body Gen.beginOff_role
    let keep := (body.getD Gen.beginOff_flags 0).toNat % 2 == Gen.fcgi_keep_conn
    if role != Gen.fcgi_responder then
      let b := List.replicate Gen.unknownRoleAssign.1 (UInt8.ofNat Gen.unknownRoleAssign.2)
      if b.length < Gen.endBodySize then
        -- the end-request body is written through &body_.front(): outside the vector
        .stop (.crash "END_REQUEST body written through front() of a too short vector")
      else
        let b := b.set Gen.endOff_protocol_status (UInt8.ofNat Gen.fcgi_unknown_role)
        let (content, framed) := fcgiShortReply b h.paddingLength
        .again (some (.mgmt Gen.fcgi_end_request content framed))
    else .begin h.requestId keep

/-- `async_read_headers` → `on_start_request` → … until the completion handler is called.
Management replies written on the way are collected in order. -/
def fcgiHeaders {σ : Type} (R : RecReader σ) (concurrency : Bytes) : Nat → σ → List Outcome → List Outcome × Option FcgiReq × σ
  | 0, st, out => (out ++ [.crash "out of fuel"], none, st)
  | fuel + 1, st, out =>
    -- reset_all(): body_.clear()
    match R.read st [] with
    | (.err e, st) => (out ++ [.aborted e false false], none, st)
    | (.crash w, st) => (out ++ [.crash w], none, st)
    | (.got h body, st) =>
      match fcgiOnStart concurrency (R.alloc st) h body with
      | .stop o => (out ++ [o], none, st)
      | .again none => fcgiHeaders R concurrency fuel st out
      | .again (some o) => fcgiHeaders R concurrency fuel st (out ++ [o])
      | .begin reqId keep => fcgiAfterBegin R (fuel + 1) reqId keep st out

/-! ## STDIN -/

structure FcgiBody (σ : Type) where
  st : σ
  /-- `body_`, `body_ptr_`, `read_length_`, `content_length_`, `request_id_` -/
  body : Bytes := []
  ptr : Nat := 0
  readLen : Nat := 0
  cl : Nat
  reqId : Nat

/-- `memcpy(p,&body_[body_ptr_],s); body_ptr_+=s; read_length_+=s;` and the clearing of a consumed `body_`:
the chunk handed out and the new cursor state (the connection state is not touched) -/
def fcgiAdvance {σ : Type} (want : Nat) (b : FcgiBody σ) : Bytes × FcgiBody σ :=
  let s := min want (b.body.length - b.ptr)
  let chunk := (b.body.drop b.ptr).take s
  if b.ptr + s == b.body.length then (chunk, { b with ptr := 0, body := [], readLen := b.readLen + s })
  else (chunk, { b with ptr := b.ptr + s, readLen := b.readLen + s })

/-- the `body_ptr_ < body_.size()` branch of `fastcgi::async_read_some` -/
def fcgiTake {σ : Type} (R : RecReader σ) (want : Nat) (b : FcgiBody σ) : Except Err (Bytes × FcgiBody σ) :=
  let p := fcgiAdvance want b
  if p.2.readLen ≥ p.2.cl then
    match R.read p.2.st p.2.body with
    | (.err e, _) => .error e
    | (.crash _, _) => .error .violation
    | (.got h body', st') =>
      if h.type != Gen.fcgi_stdin || h.requestId != p.2.reqId || h.contentLength != 0 then .error .violation
      else .ok (p.1, { p.2 with st := st', body := body' })
  else .ok p

/-- `fastcgi::async_read_some(p,s,h)` -/
def fcgiReadSome {σ : Type} (R : RecReader σ) (want : Nat) (b : FcgiBody σ) : Except Err (Bytes × FcgiBody σ) :=
  if b.readLen == b.cl then .error .violation
  else if b.ptr < b.body.length then fcgiTake R want b
  else
    match R.read b.st b.body with
    | (.err e, _) => .error e
    | (.crash _, _) => .error .violation
    | (.got h body', st') =>
      if h.type != Gen.fcgi_stdin || h.requestId != b.reqId || h.contentLength == 0 then .error .violation
      else
        let b := { b with st := st', body := body' }
        if b.ptr < b.body.length then fcgiTake R want b else .error .violation

/-! ## the connection -/

/-- one FastCGI connection: requests are served until an error, a request without
`FCGI_KEEP_CONN`, or the end of the stream -/
def fcgiConn {σ : Type} (R : RecReader σ) (lim : Limits) (concurrency : Bytes) : Nat → σ → List Outcome
  | 0, _ => [.crash "out of fuel"]
  | fuel + 1, st =>
    match fcgiHeaders R concurrency (fuel + 1) st [] with
    | (out, none, _) => out
    | (out, some r, st) =>
      let (o, b) := runRequest lim (fcgiReadSome R) (Head.ofEnv r.env) { st := st, cl := r.cl, reqId := r.requestId }
      if isApp o && r.keep then out ++ o :: fcgiConn R lim concurrency fuel b.st
      else out ++ [o]

def streamLen (segs : Segs) : Nat := (segs.map List.length).sum

def fcgiRun (lim : Limits) (concurrency : Bytes) (segs : Segs) : List Outcome :=
  fcgiConn bufReader lim concurrency (streamLen segs + 2) { segs := segs }

end Cppcms.C01
