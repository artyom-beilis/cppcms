import Cppcms.C01.HttpRoundtrip
import Cppcms.C01.Urlenc
/-!
# C01 — HTTP round trip at request and connection level

The peer's request (`HttpPeer`) against `httpGotHeader` (request line split, `parse_single_header`) and `httpProcess`
(`process_request`): the head the request layer gets is exactly what the peer meant (`HttpPeer.head`).
-/
namespace Cppcms.C01
open Cppcms

theorem headerBytes_lineState (ps : Gen.PState) (l : Bytes) : headerBytes (lineState ps l) = l := by
  simp only [headerBytes, lineState, natsOf, List.reverse_reverse, List.map_map]
  exact (List.map_congr_left fun a _ => UInt8.ofNat_toNat).trans (List.map_id l)

theorem gotHeader_reqline (r : HttpReq) (hf : r.first = false) (method uri proto : Bytes)
    (hm : ∀ x ∈ method, x ≠ 32 ∧ x ≠ 0) (hu : ∀ x ∈ uri, x ≠ 32 ∧ x ≠ 0) (hp : ∀ x ∈ proto, x ≠ 0) :
    httpGotHeader { r with ps := lineState r.ps (method ++ 32 :: (uri ++ 32 :: proto)) } =
      some { r with ps := lineState r.ps (method ++ 32 :: (uri ++ 32 :: proto)), first := true, method := method,
                    uri := uri, env := r.env.add (bs Gen.env_SERVER_PROTOCOL) proto, is11 := proto == bs Gen.http11 } := by
  have s1 : splitAt1 (UInt8.ofNat Gen.reqLineSep1) (method ++ 32 :: (uri ++ 32 :: proto)) = some (method, uri ++ 32 :: proto) :=
    splitAt1_hit 32 _ _ (fun x hx => (hm x hx).1)
  have s2 : splitAt1 (UInt8.ofNat Gen.reqLineSep2) (uri ++ 32 :: proto) = some (uri, proto) :=
    splitAt1_hit 32 _ _ (fun x hx => (hu x hx).1)
  unfold httpGotHeader
  simp only [headerBytes_lineState, hf, Bool.not_false, if_true, s1, s2, cstr_of_nonul method (fun h => (hm 0 h).2 rfl),
    cstr_of_nonul uri (fun h => (hu 0 h).2 rfl), cstr_of_nonul proto (fun h => hp 0 h rfl)]

/-- a header field as the peer writes it: `Name:`, optional blanks, the value -/
structure HttpField where
  name : Bytes
  ws : Bytes := [32]
  value : Bytes
deriving Repr

def HttpField.line (f : HttpField) : Bytes := f.name ++ 58 :: (f.ws ++ f.value)

/-- `parse_single_header`'s CGI spelling of a field name -/
def canonName (n : Bytes) : Bytes := n.map (fun c => UInt8.ofNat (Gen.canonChar c.toNat))

structure HttpField.ok (f : HttpField) : Prop where
  name_tok : ∀ x ∈ f.name, isTockenChar x = true
  name_ne : f.name ≠ []
  ws : ∀ x ∈ f.ws, x = 32 ∨ x = 9
  /-- the value does not start with blank, tab or CR (leading blanks belong to `ws`) -/
  value_head : f.value = [] ∨ ∃ c t, f.value = c :: t ∧ NotWs c
  value_nul : ∀ x ∈ f.value, x ≠ 0

theorem parseSingleHeader_field (f : HttpField) (hf : f.ok) :
    parseSingleHeader f.line = some (canonName f.name, f.value) := by
  obtain ⟨x, xs, hn⟩ := List.exists_cons_of_ne_nil hf.name_ne
  have e1 : skipWs f.line = f.line := by
    simp only [HttpField.line, hn, List.cons_append]
    exact skipWs_stop x _ (tockenChar_notWs (hf.name_tok x (by simp [hn])))
  have e2 : tocken f.line = (f.name, 58 :: (f.ws ++ f.value)) :=
    tocken_app _ _ hf.name_tok (Scan.stops_cons (by decide))
  have e3 : skipWs (58 :: (f.ws ++ f.value)) = 58 :: (f.ws ++ f.value) :=
    skipWs_stop 58 _ ⟨by decide, by decide, by decide⟩
  have hne : f.name.isEmpty = false := by rw [hn]; rfl
  simp only [parseSingleHeader, e1, e2, hne, Bool.false_eq_true, if_false, e3,
    skipWs_blanks f.ws f.value hf.ws hf.value_head, canonName, cstr_of_nonul f.value (fun h => hf.value_nul 0 h rfl)]

/-- what a header field does to the request registers (`some_headers_data_read`, the `got_header` arm) -/
def HttpReq.addField (r : HttpReq) (f : HttpField) : HttpReq :=
  let name := canonName f.name
  if name == bs Gen.hdrContentLength then
    { r with env := r.env.add name f.value, contentLength := if f.value.isEmpty then 0 else atoll f.value }
  else if name == bs Gen.hdrContentType then { r with env := r.env.add name f.value, contentType := f.value }
  else { r with env := r.env.add (bs Gen.hdrPrefix ++ name) f.value }

/-- the CGI variable a header field sets -/
def fieldPair (f : HttpField) : Bytes × Bytes :=
  let n := canonName f.name
  if n == bs Gen.hdrContentLength || n == bs Gen.hdrContentType then (n, f.value) else (bs Gen.hdrPrefix ++ n, f.value)

/-- how `Head.ofEnv` and `httpGotHeader` read a `CONTENT_LENGTH` value -/
def clOf (v : Bytes) : Int := if v.isEmpty then 0 else atoll v

/-- last value a key gets in a list of assignments -/
def lastVal (k : Bytes) (l : List (Bytes × Bytes)) (d : Bytes) : Bytes :=
  l.foldl (fun acc kv => if kv.1 == k then kv.2 else acc) d

/-- the variable is added; `CONTENT_TYPE` / `CONTENT_LENGTH` are also kept in registers of their own -/
theorem addField_eq (r : HttpReq) (f : HttpField) :
    r.addField f = { r with
      env := r.env.add (fieldPair f).1 (fieldPair f).2
      contentType := if (fieldPair f).1 == bs Gen.hdrContentType then (fieldPair f).2 else r.contentType
      contentLength := if (fieldPair f).1 == bs Gen.hdrContentLength then clOf (fieldPair f).2 else r.contentLength } := by
  have hp : ∀ n, (bs Gen.hdrPrefix ++ n == bs Gen.hdrContentType) = false ∧
      (bs Gen.hdrPrefix ++ n == bs Gen.hdrContentLength) = false := fun n => by
    constructor <;> (rw [beq_eq_false_iff_ne]; intro e; cases congrArg List.head? e)
  unfold HttpReq.addField fieldPair
  by_cases h1 : canonName f.name = bs Gen.hdrContentLength
  · simp [h1, clOf, show (bs Gen.hdrContentLength == bs Gen.hdrContentType) = false by decide]
  · by_cases h2 : canonName f.name = bs Gen.hdrContentType
    · simp [h2, show (bs Gen.hdrContentType == bs Gen.hdrContentLength) = false by decide]
    · simp [h1, h2, hp]

theorem addField_ps_comm (r : HttpReq) (f : HttpField) (ps : Gen.PState) :
    ({ r with ps := ps } : HttpReq).addField f = { r.addField f with ps := ps } := by
  rw [addField_eq, addField_eq]

theorem addField_ps (r : HttpReq) (f : HttpField) : (r.addField f).ps = r.ps := by
  rw [addField_eq]

theorem foldl_addField_eq : ∀ (fs : List HttpField) (r : HttpReq) (v0 : Bytes), r.contentLength = clOf v0 →
    fs.foldl HttpReq.addField r = { r with
      env := r.env.addAll (fs.map fieldPair)
      contentType := lastVal (bs Gen.hdrContentType) (fs.map fieldPair) r.contentType
      contentLength := clOf (lastVal (bs Gen.hdrContentLength) (fs.map fieldPair) v0) } := by
  intro fs
  induction fs with
  | nil => intro r v0 h; show r = { r with contentLength := clOf v0 }; rw [← h]
  | cons f t ih =>
    intro r v0 h
    rw [List.foldl_cons, ih (r.addField f) (if (fieldPair f).1 == bs Gen.hdrContentLength then (fieldPair f).2 else v0)
      (by rw [addField_eq, apply_ite clOf, ← h]), addField_eq]
    rfl

theorem gotHeader_field (r : HttpReq) (hfirst : r.first = true) (f : HttpField) (hf : f.ok) (ps : Gen.PState) :
    httpGotHeader { r with ps := lineState ps f.line } = some { r.addField f with ps := lineState ps f.line } := by
  rw [← addField_ps_comm]
  unfold httpGotHeader
  simp only [headerBytes_lineState, hfirst, Bool.not_true, Bool.false_eq_true, if_false, parseSingleHeader_field f hf]
  unfold HttpReq.addField
  simp only
  split
  · rfl
  · split <;> rfl

/-- an HTTP request head as the peer means and writes it -/
structure HttpPeer where
  method : Bytes
  /-- the configured script name the URI starts with (`[]`: none) -/
  script : Bytes
  /-- the path after the script name, percent-encoded piece by piece -/
  path : List PctPiece
  query : Option Bytes
  proto : Bytes
  fields : List HttpField
deriving Repr

def HttpPeer.uriPath (q : HttpPeer) : Bytes := q.script ++ pctWire q.path

def HttpPeer.uri (q : HttpPeer) : Bytes :=
  q.uriPath ++ (match q.query with | none => [] | some s => 63 :: s)

def HttpPeer.reqLine (q : HttpPeer) : Bytes := q.method ++ 32 :: (q.uri ++ 32 :: q.proto)

def HttpPeer.lines (q : HttpPeer) : List Bytes := q.reqLine :: q.fields.map HttpField.line

/-- `process_request`'s script-name search, verbatim from `httpProcess`: `httpProcess_regs` unfolds both -/
def scriptHit (cfg : HttpCfg) (path : Bytes) : Option Bytes :=
  cfg.scriptNames.find? fun n =>
    n.length ≤ path.length && path.take n.length == n &&
      (path.length == n.length || path.getD n.length 0 == UInt8.ofNat Gen.scriptBoundary)

/-- the registers after the request line and the header fields -/
def HttpPeer.regs (cfg : HttpCfg) (q : HttpPeer) : HttpReq :=
  q.fields.foldl HttpReq.addField
    { env := (httpEnv0 cfg).add (bs Gen.env_SERVER_PROTOCOL) q.proto, first := true, method := q.method, uri := q.uri,
      is11 := q.proto == bs Gen.http11 }

/-- **what the request layer must get** -/
def HttpPeer.head (cfg : HttpCfg) (q : HttpPeer) : Head :=
  let r := q.regs cfg
  let env := ((r.env.add (bs Gen.env_REQUEST_METHOD) q.method).add (bs Gen.env_REMOTE_HOST) cfg.remote).add
    (bs Gen.env_REMOTE_ADDR) cfg.remote
  let env := match q.query with
    | none => env
    | some s => env.add (bs Gen.env_QUERY_STRING) s
  let env := if q.script.isEmpty then env else env.add (bs Gen.env_SCRIPT_NAME) q.script
  { env := env.add (bs Gen.env_PATH_INFO) (pctValue q.path), scriptName := q.script, pathInfo := pctValue q.path,
    queryString := q.query.getD [], contentType := r.contentType, contentLength := r.contentLength }

structure HttpPeer.ok (cfg : HttpCfg) (q : HttpPeer) : Prop where
  method_tok : ∀ x ∈ q.method, isTockenChar x = true
  method_ne : q.method ≠ []
  script : ∀ x ∈ q.script, x ≠ 32 ∧ x ≠ 0 ∧ x ≠ 63
  /-- no NUL at all; what may stay unescaped in the path: not `%`, `+` (meaning), blank, `?` (structure) -/
  path : ∀ p ∈ q.path, p.ok ∧ p.value ≠ 0 ∧ (∀ b, p = .lit b → b ≠ 32 ∧ b ≠ 63)
  root : q.uriPath.head? = some 47
  query : ∀ s, q.query = some s → ∀ x ∈ s, x ≠ 32 ∧ x ≠ 0
  proto : ∀ x ∈ q.proto, x ≠ 0
  /-- the script name is the one `process_request` finds (decidable) -/
  hit : scriptHit cfg q.uriPath = if q.script.isEmpty then none else some q.script
  fields : ∀ f ∈ q.fields, f.ok

theorem regs_eq (cfg : HttpCfg) (q : HttpPeer) :
    q.regs cfg = { env := ((httpEnv0 cfg).add (bs Gen.env_SERVER_PROTOCOL) q.proto).addAll (q.fields.map fieldPair),
                   first := true, method := q.method, uri := q.uri, is11 := q.proto == bs Gen.http11,
                   contentType := lastVal (bs Gen.hdrContentType) (q.fields.map fieldPair) [],
                   contentLength := clOf (lastVal (bs Gen.hdrContentLength) (q.fields.map fieldPair) []) } :=
  foldl_addField_eq q.fields _ [] rfl

theorem feedLines_fields : ∀ (fs : List HttpField) (r : HttpReq) (ps0 : Gen.PState), r.first = true → (∀ f ∈ fs, f.ok) →
    ∃ ps, feedLines { r with ps := ps0 } (fs.map HttpField.line) = some { fs.foldl HttpReq.addField r with ps := ps } := by
  intro fs
  induction fs with
  | nil => intro r ps0 _ _; exact ⟨ps0, rfl⟩
  | cons f t ih =>
    intro r ps0 hr hok
    obtain ⟨ps, hps⟩ := ih (r.addField f) (lineState ps0 f.line) (by rw [addField_eq]; exact hr)
      (fun g hg => hok g (by simp [hg]))
    refine ⟨ps, ?_⟩
    rw [List.map_cons, feedLines]
    dsimp only
    rw [gotHeader_field r hr f (hok f (by simp))]
    exact hps

theorem tockenChar_ne_sp_nul {c : UInt8} (h : isTockenChar c = true) : c ≠ 32 ∧ c ≠ 0 := by
  refine ⟨fun e => ?_, fun e => ?_⟩ <;> (subst e; revert h; decide)

theorem httpProcess_regs (cfg : HttpCfg) (q : HttpPeer) (hq : q.ok cfg) :
    httpProcess cfg (q.regs cfg) = some (q.head cfg) := by
  have hm' : (q.regs cfg).method = q.method := by rw [regs_eq]
  have hu' : (q.regs cfg).uri = q.uri := by rw [regs_eq]
  have htok : tocken q.method = (q.method, []) := by
    simpa using tocken_app q.method [] hq.method_tok Scan.stops_nil
  have hmne : q.method.isEmpty = false := by simpa using hq.method_ne
  obtain ⟨a, t, hpath⟩ : ∃ a t, q.uriPath = a :: t := List.exists_cons_of_ne_nil (fun h => by
    have := hq.root; rw [h] at this; cases this)
  have hroot : (q.uri.head? != some (UInt8.ofNat Gen.uriRoot)) = false := by
    have := hq.root
    rw [HttpPeer.uri, hpath] at *
    simpa [Gen.uriRoot] using this
  have hpathq : ∀ x ∈ q.uriPath, x ≠ 63 := by
    intro x hx
    rcases List.mem_append.1 hx with hx | hx
    · exact (hq.script x hx).2.2
    · exact pctWire_avoid 63 (by decide) q.path (fun p hp e => ((hq.path p hp).2.2 _ e).2 rfl) x hx
  have hsplit : splitAt1 (UInt8.ofNat Gen.querySep) q.uri = q.query.map fun s => (q.uriPath, s) := by
    unfold HttpPeer.uri
    cases q.query
    · rw [List.append_nil]; exact splitAt1_miss 63 _ hpathq
    · exact splitAt1_hit 63 _ _ hpathq
  have huri : q.query = none → q.uri = q.uriPath := fun h => by rw [HttpPeer.uri, h, List.append_nil]
  have hdrop : q.uriPath.drop q.script.length = pctWire q.path := List.drop_left
  have hdec : urldecode (pctWire q.path) = pctValue q.path := urldecode_pct q.path (fun p hp => (hq.path p hp).1)
  have hnul : cstr (pctValue q.path) = pctValue q.path := cstr_of_nonul _ (fun h => by
    obtain ⟨p, hp, hp0⟩ := List.mem_map.1 h
    exact (hq.path p hp).2.1 hp0)
  have hscr : cstr q.script = q.script := cstr_of_nonul _ (fun h => (hq.script 0 h).2.1 rfl)
  have hhit := hq.hit
  unfold scriptHit at hhit
  unfold httpProcess
  simp only [hm', hu', htok, hmne, List.isEmpty_nil, Bool.not_true, Bool.or_false, Bool.false_eq_true, if_false, hroot,
    hsplit]
  -- four cases: with or without query string (`hsplit` has split it off), with or without script name.  With a script
  -- name `process_request` finds it (`hhit`), cuts it off the path (`hdrop`) and decodes the rest (`hdec`, `hnul`):
  -- these two cases are closed by the rewriting
  cases hqq : q.query <;> cases hse : q.script.isEmpty <;>
    simp only [Option.map_none, Option.map_some, huri, hqq, hhit, hse, if_true, Bool.false_eq_true, if_false, hdrop,
      hdec, hnul, hscr, HttpPeer.head, Option.getD_none, Option.getD_some]
  -- left: the two cases without script name, where the whole path is the path info
  all_goals
    have hs0 : q.script = [] := List.isEmpty_iff.1 hse
    have hup : q.uriPath = pctWire q.path := by rw [HttpPeer.uriPath, hs0, List.nil_append]
    simp only [hup, hdec, hnul, hs0, show cstr ([] : Bytes) = [] from rfl]

/-- see `Props.http_head_roundtrip` -/
theorem http_head_roundtrip (cfg : HttpCfg) (q : HttpPeer) (hq : q.ok cfg) :
    ∃ r', feedLines { env := httpEnv0 cfg } q.lines = some r' ∧ r'.is11 = (q.proto == bs Gen.http11) ∧
      ∀ ps, httpProcess cfg { r' with ps := ps } = some (q.head cfg) := by
  have huri : ∀ x ∈ q.uri, x ≠ 32 ∧ x ≠ 0 := by
    intro x hx
    simp only [HttpPeer.uri, HttpPeer.uriPath, List.mem_append] at hx
    rcases hx with (hx | hx) | hx
    · exact ⟨(hq.script x hx).1, (hq.script x hx).2.1⟩
    · exact ⟨pctWire_avoid 32 (by decide) q.path (fun p hp e => ((hq.path p hp).2.2 _ e).1 rfl) x hx,
        pctWire_avoid 0 (by decide) q.path (fun p hp e => (hq.path p hp).2.1 (by rw [e]; rfl)) x hx⟩
    · cases hqq : q.query with
      | none => rw [hqq] at hx; cases hx
      | some sq =>
        rw [hqq] at hx
        rcases List.mem_cons.1 hx with rfl | hx
        · exact ⟨by decide, by decide⟩
        · exact hq.query sq hqq x hx
  have h1 := gotHeader_reqline { env := httpEnv0 cfg } rfl q.method q.uri q.proto
    (fun x hx => tockenChar_ne_sp_nul (hq.method_tok x hx)) huri hq.proto
  obtain ⟨ps, hps⟩ := feedLines_fields q.fields
    { env := (httpEnv0 cfg).add (bs Gen.env_SERVER_PROTOCOL) q.proto, first := true, method := q.method, uri := q.uri,
      is11 := q.proto == bs Gen.http11 } (lineState {} q.reqLine) rfl hq.fields
  refine ⟨{ q.regs cfg with ps := ps }, ?_, by rw [regs_eq], fun _ => httpProcess_regs cfg q hq⟩
  rw [HttpPeer.lines, feedLines, HttpPeer.reqLine, h1]
  exact hps

/-- the header section of `q` on the wire: lines (each possibly folded) whose unfolded values are the request
line and the fields of `q`, within the 16 KiB the server accepts -/
structure HttpWire (q : HttpPeer) (ls : List FLine) : Prop where
  wf : ∀ l ∈ ls, WFLine l
  vals : ls.map FLine.value = q.lines
  cap : (encFLines ls).length ≤ Gen.httpHeaderCap

theorem hdrFlat_peer (cfg : HttpCfg) (q : HttpPeer) (hq : q.ok cfg) (ls : List FLine) (hw : HttpWire q ls)
    (rest : Bytes) :
    hdrFlat cfg { env := httpEnv0 cfg } (encFLines ls ++ rest) =
      (.head (q.head cfg) (q.proto == bs Gen.http11), rest) := by
  obtain ⟨r', hfeed, h11, hproc⟩ := http_head_roundtrip cfg q hq
  rw [hdrFlat_flines cfg ls { env := httpEnv0 cfg } r' rest hw.wf rfl rfl rfl rfl (by rw [hw.vals]; exact hfeed),
    hproc, h11]

theorem hdrSpan_peer (cfg : HttpCfg) (q : HttpPeer) (hq : q.ok cfg) (ls : List FLine) (hw : HttpWire q ls)
    (rest : Bytes) : hdrSpan cfg { env := httpEnv0 cfg } (encFLines ls ++ rest) = (encFLines ls).length := by
  unfold hdrSpan
  rw [hdrFlat_peer cfg q hq ls hw rest]
  simp

theorem httpFlatConn_step (cfg : HttpCfg) (lim : Limits) (q : HttpPeer) (hq : q.ok cfg) (ls : List FLine)
    (hw : HttpWire q ls) (rest : Bytes) (fuel : Nat) (hints : List Bool) :
    httpFlatConn cfg lim (fuel + 1) hints (encFLines ls ++ rest) =
      (let o := reqOutcome lim (q.head cfg) rest
       if isApp o.1 && httpKeep (q.head cfg) (q.proto == bs Gen.http11) (hints.headD true) then
         (httpFlatConn cfg lim fuel hints.tail o.2).map (o.1 :: ·)
       else some [o.1]) := by
  conv => lhs; unfold httpFlatConn
  rw [hdrSpan_peer cfg q hq ls hw rest, hdrFlat_peer cfg q hq ls hw rest]
  have : ¬ (encFLines ls).length > Gen.httpHeaderCap := by have := hw.cap; omega
  simp only [this, if_false]

structure HttpItem where
  q : HttpPeer
  ls : List FLine
  body : Bytes

def HttpItem.wire (x : HttpItem) : Bytes := encFLines x.ls ++ x.body

/-- well-formed, answered by the application, and the connection stays open whatever the response framing -/
structure HttpItem.ok (cfg : HttpCfg) (lim : Limits) (x : HttpItem) : Prop where
  q : x.q.ok cfg
  wire : HttpWire x.q x.ls
  cl : (x.q.head cfg).contentLength = x.body.length
  app : isApp (reqOutcome lim (x.q.head cfg) x.body).1 = true
  keep : ∀ known, httpKeep (x.q.head cfg) (x.q.proto == bs Gen.http11) known = true

def HttpItem.outcome (cfg : HttpCfg) (lim : Limits) (x : HttpItem) : Outcome := (reqOutcome lim (x.q.head cfg) x.body).1

def encHttpSeq (xs : List HttpItem) : Bytes := xs.flatMap HttpItem.wire

theorem httpFlatConn_seq (cfg : HttpCfg) (lim : Limits) : ∀ (xs : List HttpItem) (fuel : Nat) (hints : List Bool),
    (∀ x ∈ xs, x.ok cfg lim) → xs.length < fuel →
    httpFlatConn cfg lim fuel hints (encHttpSeq xs) =
      some (xs.map (HttpItem.outcome cfg lim) ++ [.aborted .eof false false]) := by
  intro xs
  induction xs with
  | nil =>
    intro fuel hints _ hf
    obtain ⟨f, rfl⟩ : ∃ f, fuel = f + 1 := ⟨fuel - 1, by simp at hf; omega⟩
    unfold httpFlatConn
    simp [encHttpSeq, hdrSpan, hdrFlat_empty cfg { env := httpEnv0 cfg } rfl]
  | cons x t ih =>
    intro fuel hints hok hf
    obtain ⟨f, rfl⟩ : ∃ f, fuel = f + 1 := ⟨fuel - 1, by simp at hf; omega⟩
    have hx := hok x (by simp)
    have hshape : encHttpSeq (x :: t) = encFLines x.ls ++ (x.body ++ encHttpSeq t) := by
      simp [encHttpSeq, HttpItem.wire, List.append_assoc]
    rw [hshape, httpFlatConn_step cfg lim x.q hx.q x.ls hx.wire]
    rw [reqOutcome_exact lim _ x.body (encHttpSeq t) hx.cl hx.app]
    simp only [hx.app, hx.keep, Bool.and_self, if_true]
    rw [ih f hints.tail (fun y hy => hok y (by simp [hy])) (by simp at hf ⊢; omega)]
    simp [HttpItem.outcome]

end Cppcms.C01
