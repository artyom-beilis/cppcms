import Cppcms.C01.Request
/-!
# C01/C02 — the protocol independent layer at the level of its actions

`runRequest` (Request.lean) summarises what `connection::load_content … context::on_request_ready` do with a
request in one `Outcome`.  Here the same layer is run callback by callback: the bodies of
`connection::on_headers_read`, `set_error`, `handle_http_error`, `handle_http_error_eof`, `load_content`,
`on_some_content_read`, `context::on_request_ready` and `request::on_error` are the `CStmt` programs
regenerated from the source (`Gen.cgi_*`, `Gen.ctx_on_request_ready`, `Gen.req_on_error`), interpreted with
sequential fall-through semantics, and the machine records the *actions*: application calls, filter
notifications, the error page, the completion handler.

It is a checked interpreter: a callback that does anything after it has handed the request on (called the
completion handler, started the next asynchronous operation, passed control to the next callback), or that
ends without handing it on, halts the machine with `.crash`.
-/
namespace Cppcms.C01
open Cppcms

inductive Act
  /-- `app->main()` from `context::on_headers_ready` (content filter application, before the content) -/
  | mainEarly
  /-- `filter->on_end_of_content()` -/
  | endOfContent
  /-- `on_async_read_complete()` -/
  | readComplete
  /-- the completion handler `h(...)`, i.e. `context::on_request_ready(error)` -/
  | done (error : Bool)
  /-- `filter->on_error()` -/
  | onError
  /-- the application gets the ready request (`dispatch` / `submit_to_pool_internal`) -/
  | dispatch
  /-- the error page goes out (`async_write(…, eof)`) with this status -/
  | write (code : Int) (eof : Bool)
  /-- `do_eof()` -/
  | eof
deriving Repr, DecidableEq

inductive Pending
  | read (want : Nat)
  | write
deriving Repr, DecidableEq

/-- the running callback: its variables, whether it has returned, whether it has handed the request on -/
structure Frame where
  v : CVars := {}
  returned : Bool := false
  handed : Bool := false

/-- connection, context and request objects, and what has been observed so far -/
structure World (σ : Type) where
  st : σ
  halt : Option Outcome := none
  acts : List Act := []
  pending : Option Pending := none
  /-- `d->app`, `d->filter`, `d->no_on_error` -/
  appAttached : Bool := false
  filterSet : Bool := false
  noOnError : Bool := false
  /-- `content_length - read_size`, `read_full` / `buffer_size`, the bytes delivered so far -/
  remaining : Nat := 0
  chunkMode : Option Nat := none
  body : Bytes := []
  /-- what `on_content_progress` makes of the complete content -/
  fin : Bytes → Outcome := fun _ => .crash "no content expected"
  /-- the bytes the last read delivered -/
  chunk : Bytes := []
  lastErr : Err := .eof
  /-- status of the response object -/
  pageStatus : Int := 200
  /-- what the application is run on -/
  result : Option Outcome := none

def World.crash {σ : Type} (w : World σ) (what : String) : World σ := { w with halt := some (.crash what) }

def World.emit {σ : Type} (w : World σ) (a : Act) : World σ := { w with acts := w.acts ++ [a] }

def earlyActs (pre : Bool) : List Act := if pre then [.mainEarly] else []

/-! ## sequential semantics of `CStmt` -/

/-- statements are skipped once the callback has returned or the machine has halted -/
def live {σ : Type} (f : Frame) (w : World σ) : Bool := !f.returned && w.halt.isNone

def execWith {σ : Type} (prim : CPrim → Frame → World σ → Frame × World σ) : CStmt → Frame → World σ → Frame × World σ
  | .skip, f, w => (f, w)
  | .ret, f, w => if live f w then ({ f with returned := true }, w) else (f, w)
  | .call p, f, w =>
    if live f w then
      if f.handed then (f, w.crash s!"a callback goes on after it has handed the request on: {repr p}") else prim p f w
    else (f, w)
  | .seq a b, f, w => let r := execWith prim a f w; execWith prim b r.1 r.2
  | .ite c t e, f, w => if live f w then (if c f.v then execWith prim t f w else execWith prim e f w) else (f, w)

/-- a callee that is itself a callback of the chain: runs in its own frame and must hand the request on;
for the caller that call was the hand-over -/
def callHandOver {σ : Type} (run : CStmt → Frame → World σ → Frame × World σ) (name : String) (body : CStmt)
    (v : CVars) (f : Frame) (w : World σ) : Frame × World σ :=
  let r := run body { v := v } w
  ({ f with handed := true },
   if r.2.halt.isNone && !r.1.handed then r.2.crash (name ++ " ends without handing the request on") else r.2)

/-- an ordinary callee (`request::on_error`) -/
def callPlain {σ : Type} (run : CStmt → Frame → World σ → Frame × World σ) (body : CStmt) (v : CVars)
    (f : Frame) (w : World σ) : Frame × World σ :=
  (f, (run body { v := v } w).2)

/-- `context::on_headers_ready()`: pool lookup, `request::prepare`, the early `main()` of a content filter
application, `request::on_content_start` — as `requestPlan` describes it -/
def semHeadersReady {σ : Type} (lim : Limits) (h : Head) (f : Frame) (w : World σ) : Frame × World σ :=
  match requestPlan lim h with
  | .done (.app k pre vw) =>
    ({ f with v := { f.v with status := 0, contentLength := h.contentLength } },
     { w with acts := w.acts ++ earlyActs pre, appAttached := pre, filterSet := pre, result := some (.app k pre vw) })
  | .done (.status code pre oe) =>
    ({ f with v := { f.v with status := code, contentLength := h.contentLength } },
     { w with acts := w.acts ++ earlyActs pre, appAttached := oe, filterSet := oe })
  | .done o => (f, { w with halt := some o })
  | .read n chunk pre fin =>
    ({ f with v := { f.v with status := 0, contentLength := h.contentLength } },
     { w with acts := w.acts ++ earlyActs pre, appAttached := pre, filterSet := pre, remaining := n, chunkMode := chunk,
              fin := fin })

/-- `context::on_content_progress(n)` for the bytes the last read delivered: (status, world) -/
def semContentProgress {σ : Type} (w : World σ) : Int × World σ :=
  if w.chunk.isEmpty then (0, w)
  else
    let body := w.body ++ w.chunk
    let remaining := w.remaining - w.chunk.length
    if remaining == 0 then
      match w.fin body with
      | .status code _ _ =>
        -- the urlencoded form does not parse: returns before the filter is told and before `ready` is set
        (code, { w with body := body, remaining := remaining })
      | o =>
        (0, { w with body := body, remaining := remaining,
                     acts := w.acts ++ (if w.filterSet then [.endOfContent] else []), result := some o })
    else (0, { w with body := body, remaining := remaining })

/-- meaning of the statements; `run` executes a callee's body -/
def primSem {σ : Type} (lim : Limits) (h : Head) (run : CStmt → Frame → World σ → Frame × World σ) (p : CPrim)
    (f : Frame) (w : World σ) : Frame × World σ :=
  match p with
  | .set_error => callHandOver run "set_error" Gen.cgi_set_error f.v f w
  | .h_aborted => ({ f with handed := true }, (run Gen.ctx_on_request_ready { v := { error := true } } (w.emit (.done true))).2)
  | .h_completed => ({ f with handed := true }, (run Gen.ctx_on_request_ready { v := { error := false } } (w.emit (.done false))).2)
  | .load_content => callHandOver run "load_content" Gen.cgi_load_content {} f w
  | .handle_http_error => callHandOver run "handle_http_error" Gen.cgi_handle_http_error { code := f.v.status } f w
  | .async_read_some =>
    if w.pending.isSome then (f, w.crash "two asynchronous operations pending")
    else ({ f with handed := true }, { w with pending := some (.read f.v.bufSecond) })
  | .async_write eof =>
    if w.pending.isSome then (f, w.crash "two asynchronous operations pending")
    else ({ f with handed := true }, { (w.emit (.write w.pageStatus eof)) with pending := some .write })
  | .forward => (f, w.crash "forwarding is not modelled")
  | .dispatch => ({ f with handed := true }, w.emit .dispatch)
  | .submit_to_pool => ({ f with handed := true }, w.emit .dispatch)
  | .check_forwarding => ({ f with v := { f.v with addrPort := 0, addrHostEmpty := true } }, w)
  | .on_headers_ready => semHeadersReady lim h f w
  | .on_content_progress => let r := semContentProgress w; ({ f with v := { f.v with status := r.1 } }, r.2)
  | .get_buffer => ({ f with v := { f.v with bufSecond := wantOf w.chunkMode w.remaining } }, w)
  | .on_async_read_complete => (f, w.emit .readComplete)
  | .do_eof => (f, w.emit .eof)
  | .set_status => (f, { w with pageStatus := f.v.code })
  | .set_error_state => (f, w)
  | .take_app => ({ f with v := { f.v with app := w.appAttached } }, { w with appAttached := false })
  | .request_on_error => callPlain run Gen.req_on_error { noOnError := w.noOnError, filter := w.filterSet } f w
  | .filter_on_error => (f, w.emit .onError)
  | .nop _ => (f, w)

/-- call depth is bounded (`on_some_content_read → set_error → h → on_request_ready → request::on_error`) -/
def execD {σ : Type} (lim : Limits) (h : Head) : Nat → CStmt → Frame → World σ → Frame × World σ
  | 0 => fun _ f w => (f, w.crash "call depth")
  | d + 1 => execWith (primSem lim h (execD lim h d))

def callDepth : Nat := 6

/-- an event of the event loop runs a callback from the top -/
def runCallback {σ : Type} (lim : Limits) (h : Head) (name : String) (body : CStmt) (v : CVars) (w : World σ) : World σ :=
  let r := execD lim h callDepth body { v := v } w
  if r.2.halt.isNone && !r.1.handed then r.2.crash (name ++ " ends without handing the request on") else r.2

/-- the event loop: the pending read or write completes and its callback runs; `wfail`: the write of the
error page fails -/
def cgiLoop {σ : Type} (lim : Limits) (h : Head) (rd : Nat → σ → Except Err (Bytes × σ)) (wfail : Bool) :
    Nat → World σ → World σ
  | 0, w => if w.halt.isNone && w.pending.isSome then w.crash "out of fuel" else w
  | fuel + 1, w =>
    if w.halt.isSome then w
    else match w.pending with
    | none => w
    | some (.read want) =>
      match rd want w.st with
      | .error e =>
        cgiLoop lim h rd wfail fuel
          (runCallback lim h "on_some_content_read" Gen.cgi_on_some_content_read { e := true }
            { w with pending := none, lastErr := e })
      | .ok (got, st') =>
        cgiLoop lim h rd wfail fuel
          (runCallback lim h "on_some_content_read" Gen.cgi_on_some_content_read { e := false }
            { w with pending := none, st := st', chunk := got })
    | some .write =>
      cgiLoop lim h rd wfail fuel
        (runCallback lim h "handle_http_error_eof" Gen.cgi_handle_http_error_eof { e := wfail } { w with pending := none })

/-- the completion of `async_read_headers` (`hdrErr`: with an error) -/
def cgiStart {σ : Type} (lim : Limits) (hdrErr : Option Err) (h : Head) (st : σ) : World σ :=
  runCallback lim h "on_headers_read" Gen.cgi_on_headers_read { e := hdrErr.isSome } { st := st, lastErr := hdrErr.getD .eof }

/-- one request from the completion of `async_read_headers` to the end -/
def cgiRun {σ : Type} (lim : Limits) (rd : Nat → σ → Except Err (Bytes × σ)) (wfail : Bool) (hdrErr : Option Err)
    (h : Head) (st : σ) : World σ :=
  let w := cgiStart lim hdrErr h st
  cgiLoop lim h rd wfail (w.remaining + 2) w

/-- the `Outcome` that `runRequest` reports, read off the actions -/
def summaryOf (acts : List Act) (result : Option Outcome) (lastErr : Err) : Outcome :=
  if acts.contains .dispatch then result.getD (.crash "dispatched without a request")
  else
    match acts.findSome? (fun a => match a with | .write c _ => some c | _ => none) with
    | some c => .status c.toNat (acts.contains .mainEarly) (acts.contains .onError)
    | none => .aborted lastErr (acts.contains .mainEarly) (acts.contains .onError)

def World.summary {σ : Type} (m : World σ) : Outcome :=
  match m.halt with
  | some o => o
  | none => summaryOf m.acts m.result m.lastErr

end Cppcms.C01
