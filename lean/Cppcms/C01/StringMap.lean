import Cppcms.C01.Basic
import Cppcms.C01.Gen
/-!
# `cppcms::impl::string_map` (private/string_map.h): the open-addressing table

`Env` (Basic.lean) is the abstract view the front-end models use.  Here is the concrete table — slots, linear probing with
the start/step expressions regenerated from the source, growth by re-insertion — with the hash function as a parameter,
and the theorem that `get` on the table is `Env.get?`: the value of the entry with that key that went into the current
table first (`add` does not look for an existing key).  The string pool is only storage.
-/
namespace Cppcms.C01
open Cppcms

abbrev Slot := Option (Bytes × Bytes)

/-- walk `pos, step pos, …` (at most `fuel` positions) to the first one where `stop` holds -/
def probe (step : Nat → Nat) (stop : Nat → Bool) : Nat → Nat → Option Nat
  | 0, _ => none
  | f + 1, pos => if stop pos then some pos else probe step stop f (step pos)

/-- `data_[pos]` (`none`: `key == 0`) -/
def slotAt (t : List Slot) (pos : Nat) : Slot := t.getD pos none

def slotEmpty (t : List Slot) (pos : Nat) : Bool := (slotAt t pos).isNone
def slotStops (t : List Slot) (k : Bytes) (pos : Nat) : Bool :=
  match slotAt t pos with
  | none => true
  | some e => e.1 == k

/-- `string_map::insert(d,e,first)` (the slot part): first free slot from `hash % size` -/
def tInsert (h : Bytes → Nat) (t : List Slot) (e : Bytes × Bytes) : List Slot :=
  match probe (Gen.smInsertStep · t.length) (slotEmpty t) t.length (Gen.smInsertStart (h e.1) t.length) with
  | some p => t.set p (some e)
  | none => t

/-- `string_map::get(key)` -/
def tGet (h : Bytes → Nat) (t : List Slot) (k : Bytes) : Option Bytes :=
  match probe (Gen.smGetStep · t.length) (slotStops t k) t.length (Gen.smGetStart (h k) t.length) with
  | some p => (slotAt t p).map (·.2)
  | none => none

/-- the table built by putting `tbl` into `size` empty slots, in order -/
def tBuild (h : Bytes → Nat) (size : Nat) (tbl : List (Bytes × Bytes)) : List Slot :=
  tbl.foldl (tInsert h) (List.replicate size none)

/-- concrete `string_map`: the slots next to the abstract bookkeeping -/
structure SMap where
  slots : List Slot := List.replicate Gen.smInitSize none
  env : Env := {}

/-- `string_map::add(key,value)` -/
def SMap.add (h : Bytes → Nat) (m : SMap) (k v : Bytes) : SMap :=
  let m : SMap :=
    if Gen.smGrow m.env.chain.length m.slots.length then
      { slots := m.env.chain.foldl (tInsert h) (List.replicate (Gen.smNewSize m.slots.length) none),
        env := { chain := m.env.chain.reverse, tbl := m.env.chain, size := m.env.size * 2 } }
    else m
  { slots := tInsert h m.slots (k, v),
    env := { m.env with chain := (k, v) :: m.env.chain, tbl := m.env.tbl ++ [(k, v)] } }

def SMap.get (h : Bytes → Nat) (m : SMap) (k : Bytes) : Option Bytes := tGet h m.slots k

def SMap.ofAdds (h : Bytes → Nat) (adds : List (Bytes × Bytes)) : SMap :=
  adds.foldl (fun m kv => m.add h kv.1 kv.2) {}

theorem probe_some_stop {step : Nat → Nat} {stop : Nat → Bool} :
    ∀ (f pos p : Nat), probe step stop f pos = some p → stop p = true := by
  intro f
  induction f with
  | zero => intro pos p h; cases h
  | succ f ih =>
    intro pos p h
    rw [probe] at h
    split at h
    · rename_i hs; cases h; exact hs
    · exact ih _ p h

theorem probe_mono {step : Nat → Nat} {stop stop' : Nat → Bool}
    (hle : ∀ q, stop q = false → stop' q = false) :
    ∀ (f pos p : Nat), probe step stop f pos = some p → stop' p = true → probe step stop' f pos = some p := by
  intro f
  induction f with
  | zero => intro pos p h; cases h
  | succ f ih =>
    intro pos p h hp
    rw [probe] at h ⊢
    cases hs : stop pos with
    | true => rw [hs, if_pos rfl] at h; cases h; rw [if_pos hp]
    | false =>
      rw [hs, if_neg Bool.false_ne_true] at h
      rw [hle pos hs, if_neg Bool.false_ne_true]
      exact ih _ p h hp

theorem probe_none_all {stop : Nat → Bool} (size : Nat) :
    ∀ (f pos : Nat), pos < size → probe (Gen.smInsertStep · size) stop f pos = none →
      ∀ i, i < f → stop ((pos + i) % size) = false := by
  intro f
  induction f with
  | zero => intro pos _ _ i hi; omega
  | succ f ih =>
    intro pos hp h i hi
    rw [probe] at h
    split at h
    · cases h
    · rename_i hsp
      cases i with
      | zero => rw [Nat.add_zero, Nat.mod_eq_of_lt hp]; simpa using hsp
      | succ j =>
        have := ih (Gen.smInsertStep pos size) (Nat.mod_lt _ (by omega)) h j (by omega)
        rwa [Gen.smInsertStep, Nat.mod_add_mod, Nat.add_assoc, Nat.add_comm 1 j] at this

theorem probe_finds {stop : Nat → Bool} (size pos q : Nat) (hp : pos < size) (hq : q < size) (hstop : stop q = true) :
    probe (Gen.smInsertStep · size) stop size pos ≠ none := by
  intro hnone
  have hall := probe_none_all size size pos hp hnone
  -- the offset that leads from `pos` to `q`
  by_cases hge : pos ≤ q
  · have := hall (q - pos) (by omega)
    rw [Nat.add_sub_cancel' hge, Nat.mod_eq_of_lt hq, hstop] at this
    cases this
  · have := hall (q + size - pos) (by omega)
    rw [show pos + (q + size - pos) = q + size by omega, Nat.add_mod_right, Nat.mod_eq_of_lt hq, hstop] at this
    cases this

theorem probe_lt {stop : Nat → Bool} (size : Nat) :
    ∀ (f pos p : Nat), pos < size → probe (Gen.smInsertStep · size) stop f pos = some p → p < size := by
  intro f
  induction f with
  | zero => intro pos p _ h; cases h
  | succ f ih =>
    intro pos p hpos h
    rw [probe] at h
    split at h
    · cases h; exact hpos
    · exact ih _ p (Nat.mod_lt _ (by omega)) h

theorem exists_empty (t : List Slot) (h : t.countP (·.isSome) < t.length) : ∃ q, q < t.length ∧ slotAt t q = none := by
  have : ¬ ∀ a ∈ t, a.isSome = true := fun hall => by rw [List.countP_eq_length.2 hall] at h; omega
  simp only [Classical.not_forall] at this
  obtain ⟨a, ha, hn⟩ := this
  obtain ⟨q, hq, rfl⟩ := List.getElem_of_mem ha
  exact ⟨q, hq, by simpa [slotAt, List.getD_eq_getElem?_getD, hq] using hn⟩

theorem slotAt_set_ne (t : List Slot) (q p : Nat) (x : Slot) (hne : p ≠ q) : slotAt (t.set q x) p = slotAt t p := by
  simp [slotAt, List.getD_eq_getElem?_getD, hne.symm]

theorem slotAt_set_eq (t : List Slot) (q : Nat) (x : Slot) (hq : q < t.length) : slotAt (t.set q x) q = x := by
  simp [slotAt, List.getD_eq_getElem?_getD, hq]

theorem countP_set_none (t : List Slot) (q : Nat) (e : Bytes × Bytes) (hq : q < t.length) (hn : slotAt t q = none) :
    (t.set q (some e)).countP (·.isSome) = t.countP (·.isSome) + 1 := by
  have : t[q] = none := by simpa [slotAt, List.getD_eq_getElem?_getD, hq] using hn
  simp [List.countP_set hq, this]

theorem tInsert_spec (h : Bytes → Nat) (t : List Slot) (e : Bytes × Bytes) (hfull : t.countP (·.isSome) < t.length) :
    ∃ q, q < t.length ∧ slotAt t q = none ∧ tInsert h t e = t.set q (some e) ∧
      probe (Gen.smInsertStep · t.length) (slotEmpty t) t.length (Gen.smInsertStart (h e.1) t.length) = some q := by
  obtain ⟨q0, hq0, hn0⟩ := exists_empty t hfull
  have hstart : Gen.smInsertStart (h e.1) t.length < t.length := Nat.mod_lt _ (by omega)
  cases hp : probe (Gen.smInsertStep · t.length) (slotEmpty t) t.length (Gen.smInsertStart (h e.1) t.length) with
  | none => exact absurd hp (probe_finds t.length _ q0 hstart hq0 (by simp [slotEmpty, hn0]))
  | some q =>
    have hqn : slotAt t q = none := by simpa [slotEmpty] using probe_some_stop _ _ _ hp
    exact ⟨q, probe_lt _ _ _ _ hstart hp, hqn, by simp [tInsert, hp], rfl⟩

theorem slotStops_set (t : List Slot) (q : Nat) (e : Bytes × Bytes) (k : Bytes) (hq : q < t.length) (r : Nat) :
    slotStops (t.set q (some e)) k r = if r = q then e.1 == k else slotStops t k r := by
  by_cases hr : r = q
  · simp only [hr, slotStops, slotAt_set_eq t q _ hq, if_true]
  · simp only [slotStops, slotAt_set_ne t q r _ hr, if_neg hr]

/-- invariants of a table built by insertion, and the meaning of `get` on it -/
structure TInv (h : Bytes → Nat) (size : Nat) (tbl : List (Bytes × Bytes)) (t : List Slot) : Prop where
  len : t.length = size
  cnt : t.countP (·.isSome) = tbl.length
  mem : ∀ p e, slotAt t p = some e → e ∈ tbl
  get : ∀ k, tGet h t k = (tbl.find? (·.1 == k)).map (·.2)

theorem tinv_empty (h : Bytes → Nat) (size : Nat) : TInv h size [] (List.replicate size none) := by
  have hnone : ∀ p, slotAt (List.replicate size none) p = none := fun p => by
    simp only [slotAt, List.getD_eq_getElem?_getD, List.getElem?_replicate]; split <;> rfl
  refine ⟨by simp, by simp [List.countP_replicate], fun p e he => (by rw [hnone] at he; cases he), fun k => ?_⟩
  rw [tGet]
  split
  · rw [hnone]; rfl
  · rfl

/-- the start and step expressions of `get` are those of `insert` (regenerated from the source) -/
theorem get_probes_like_insert : Gen.smGetStart = Gen.smInsertStart ∧ Gen.smGetStep = Gen.smInsertStep := ⟨rfl, rfl⟩

theorem tinv_insert (h : Bytes → Nat) (size : Nat) (tbl : List (Bytes × Bytes)) (t : List Slot) (e : Bytes × Bytes)
    (hi : TInv h size tbl t) (hroom : tbl.length < size) : TInv h size (tbl ++ [e]) (tInsert h t e) := by
  obtain ⟨hlen, hcnt, hmem, hget⟩ := hi
  obtain ⟨q, hq, hqn, hins, hprobe⟩ := tInsert_spec h t e (by rw [hcnt, hlen]; exact hroom)
  rw [hins]
  refine ⟨by simp [hlen], by rw [countP_set_none t q e hq hqn, hcnt]; simp, fun p x hx => ?_, fun k => ?_⟩
  · by_cases hpq : p = q
    · rw [hpq, slotAt_set_eq t q _ hq] at hx
      cases hx; simp
    · rw [slotAt_set_ne t q p _ hpq] at hx
      exact List.mem_append_left _ (hmem p x hx)
  · -- the walk for `k` on the new table against the walk on the old one: they differ at `q` only, where the old
    -- walk stops (an empty slot)
    have hset := slotStops_set t q e k hq
    have hle : ∀ r, slotStops t k r = false → slotStops (t.set q (some e)) k r = false := fun r hr => by
      rw [hset, if_neg (fun h0 => by rw [h0, slotStops, hqn] at hr; cases hr)]; exact hr
    have hold := hget k
    rw [List.find?_append, tGet, List.length_set]
    rw [tGet] at hold
    cases hfind : tbl.find? (·.1 == k) with
    | some x =>
      -- present before: the walk stops where it stopped before
      rw [hfind] at hold
      cases hp : probe (Gen.smGetStep · t.length) (slotStops t k) t.length (Gen.smGetStart (h k) t.length) with
      | none => rw [hp] at hold; cases hold
      | some p =>
        simp only [hp] at hold
        have hpq : p ≠ q := fun h0 => by rw [h0, hqn] at hold; cases hold
        rw [probe_mono hle _ _ _ hp (by rw [hset, if_neg hpq]; exact probe_some_stop _ _ _ hp)]
        simpa only [slotAt_set_ne t q p _ hpq, Option.some_or] using hold
    | none =>
      -- absent before: no slot holds `k`
      have habs : ∀ p x, slotAt t p = some x → (x.1 == k) = false := fun p x hx => by
        simpa using List.find?_eq_none.1 hfind x (hmem p x hx)
      simp only [Option.none_or, List.find?_cons, List.find?_nil]
      cases hk : e.1 == k with
      | true =>
        -- the walk for `k` is the walk of the insertion
        have hkeq : e.1 = k := beq_iff_eq.1 hk
        subst hkeq
        have hsame : slotStops t e.1 = slotEmpty t := funext fun r => by
          simp only [slotStops, slotEmpty]
          cases hr : slotAt t r with
          | none => rfl
          | some x => simpa using habs r x hr
        rw [get_probes_like_insert.1, get_probes_like_insert.2,
          probe_mono hle _ _ _ (by rw [hsame]; exact hprobe) (by rw [hset, if_pos rfl]; exact hk)]
        simp only [slotAt_set_eq t q _ hq]
      | false =>
        split
        · rename_i p hp
          have hst := probe_some_stop _ _ _ hp
          by_cases hpq : p = q
          · rw [hset, if_pos hpq, hk] at hst; cases hst
          · rw [hset, if_neg hpq, slotStops] at hst
            rw [slotAt_set_ne t q p _ hpq]
            cases hx : slotAt t p with
            | none => rfl
            | some x => simp only [hx, habs p x hx] at hst; cases hst
        · rfl

theorem tinv_foldl (h : Bytes → Nat) (size : Nat) :
    ∀ (l pre : List (Bytes × Bytes)) (t : List Slot), TInv h size pre t → pre.length + l.length ≤ size →
      TInv h size (pre ++ l) (l.foldl (tInsert h) t) := by
  intro l
  induction l with
  | nil => intro pre t hi _; simpa using hi
  | cons e r ih =>
    intro pre t hi hlen
    rw [List.length_cons] at hlen
    have := ih (pre ++ [e]) (tInsert h t e) (tinv_insert h size pre t e hi (by omega)) (by simp; omega)
    simpa [List.append_assoc] using this

/-- invariant of a `string_map` reached by `add`s -/
structure SInv (h : Bytes → Nat) (m : SMap) : Prop where
  tbl : TInv h m.slots.length m.env.tbl m.slots
  chain : m.env.chain.length = m.env.tbl.length
  room : m.env.tbl.length < m.slots.length
  size : m.env.size = m.slots.length
  /-- for the first insertion into a table that did not grow: the failed growth test gives only `1 ≤ size` -/
  big : 2 ≤ m.slots.length

theorem sinv_empty (h : Bytes → Nat) : SInv h {} :=
  ⟨by simpa using tinv_empty h Gen.smInitSize, rfl, by decide, by decide, by decide⟩

theorem sinv_insert (h : Bytes → Nat) (m : SMap) (k v : Bytes) (htbl : TInv h m.slots.length m.env.tbl m.slots)
    (hchain : m.env.chain.length = m.env.tbl.length) (hroom : m.env.tbl.length + 1 < m.slots.length)
    (hsize : m.env.size = m.slots.length) :
    SInv h { slots := tInsert h m.slots (k, v),
             env := { m.env with chain := (k, v) :: m.env.chain, tbl := m.env.tbl ++ [(k, v)] } } := by
  have hins := tinv_insert h m.slots.length m.env.tbl m.slots (k, v) htbl (by omega)
  have hl := hins.len
  exact ⟨by rw [hl]; exact hins, by simp [hchain], by simp only [List.length_append, List.length_singleton, hl]; exact hroom,
    by rw [hl]; exact hsize, by rw [hl]; omega⟩

theorem sinv_add (h : Bytes → Nat) (m : SMap) (k v : Bytes) (hi : SInv h m) :
    SInv h (m.add h k v) ∧ (m.add h k v).env = m.env.add k v := by
  obtain ⟨htbl, hchain, hroom, hsize, hbig⟩ := hi
  unfold SMap.add Env.add
  by_cases hg : m.env.chain.length * 2 ≥ m.env.size
  · -- the table is rebuilt with twice the size from the iteration chain
    have hgb : Gen.smGrow m.env.chain.length m.slots.length = true := by rw [← hsize]; exact decide_eq_true hg
    simp only [hgb, hg, if_true]
    have hbuild := tinv_foldl h (Gen.smNewSize m.slots.length) m.env.chain [] _ (tinv_empty h _)
      (by simp only [Gen.smNewSize, List.length_nil]; omega)
    rw [List.nil_append] at hbuild
    refine ⟨sinv_insert h
      { slots := m.env.chain.foldl (tInsert h) (List.replicate (Gen.smNewSize m.slots.length) none),
        env := { chain := m.env.chain.reverse, tbl := m.env.chain, size := m.env.size * 2 } } k v
      (by rw [hbuild.len]; exact hbuild) (by simp) ?_ (by rw [hbuild.len, hsize]; rfl), trivial⟩
    have := hbuild.len
    simp only [Gen.smNewSize] at this ⊢
    omega
  · have hgb : Gen.smGrow m.env.chain.length m.slots.length = false := by rw [← hsize]; exact decide_eq_false hg
    simp only [hgb, hg, Bool.false_eq_true, if_false]
    exact ⟨sinv_insert h m k v htbl hchain (by omega) hsize, trivial⟩

theorem sinv_ofAdds (h : Bytes → Nat) (adds : List (Bytes × Bytes)) :
    SInv h (SMap.ofAdds h adds) ∧ (SMap.ofAdds h adds).env = Env.empty.addAll adds := by
  have : ∀ (l : List (Bytes × Bytes)) (m : SMap), SInv h m →
      SInv h (l.foldl (fun m kv => m.add h kv.1 kv.2) m) ∧
      (l.foldl (fun m kv => m.add h kv.1 kv.2) m).env = l.foldl (fun e kv => e.add kv.1 kv.2) m.env := by
    intro l
    induction l with
    | nil => intro m hi; exact ⟨hi, rfl⟩
    | cons kv r ih =>
      intro m hi
      obtain ⟨h1, h2⟩ := sinv_add h m kv.1 kv.2 hi
      rw [List.foldl_cons, List.foldl_cons, ← h2]
      exact ih _ h1
  exact this adds {} (sinv_empty h)

/-- see `Props.get_after_adds` -/
theorem get_after_adds (h : Bytes → Nat) (adds : List (Bytes × Bytes)) (k : Bytes) :
    (SMap.ofAdds h adds).get h k = (Env.empty.addAll adds).get? k := by
  obtain ⟨hi, he⟩ := sinv_ofAdds h adds
  rw [SMap.get, Env.get?, hi.tbl.get k, he]

theorem env_addAll_mem : ∀ (l : List (Bytes × Bytes)) (e : Env), (∀ x, x ∈ e.tbl ↔ x ∈ e.chain) →
    ∀ x, x ∈ (e.addAll l).tbl ↔ (x ∈ e.tbl ∨ x ∈ l) := by
  intro l
  induction l with
  | nil => intro e _ x; simp [Env.addAll]
  | cons kv r ih =>
    intro e hi x
    obtain ⟨k, v⟩ := kv
    have hadd : (∀ x, x ∈ (e.add k v).tbl ↔ x ∈ (e.add k v).chain) ∧
        (∀ x, x ∈ (e.add k v).tbl ↔ (x ∈ e.tbl ∨ x = (k, v))) := by
      unfold Env.add
      split <;> simp [hi, or_comm]
    rw [show e.addAll ((k, v) :: r) = (e.add k v).addAll r from rfl, ih _ hadd.1 x, hadd.2 x, List.mem_cons, or_assoc]

theorem env_get_absent (adds : List (Bytes × Bytes)) (k : Bytes) (hk : ∀ e ∈ adds, e.1 ≠ k) :
    (Env.empty.addAll adds).get? k = none := by
  have hm := env_addAll_mem adds Env.empty (fun x => Iff.rfl)
  rw [Env.get?, List.find?_eq_none.2 (fun e he => by simpa using hk e (by simpa [Env.empty] using (hm e).1 he))]
  rfl

/-- no name is given two values -/
def Distinct (l : List (Bytes × Bytes)) : Prop := ∀ a ∈ l, ∀ b ∈ l, a.1 = b.1 → a = b

theorem env_get_distinct (adds : List (Bytes × Bytes)) (k v : Bytes)
    (hd : Distinct adds) (hkv : (k, v) ∈ adds) :
    (Env.empty.addAll adds).get? k = some v := by
  have hm := env_addAll_mem adds Env.empty (fun x => Iff.rfl)
  rw [Env.get?]
  cases hf : (Env.empty.addAll adds).tbl.find? (·.1 == k) with
  | none => exact absurd (by simp) (List.find?_eq_none.1 hf (k, v) ((hm (k, v)).2 (Or.inr hkv)))
  | some e =>
    have hin : e ∈ adds := by simpa [Env.empty] using (hm e).1 (List.mem_of_find?_eq_some hf)
    rw [hd e hin (k, v) hkv (by simpa using List.find?_some hf)]
    rfl

theorem get_absent (h : Bytes → Nat) (adds : List (Bytes × Bytes)) (k : Bytes)
    (hk : ∀ e ∈ adds, e.1 ≠ k) : (SMap.ofAdds h adds).get h k = none := by
  rw [get_after_adds, env_get_absent adds k hk]

theorem get_distinct (h : Bytes → Nat) (adds : List (Bytes × Bytes)) (k v : Bytes)
    (hd : Distinct adds) (hkv : (k, v) ∈ adds) :
    (SMap.ofAdds h adds).get h k = some v := by
  rw [get_after_adds, env_get_distinct adds k v hd hkv]

end Cppcms.C01
