import Cppcms.C01.Http
import Cppcms.C01.RequestStream
/-! HTTP: the header phase over the read-ahead buffer equals the header phase over the concatenated
stream as long as the header section fits into the 16 KiB cap; the body is drained from the
read-ahead buffer exactly once.  Read by C02 too: `PInv`/`pinv_cont`, the no-crash halves of the `_spec` lemmas. -/
namespace Cppcms.C01
open Cppcms

/-- invariant of the parser registers between two iterations of `step()`'s loop: no unsigned
wrap-around happened, `header_` is long enough for the `resize(size()-2)` of the states that do it
(`len4`, `len3`: state 4, CRLF seen; state 3, CR seen), and `bracket_counter_` is 1 exactly inside a comment -/
structure PInv (ps : Gen.PState) : Prop where
  under : ps.under = false
  unget : ps.unget = false
  st : ps.state ≤ 8
  len4 : ps.state = Gen.ps_space_or_other_exptected → 2 ≤ ps.rhdr.length
  len3 : ps.state = Gen.ps_lf_exptected → 1 ≤ ps.rhdr.length
  bc1 : (ps.state = Gen.ps_closing_bracket_expected ∨ ps.state = Gen.ps_pass_closing_bracket_expected) → ps.bc = 1
  bc0 : ¬ (ps.state = Gen.ps_closing_bracket_expected ∨ ps.state = Gen.ps_pass_closing_bracket_expected) → ps.bc = 0

theorem pinv_init : PInv {} := by
  constructor <;> simp [Gen.ps_space_or_other_exptected, Gen.ps_lf_exptected, Gen.ps_closing_bracket_expected, Gen.ps_pass_closing_bracket_expected]

macro "step_cases" h:ident : tactic => `(tactic| (
  unfold Gen.stepSwitch at $h:ident
  repeat' split at $h:ident
  all_goals try (simp only [Gen.stepArm_idle, Gen.stepArm_input_observed, Gen.stepArm_last_lf_exptected, Gen.stepArm_lf_exptected,
        Gen.stepArm_space_or_other_exptected, Gen.stepArm_quote_expected, Gen.stepArm_pass_quote_exptected,
        Gen.stepArm_closing_bracket_expected, Gen.stepArm_pass_closing_bracket_expected] at $h:ident)
  all_goals try (repeat' split at $h:ident)))

/-! Both facts about `Gen.stepSwitch` are proved by evaluating it with the state known, one state at a time; `split` on
the switch unfolded for an unknown state is slow to check. -/

section step
attribute [local simp] Gen.stepSwitch Gen.stepArm_idle Gen.stepArm_input_observed Gen.stepArm_last_lf_exptected
  Gen.stepArm_lf_exptected Gen.stepArm_space_or_other_exptected Gen.stepArm_quote_expected
  Gen.stepArm_pass_quote_exptected Gen.stepArm_closing_bracket_expected Gen.stepArm_pass_closing_bracket_expected
  Gen.ps_idle Gen.ps_input_observed Gen.ps_last_lf_exptected Gen.ps_lf_exptected Gen.ps_space_or_other_exptected
  Gen.ps_quote_expected Gen.ps_pass_quote_exptected Gen.ps_closing_bracket_expected
  Gen.ps_pass_closing_bracket_expected

/-- the three ways `parser::step()` returns: an error, the empty line, or a complete header line (seen one
byte late, in `space_or_other_exptected`: that byte is put back and the CRLF is cut off) -/
theorem stepSwitch_ret {s s' : Gen.PState} {c code : Nat} (h : Gen.stepSwitch s c = .ret code s') :
    (code = Gen.pr_error_observerd ∧ s' = s) ∨
    (code = Gen.pr_end_of_headers ∧ s' = { s with rhdr := [] }) ∨
    (code = Gen.pr_got_header ∧ s.state = Gen.ps_space_or_other_exptected ∧
      s' = { s with unget := true, under := s.under || decide (s.rhdr.length < 2), rhdr := s.rhdr.drop 2,
                    state := Gen.ps_idle }) := by
  obtain ⟨st, bc, rhdr, ug, un⟩ := s
  -- with the state known the switch reduces to its arm, `h` to a cascade over the byte tests; a state above 8 is an error
  match st with
  | 0 | 1 | 2 | 3 | 4 | 5 | 6 | 7 | 8 | n + 9 =>
    simp [-Gen.PStep.ret.injEq] at h
    repeat' split at h
    all_goals cases h
    all_goals simp [Gen.pr_error_observerd, Gen.pr_end_of_headers, Gen.pr_got_header]

theorem pinv_cont {ps s : Gen.PState} {c : Nat} (hi : PInv ps) (h : Gen.stepSwitch ps c = .cont s) :
    PInv { s with rhdr := c :: s.rhdr } := by
  obtain ⟨st, bc, rhdr, ug, un⟩ := ps
  obtain ⟨rfl, rfl, hst, hlen4, hlen3, hbc1, hbc0⟩ := hi
  -- the switch is evaluated in each of the nine states.  What the continuing arms need of the invariant: the LF after
  -- a CR leads to `space_or_other_exptected` with the byte appended, so `len3` gives the new `len4`; a fold there cuts
  -- the CRLF off `header_`, no wrap by `len4`; `(` opens a comment with `bracket_counter_` 0 (`bc0`), `)` closes it
  -- with `bracket_counter_` 1 (`bc1`), no wrap and 0 afterwards
  match st, hst with
  | 0, _ | 1, _ | 2, _ | 3, _ | 4, _ | 5, _ | 6, _ | 7, _ | 8, _ =>
    simp [-Gen.PStep.cont.injEq] at h hlen4 hlen3 hbc1 hbc0
    repeat' split at h
    all_goals cases h
    all_goals constructor <;> simp [*] <;> omega

end step

theorem stepSwitch_ret_ne_more {s s' : Gen.PState} {c code : Nat} (h : Gen.stepSwitch s c = .ret code s') :
    code ≠ Gen.pr_more_data := by
  rcases stepSwitch_ret h with ⟨rfl, _⟩ | ⟨rfl, _⟩ | ⟨rfl, _⟩ <;> decide

theorem parserRun_cons_cont {ps s1 : Gen.PState} {c : UInt8} (t : Bytes) (h : Gen.stepSwitch ps c.toNat = .cont s1) :
    parserRun ps (c :: t) = parserRun { s1 with rhdr := c.toNat :: s1.rhdr } t := by
  rw [parserRun, h]

theorem parserRun_cons_ret {ps s1 : Gen.PState} {c : UInt8} {code : Nat} (t : Bytes) (h : Gen.stepSwitch ps c.toNat = .ret code s1) :
    parserRun ps (c :: t) = (code, { s1 with unget := false }, if s1.unget then c :: t else t) := by
  rw [parserRun, h]

theorem parserRun_rest_le (ps : Gen.PState) (s : Bytes) : (parserRun ps s).2.2.length ≤ s.length := by
  fun_induction parserRun ps s with
  -- end of the buffer
  | case1 => simp
  -- the step on `c` continues (`hs`), `ih` is the claim for the rest
  | case2 ps c t s1 hs ih => simp only [List.length_cons]; omega
  -- the step on `c` returns `code` (`hs`)
  | case3 ps c t code s1 hs => dsimp only; split <;> simp

/-- why `LoopRes.more` carries no unread rest -/
theorem parserRun_more (ps : Gen.PState) (s : Bytes) (h : (parserRun ps s).1 = Gen.pr_more_data) :
    (parserRun ps s).2.2 = [] := by
  fun_induction parserRun ps s with
  | case1 => rfl
  | case2 ps c t s1 hs ih => exact ih h
  | case3 ps c t code s1 hs => exact absurd h (stepSwitch_ret_ne_more hs)

theorem parserRun_append (ps : Gen.PState) (a b : Bytes) :
    parserRun ps (a ++ b) =
      if (parserRun ps a).1 = Gen.pr_more_data then parserRun (parserRun ps a).2.1 b
      else ((parserRun ps a).1, (parserRun ps a).2.1, (parserRun ps a).2.2 ++ b) := by
  fun_induction parserRun ps a with
  | case1 => simp
  | case2 ps c t s1 hs ih => rw [List.cons_append, parserRun_cons_cont _ hs, ih]
  | case3 ps c t code s1 hs =>
    rw [List.cons_append, parserRun_cons_ret _ hs]
    simp only [stepSwitch_ret_ne_more hs, if_false]
    split <;> simp

theorem parserRun_pinv (ps : Gen.PState) (s : Bytes) (hi : PInv ps) :
    (parserRun ps s).2.1.under = false ∧
    (((parserRun ps s).1 = Gen.pr_more_data ∨ (parserRun ps s).1 = Gen.pr_got_header) → PInv (parserRun ps s).2.1) := by
  fun_induction parserRun ps s with
  | case1 => exact ⟨hi.under, fun _ => hi⟩
  | case2 ps c t s1 hs ih => exact ih (pinv_cont hi hs)
  | case3 ps c t code s1 hs =>
    dsimp only
    rcases stepSwitch_ret hs with ⟨rfl, rfl⟩ | ⟨rfl, rfl⟩ | ⟨rfl, h4, rfl⟩
    · exact ⟨hi.under, fun hc => by rcases hc with hc | hc <;> exact absurd hc (by decide)⟩
    · exact ⟨hi.under, fun hc => by rcases hc with hc | hc <;> exact absurd hc (by decide)⟩
    · have hlen := hi.len4 h4
      have hbc := hi.bc0 (by rw [h4]; decide)
      have hu : (ps.under || decide (ps.rhdr.length < 2)) = false := by simp [hi.under]; omega
      refine ⟨hu, fun _ => ?_⟩
      constructor <;> simp [hu, hbc, Gen.ps_idle, Gen.ps_space_or_other_exptected, Gen.ps_lf_exptected,
        Gen.ps_closing_bracket_expected, Gen.ps_pass_closing_bracket_expected]

/-- termination measure of the header loop: a header line ends at least two bytes after it began,
except when the CRLF was already seen in the previous buffer -/
def mu (ps : Gen.PState) (s : Bytes) : Nat :=
  2 * s.length + (if ps.state = Gen.ps_space_or_other_exptected then 1 else 0)

theorem parserRun_progress (ps : Gen.PState) (s : Bytes) (h : (parserRun ps s).1 = Gen.pr_got_header) :
    mu (parserRun ps s).2.1 (parserRun ps s).2.2 < mu ps s := by
  cases s with
  | nil => exact absurd (show Gen.pr_more_data = _ from h) (by decide)
  | cons c t =>
    cases hs : Gen.stepSwitch ps c.toNat with
    | cont s1 =>
      rw [parserRun_cons_cont _ hs] at h ⊢
      have := parserRun_rest_le { s1 with rhdr := c.toNat :: s1.rhdr } t
      unfold mu
      simp only [List.length_cons]
      split <;> split <;> omega
    | ret code s1 =>
      rw [parserRun_cons_ret _ hs] at h ⊢
      dsimp only at h ⊢
      rcases stepSwitch_ret hs with ⟨hc, _⟩ | ⟨hc, _⟩ | ⟨_, h4, rfl⟩
      · exact absurd (hc ▸ h) (by decide)
      · exact absurd (hc ▸ h) (by decide)
      · have : ¬ (Gen.ps_idle = Gen.ps_space_or_other_exptected) := by decide
        simp only [mu, h4, this, if_true, if_false, List.length_cons]
        omega

theorem parserRun_end_progress (ps : Gen.PState) (s : Bytes) (hi : PInv ps)
    (h : (parserRun ps s).1 = Gen.pr_end_of_headers) : (parserRun ps s).2.2.length < s.length := by
  fun_induction parserRun ps s with
  | case1 => exact absurd (show Gen.pr_more_data = _ from h) (by decide)
  | case2 ps c t s1 hs ih => exact Nat.lt_succ_of_lt (ih (pinv_cont hi hs) h)
  | case3 ps c t code s1 hs =>
    dsimp only at h ⊢
    rcases stepSwitch_ret hs with ⟨hc, _⟩ | ⟨_, rfl⟩ | ⟨hc, _⟩
    · exact absurd (hc ▸ h) (by decide)
    · simp [hi.unget]
    · exact absurd (hc ▸ h) (by decide)

theorem httpGotHeader_ps {r r' : HttpReq} (h : httpGotHeader r = some r') : r'.ps = r.ps := by
  unfold httpGotHeader at h
  simp only at h
  repeat' split at h
  all_goals first | (simp at h; done) | (simp only [Option.some.injEq] at h; subst h; rfl)

variable (cfg : HttpCfg)

def hdrLoopC (r : HttpReq) (s : Bytes) : LoopRes := hdrLoop cfg (mu r.ps s + 1) r s

theorem hdrLoop_fuel (k1 k2 : Nat) (r : HttpReq) (s : Bytes) (h1 : mu r.ps s < k1) (h2 : mu r.ps s < k2) :
    hdrLoop cfg k1 r s = hdrLoop cfg k2 r s := by
  induction k1 generalizing k2 r s with
  | zero => omega
  | succ k1 ih =>
    cases k2 with
    | zero => omega
    | succ k2 =>
      -- the two sides differ in the recursive call only, which is made after a `got_header`
      rw [hdrLoop, hdrLoop]
      by_cases hg : (parserRun r.ps s).1 = Gen.pr_got_header
      · cases hh : httpGotHeader { r with ps := (parserRun r.ps s).2.1 } with
        | none => rfl
        | some r2 =>
          have hp := parserRun_progress r.ps s hg
          have hps : r2.ps = (parserRun r.ps s).2.1 := httpGotHeader_ps hh
          simp only
          rw [ih k2 r2 (parserRun r.ps s).2.2 (by rw [hps]; omega) (by rw [hps]; omega)]
      · have hgb : ((parserRun r.ps s).1 == Gen.pr_got_header) = false := by simpa using hg
        simp only [hgb, Bool.false_eq_true, if_false]

theorem hdrLoop_eq_C (k : Nat) (r : HttpReq) (s : Bytes) (h : mu r.ps s < k) : hdrLoop cfg k r s = hdrLoopC cfg r s :=
  hdrLoop_fuel cfg k (mu r.ps s + 1) r s h (by omega)

theorem hdrLoopC_unfold (r : HttpReq) (s : Bytes) :
    hdrLoopC cfg r s =
      (let p := parserRun r.ps s
       let r1 := { r with ps := p.2.1 }
       if p.2.1.under then .fin (.done (.crash "parser: unsigned underflow of header_.size() or bracket_counter_")) p.2.2
       else if p.1 == Gen.pr_more_data then .more r1
       else if p.1 == Gen.pr_got_header then
         match httpGotHeader r1 with
         | none => .fin (.done (.aborted .violation false false)) p.2.2
         | some r2 => hdrLoopC cfg r2 p.2.2
       else if p.1 == Gen.pr_end_of_headers then
         match httpProcess cfg r1 with
         | none => .fin (.done .raw400) p.2.2
         | some h => .fin (.head h r1.is11) p.2.2
       else .fin (.done (.aborted .violation false false)) p.2.2) := by
  unfold hdrLoopC
  rw [hdrLoop]
  by_cases hg : (parserRun r.ps s).1 = Gen.pr_got_header
  · cases hh : httpGotHeader { r with ps := (parserRun r.ps s).2.1 } with
    | none => dsimp only; rw [hh]; rfl
    | some r2 =>
      have hp := parserRun_progress r.ps s hg
      have hps : r2.ps = (parserRun r.ps s).2.1 := httpGotHeader_ps hh
      dsimp only
      rw [hh]
      dsimp only
      rw [hdrLoop_fuel cfg (mu r.ps s) (mu r2.ps (parserRun r.ps s).2.2 + 1) r2 (parserRun r.ps s).2.2
        (by rw [hps]; omega) (by omega)]
      rfl
  · have hgb : ((parserRun r.ps s).1 == Gen.pr_got_header) = false := by simpa using hg
    simp only [hgb, Bool.false_eq_true, if_false]
    rfl

/-- What the header loop does with a buffer `a` and how it goes on when `b` follows: waiting for more data it resumes
on `b`; having decided it leaves `b` unread, has not crashed, and a complete header section has consumed a byte. -/
theorem hdrLoopC_spec (b : Bytes) : ∀ (n : Nat) (r : HttpReq) (a : Bytes), mu r.ps a = n → PInv r.ps →
    match hdrLoopC cfg r a with
    | .more r' => hdrLoopC cfg r (a ++ b) = hdrLoopC cfg r' b ∧ PInv r'.ps
    | .fin res rest => hdrLoopC cfg r (a ++ b) = .fin res (rest ++ b) ∧ rest.length ≤ a.length ∧
        match res with
        | .done o => ∀ w, o ≠ .crash w
        | .head _ _ => rest.length < a.length := by
  intro n
  induction n using Nat.strongRecOn with
  | _ n ih =>
    intro r a hn hi
    rw [hdrLoopC_unfold cfg r a, hdrLoopC_unfold cfg r (a ++ b)]
    have happ := parserRun_append r.ps a b
    obtain ⟨hu, hinv⟩ := parserRun_pinv r.ps a hi
    have hle := parserRun_rest_le r.ps a
    simp only
    by_cases hm : (parserRun r.ps a).1 = Gen.pr_more_data
    · have hmb : ((parserRun r.ps a).1 == Gen.pr_more_data) = true := by simp [hm]
      simp only [hu, hmb, Bool.false_eq_true, if_false, if_true]
      rw [hm] at happ
      simp only [if_true] at happ
      refine ⟨?_, hinv (Or.inl hm)⟩
      rw [happ, hdrLoopC_unfold cfg { r with ps := (parserRun r.ps a).2.1 } b]
    · have hmb : ((parserRun r.ps a).1 == Gen.pr_more_data) = false := by simp [hm]
      simp only [hm, if_false] at happ
      rw [happ]
      simp only [hu, hmb, Bool.false_eq_true, if_false]
      by_cases hg : (parserRun r.ps a).1 = Gen.pr_got_header
      · have hgb : ((parserRun r.ps a).1 == Gen.pr_got_header) = true := by simp [hg]
        simp only [hgb, if_true]
        cases hh : httpGotHeader { r with ps := (parserRun r.ps a).2.1 } with
        | none => exact ⟨rfl, hle, nofun⟩
        | some r2 =>
          simp only
          have hps := httpGotHeader_ps hh
          simp only at hps
          have hp := parserRun_progress r.ps a hg
          have hi2 : PInv r2.ps := by rw [hps]; exact hinv (Or.inr hg)
          have := ih (mu r2.ps (parserRun r.ps a).2.2) (by rw [hps]; omega) r2 (parserRun r.ps a).2.2 rfl hi2
          cases hl : hdrLoopC cfg r2 (parserRun r.ps a).2.2 with
          | more r' => rw [hl] at this; exact this
          | fin res rest =>
            rw [hl] at this
            refine ⟨this.1, by have := this.2.1; omega, ?_⟩
            cases res with
            | done o => exact this.2.2
            | head h i => exact Nat.lt_of_lt_of_le this.2.2 hle
      · have hgb : ((parserRun r.ps a).1 == Gen.pr_got_header) = false := by simp [hg]
        simp only [hgb, Bool.false_eq_true, if_false]
        by_cases he : (parserRun r.ps a).1 = Gen.pr_end_of_headers
        · have heb : ((parserRun r.ps a).1 == Gen.pr_end_of_headers) = true := by simp [he]
          simp only [heb, if_true]
          cases httpProcess cfg { r with ps := (parserRun r.ps a).2.1 } with
          | none => exact ⟨rfl, hle, nofun⟩
          | some h => exact ⟨rfl, hle, parserRun_end_progress r.ps a hi he⟩
        · have heb : ((parserRun r.ps a).1 == Gen.pr_end_of_headers) = false := by simp [he]
          simp only [heb, Bool.false_eq_true, if_false]
          exact ⟨trivial, hle, nofun⟩

/-- header phase over a plain byte stream: result and unread rest; end of stream = `eof` -/
def hdrFlat (r : HttpReq) (s : Bytes) : HttpHdrRes × Bytes :=
  match hdrLoopC cfg r s with
  | .fin res rest => (res, rest)
  | .more _ => (.done (.aborted .eof false false), [])

/-- number of bytes of the stream `s` the header phase consumes -/
def hdrSpan (r : HttpReq) (s : Bytes) : Nat := s.length - (hdrFlat cfg r s).2.length

def HttpSt.view (st : HttpSt) : Bytes := st.rest ++ st.segs.flatten

theorem hdrFlat_empty (r : HttpReq) (hu : r.ps.under = false) :
    hdrFlat cfg r [] = (.done (.aborted .eof false false), []) := by
  unfold hdrFlat
  rw [hdrLoopC_unfold]
  simp [parserRun, hu]

/-- `hdrLoopC_spec` with `b = []` -/
theorem hdrFlat_spec (r : HttpReq) (s : Bytes) (hi : PInv r.ps) :
    (hdrFlat cfg r s).2.length ≤ s.length ∧
    match (hdrFlat cfg r s).1 with
    | .done o => ∀ w, o ≠ .crash w
    | .head _ _ => (hdrFlat cfg r s).2.length < s.length := by
  have := hdrLoopC_spec cfg [] (mu r.ps s) r s rfl hi
  unfold hdrFlat
  cases h : hdrLoopC cfg r s with
  | more r' => exact ⟨Nat.zero_le _, nofun⟩
  | fin res rest => rw [h] at this; exact this.2

theorem find_nonempty_none {segs : Segs} (h : segs.find? (!·.isEmpty) = none) : segs.flatten = [] := by
  simpa [List.find?_eq_none, List.flatten_eq_nil_iff] using h

theorem find_nonempty_some {segs : Segs} {s : Bytes} (h : segs.find? (!·.isEmpty) = some s) :
    s ≠ [] ∧ segs.flatten ≠ [] := by
  have hs : s ≠ [] := by simpa using List.find?_some h
  exact ⟨hs, fun h0 => hs (List.flatten_eq_nil_iff.mp h0 s (List.mem_of_find?_eq_some h))⟩

theorem httpFill_spec (st : HttpSt) :
    match httpFill st with
    | none => st.view = []
    | some (n, st') => st'.view = st.view ∧ n = st'.rest.length ∧ st'.rest ≠ [] ∧
        st'.segs.flatten.length + (if st.rest.isEmpty then 1 else 0) ≤ st.segs.flatten.length := by
  unfold httpFill
  by_cases hr : st.rest.isEmpty
  · simp only [hr, if_true]
    have hrest : st.rest = [] := by simpa using hr
    cases hf : st.segs.find? (!·.isEmpty) with
    | none => simp [HttpSt.view, hrest, find_nonempty_none hf]
    | some sg =>
      obtain ⟨hsg, hne⟩ := find_nonempty_some hf
      simp only
      have hcap : 0 < max st.cap (min sg.length Gen.httpReadCap) := by
        have : 0 < sg.length := by cases sg with | nil => exact absurd rfl hsg | cons _ _ => simp
        have : 0 < Gen.httpReadCap := by decide
        omega
      cases hrs : readSome (max st.cap (min sg.length Gen.httpReadCap)) st.segs with
      | none => exact absurd (readSome_none hrs) hne
      | some p =>
        obtain ⟨got, segs'⟩ := p
        obtain ⟨hg, _, hcat⟩ := readSome_some hcap hrs
        simp only
        refine ⟨by simp [HttpSt.view, hrest, hcat], trivial, hg, ?_⟩
        have : got.length + segs'.flatten.length = st.segs.flatten.length := by rw [← hcat]; simp
        have : 0 < got.length := by cases got with | nil => exact absurd rfl hg | cons _ _ => simp
        omega
  · simp only [hr]
    have : st.rest ≠ [] := by simpa using hr
    exact ⟨rfl, rfl, this, by simp⟩

/-- `some_headers_data_read` over the read-ahead buffer and arbitrary reads is the header loop on the concatenated
stream and leaves the unread rest in (buffer ++ socket) — or it answers the 16 KiB violation, and then the header
section does not end within the cap.  Fuel: a turn on an empty buffer takes a byte off the socket, one on left-over
bytes only empties the buffer, hence the extra 1. -/
theorem httpHeaders_flat : ∀ (fuel total : Nat) (r : HttpReq) (st : HttpSt), PInv r.ps →
    st.segs.flatten.length + 2 + (if st.rest.isEmpty then 0 else 1) ≤ fuel →
    ((httpHeaders cfg fuel total r st).1 = (hdrFlat cfg r st.view).1 ∧
      (httpHeaders cfg fuel total r st).2.view = (hdrFlat cfg r st.view).2) ∨
    ((httpHeaders cfg fuel total r st).1 = .done (.aborted .violation false false) ∧
      Gen.httpHeaderCap < total + hdrSpan cfg r st.view) := by
  intro fuel
  induction fuel with
  | zero => intro total r st _ hf; omega
  | succ fuel ih =>
    intro total r st hi hf
    unfold httpHeaders
    have hfill := httpFill_spec st
    cases hfl : httpFill st with
    | none =>
      rw [hfl] at hfill
      simp only at hfill ⊢
      left
      rw [hfill]
      rw [hdrFlat_empty cfg r hi.under]
      exact ⟨rfl, rfl⟩
    | some p =>
      obtain ⟨n, st1⟩ := p
      rw [hfl] at hfill
      simp only at hfill ⊢
      obtain ⟨hview, hn, hne, hlen⟩ := hfill
      rw [hdrLoop_eq_C cfg _ r st1.rest (by unfold mu; split <;> omega)]
      have happ := hdrLoopC_spec cfg st1.segs.flatten (mu r.ps st1.rest) r st1.rest rfl hi
      have hv1 : st1.view = st1.rest ++ st1.segs.flatten := rfl
      cases hl : hdrLoopC cfg r st1.rest with
      | fin res rest =>
        rw [hl] at happ
        simp only at happ ⊢
        left
        rw [← hview, hv1]
        unfold hdrFlat
        rw [happ.1]
        exact ⟨rfl, rfl⟩
      | more r' =>
        rw [hl] at happ
        simp only at happ ⊢
        obtain ⟨ha, hi'⟩ := happ
        -- the flat header phase continues in the socket part of the stream
        have hflat : hdrFlat cfg r st.view = hdrFlat cfg r' st1.segs.flatten := by
          rw [← hview, hv1]; unfold hdrFlat; rw [ha]
        have hrl := (hdrFlat_spec cfg r' st1.segs.flatten hi').1
        have hspan : hdrSpan cfg r st.view = n + hdrSpan cfg r' st1.segs.flatten := by
          unfold hdrSpan
          rw [hflat, ← hview, hv1, List.length_append, ← hn]
          omega
        split
        · right
          exact ⟨rfl, by omega⟩
        · have hv2 : ({ st1 with rest := [] } : HttpSt).view = st1.segs.flatten := by simp [HttpSt.view]
          have := ih (total + n) r' { st1 with rest := [] } hi'
            (by
              simp only [List.isEmpty_nil, if_true]
              by_cases hre : st.rest.isEmpty
              · rw [if_pos hre] at hlen hf; omega
              · rw [if_neg hre] at hlen hf; omega)
          rw [hv2] at this
          rw [hflat, hspan]
          rcases this with h | ⟨h, hover⟩
          · exact .inl h
          · exact .inr ⟨h, by omega⟩

theorem httpReadSome_stream : StreamReader httpReadSome HttpSt.view where
  eof := by
    intro want st h
    have h1 : st.rest = [] := by
      unfold HttpSt.view at h
      exact (List.append_eq_nil_iff.mp h).1
    have h2 : st.segs.flatten = [] := by
      unfold HttpSt.view at h
      exact (List.append_eq_nil_iff.mp h).2
    simp [httpReadSome, h1, readSome_flatten_nil h2]
  some := by
    intro want st hw h
    unfold httpReadSome
    by_cases hr : st.rest.isEmpty
    · have h1 : st.rest = [] := by simpa using hr
      have h2 : st.segs.flatten ≠ [] := by
        intro h0; apply h; simp [HttpSt.view, h1, h0]
      simp only [hr, Bool.not_true, Bool.false_eq_true, if_false]
      cases hrs : readSome want st.segs with
      | none => exact absurd (readSome_none hrs) h2
      | some p =>
        obtain ⟨g, r⟩ := p
        obtain ⟨a, b, c⟩ := readSome_some hw hrs
        exact ⟨g, _, rfl, a, b, by simp [HttpSt.view, h1, c]⟩
    · have h1 : st.rest ≠ [] := by simpa using hr
      simp only [hr, Bool.not_false, if_true]
      exact ⟨_, _, rfl, take_ne_nil hw h1, by simp; omega, by simp [HttpSt.view, ← List.append_assoc]⟩

/-- HTTP connection over a plain byte stream.  `none`: some request's header section does not end
within the 16 KiB cap; the code's answer then depends on where the reads fall (see `design.d/C01.md`). -/
def httpFlatConn (lim : Limits) : Nat → List Bool → Bytes → Option (List Outcome)
  | 0, _, _ => some [.crash "out of fuel"]
  | fuel + 1, hints, s =>
    if hdrSpan cfg { env := httpEnv0 cfg } s > Gen.httpHeaderCap then none
    else match hdrFlat cfg { env := httpEnv0 cfg } s with
      | (.done o, _) => some [o]
      | (.head h is11, rest) =>
        let o := reqOutcome lim h rest
        if isApp o.1 && httpKeep h is11 (hints.headD true) then (httpFlatConn lim fuel hints.tail o.2).map (o.1 :: ·)
        else some [o.1]

theorem httpStreamFuel_ok (st : HttpSt) :
    st.segs.flatten.length + 2 + (if st.rest.isEmpty then 0 else 1) ≤ httpStreamFuel st := by
  unfold httpStreamFuel
  rw [List.length_flatten]
  split
  · omega
  · rename_i h
    have : st.rest ≠ [] := by simpa using h
    have : 0 < st.rest.length := by cases hr : st.rest with | nil => exact absurd hr this | cons _ _ => simp
    omega

/-- the 16 KiB header budget starts afresh for every request of a kept-alive connection -/
theorem httpNextTotal_zero (t0 : Nat) (st : HttpSt) : httpNextTotal cfg t0 st = 0 := by
  simp [httpNextTotal, Gen.httpTotalReadResetPerRequest]

/-- with enough fuel for the stream the connection crashes only if the request layer does, and computes what the
connection over the plain stream computes whenever that is defined (every header section ends within the cap).
Stated at header budget 0: every request starts there (`httpNextTotal_zero`). -/
theorem httpConn_spec (lim : Limits) (hb : 0 < lim.bufSize) :
    ∀ (fuel : Nat) (hints : List Bool) (st : HttpSt), st.view.length < fuel →
      ((∀ h s w, (reqOutcome lim h s).1 ≠ .crash w) → ∀ o ∈ httpConn lim cfg fuel hints 0 st, ∀ w, o ≠ .crash w) ∧
      (∀ outs, httpFlatConn cfg lim fuel hints st.view = some outs → httpConn lim cfg fuel hints 0 st = outs) := by
  intro fuel
  induction fuel with
  | zero => intro hints st hf; omega
  | succ fuel ih =>
    intro hints st hf
    unfold httpConn httpFlatConn
    have hgen := httpHeaders_flat cfg (httpStreamFuel st) 0 { env := httpEnv0 cfg } st pinv_init (httpStreamFuel_ok st)
    obtain ⟨_, hs⟩ := hdrFlat_spec cfg { env := httpEnv0 cfg } st.view pinv_init
    cases hh : httpHeaders cfg (httpStreamFuel st) 0 { env := httpEnv0 cfg } st with
    | mk res st1 =>
      rw [hh] at hgen
      rcases hgen with ⟨h1, h2⟩ | ⟨h1, hover⟩
      · -- the header phase is the one over the stream
        simp only at h1 h2
        cases hf' : hdrFlat cfg { env := httpEnv0 cfg } st.view with
        | mk resF restF =>
          rw [hf'] at h1 h2 hs
          simp only at h1 h2 hs
          subst h1
          cases res with
          | done o =>
            refine ⟨fun _ o' ho' => ?_, fun outs h => ?_⟩
            · simp only [List.mem_singleton] at ho'
              exact ho' ▸ hs
            · split at h
              · cases h
              · simpa using h
          | head hd is11 =>
            simp only
            obtain ⟨r1, r2⟩ := runRequest_reads httpReadSome_stream.readsView lim hb hd st1 trivial (.inl rfl)
            rw [h2] at r1 r2
            cases hr : runRequest lim httpReadSome hd st1 with
            | mk o st2 =>
              rw [hr] at r1 r2
              simp only at r1 r2 hs ⊢
              rw [← r1]
              have hsafe := fun (hl : ∀ h s w, (reqOutcome lim h s).1 ≠ .crash w) => r1 ▸ hl hd restF
              by_cases hk : (isApp o && httpKeep hd is11 (hints.headD true)) = true
              · have hv := (r2 (by simp only [Bool.and_eq_true] at hk; exact hk.1)).1
                have hle := reqOutcome_rest_le lim hd restF
                obtain ⟨i1, i2⟩ := ih hints.tail st2 (by rw [hv]; omega)
                simp only [hk, if_true, httpNextTotal_zero, ← hv]
                refine ⟨fun hl o' ho' => ?_, fun outs h => ?_⟩
                · rcases List.mem_cons.mp ho' with rfl | ho'
                  · exact hsafe hl
                  · exact i1 hl o' ho'
                · split at h
                  · cases h
                  · cases hrec : httpFlatConn cfg lim fuel hints.tail st2.view with
                    | none => rw [hrec] at h; cases h
                    | some outs' =>
                      rw [hrec] at h
                      rw [i2 outs' hrec]
                      simpa using h
              · simp only [hk, Bool.false_eq_true, if_false]
                refine ⟨fun hl o' ho' => ?_, fun outs h => ?_⟩
                · simp only [List.mem_singleton] at ho'
                  exact ho' ▸ hsafe hl
                · split at h
                  · cases h
                  · simpa using h
      · -- the 16 KiB violation: no undefined operation, and the plain-stream connection is not defined
        simp only at h1 hover
        subst h1
        refine ⟨fun _ o' ho' => ?_, fun outs h => ?_⟩
        · simp only [List.mem_singleton] at ho'
          exact ho' ▸ nofun
        · rw [if_pos (by omega)] at h
          cases h

theorem httpRun_spec (lim : Limits) (hb : 0 < lim.bufSize) (hints : List Bool) (segs : Segs) :
    ((∀ h s w, (reqOutcome lim h s).1 ≠ .crash w) → ∀ o ∈ httpRun lim cfg hints segs, ∀ w, o ≠ .crash w) ∧
    (∀ outs, httpFlatConn cfg lim (segs.flatten.length + 2) hints segs.flatten = some outs →
      httpRun lim cfg hints segs = outs) := by
  unfold httpRun
  rw [← List.length_flatten]
  simpa [HttpSt.view] using httpConn_spec cfg lim hb _ hints { segs := segs } (by simp [HttpSt.view])

theorem httpRun_eq_flat (lim : Limits) (hb : 0 < lim.bufSize) (hints : List Bool) (segs : Segs) (outs : List Outcome)
    (h : httpFlatConn cfg lim (segs.flatten.length + 2) hints segs.flatten = some outs) :
    httpRun lim cfg hints segs = outs :=
  (httpRun_spec cfg lim hb hints segs).2 outs h

end Cppcms.C01
