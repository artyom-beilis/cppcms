import Cppcms.C01.HttpProofs
import Cppcms.Lib.Bytes
/-! HTTP: the generated `parser::step()` hands every header line — unfolded where the peer folded it (obs-fold), otherwise
unchanged — one by one to the per-header code of `some_headers_data_read`, then reports the end of the headers. -/
namespace Cppcms.C01
open Cppcms

/-! The generated parser knows quoted strings (`"…"`, `\c` inside) and comments (`(…)`, `\c` inside; not nested) and
passes their bytes through to `header_` like any other byte.  `LMode` is the peer's view of where it is in a
line; `lmStep` says which bytes it may write there (`none`: a CR outside quotes/comments — the line ends there —,
or a backslash followed by a byte ≥ 127, which the parser rejects). -/

inductive LMode
  | plain | quote | quoteEsc | comment | commentEsc
deriving Repr, DecidableEq

def lmStep : LMode → UInt8 → Option LMode
  | .plain, c => if c == 13 then none else if c == 34 then some .quote else if c == 40 then some .comment else some .plain
  | .quote, c => if c == 34 then some .plain else if c == 92 then some .quoteEsc else some .quote
  | .quoteEsc, c => if c.toNat ≥ 127 then none else some .quote
  | .comment, c => if c == 41 then some .plain else if c == 92 then some .commentEsc else some .comment
  | .commentEsc, c => if c.toNat ≥ 127 then none else some .comment

def lmRun : LMode → Bytes → Option LMode
  | m, [] => some m
  | m, c :: t => match lmStep m c with
    | none => none
    | some m' => lmRun m' t

/-- a stretch of a header line with balanced quoted strings and comments and no bare CR -/
def Balanced (l : Bytes) : Prop := lmRun .plain l = some .plain

instance (l : Bytes) : Decidable (Balanced l) := by unfold Balanced; infer_instance

theorem balanced_of_chars (l : Bytes) (h : ∀ c ∈ l, c ≠ 13 ∧ c ≠ 34 ∧ c ≠ 40) : Balanced l := by
  unfold Balanced
  induction l with
  | nil => rfl
  | cons c t ih =>
    have hc := h c (by simp)
    simp only [lmRun, lmStep, beq_iff_eq, hc.1, hc.2.1, hc.2.2, if_false]
    exact ih (fun x hx => h x (by simp [hx]))

/-- a header line: balanced, not empty, not starting with a blank (that would be a continuation) -/
structure PlainLine (l : Bytes) : Prop where
  ne : l ≠ []
  body : Balanced l
  first : l.head? ≠ some 32 ∧ l.head? ≠ some 9

def natsOf (l : Bytes) : List Nat := l.map UInt8.toNat

def stateOf : LMode → Nat
  | .plain => Gen.ps_input_observed
  | .quote => Gen.ps_quote_expected
  | .quoteEsc => Gen.ps_pass_quote_exptected
  | .comment => Gen.ps_closing_bracket_expected
  | .commentEsc => Gen.ps_pass_closing_bracket_expected

/-- `bracket_counter_` -/
def bcOf : LMode → Nat
  | .comment => 1
  | .commentEsc => 1
  | _ => 0

section steps

attribute [local simp] Gen.ps_idle Gen.ps_input_observed Gen.ps_last_lf_exptected Gen.ps_lf_exptected
  Gen.ps_space_or_other_exptected Gen.ps_quote_expected Gen.ps_pass_quote_exptected Gen.ps_closing_bracket_expected
  Gen.ps_pass_closing_bracket_expected Gen.pr_got_header Gen.pr_end_of_headers

theorem toNat_beq (c : UInt8) (n : Nat) (hn : n < 256) : (c.toNat == n) = (c == UInt8.ofNat n) := by
  rw [Bool.eq_iff_iff, beq_iff_eq, beq_iff_eq, ← UInt8.toNat_inj, toNat_ofNat_lt n hn]

/-- the generated transition follows the peer's modes: byte by byte, inside a line.  A finite check: for every mode
and every outcome of the byte tests of `lmStep`, the arm of the generated `switch` is computed. -/
theorem step_sim (m m' : LMode) (ps : Gen.PState) (c : UInt8) (hs : ps.state = stateOf m) (hb : ps.bc = bcOf m)
    (hu : ps.under = false) (h : lmStep m c = some m') :
    Gen.stepSwitch ps c.toNat = .cont { ps with state := stateOf m', bc := bcOf m' } := by
  obtain ⟨st, bc, rh, ug, ud⟩ := ps
  simp only at hs hb hu
  subst hs hb hu
  -- by the peer's mode `m`: `lmStep m c` is a cascade over byte tests and `h` says which branch yields `m'`
  cases m <;> simp only [lmStep] at h
  all_goals repeat' split at h
  all_goals cases h
  -- the byte tests of the branch select the same branch in the generated arm for `stateOf m`
  all_goals
    simp [Gen.stepSwitch, Gen.stepArm_input_observed, Gen.stepArm_quote_expected, Gen.stepArm_pass_quote_exptected,
      Gen.stepArm_closing_bracket_expected, Gen.stepArm_pass_closing_bracket_expected, stateOf, bcOf, toNat_beq, *]

theorem step_first (m' : LMode) (ps : Gen.PState) (c : UInt8) (hs : ps.state = Gen.ps_idle) (hb : ps.bc = 0)
    (h : lmStep .plain c = some m') :
    Gen.stepSwitch ps c.toNat = .cont { ps with state := stateOf m', bc := bcOf m', rhdr := [] } := by
  obtain ⟨st, bc, rh, ug, ud⟩ := ps
  simp only at hs hb
  subst hs hb
  simp only [lmStep] at h
  -- as in `step_sim`, against the idle arm
  repeat' split at h
  all_goals cases h
  all_goals simp [Gen.stepSwitch, Gen.stepArm_idle, stateOf, bcOf, toNat_beq, *]

theorem step_cr_observed (ps : Gen.PState) (hs : ps.state = Gen.ps_input_observed) :
    Gen.stepSwitch ps 13 = .cont { ps with state := Gen.ps_lf_exptected } := by
  simp [Gen.stepSwitch, hs, Gen.stepArm_input_observed]

theorem step_lf (ps : Gen.PState) (hs : ps.state = Gen.ps_lf_exptected) :
    Gen.stepSwitch ps 10 = .cont { ps with state := Gen.ps_space_or_other_exptected } := by
  simp [Gen.stepSwitch, hs, Gen.stepArm_lf_exptected]

theorem step_after_crlf (ps : Gen.PState) (c : UInt8) (hs : ps.state = Gen.ps_space_or_other_exptected)
    (hc : c ≠ 32 ∧ c ≠ 9) (hlen : 2 ≤ ps.rhdr.length) (hu : ps.under = false) :
    Gen.stepSwitch ps c.toNat = .ret Gen.pr_got_header { ps with state := Gen.ps_idle, rhdr := ps.rhdr.drop 2, unget := true } := by
  have h3 : ¬ (ps.rhdr.length < 2) := by omega
  simp [Gen.stepSwitch, hs, Gen.stepArm_space_or_other_exptected, toNat_beq, hc.1, hc.2, h3, hu]

/-- obs-fold: after CRLF a blank **or a horizontal tab** continues the header: the CRLF is dropped from
`header_`, the blank/tab itself is kept -/
theorem step_fold (ps : Gen.PState) (c : UInt8) (hs : ps.state = Gen.ps_space_or_other_exptected)
    (hc : c = 32 ∨ c = 9) (hlen : 2 ≤ ps.rhdr.length) (hu : ps.under = false) :
    Gen.stepSwitch ps c.toNat = .cont { ps with state := Gen.ps_input_observed, rhdr := ps.rhdr.drop 2 } := by
  have h3 : ¬ (ps.rhdr.length < 2) := by omega
  rcases hc with rfl | rfl <;> simp [Gen.stepSwitch, hs, Gen.stepArm_space_or_other_exptected, h3, hu]

theorem step_cr_idle (ps : Gen.PState) (hs : ps.state = Gen.ps_idle) :
    Gen.stepSwitch ps 13 = .cont { ps with state := Gen.ps_last_lf_exptected, rhdr := [] } := by
  simp [Gen.stepSwitch, hs, Gen.stepArm_idle]

theorem step_last_lf (ps : Gen.PState) (hs : ps.state = Gen.ps_last_lf_exptected) :
    Gen.stepSwitch ps 10 = .ret Gen.pr_end_of_headers { ps with rhdr := [] } := by
  simp [Gen.stepSwitch, hs, Gen.stepArm_last_lf_exptected]

end steps

/-- inside a line: over a stretch that takes the peer from mode `m` to `m'` the parser appends its bytes to `header_` -/
theorem parserRun_stretch (l : Bytes) : ∀ (m m' : LMode) (ps : Gen.PState) (rest : Bytes), lmRun m l = some m' →
    ps.state = stateOf m → ps.bc = bcOf m → ps.under = false →
    parserRun ps (l ++ rest) =
      parserRun { ps with state := stateOf m', bc := bcOf m', rhdr := (natsOf l).reverse ++ ps.rhdr } rest := by
  induction l with
  | nil =>
    intro m m' ps rest h hs hb _
    simp only [lmRun, Option.some.injEq] at h
    subst h
    simp only [List.nil_append, natsOf, List.map_nil, List.reverse_nil]
    congr 1
    cases ps; simp_all
  | cons c t ih =>
    intro m m' ps rest h hs hb hu
    simp only [lmRun] at h
    cases hstep : lmStep m c with
    | none => rw [hstep] at h; cases h
    | some m1 =>
      rw [hstep] at h
      simp only at h
      simp only [List.cons_append]
      rw [parserRun_cons_cont _ (step_sim m m1 ps c hs hb hu hstep)]
      rw [ih m1 m' _ rest h rfl rfl (by simpa using hu)]
      simp [natsOf]

/-- a continuation piece of a folded header: starts with SP or HTAB, balanced (a fold inside a quoted string or a
comment is not a fold: the CR is content there) -/
structure ContPiece (p : Bytes) : Prop where
  first : p.head? = some 32 ∨ p.head? = some 9
  body : Balanced p

def encCont (tail : List Bytes) : Bytes := tail.flatMap fun p => 13 :: 10 :: p

/-- the end of a line seen from inside it: continuation lines are appended without their CRLF; the CRLF followed by a
byte `c` that is neither SP nor HTAB ends the line — `got_header` comes one byte late, `c` is pushed back -/
theorem parserRun_cont (c : UInt8) (hc : c ≠ 32 ∧ c ≠ 9) (rest : Bytes) :
    ∀ (tail : List Bytes) (ps : Gen.PState), (∀ p ∈ tail, ContPiece p) → ps.state = Gen.ps_input_observed →
      ps.bc = 0 → ps.under = false → ps.unget = false →
      parserRun ps (encCont tail ++ 13 :: 10 :: c :: rest) =
        (Gen.pr_got_header, { ps with state := Gen.ps_idle, rhdr := (natsOf tail.flatten).reverse ++ ps.rhdr }, c :: rest) := by
  intro tail
  induction tail with
  | nil =>
    intro ps _ hs hb0 hu hg
    simp only [encCont, List.flatMap_nil, List.nil_append]
    rw [parserRun_cons_cont (c := 13) _ (step_cr_observed ps hs)]
    rw [parserRun_cons_cont (c := 10) _ (step_lf _ rfl)]
    rw [parserRun_cons_ret _ (step_after_crlf _ c rfl hc (by simp) (by simpa using hu))]
    simp [natsOf, hg, hu]
  | cons p t ih =>
    intro ps hw hs hb0 hu hg
    obtain ⟨hf, hch⟩ := hw p (by simp)
    have hwt : ∀ q ∈ t, ContPiece q := fun q hq => hw q (by simp [hq])
    cases p with
    | nil => simp at hf
    | cons b p' =>
      have hb : b = 32 ∨ b = 9 := by simpa using hf
      have hp' : Balanced p' := by
        unfold Balanced at hch ⊢
        rcases hb with rfl | rfl <;> simpa [lmRun, lmStep] using hch
      have hshape : encCont ((b :: p') :: t) ++ 13 :: 10 :: c :: rest = 13 :: 10 :: b :: (p' ++ (encCont t ++ 13 :: 10 :: c :: rest)) := by
        simp [encCont, List.append_assoc]
      rw [hshape]
      rw [parserRun_cons_cont (c := 13) _ (step_cr_observed ps hs)]
      rw [parserRun_cons_cont (c := 10) _ (step_lf _ rfl)]
      rw [parserRun_cons_cont _ (step_fold _ b rfl hb (by simp) (by simpa using hu))]
      rw [parserRun_stretch p' .plain .plain _ _ hp' rfl (by simpa [bcOf] using hb0) (by simpa using hu)]
      rw [ih _ hwt rfl rfl (by simpa using hu) (by simpa using hg)]
      simp [natsOf, List.append_assoc, bcOf, hb0]

theorem parserRun_end (rest : Bytes) (ps : Gen.PState) (hs : ps.state = Gen.ps_idle) (hg : ps.unget = false) :
    parserRun ps (13 :: 10 :: rest) = (Gen.pr_end_of_headers, { ps with state := Gen.ps_last_lf_exptected, rhdr := [] }, rest) := by
  rw [parserRun_cons_cont (c := 13) _ (step_cr_idle ps hs)]
  rw [parserRun_cons_ret (c := 10) _ (step_last_lf _ rfl)]
  simp [hg]

def encLines (ls : List Bytes) : Bytes := ls.flatMap (fun l => l ++ [13, 10]) ++ [13, 10]

/-- what `header_` holds when `got_header` is reported for line `l` -/
def lineState (ps : Gen.PState) (l : Bytes) : Gen.PState := { ps with state := Gen.ps_idle, rhdr := (natsOf l).reverse }

/-- the per-header code of `some_headers_data_read` applied to the lines in order -/
def feedLines : HttpReq → List Bytes → Option HttpReq
  | r, [] => some r
  | r, l :: ls =>
    match httpGotHeader { r with ps := lineState r.ps l } with
    | none => none
    | some r' => feedLines r' ls

structure FLine where
  head : Bytes
  tail : List Bytes := []

def FLine.wire (l : FLine) : Bytes := l.head ++ encCont l.tail
/-- what the peer means, with the normalisation the code really applies: the CRLFs of the folds are
dropped, the blanks/tabs that start the continuation lines are kept -/
def FLine.value (l : FLine) : Bytes := l.head ++ l.tail.flatten

structure WFLine (l : FLine) : Prop where
  head : PlainLine l.head
  tail : ∀ p ∈ l.tail, ContPiece p

/-- see `Props.http_folded_header_roundtrip` -/
theorem parserRun_fline (l : FLine) (hl : WFLine l) (c : UInt8) (hc : c ≠ 32 ∧ c ≠ 9) (rest : Bytes)
    (ps : Gen.PState) (hs : ps.state = Gen.ps_idle) (hb : ps.bc = 0) (hu : ps.under = false) (hg : ps.unget = false) :
    parserRun ps (l.wire ++ 13 :: 10 :: c :: rest) =
      (Gen.pr_got_header, { ps with state := Gen.ps_idle, rhdr := (natsOf l.value).reverse }, c :: rest) := by
  obtain ⟨⟨hne, hbal, _⟩, htl⟩ := hl
  obtain ⟨c0, t, hh⟩ := List.exists_cons_of_ne_nil hne
  rw [FLine.wire, FLine.value, hh]
  rw [hh, Balanced, lmRun] at hbal
  cases h1 : lmStep .plain c0 with
  | none => rw [h1] at hbal; cases hbal
  | some m1 =>
    rw [h1] at hbal
    simp only [List.cons_append, List.append_assoc]
    rw [parserRun_cons_cont _ (step_first m1 ps c0 hs hb h1)]
    rw [parserRun_stretch t m1 .plain _ _ hbal rfl rfl (by simpa using hu)]
    rw [parserRun_cont c hc rest l.tail _ htl (by simp [stateOf]) (by simp [bcOf]) (by simpa using hu) (by simpa using hg)]
    simp [natsOf, List.append_assoc, bcOf, hb]

def encFLines (ls : List FLine) : Bytes := ls.flatMap (fun l => l.wire ++ [13, 10]) ++ [13, 10]

theorem encFLines_head (ls : List FLine) (body : Bytes) (hw : ∀ l ∈ ls, WFLine l) :
    ∃ c rest, encFLines ls ++ body = c :: rest ∧ c ≠ 32 ∧ c ≠ 9 := by
  cases ls with
  | nil => exact ⟨13, 10 :: body, by simp [encFLines], by decide, by decide⟩
  | cons l t =>
    obtain ⟨⟨hne, _, hf⟩, _⟩ := hw l (by simp)
    obtain ⟨c, u, hh⟩ := List.exists_cons_of_ne_nil hne
    rw [hh] at hf
    exact ⟨c, u ++ encCont l.tail ++ [13, 10] ++ (encFLines t ++ body), by simp [encFLines, FLine.wire, hh],
      by simpa using hf.1, by simpa using hf.2⟩

theorem hdrLoopC_flines (cfg : HttpCfg) : ∀ (ls : List FLine) (r r' : HttpReq) (body : Bytes), (∀ l ∈ ls, WFLine l) →
    r.ps.state = Gen.ps_idle → r.ps.bc = 0 → r.ps.under = false → r.ps.unget = false → feedLines r (ls.map FLine.value) = some r' →
    hdrLoopC cfg r (encFLines ls ++ body) =
      (match httpProcess cfg { r' with ps := { r'.ps with state := Gen.ps_last_lf_exptected, rhdr := [] } } with
       | none => .fin (.done .raw400) body
       | some h => .fin (.head h r'.is11) body) := by
  intro ls
  induction ls with
  | nil =>
    intro r r' body _ hs hb hu hg hfeed
    cases hfeed
    rw [hdrLoopC_unfold, show encFLines [] ++ body = 13 :: 10 :: body from rfl, parserRun_end body r.ps hs hg]
    simp only [hu]
    rfl
  | cons l t ih =>
    intro r r' body hw hs hb hu hg hfeed
    have hwt : ∀ x ∈ t, WFLine x := fun x hx => hw x (by simp [hx])
    obtain ⟨c, rest, hcr, hc⟩ := encFLines_head t body hwt
    have hshape : encFLines (l :: t) ++ body = l.wire ++ 13 :: 10 :: c :: rest := by
      rw [← hcr]; simp [encFLines, List.append_assoc]
    rw [hdrLoopC_unfold, hshape, parserRun_fline l (hw l (by simp)) c hc rest r.ps hs hb hu hg]
    simp only []
    rw [if_neg (by rw [hu]; decide), if_neg (by decide), if_pos (by decide)]
    rw [List.map_cons, feedLines, lineState] at hfeed
    cases hh : httpGotHeader { r with ps := { r.ps with state := Gen.ps_idle, rhdr := (natsOf l.value).reverse } } with
    | none => rw [hh] at hfeed; cases hfeed
    | some r2 =>
      rw [hh] at hfeed
      have hps : r2.ps = _ := httpGotHeader_ps hh
      rw [← hcr]
      exact ih r2 r' body hwt (by rw [hps]) (by rw [hps]; exact hb) (by rw [hps]; exact hu) (by rw [hps]; exact hg) hfeed

/-- see `Props.http_folded_lines_roundtrip` -/
theorem hdrFlat_flines (cfg : HttpCfg) (ls : List FLine) (r r' : HttpReq) (body : Bytes) (hw : ∀ l ∈ ls, WFLine l)
    (hs : r.ps.state = Gen.ps_idle) (hb : r.ps.bc = 0) (hu : r.ps.under = false) (hg : r.ps.unget = false)
    (hf : feedLines r (ls.map FLine.value) = some r') :
    hdrFlat cfg r (encFLines ls ++ body) =
      (match httpProcess cfg { r' with ps := { r'.ps with state := Gen.ps_last_lf_exptected, rhdr := [] } } with
       | none => (.done .raw400, body)
       | some h => (.head h r'.is11, body)) := by
  rw [hdrFlat, hdrLoopC_flines cfg ls r r' body hw hs hb hu hg hf]
  cases httpProcess cfg { r' with ps := { r'.ps with state := Gen.ps_last_lf_exptected, rhdr := [] } } <;> rfl

theorem encLines_eq (ls : List Bytes) : encLines ls = encFLines (ls.map fun l => { head := l }) := by
  simp [encLines, encFLines, List.flatMap_map, FLine.wire, encCont]

end Cppcms.C01
