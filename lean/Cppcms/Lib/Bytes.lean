/-! Bytes as numbers: a number below 256 survives `UInt8`; masking with `2 ^ k - 1` is `% 2 ^ k`, spelt out for the masks of
the sources because `rw` does not see `63` as `2 ^ 6 - 1`. -/
namespace Cppcms

/-- core's `UInt8.toNat_ofNat_of_lt'` with the bound spelt `256`, which `omega` can discharge -/
theorem toNat_ofNat_lt (n : Nat) (h : n < 256) : (UInt8.ofNat n).toNat = n := UInt8.toNat_ofNat_of_lt' h

theorem and_3 (x : Nat) : x &&& 3 = x % 4 := Nat.and_two_pow_sub_one_eq_mod x 2
theorem and_15 (x : Nat) : x &&& 15 = x % 16 := Nat.and_two_pow_sub_one_eq_mod x 4
theorem and_63 (x : Nat) : x &&& 63 = x % 64 := Nat.and_two_pow_sub_one_eq_mod x 6
theorem and_255 (x : Nat) : x &&& 255 = x % 256 := Nat.and_two_pow_sub_one_eq_mod x 8

end Cppcms
