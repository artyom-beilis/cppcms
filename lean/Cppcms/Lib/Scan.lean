/-! `takeWhile`, `dropWhile` and `span` of core on `piece ++ rest`: a piece whose elements all pass the test, followed by
a rest that is empty or begins with a failing element, is read back as that piece and that rest: the step every decoder
of the models that scans for a delimiter comes down to.  And the converse, from the result of a scan back to the list. -/
namespace Cppcms.Scan
variable {α : Type} {p : α → Bool}

/-- `b` does not continue a piece scanned with `p` -/
def Stops (p : α → Bool) (b : List α) : Prop := ∀ y, b.head? = some y → p y = false

theorem stops_nil : Stops p [] := nofun

theorem stops_cons {y : α} {r : List α} (h : p y = false) : Stops p (y :: r) := fun _ e => Option.some.inj e ▸ h

theorem stops_of_cons {b : List α} (h : ∀ y r, b = y :: r → p y = false) : Stops p b := by
  cases b with
  | nil => exact stops_nil
  | cons y r => exact stops_cons (h y r rfl)

theorem takeWhile_stops {b : List α} (hb : Stops p b) : b.takeWhile p = [] ∧ b.dropWhile p = b := by
  cases b with
  | nil => exact ⟨rfl, rfl⟩
  | cons y r => simp [hb y rfl]

theorem dropWhile_stops {b : List α} (hb : Stops p b) : b.dropWhile p = b := (takeWhile_stops hb).2

theorem takeWhile_append {a b : List α} (ha : ∀ x ∈ a, p x = true) (hb : Stops p b) :
    (a ++ b).takeWhile p = a ∧ (a ++ b).dropWhile p = b := by
  rw [List.takeWhile_append_of_pos ha, List.dropWhile_append_of_pos ha, (takeWhile_stops hb).1, (takeWhile_stops hb).2,
    List.append_nil]
  exact ⟨rfl, rfl⟩

theorem takeWhile_of_all {a : List α} (ha : ∀ x ∈ a, p x = true) : a.takeWhile p = a := by
  simpa using (takeWhile_append ha stops_nil).1

theorem takeWhile_append_cons {a : List α} {c : α} (b : List α) (ha : ∀ x ∈ a, p x = true) (hc : p c = false) :
    (a ++ c :: b).takeWhile p = a ∧ (a ++ c :: b).dropWhile p = c :: b :=
  takeWhile_append ha (stops_cons hc)

theorem span_loop (l acc : List α) : List.span.loop p l acc = (acc.reverse ++ l.takeWhile p, l.dropWhile p) := by
  induction l generalizing acc with
  | nil => simp [List.span.loop]
  | cons x r ih => cases h : p x <;> simp [List.span.loop, h, ih]

theorem span_eq (l : List α) : l.span p = (l.takeWhile p, l.dropWhile p) := span_loop l []

theorem span_append {a b : List α} (ha : ∀ x ∈ a, p x = true) (hb : Stops p b) : (a ++ b).span p = (a, b) := by
  rw [span_eq, (takeWhile_append ha hb).1, (takeWhile_append ha hb).2]

theorem mem_takeWhile {l : List α} {x : α} (h : x ∈ l.takeWhile p) : p x = true :=
  List.all_eq_true.mp List.all_takeWhile x h

theorem dropWhile_eq_cons {l : List α} {d : α} {s : List α} (h : l.dropWhile p = d :: s) :
    l = l.takeWhile p ++ d :: s ∧ p d = false := by
  refine ⟨by rw [← h, List.takeWhile_append_dropWhile], ?_⟩
  have := List.head?_dropWhile_not p l
  rwa [h] at this

theorem dropWhile_eq_nil {l : List α} (h : l.dropWhile p = []) : ∀ x ∈ l, p x = true := by
  have : l = l.takeWhile p := by simpa [h] using (List.takeWhile_append_dropWhile (p := p) (l := l)).symm
  intro x hx
  rw [this] at hx
  exact mem_takeWhile hx

end Cppcms.Scan
