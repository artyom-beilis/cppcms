import Cppcms.C12.FileBuffer
/-!
# C12: `file_buffer` — writing through `overflow()`, reading a part back

Writing: a byte is accepted iff the disk works or the buffer stays within its limit.
Reading back: with `traits::to_int_type` in `underflow()` (`Gen.underflowToIntType`) no byte of a refilled
block collides with EOF.
-/
namespace Cppcms.C12
open Cppcms

theorem fbGrow_spec (cap limit : Nat) (h : cap < limit) : cap < Gen.fbGrow cap limit ∧ Gen.fbGrow cap limit ≤ limit := by
  unfold Gen.fbGrow
  simp only [beq_iff_eq, decide_eq_true_eq]
  have h1 : cap < (if cap * 2 = 0 then 64 else cap * 2) := by split <;> omega
  generalize (if cap * 2 = 0 then 64 else cap * 2) = ns at h1 ⊢
  split
  · exact ⟨h, Nat.le_refl _⟩
  · next hgt => exact ⟨h1, Nat.le_of_not_lt hgt⟩

theorem FB.size_content (fb : FB) : fb.size = fb.content.length := by simp [FB.size, FB.content]

theorem FB.inMem_iff (fb : FB) (hinv : fb.Inv) : fb.inMem = true ↔ fb.size ≤ fb.limit := by
  obtain ⟨_, hmem, hspilled⟩ := hinv
  cases hm : fb.inMem with
  | true => have := hmem hm; simp [FB.size, this.2]; omega
  | false => have := hspilled hm; simp; omega

theorem FB.Inv.intro {fb : FB} (cap : fb.buf.length ≤ fb.cap) (mem : fb.inMem = true → fb.cap ≤ fb.limit ∧ fb.file = [])
    (spilled : fb.inMem = false → fb.cap = Gen.fileBufferBlock ∧ fb.limit < fb.size) : fb.Inv :=
  ⟨cap, mem, spilled⟩

/-- what the writes keep; `noDisk`: without a working disk the buffer has not spilled -/
structure FB.Good (diskOk : Bool) (limit : Nat) (fb : FB) : Prop where
  inv : fb.Inv
  limit_eq : fb.limit = limit
  noDisk : diskOk = false → fb.inMem = true

theorem FB.fresh_good (diskOk : Bool) (limit : Nat) : (FB.fresh limit).Good diskOk limit where
  inv := .intro (Nat.le_refl _) (fun _ => ⟨Nat.zero_le _, rfl⟩) (fun h => by cases h)
  limit_eq := rfl
  noDisk := fun _ => rfl

/-- a write of `n` more bytes is accepted -/
def FB.Accepts (diskOk : Bool) (limit : Nat) (fb : FB) (n : Nat) : Prop := diskOk = true ∨ fb.size + n ≤ limit

theorem FB.sputc_spec {diskOk : Bool} {limit : Nat} {fb : FB} (hg : fb.Good diskOk limit) (b : UInt8) :
    (fb.Accepts diskOk limit 1 →
      ∃ fb', fb.sputc diskOk b = some fb' ∧ fb'.Good diskOk limit ∧ fb'.content = fb.content ++ [b])
    ∧ (¬ fb.Accepts diskOk limit 1 → fb.sputc diskOk b = none) := by
  obtain ⟨⟨hcap, hmem, hspilled⟩, rfl, hnoDisk⟩ := hg
  have hblk : 1 ≤ Gen.fileBufferBlock := by decide
  have hsize : fb.size = fb.file.length + fb.buf.length := rfl
  have hlen : ∀ l : Bytes, (l ++ [b]).length = l.length + 1 := fun l => List.length_append
  unfold FB.sputc FB.Accepts
  by_cases hroom : fb.buf.length < fb.cap
  · -- room in the put area
    rw [if_pos hroom]
    refine ⟨fun _ => ⟨_, rfl, ⟨.intro (hlen _ ▸ hroom) hmem fun hm => ?_, rfl, hnoDisk⟩, by simp [FB.content]⟩, fun hn => ?_⟩
    · exact ⟨(hspilled hm).1, Nat.lt_of_lt_of_le (hspilled hm).2 (by simp [FB.size])⟩
    · -- a refusal is impossible: it needs `diskOk = false`, which forces "in memory", where `size = |buf| < cap ≤ limit`
      have hm := hnoDisk (by cases diskOk <;> simp_all)
      refine absurd (.inr ?_) hn
      rw [hsize, (hmem hm).2]
      exact Nat.le_trans (Nat.zero_add _ ▸ hroom) (hmem hm).1
  · rw [if_neg hroom]
    have hfull : fb.buf.length = fb.cap := Nat.le_antisymm hcap (Nat.le_of_not_lt hroom)
    unfold FB.overflow
    cases hm : fb.inMem with
    | true =>
      obtain ⟨hcl, hfile⟩ := hmem hm
      have hsz : fb.size = fb.cap := by rw [hsize, hfile, hfull]; exact Nat.zero_add _
      by_cases hsp : fb.cap ≥ fb.limit
      · -- spill
        have hspill : Gen.fbSpill fb.buf.length fb.limit = true := by simp [Gen.fbSpill, hfull, hsp]
        simp only [if_true, hspill]
        cases diskOk with
        | false =>
          exact ⟨fun ha => absurd (ha.resolve_left Bool.false_ne_true) (by rw [hsz]; exact Nat.not_le_of_gt (Nat.lt_succ_of_le hsp)),
            fun _ => rfl⟩
        | true =>
          refine ⟨fun _ => ⟨_, rfl, ⟨.intro hblk (by simp) fun _ => ⟨rfl, ?_⟩, rfl, fun h => by cases h⟩,
            by simp [FB.content, hfile]⟩, fun hn => absurd (.inl rfl) hn⟩
          simp only [FB.size, hfile, hfull, List.length_append, List.length_cons, List.length_nil]
          exact Nat.lt_succ_of_le (Nat.zero_add _ ▸ hsp)
      · -- grow
        have hspill : Gen.fbSpill fb.buf.length fb.limit = false := by simpa [Gen.fbSpill, hfull] using hsp
        have hgr := fbGrow_spec fb.cap fb.limit (Nat.lt_of_not_le hsp)
        simp only [if_true, hspill, Bool.false_eq_true, if_false, Option.map_some]
        exact ⟨fun _ => ⟨_, rfl, ⟨.intro (hlen _ ▸ hfull ▸ hgr.1) (fun _ => ⟨hgr.2, hfile⟩) (by simp), rfl, fun _ => rfl⟩,
          by simp [FB.content]⟩, fun hn => absurd (.inr (hsz ▸ Nat.lt_of_not_le hsp)) hn⟩
    | false =>
      obtain ⟨hc, hlim⟩ := hspilled hm
      cases diskOk with
      | false => exact absurd (hnoDisk rfl) (by simp [hm])
      | true =>
        simp only [Bool.false_eq_true, if_false, if_true, Option.map_some]
        refine ⟨fun _ => ⟨_, rfl, ⟨.intro (hc ▸ hblk) (by simp) fun _ => ⟨hc, ?_⟩, rfl, fun h => by cases h⟩,
          by simp [FB.content]⟩, fun hn => absurd (.inl trivial) hn⟩
        exact Nat.lt_of_lt_of_le hlim (by simp [FB.size])

theorem FB.size_of_content {fb fb' : FB} {bs : Bytes} (h : fb'.content = fb.content ++ bs) :
    fb'.size = fb.size + bs.length := by
  rw [FB.size_content, h, FB.size_content, List.length_append]

theorem FB.Good.accepts_zero {diskOk : Bool} {limit : Nat} {fb : FB} (hg : fb.Good diskOk limit) :
    fb.Accepts diskOk limit 0 := by
  cases diskOk
  · exact .inr (by have := (FB.inMem_iff fb hg.inv).mp (hg.noDisk rfl); rwa [hg.limit_eq] at this)
  · exact .inl rfl

theorem FB.Accepts.mono {diskOk : Bool} {limit : Nat} {fb fb' : FB} {m n : Nat} (h : fb.Accepts diskOk limit n)
    (hle : fb'.size + m ≤ fb.size + n) : fb'.Accepts diskOk limit m :=
  h.imp id fun h => Nat.le_trans hle h

theorem FB.sputn_spec {diskOk : Bool} {limit : Nat} : ∀ (bs : Bytes) {fb : FB}, fb.Good diskOk limit →
    (fb.Accepts diskOk limit bs.length →
      ∃ fb', fb.sputn diskOk bs = (fb', bs.length) ∧ fb'.Good diskOk limit ∧ fb'.content = fb.content ++ bs)
    ∧ (¬ fb.Accepts diskOk limit bs.length → (fb.sputn diskOk bs).2 < bs.length) := by
  intro bs
  induction bs with
  | nil => intro fb hg; exact ⟨fun _ => ⟨fb, rfl, hg, by simp⟩, fun hn => absurd hg.accepts_zero hn⟩
  | cons b rest ih =>
    intro fb hg
    obtain ⟨hok, hfail⟩ := FB.sputc_spec hg b
    by_cases h1 : fb.Accepts diskOk limit 1
    · obtain ⟨fb1, hs1, hg1, hc1⟩ := hok h1
      have hsz1 : fb1.size = fb.size + 1 := FB.size_of_content hc1
      obtain ⟨ihok, ihfail⟩ := ih hg1
      simp only [FB.sputn, hs1, List.length_cons]
      constructor
      · intro ha
        obtain ⟨fb2, hs2, hg2, hc2⟩ := ihok (ha.mono (by rw [hsz1]; omega))
        exact ⟨fb2, by rw [hs2], hg2, by rw [hc2, hc1]; simp⟩
      · intro hn
        have := ihfail fun ha => hn (ha.mono (by rw [hsz1]; omega))
        omega
    · refine ⟨fun ha => absurd (ha.mono (by simp)) h1, fun _ => ?_⟩
      simp [FB.sputn, hfail h1]

theorem FB.writes_spec {diskOk : Bool} {limit : Nat} : ∀ (ws : List Bytes) {fb : FB}, fb.Good diskOk limit →
    (fb.Accepts diskOk limit ws.flatten.length →
      ∃ fb', fb.writes diskOk ws = some fb' ∧ fb'.Good diskOk limit ∧ fb'.content = fb.content ++ ws.flatten)
    ∧ (¬ fb.Accepts diskOk limit ws.flatten.length → fb.writes diskOk ws = none) := by
  intro ws
  induction ws with
  | nil => intro fb hg; exact ⟨fun _ => ⟨fb, rfl, hg, by simp⟩, fun hn => absurd hg.accepts_zero hn⟩
  | cons w ws ih =>
    intro fb hg
    obtain ⟨hok, hfail⟩ := FB.sputn_spec w hg
    simp only [FB.writes, List.flatten_cons, List.length_append]
    by_cases h1 : fb.Accepts diskOk limit w.length
    · obtain ⟨fb1, hs1, hg1, hc1⟩ := hok h1
      have hsz1 : fb1.size = fb.size + w.length := FB.size_of_content hc1
      obtain ⟨ihok, ihfail⟩ := ih hg1
      rw [hs1, if_pos rfl]
      constructor
      · intro ha
        obtain ⟨fb2, hs2, hg2, hc2⟩ := ihok (ha.mono (by rw [hsz1]; omega))
        exact ⟨fb2, hs2, hg2, by rw [hc2, hc1]; simp⟩
      · intro hn
        exact ihfail fun ha => hn (ha.mono (by rw [hsz1]; omega))
    · refine ⟨fun ha => absurd (ha.mono (by omega)) h1, fun _ => ?_⟩
      rw [if_neg (Nat.ne_of_lt (hfail h1))]

theorem fwrites_spec (cfg : PCfg) : ∀ (ws : List Bytes) (d : Bytes), (cfg.diskOk = true ∨ d.length ≤ cfg.memLimit) →
    fwrites cfg d ws =
      if cfg.diskOk = true ∨ d.length + ws.flatten.length ≤ cfg.memLimit then some (ws.flatten.reverse ++ d) else none := by
  intro ws
  induction ws with
  | nil => intro d h; simp [fwrites, h]
  | cons w ws ih =>
    intro d _
    simp only [fwrites, fileWrite, List.flatten_cons, List.length_append, Bool.or_eq_true, decide_eq_true_eq]
    by_cases h1 : cfg.diskOk = true ∨ d.length + w.length ≤ cfg.memLimit
    · rw [if_pos h1]
      simp only
      rw [ih (w.reverse ++ d) (h1.imp id fun h => by simpa [Nat.add_comm] using h)]
      simp only [List.length_append, List.length_reverse, List.reverse_append, List.append_assoc]
      rw [Nat.add_comm w.length d.length, Nat.add_assoc]
    · rw [if_neg h1, if_neg (fun h => h1 (h.imp id fun h => by omega))]

theorem underflowRet_ne_eof (c : UInt8) : (underflowRet c == -1) = false := by
  have h : Gen.underflowToIntType = true := rfl
  simp only [underflowRet, h, if_true, beq_eq_false_iff_ne, ne_eq]
  omega

theorem readBlocks_eq : ∀ (fuel : Nat) (rem : Bytes), rem.length < fuel → readBlocks fuel rem = rem := by
  intro fuel
  induction fuel with
  | zero => intro rem h; omega
  | succ n ih =>
    intro rem h
    rw [readBlocks]
    cases ht : rem.take Gen.fileBufferBlock with
    | nil =>
      cases rem with
      | nil => rfl
      | cons x xs => cases ht
    | cons c blk =>
      have hlen : 0 < rem.length := by cases rem <;> simp at ht ⊢
      simp only [underflowRet_ne_eof, Bool.false_eq_true, if_false]
      rw [ih (rem.drop Gen.fileBufferBlock) (by rw [List.length_drop]; have : 0 < Gen.fileBufferBlock := by decide
                                                omega), ← ht]
      exact List.take_append_drop _ _

theorem readBackFrom_eq (memLimit : Nat) (data : Bytes) (off : Nat) : readBackFrom memLimit data off = data.drop off := by
  unfold readBackFrom
  split
  · exact readBlocks_eq _ _ (by rw [List.length_drop]; omega)
  · rfl

end Cppcms.C12
