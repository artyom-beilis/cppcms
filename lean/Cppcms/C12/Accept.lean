import Cppcms.C12.Body
/-!
# C12: which bodies are accepted

The accepted bodies are prefix-free; and (no CR in the boundary key, working disk) a stream whose fold ends
with the closing CRLF **is** `--bkey`, parts `CRLF header-block content CRLF--bkey`, `--CRLF`: the converse of `tail_run`.
-/
namespace Cppcms.C12
open Cppcms

theorem lrun_more_refused (cfg : Cfg) (s : LS) (pre suf : Bytes) (pf : P) (h : lrun cfg s pre = .eof pf)
    (hsuf : suf ≠ []) : lrun cfg s (pre ++ suf) = .stop Gen.codeParseError := by
  obtain ⟨x, xs, rfl⟩ := List.exists_cons_of_ne_nil hsuf
  rw [lrun_append, h, lrun_eof]

theorem expects_minus (cfg : PCfg) (p : P) : Expects cfg { p with st := .minus } 45 { p with st := .eofCr } :=
  fun _ => rfl

theorem expects_eofCr (cfg : PCfg) (p : P) : Expects cfg { p with st := .eofCr } 13 { p with st := .eofLf } :=
  fun _ => rfl

theorem expects_lf (cfg : PCfg) (p : P) : Expects cfg { p with st := .lf } 10 { p with st := .crlfcrlf } :=
  fun _ => rfl

theorem lrun_eof_expect {cfg : Cfg} {p p1 pf : P} {l : Last} {x : UInt8} {s : Bytes}
    (hx : Expects cfg.toPCfg p x p1) (h : lrun cfg (.going p l) s = .eof pf) :
    ∃ t, s = x :: t ∧ lrun cfg (.going p1 .cont) t = .eof pf := by
  cases s with
  | nil => cases h
  | cons c t =>
    rw [lrun_cons] at h
    simp only [lstep, hx c] at h
    by_cases hc : c = x
    · subst hc; exact ⟨t, rfl, by simpa using h⟩
    · simp [hc, lrun_stop] at h

/-- a stream accepted from inside the first boundary starts with the rest of the boundary -/
theorem first_boundary_decomp (cfg : Cfg) (pf : P) :
    ∀ (n : Nat) (s : Bytes) (p : P) (l : Last), p.st = .firstBoundary → p.pos + n + 1 = cfg.boundary.length →
      lrun cfg (.going p l) s = .eof pf →
      ∃ s', s = cfg.boundary.drop p.pos ++ s' ∧ lrun cfg (.going { p with st := .crlfOrEof, pos := 0 } .cont) s' = .eof pf := by
  intro n
  induction n with
  | zero =>
    intro s p l hst hlen h
    have hpos : p.pos < cfg.boundary.length := by omega
    obtain ⟨t, rfl, ht⟩ := lrun_eof_expect (expects_firstBoundary cfg.toPCfg p hst) h
    rw [if_pos (by omega)] at ht
    exact ⟨t, by rw [List.drop_eq_getElem_cons hpos, ← getD_lt _ _ hpos, List.drop_eq_nil_of_le (by omega)]; rfl, ht⟩
  | succ n ih =>
    intro s p l hst hlen h
    have hpos : p.pos < cfg.boundary.length := by omega
    obtain ⟨t, rfl, ht⟩ := lrun_eof_expect (expects_firstBoundary cfg.toPCfg p hst) h
    rw [if_neg (by omega)] at ht
    obtain ⟨s', hsplit, hrest⟩ := ih t { p with pos := p.pos + 1 } .cont hst (by simp only; omega) ht
    exact ⟨s', by rw [List.drop_eq_getElem_cons hpos, ← getD_lt _ _ hpos, hsplit]; rfl, hrest⟩

theorem header_decomp (cfg : Cfg) (pf : P) :
    ∀ (s : Bytes) (p : P) (l : Last), p.st = .crlfcrlf → lrun cfg (.going p l) s = .eof pf →
      ∃ h rest m, s = h ++ rest ∧ hdrEndsAt p.pos h = true ∧ processHeader (p.hdrRev.reverse ++ h) = some m
        ∧ lrun cfg (.going { p with st := .sepBoundary, pos := 0, hdrRev := [], cur := m } .hdr) rest = .eof pf := by
  intro s
  induction s with
  | nil => intro p l _ h; cases h
  | cons c t ih =>
    intro p l hst h
    rw [lrun_cons] at h
    by_cases hend : crlfNext p.pos c = Gen.crlfcrlf.length
    · cases hph : processHeader (p.hdrRev.reverse ++ [c]) with
      | none => simp [lstep, pstep, hst, hend, hph, lrun_stop] at h
      | some m =>
        simp only [lstep, pstep, hst, hend, if_true, List.reverse_cons, hph] at h
        exact ⟨[c], t, m, rfl, by simp [hdrEndsAt, hend], hph, h⟩
    · have hs : pstep cfg.toPCfg p c = .cont { p with hdrRev := c :: p.hdrRev, pos := crlfNext p.pos c } := by
        simp only [pstep, hst, hend, if_false]
      simp only [lstep, hs] at h
      obtain ⟨h', rest, m, hsplit, he, hph, hrest⟩ :=
        ih { p with hdrRev := c :: p.hdrRev, pos := crlfNext p.pos c } .cont hst h
      have hne' : h'.isEmpty = false := by cases h' <;> first | rfl | cases he
      refine ⟨c :: h', rest, m, by rw [hsplit]; rfl, ?_, by simpa using hph, hrest⟩
      simp only [hdrEndsAt, hne', Bool.false_eq_true, if_false, Bool.and_eq_true, bne_iff_ne, ne_eq]
      exact ⟨hend, he⟩

theorem content_decomp (cfg : Cfg) (g : Guard cfg.boundary) (hdisk : cfg.diskOk = true) (s : Bytes)
    (fs : List Part) (m : Meta) (pf : P) (l : Last)
    (h : lrun cfg (.going (inPart fs m) l) s = .eof pf) :
    ∃ ct rest, s = ct ++ cfg.boundary ++ rest ∧ NoEarly cfg.boundary ct ∧ sizeOk cfg m.mime ct.length = true
      ∧ lrun cfg (.going (between ({ name := m.name, filename := m.filename, mime := m.mime, data := ct } :: fs)) .part)
          rest = .eof pf := by
  have h : lrun cfg (.going (inPart fs m) .cont) s = .eof pf := by
    cases s with
    | nil => cases h
    | cons c t => exact h
  have hI := MInv.fresh cfg.boundary (inPart fs m) rfl (by have := guard_len g; omega) rfl rfl
  rcases sep_run cfg.toPCfg g hdisk s _ hI with ⟨p', hf, _⟩ | ⟨pre, c, rest, p1, d, hsplit, hf, hrd, hV, hno⟩
  · -- the stream ends inside the part
    rw [← List.append_nil s, lrun_pfold cfg s [] _ p' hf] at h
    cases h
  · have hV : pre ++ [c] = d.reverse ++ cfg.boundary := by simpa [V, inPart] using hV
    rw [hsplit, lrun_pfold cfg pre _ _ p1 hf, lrun_cons] at h
    simp only [lstep, hrd, P.close, inPart, List.length_reverse] at h
    cases hso : sizeOk cfg m.mime d.length
    · simp [hso, lrun_stop] at h
    · simp only [hso, Bool.not_true, Bool.false_eq_true, if_false] at h
      refine ⟨d.reverse, rest, by rw [hsplit, ← hV]; simp, fun k hk => ?_, by simpa using hso, h⟩
      rw [← hV] at hk ⊢
      have hk' : k ≤ pre.length := by simp at hk; omega
      rw [List.take_append_of_le_length hk']
      simpa [V, inPart] using hno k hk'

/-- induction on a bound `n` of the length: the recursive call is on what follows a whole part, not on the tail -/
theorem tail_decomp (cfg : Cfg) (g : Guard cfg.boundary) (hdisk : cfg.diskOk = true) (pf : P) :
    ∀ (n : Nat) (s : Bytes) (fs : List Part) (l : Last), s.length ≤ n →
      lrun cfg (.going (between fs) l) s = .eof pf →
      ∃ items : List Item, s = tailOf cfg.boundary items ∧ (∀ it ∈ items, ItemOK cfg it)
        ∧ pf.filesRev = (items.map Item.part).reverse ++ fs := by
  intro n
  induction n with
  | zero =>
    intro s fs l hlen h
    cases List.eq_nil_of_length_eq_zero (Nat.le_zero.mp hlen)
    cases h
  | succ n ih =>
    intro s fs l hlen h
    cases s with
    | nil => cases h
    | cons c t =>
      rw [lrun_cons] at h
      by_cases hc13 : c = 13
      · -- a part
        -- `lstep` at `between fs` on 13 evaluates to that state with `st := .lf`
        subst hc13
        obtain ⟨t2, rfl, h2⟩ := lrun_eof_expect (p := { between fs with st := .lf }) (l := .cont)
          (expects_lf cfg.toPCfg (between fs)) h
        obtain ⟨hdr, rest, m, rfl, he, hph, h3⟩ := header_decomp cfg pf t2 _ _ rfl h2
        obtain ⟨ct, rest2, rfl, hne, hsz, h4⟩ := content_decomp cfg g hdisk rest fs m pf _ h3
        obtain ⟨items, rfl, hoks, hfiles⟩ := ih rest2 _ _ (by simp at hlen; omega) h4
        refine ⟨{ hdr := hdr, info := m, data := ct } :: items, by simp [tailOf], ?_, by simp [hfiles, Item.part]⟩
        intro it hit
        rcases List.mem_cons.mp hit with rfl | hit
        · exact .intro ⟨by simpa [headerOK, between] using And.intro he hph, hne⟩ hsz
        · exact hoks it hit
      · by_cases hc45 : c = 45
        · -- the closing `--CRLF`
          subst hc45
          obtain ⟨t2, rfl, h2⟩ := lrun_eof_expect (p := { between fs with st := .minus }) (l := .cont)
            (expects_minus cfg.toPCfg (between fs)) h
          obtain ⟨t3, rfl, h3⟩ := lrun_eof_expect (expects_eofCr cfg.toPCfg (between fs)) h2
          cases t3 with
          | nil => cases h3
          | cons c4 t4 =>
            by_cases hc4 : c4 = 10
            · subst hc4
              cases t4 with
              | nil =>
                have : pf = { between fs with st := .eofLf } := by simpa [lrun, lstep, pstep, between] using h3.symm
                exact ⟨[], rfl, by simp, by simp [this, between]⟩
              | cons c5 t5 => rw [lrun_cons, lrun_cons] at h3; simp [lstep, pstep, between, lrun_stop] at h3
            · rw [lrun_cons] at h3; simp [lstep, pstep, hc4, lrun_stop] at h3
        · simp [lstep, pstep, between, hc13, hc45, lrun_stop] at h

end Cppcms.C12
