import Cppcms.C12.Lemmas
/-!
# C12: the boundary matcher

Written data ++ held-back partial match (`V`) is what was consumed of the part.  When CR occurs in
`boundary_` only at index 0, the hand-rolled restart keeps `position_` the *longest* prefix of the boundary
ending the consumed bytes (`MInv`), so the part ends at the first place they end with the boundary (`sep_run`).
-/
namespace Cppcms.C12
open Cppcms

/-- the boundary string has the shape the parser builds and CR occurs only at index 0 -/
def Guard (b : Bytes) : Prop := ∃ bkey : Bytes, b = 13 :: 10 :: 45 :: 45 :: bkey ∧ (13 : UInt8) ∉ bkey

theorem Guard.of_delimiter {b bkey : Bytes} (hb : b = Spec.delimiter bkey) (hcr : (13 : UInt8) ∉ bkey) : Guard b :=
  ⟨bkey, hb, hcr⟩

theorem guard_len {b : Bytes} (g : Guard b) : 4 ≤ b.length := by
  obtain ⟨k, rfl, _⟩ := g; simp

/-- a non-empty proper border of a prefix of the boundary would put its CR at a non-zero index -/
theorem guard_no_border {b : Bytes} (g : Guard b) {j n : Nat} (hj : 0 < j) (hjn : j < n) (hn : n ≤ b.length) :
    ¬ b.take j <:+ b.take n := by
  obtain ⟨k, rfl, hk⟩ := g
  intro h
  have h0 := congrArg (·[0]?) (List.suffix_iff_eq_drop.mp h)
  obtain ⟨i, hi⟩ : ∃ i, n - j = i + 1 := ⟨n - j - 1, by omega⟩
  simp only [List.length_take, Nat.min_eq_left hn, Nat.min_eq_left (Nat.le_trans (Nat.le_of_lt hjn) hn),
    List.getElem?_take, List.getElem?_drop, hj, if_true, Nat.add_zero, hi, if_pos (by omega : i + 1 < n),
    List.getElem?_cons_zero, List.getElem?_cons_succ] at h0
  rcases List.mem_append.mp (List.mem_of_getElem? (l := [10, 45, 45] ++ k) h0.symm) with h | h
  · exact absurd h (by decide)
  · exact absurd h hk

theorem getD_lt (b : Bytes) (i : Nat) (hi : i < b.length) : b.getD i 0 = b[i] := by
  simp [List.getD_eq_getElem?_getD, hi]

theorem take_succ_getD (b : Bytes) (i : Nat) (hi : i < b.length) : b.take i ++ [b.getD i 0] = b.take (i + 1) := by
  rw [getD_lt b i hi, List.take_append_getElem]

/-- `position_` and data after byte `c` when no write fails: the match goes on, or the held-back prefix
is flushed and the match restarts at 1 (`c == boundary_[0]`) or at 0 (`c` flushed too) -/
def matchNext (b : Bytes) (pos : Nat) (d : Bytes) (c : UInt8) : Nat × Bytes :=
  if c = b.getD pos 0 then (pos + 1, d)
  else if c = b.getD 0 0 then (1, (b.take pos).reverse ++ d)
  else (0, c :: ((b.take pos).reverse ++ d))

theorem pstep_sep_eq (cfg : PCfg) (p : P) (c : UInt8) (hdisk : cfg.diskOk = true) (hst : p.st = .sepBoundary)
    (hlen : 2 ≤ cfg.boundary.length) :
    pstep cfg p c =
      if (matchNext cfg.boundary p.pos p.dataRev c).1 = cfg.boundary.length
      then .ready (p.close (matchNext cfg.boundary p.pos p.dataRev c).2)
      else .cont { p with pos := (matchNext cfg.boundary p.pos p.dataRev c).1,
                          dataRev := (matchNext cfg.boundary p.pos p.dataRev c).2 } := by
  have hw : ∀ d bs, fileWrite cfg d bs = some (bs.reverse ++ d) := by
    intro d bs; simp [fileWrite, hdisk]
  have h1 : (1 : Nat) ≠ cfg.boundary.length := by omega
  have h0 : (0 : Nat) ≠ cfg.boundary.length := by omega
  unfold pstep matchNext
  simp only [hst, sepFinish, hw, beq_iff_eq, Nat.add_one_ne_zero, if_false]
  by_cases hc : c = cfg.boundary.getD p.pos 0
  · simp only [hc, if_true]
  · simp only [hc, if_false]
    by_cases hp : p.pos = 0
    · have hc0 : ¬ c = cfg.boundary.getD 0 0 := hp ▸ hc
      simp only [hp, gt_iff_lt, Nat.lt_irrefl, if_false, if_true, hc0, h0, List.take_zero, List.reverse_nil,
        List.nil_append, List.reverse_cons, List.singleton_append]
    · simp only [gt_iff_lt, Nat.pos_of_ne_zero hp, if_true]
      by_cases hc0 : c = cfg.boundary.getD 0 0
      · simp only [hc0, if_true, Nat.one_ne_zero, if_false, h1]
      · simp only [hc0, if_false, if_true, h0, List.reverse_cons, List.reverse_nil, List.nil_append,
          List.singleton_append]

theorem matchNext_V (b : Bytes) (pos : Nat) (d : Bytes) (c : UInt8) (hpos : pos < b.length) :
    (matchNext b pos d c).2.reverse ++ b.take (matchNext b pos d c).1 = d.reverse ++ b.take pos ++ [c] := by
  unfold matchNext
  split
  · next hc => simp only [hc, List.append_assoc, take_succ_getD b pos hpos]
  · split
    · next hc0 => simp [hc0, ← take_succ_getD b 0 (by omega)]
    · simp

theorem matchNext_le (b : Bytes) (pos : Nat) (d : Bytes) (c : UInt8) (hpos : pos < b.length) :
    (matchNext b pos d c).1 ≤ b.length := by
  unfold matchNext
  split
  · exact hpos
  · split <;> simp only <;> omega

theorem matchNext_longest {b : Bytes} (g : Guard b) (pos : Nat) (d : Bytes) (c : UInt8) (hpos : pos < b.length)
    (h : ∀ k, k ≤ b.length → b.take k <:+ d.reverse ++ b.take pos → k ≤ pos) :
    ∀ k, k ≤ b.length → b.take k <:+ d.reverse ++ b.take pos ++ [c] → k ≤ (matchNext b pos d c).1 := by
  intro k hk hsuf
  cases k with
  | zero => exact Nat.zero_le _
  | succ j =>
    rw [← take_succ_getD _ j hk, List.suffix_append_inj_of_length_eq (s₁ := [b.getD j 0]) (s₂ := [c]) rfl] at hsuf
    obtain ⟨hsufj, hcj⟩ := hsuf
    have hcj : c = b.getD j 0 := by simpa using hcj.symm
    have hjp : j ≤ pos := h j (Nat.le_of_succ_le hk) hsufj
    unfold matchNext
    split
    · exact Nat.succ_le_succ hjp
    · next hc =>
      have hjlt : j < pos := Nat.lt_of_le_of_ne hjp fun e => hc (e ▸ hcj)
      cases j with
      | zero => simp [hcj]
      | succ i =>
        -- a shorter border of the held-back prefix: impossible under the guard
        refine absurd ?_ (guard_no_border g (Nat.succ_pos i) hjlt (Nat.le_of_lt hpos))
        exact List.suffix_of_suffix_length_le hsufj (List.suffix_append _ _) (by simp; omega)

/-- bytes of the current part consumed so far -/
def V (b : Bytes) (p : P) : Bytes := p.dataRev.reverse ++ b.take p.pos

/-- in a part, the delimiter not yet complete, and `position_` is the longest prefix of the
boundary that ends the bytes consumed -/
structure MInv (b : Bytes) (p : P) : Prop where
  st : p.st = .sepBoundary
  pos : p.pos < b.length
  longest : ∀ k, k ≤ b.length → b.take k <:+ V b p → k ≤ p.pos

theorem MInv.fresh (b : Bytes) (p : P) (hst : p.st = .sepBoundary) (hb : 0 < b.length) (hpos : p.pos = 0)
    (hd : p.dataRev = []) : MInv b p := by
  refine ⟨hst, by omega, fun k hk hsuf => ?_⟩
  have := hsuf.length_le
  simp only [V, hpos, hd, List.reverse_nil, List.take_zero, List.append_nil, List.length_take,
    List.length_nil] at this
  omega

theorem MInv.not_suffix {b : Bytes} {p : P} (h : MInv b p) : ¬ b <:+ V b p := by
  intro hs
  have := h.longest b.length (Nat.le_refl _) (by rwa [List.take_length])
  have := h.pos
  omega

/-- one byte inside a part: `MInv` kept and the byte appended to `V`, or the delimiter completed -/
theorem sep_step (cfg : PCfg) (g : Guard cfg.boundary) (hdisk : cfg.diskOk = true) (p : P) (c : UInt8)
    (h : MInv cfg.boundary p) :
    (∃ n d, pstep cfg p c = .cont { p with pos := n, dataRev := d }
        ∧ MInv cfg.boundary { p with pos := n, dataRev := d }
        ∧ d.reverse ++ cfg.boundary.take n = V cfg.boundary p ++ [c])
    ∨ (∃ d, pstep cfg p c = .ready (p.close d) ∧ V cfg.boundary p ++ [c] = d.reverse ++ cfg.boundary) := by
  have hlen := guard_len g
  have hV := matchNext_V cfg.boundary p.pos p.dataRev c h.pos
  have hle := matchNext_le cfg.boundary p.pos p.dataRev c h.pos
  rw [pstep_sep_eq cfg p c hdisk h.st (by omega)]
  by_cases hfull : (matchNext cfg.boundary p.pos p.dataRev c).1 = cfg.boundary.length
  · rw [hfull, List.take_length] at hV
    exact .inr ⟨_, if_pos hfull, hV.symm⟩
  · refine .inl ⟨_, _, if_neg hfull, ⟨h.st, Nat.lt_of_le_of_ne hle hfull, ?_⟩, hV⟩
    intro k hk hsuf
    simp only [V, hV] at hsuf
    exact matchNext_longest g p.pos p.dataRev c h.pos h.longest k hk hsuf

/-- the input stays inside the part, or ends it at the first prefix at which the consumed bytes end with the
boundary.  `p.close d` is for the state `p` the run started from: inside a part only `pos` and `dataRev` change,
and `close` overwrites both. -/
theorem sep_run (cfg : PCfg) (g : Guard cfg.boundary) (hdisk : cfg.diskOk = true) :
    ∀ (s : Bytes) (p : P), MInv cfg.boundary p →
      (∃ p', pfold cfg p s = some p' ∧ MInv cfg.boundary p' ∧ V cfg.boundary p' = V cfg.boundary p ++ s)
      ∨ (∃ pre c rest p1 d, s = pre ++ c :: rest ∧ pfold cfg p pre = some p1
          ∧ pstep cfg p1 c = .ready (p.close d)
          ∧ V cfg.boundary p ++ pre ++ [c] = d.reverse ++ cfg.boundary
          ∧ ∀ k, k ≤ pre.length → ¬ cfg.boundary <:+ V cfg.boundary p ++ pre.take k) := by
  intro s
  induction s with
  | nil => intro p h; exact .inl ⟨p, rfl, h, by simp⟩
  | cons c t ih =>
    intro p h
    rcases sep_step cfg g hdisk p c h with ⟨n1, d1, hs, h1, hV1⟩ | ⟨d, hs, hV⟩
    · have hV1 : V cfg.boundary { p with pos := n1, dataRev := d1 } = V cfg.boundary p ++ [c] := hV1
      rcases ih _ h1 with ⟨p', hf, hI, hV⟩ | ⟨pre, c', rest, p2, d, hsplit, hf, hrd, hV, hno⟩
      · exact .inl ⟨p', by rw [pfold_cons hs]; exact hf, hI, by rw [hV, hV1]; simp⟩
      · refine .inr ⟨c :: pre, c', rest, p2, d, by rw [hsplit]; rfl, by rw [pfold_cons hs]; exact hf, hrd,
          by rw [← hV, hV1]; simp, fun k hk => ?_⟩
        cases k with
        | zero => simpa using h.not_suffix
        | succ k' =>
          have := hno k' (by simpa using hk)
          rw [hV1] at this
          simpa using this
    · exact .inr ⟨[], c, t, p, d, rfl, rfl, hs, by simpa using hV, fun k hk => by
        have : k = 0 := by simpa using hk
        subst this; simpa using h.not_suffix⟩

/-- `b` is a suffix of no proper prefix of `ct ++ b` -/
def NoEarly (b ct : Bytes) : Prop :=
  ∀ k, k < (ct ++ b).length → ¬ b <:+ (ct ++ b).take k

theorem noEarly_of_not_infix {b ct : Bytes} (g : Guard b) (h : ¬ b <:+: ct) : NoEarly b ct := by
  intro k hk hsuf
  by_cases hkc : k ≤ ct.length
  · rw [List.take_append_of_le_length hkc] at hsuf
    exact h (hsuf.isInfix.trans (List.take_prefix k ct).isInfix)
  · -- `b` ends `ct ++ b.take j` with `0 < j < |b|`: then `b.take j` is a border of `b`
    obtain ⟨j, rfl⟩ : ∃ j, k = ct.length + j := ⟨k - ct.length, by omega⟩
    simp only [List.length_append] at hk
    rw [List.take_append, List.take_of_length_le (Nat.le_add_right _ _), Nat.add_sub_cancel_left] at hsuf
    refine guard_no_border g (j := j) (n := b.length) (by omega) (by omega) (Nat.le_refl _) ?_
    rw [List.take_length]
    exact List.suffix_of_suffix_length_le (List.suffix_append _ _) hsuf (by simp; omega)

/-- content in which the delimiter does not end early, then the delimiter: `.cont` steps up to `content_ready`
at the delimiter's last byte -/
theorem content_path (cfg : PCfg) (g : Guard cfg.boundary) (hdisk : cfg.diskOk = true)
    (p : P) (hst : p.st = .sepBoundary) (hpos : p.pos = 0) (hd : p.dataRev = [])
    (ct : Bytes) (hno : NoEarly cfg.boundary ct) :
    ∃ pre c, ct ++ cfg.boundary = pre ++ [c] ∧ ∃ p', pfold cfg p pre = some p'
      ∧ pstep cfg p' c = .ready (p.close ct.reverse) := by
  have hI := MInv.fresh cfg.boundary p hst (by have := guard_len g; omega) hpos hd
  have hV0 : V cfg.boundary p = [] := by simp [V, hpos, hd]
  rcases sep_run cfg g hdisk (ct ++ cfg.boundary) p hI with ⟨p', _, hI', hV⟩ | ⟨pre, c, rest, p1, d, hsplit, hf, hrd, hV, _⟩
  · -- the delimiter cannot go unnoticed
    exact absurd (by rw [hV, hV0]; simp) hI'.not_suffix
  · rw [hV0, List.nil_append] at hV
    -- it is not noticed before its end
    have hrest : rest = [] := by
      by_cases hr : rest = []
      · exact hr
      · refine absurd ?_ (hno (pre.length + 1) ?_)
        · rw [hsplit, show pre ++ c :: rest = (pre ++ [c]) ++ rest by simp, List.take_append_of_le_length (by simp),
            List.take_of_length_le (by simp), hV]
          exact List.suffix_append _ _
        · rw [hsplit]; simp; exact List.length_pos_iff.mpr hr
    subst hrest
    have hct : ct = d.reverse := List.append_cancel_right (hsplit.trans hV)
    exact ⟨pre, c, hsplit, p1, hf, by rw [hrd, hct, List.reverse_reverse]⟩

end Cppcms.C12
