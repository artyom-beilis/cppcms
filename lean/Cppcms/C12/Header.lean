import Cppcms.C12.Model
import Cppcms.Lib.Scan
/-!
# C12: header syntax — parameters, the header block of a part, the `Content-Type` of the request

`; key=value` parameters: the key is read back, a quoted value exactly.  A block of CR-free non-empty lines and
an empty line is ended by the naive CRLFCRLF scanner at its last byte and processed line by line: so is
what `Spec.encodeHeaderW` writes.  `multipart/form-data; boundary=…` yields the boundary `CRLF--bkey`.
-/
namespace Cppcms.C12
open Cppcms

theorem ne_of_class {p : UInt8 → Bool} {c d : UInt8} (hc : p c = true) (hd : p d = false) : c ≠ d :=
  fun e => by rw [e, hd] at hc; cases hc

theorem skipWs_id (c : UInt8) (r : Bytes) (h : (isBlank c || c == 13) = false) : skipWs (c :: r) = c :: r := by
  rw [Bool.or_eq_false_iff] at h
  rw [skipWs.eq_def]; simp [h.1, h.2]

theorem skipWs_blank (r : Bytes) : skipWs (32 :: r) = skipWs r := by
  rw [skipWs.eq_def]; simp [isBlank]

theorem token_not_ws {c : UInt8} (h : tokenChar c = true) : (isBlank c || c == 13) = false := by
  have h32 := ne_of_class h (d := 32) (by decide)
  have h9 := ne_of_class h (d := 9) (by decide)
  have h13 := ne_of_class h (d := 13) (by decide)
  simp [isBlank, h32, h9, h13]

theorem skipWs_tokens (a r : Bytes) (ha : a ≠ []) (hat : ∀ x ∈ a, tokenChar x = true) : skipWs (a ++ r) = a ++ r := by
  obtain ⟨x, xs, rfl⟩ := List.exists_cons_of_ne_nil ha
  exact skipWs_id x _ (token_not_ws (hat x List.mem_cons_self))

theorem tokenSpan_eq (a rest : Bytes) (ha : ∀ x ∈ a, tokenChar x = true)
    (hr : ∀ y ys, rest = y :: ys → tokenChar y = false) : tokenSpan (a ++ rest) = (a, rest) :=
  Scan.span_append ha (Scan.stops_of_cons hr)

theorem contains_map_toNat (L : List UInt8) (c : UInt8) : (L.map UInt8.toNat).contains c.toNat = L.contains c := by
  induction L with
  | nil => rfl
  | cons x xs ih =>
    have : (c.toNat == x.toNat) = (c == x) := by rw [Bool.eq_iff_iff]; simp [UInt8.toNat_inj]
    simp only [List.map_cons, List.contains_cons, ih, this]

theorem tokenChar_of_isTokenByte (c : UInt8) (h : Spec.isTokenByte c = true) : tokenChar c = true := by
  simp only [Spec.isTokenByte, Bool.and_eq_true, decide_eq_true_eq, Bool.not_eq_true'] at h
  obtain ⟨⟨h33, h126⟩, hL⟩ := h
  have hsep : Gen.separators
      = ([40, 41, 60, 62, 64, 44, 59, 58, 92, 34, 47, 91, 93, 63, 61, 123, 125] : List UInt8).map UInt8.toNat ++ [32, 9] := rfl
  have h32 : (c.toNat == 32) = false := by simp; omega
  have h9 : (c.toNat == 9) = false := by simp; omega
  unfold tokenChar isSeparator
  rw [hsep, List.contains_append, contains_map_toNat, hL]
  simp only [Gen.tokenLo, Gen.tokenHi, List.contains_cons, List.contains_nil, h32, h9, Bool.or_false, Bool.not_false,
    Bool.and_true, Bool.and_eq_true]
  exact ⟨decide_eq_true (by omega), decide_eq_true h126⟩

theorem lower_id (c : UInt8) (h : Spec.isUpper c = false) : toLower c = c := by
  simp only [Spec.isUpper, Bool.and_eq_false_iff, decide_eq_false_iff_not] at h
  unfold toLower
  rw [if_pos]
  rcases (by omega : c.toNat < 65 ∨ c.toNat > 90) with h1 | h1 <;> simp [Gen.lowerFrom, Gen.lowerTo, h1]

theorem eqCI_refl (a : Bytes) : eqCI a a = true := by simp [eqCI]

theorem lower_list_id (s : Bytes) (h : ∀ c ∈ s, Spec.isUpper c = false) : lower s = s := by
  induction s with
  | nil => rfl
  | cons c t ih =>
    simp only [lower, List.map_cons] at ih ⊢
    rw [lower_id c (h c List.mem_cons_self), ih (fun x hx => h x (List.mem_cons_of_mem _ hx))]

def esc (c : UInt8) : Bytes := if c == 34 || c == 92 then [92, c] else [c]

theorem quote_eq (s : Bytes) : Spec.quote s = 34 :: (s.flatMap esc ++ [34]) := by
  unfold Spec.quote
  simp only [List.cons_append, List.nil_append]
  rfl

theorem quote_no_cr (s : Bytes) (h : (13 : UInt8) ∉ s) : (13 : UInt8) ∉ Spec.quote s := by
  rw [quote_eq]
  simp only [List.mem_cons, List.mem_append, List.mem_flatMap, List.mem_nil_iff, or_false, not_or, not_exists, not_and]
  refine ⟨by decide, fun c hc hx => ?_, by decide⟩
  unfold esc at hx
  split at hx
  · simp only [List.mem_cons, List.mem_nil_iff, or_false] at hx
    rcases hx with hx | hx
    · cases hx
    · exact h (hx ▸ hc)
  · exact h (List.mem_singleton.mp hx ▸ hc)

theorem unquoteLoop_esc (s t : Bytes) : unquoteLoop (s.flatMap esc ++ 34 :: t) = some (s, t) := by
  induction s with
  | nil => rw [unquoteLoop.eq_def]; rfl
  | cons c s ih =>
    simp only [List.flatMap_cons, List.append_assoc, esc]
    cases h : (c == 34 || c == 92)
    · simp only [Bool.or_eq_false_iff] at h
      rw [unquoteLoop.eq_def]
      simp [h.1, h.2, ih]
    · rw [unquoteLoop.eq_def]
      simp [ih]

theorem unquote_quote (s t : Bytes) : unquote (Spec.quote s ++ t) = some (s, t) := by
  rw [quote_eq]
  simp only [List.cons_append, List.append_assoc, unquote, beq_self_eq_true, if_true]
  exact unquoteLoop_esc s t

/-- on `; key=` and a value whose first byte `q` is neither blank nor CR, `parsePairG` is the parse of the value -/
theorem parsePairG_key (w : Bool) (key : Bytes) (q : UInt8) (val : Bytes) (hk : key ≠ [])
    (hkt : ∀ x ∈ key, tokenChar x = true) (hq : (isBlank q || q == 13) = false) :
    parsePairG w (59 :: 32 :: (key ++ 61 :: q :: val)) =
      if q == 34 then
        match unquote (q :: val) with
        | none => none
        | some (v, t) => some (key, v, t)
      else if (tokenSpan (q :: val)).1.isEmpty then none
      else some (key, (tokenSpan (q :: val)).1, (tokenSpan (q :: val)).2) := by
  -- what each call inside `parse_pair` returns on this input, in the order of the calls
  have hsemi : UInt8.ofNat Gen.pairSemicolon = 59 ∧ UInt8.ofNat Gen.pairEquals = 61 ∧ UInt8.ofNat Gen.pairQuote = 34 :=
    ⟨rfl, rfl, rfl⟩
  have hskip1 : skipWs (32 :: (key ++ 61 :: q :: val)) = key ++ 61 :: q :: val := by
    rw [skipWs_blank, skipWs_tokens key _ hk hkt]
  have hname : tokenSpan (key ++ 61 :: q :: val) = (key, 61 :: q :: val) :=
    tokenSpan_eq key _ hkt (by intro y ys e; cases e; decide)
  have hskipEq : skipWs (61 :: q :: val) = 61 :: q :: val := skipWs_id 61 _ rfl
  have hskipVal : skipWs (q :: val) = q :: val := skipWs_id q val hq
  have hne : (key ++ 61 :: q :: val).isEmpty = false ∧ key.isEmpty = false :=
    ⟨List.isEmpty_eq_false_iff.mpr (List.append_ne_nil_of_left_ne_nil hk _), List.isEmpty_eq_false_iff.mpr hk⟩
  unfold parsePairG
  -- `;` found, name read, (blanks before `=` skipped if `w`), `=` found, value starts at `q`
  simp only [hsemi.1, hsemi.2.1, hsemi.2.2, bne_self_eq_false, Bool.false_eq_true, if_false, hskip1, hne.1, hname, hne.2,
    hskipEq, ite_self, hskipVal]
  rfl

theorem parsePairG_quoted (w : Bool) (key v t : Bytes) (hk : key ≠ []) (hkt : ∀ x ∈ key, tokenChar x = true) :
    parsePairG w (59 :: 32 :: (key ++ 61 :: (Spec.quote v ++ t))) = some (key, v, t) := by
  have hqs : Spec.quote v ++ t = 34 :: ((v.flatMap esc ++ [34]) ++ t) := by rw [quote_eq]; rfl
  rw [hqs, parsePairG_key w key 34 _ hk hkt rfl, ← hqs, unquote_quote]
  rfl

theorem findCRLF_nocr (a rest : Bytes) (h : (13 : UInt8) ∉ a) : findCRLF (a ++ 13 :: 10 :: rest) = some (a, rest) := by
  induction a with
  | nil => simp [findCRLF]
  | cons x xs ih =>
    have hx' : (x == 13) = false := by simpa using fun e : x = 13 => h (e ▸ List.mem_cons_self)
    simp only [List.cons_append, findCRLF]
    cases ht : xs ++ 13 :: 10 :: rest with
    | nil => simp at ht
    | cons b r =>
      simp only [hx', Bool.false_and, Bool.false_eq_true, if_false]
      rw [← ht, ih (fun e => h (List.mem_cons_of_mem _ e))]
      rfl

def hdrBlock : List Bytes → Bytes
  | [] => [13, 10]
  | l :: ls => l ++ 13 :: 10 :: hdrBlock ls

theorem hdrBlock_length (ls : List Bytes) : ls.length < (hdrBlock ls).length := by
  induction ls with
  | nil => decide
  | cons l ls ih => simp only [hdrBlock, List.length_append, List.length_cons]; omega

/-- what makes `hdrBlock ls` a block the scanner ends at its last byte -/
def LinesOK : List Bytes → Prop
  | [] => True
  | l :: ls => (l ≠ [] ∧ (13 : UInt8) ∉ l) ∧ LinesOK ls

/-- scanner positions at a line start: 0 (nothing matched) and 2 (just after a line's CRLF) -/
theorem hdrEndsAt_nocr (a rest : Bytes) (pos : Nat) (hp : pos = 0 ∨ pos = 2) (h : (13 : UInt8) ∉ a) (hr : rest ≠ []) :
    hdrEndsAt pos (a ++ rest) = hdrEndsAt (if a.isEmpty then pos else 0) rest := by
  induction a generalizing pos with
  | nil => rfl
  | cons x xs ih =>
    have hx : (x == 13) = false := by simpa using fun e : x = 13 => h (e ▸ List.mem_cons_self)
    -- a byte other than CR sends the scanner back to 0, unless it was at "CR seen" (1 or 3)
    have h0 : crlfNext pos x = 0 := by rcases hp with rfl | rfl <;> simp [crlfNext, Gen.crlfcrlf, ofNats, hx]
    have hne : (xs ++ rest).isEmpty = false := List.isEmpty_eq_false_iff.mpr (by simp [hr])
    simp only [List.cons_append, hdrEndsAt, hne, Bool.false_eq_true, if_false, h0, List.isEmpty_cons]
    rw [ih 0 (.inl rfl) (fun e => h (List.mem_cons_of_mem _ e))]
    simp [Gen.crlfcrlf]

/-- `hne`: the lone empty line (`ls = []`) is taken after a CRLF (`pos = 2`) -/
theorem hdrEndsAt_block (ls : List Bytes) (hls : LinesOK ls) (pos : Nat) (hp : pos = 0 ∨ pos = 2) (hne : ls ≠ [] ∨ pos = 2) :
    hdrEndsAt pos (hdrBlock ls) = true := by
  induction ls generalizing pos with
  | nil =>
    obtain rfl : pos = 2 := by simpa using hne
    decide
  | cons l ls ih =>
    obtain ⟨⟨hl, hcr⟩, hls⟩ := hls
    rw [hdrBlock, hdrEndsAt_nocr l _ pos hp hcr (by simp), List.isEmpty_eq_false_iff.mpr hl]
    have h1 : crlfNext 0 13 = 1 := by decide
    have h2 : crlfNext 1 10 = 2 := by decide
    simp only [Bool.false_eq_true, if_false, hdrEndsAt, List.isEmpty_cons, h1, h2,
      List.isEmpty_eq_false_iff.mpr (List.ne_nil_of_length_pos (Nat.zero_lt_of_lt (hdrBlock_length ls)))]
    rw [ih hls 2 (.inr rfl) (.inr rfl)]
    decide

theorem processHeaderLoop_block (ls : List Bytes) (hls : LinesOK ls) (fuel : Nat) (hf : ls.length < fuel) (m : Meta) :
    processHeaderLoop fuel (hdrBlock ls) m = ls.foldlM (fun m l => processLine l m) m := by
  obtain ⟨f, rfl⟩ : ∃ f, fuel = f + 1 := ⟨fuel - 1, by omega⟩
  induction ls generalizing f m with
  | nil => rfl
  | cons l ls ih =>
    obtain ⟨⟨hl, hcr⟩, hls⟩ := hls
    obtain ⟨x, xs, rfl⟩ := List.exists_cons_of_ne_nil hl
    obtain ⟨f', rfl⟩ : ∃ f', f = f' + 1 := ⟨f - 1, by simp at hf; omega⟩
    rw [hdrBlock, List.cons_append, processHeaderLoop, ← List.cons_append, findCRLF_nocr _ _ hcr]
    · simp only [List.isEmpty_cons, Bool.false_eq_true, if_false, List.foldlM_cons, Option.bind_eq_bind]
      cases processLine (x :: xs) m with
      | none => rfl
      | some m' => exact ih hls m' f' (by simpa using hf)
    · intro h; cases h

theorem headerOK_block (ls : List Bytes) (hls : LinesOK ls) (hne : ls ≠ []) (m : Meta)
    (h : ls.foldlM (fun m l => processLine l m) {} = some m) : headerOK (hdrBlock ls) m = true := by
  simp [headerOK, hdrEndsAt_block ls hls 0 (.inl rfl) (.inl hne), processHeader,
    processHeaderLoop_block ls hls _ (hdrBlock_length ls), h]

theorem processLine_named (hname v : Bytes) (m : Meta) (hn : hname ≠ [])
    (hnt : ∀ x ∈ hname, tokenChar x = true) (hv : skipWs v = v) :
    processLine (hname ++ 58 :: 32 :: v) m =
      if eqCI hname (ofNats Gen.hdrDisposition) then
        if !eqCI (tokenSpan v).1 (ofNats Gen.dispFormData) then none else parseCD (tokenSpan v).2 m
      else if eqCI hname (ofNats Gen.hdrContentType) then some { m with mime := mediaType v }
      else some m := by
  unfold processLine
  -- no blanks before the name, the name is the token up to `:`, one blank after it, none before `v`
  simp only [skipWs_tokens hname _ hn hnt, tokenSpan_eq hname (58 :: 32 :: v) hnt (by intro y ys e; cases e; decide),
    skipWs_id 58 _ rfl, bne_self_eq_false, Bool.false_eq_true, if_false, skipWs_blank, hv]

/-- the parameter names `parse_content_disposition` looks for: `name`, and `filename` below -/
def nameKey : Bytes := ofNats Gen.keyName
def filenameKey : Bytes := ofNats Gen.keyFilename

theorem parseCDLoop_param (fuel : Nat) (key v t : Bytes) (m : Meta) (hk : key ≠ [])
    (hkt : ∀ x ∈ key, tokenChar x = true) :
    parseCDLoop (fuel + 1) (59 :: 32 :: (key ++ 61 :: (Spec.quote v ++ t))) m =
      parseCDLoop fuel (skipWs t)
        (if lower key == filenameKey then { m with filename := v }
         else if lower key == nameKey then { m with name := v } else m) := by
  rw [parseCDLoop, parsePair, parsePairG_quoted false key v t hk hkt]
  · rfl
  · intro h; cases h

/-- the optional `; filename="…"` as `Spec.encodeHeaderW` writes it -/
def fnParam (w : Bool) (filename : Bytes) : Bytes :=
  if filename.isEmpty && !w then [] else Spec.litFilename ++ Spec.quote filename

theorem parseCD_params (w : Bool) (name filename : Bytes) :
    parseCD (59 :: 32 :: (nameKey ++ 61 :: (Spec.quote name ++ fnParam w filename))) {}
      = some { name := name, filename := filename, mime := [] } := by
  unfold parseCD
  rw [skipWs_id 59 _ rfl, show (59 :: 32 :: (nameKey ++ 61 :: (Spec.quote name ++ fnParam w filename))).length
      = (nameKey ++ 61 :: (Spec.quote name ++ fnParam w filename)).length + 1 + 1 from rfl,
    parseCDLoop_param _ nameKey name _ _ (List.cons_ne_nil _ _) (by decide), fnParam]
  split
  · next h =>
    obtain rfl : filename = [] := List.isEmpty_iff.mp (by simp only [Bool.and_eq_true] at h; exact h.1)
    rfl
  · rw [show Spec.litFilename ++ Spec.quote filename = 59 :: 32 :: (filenameKey ++ 61 :: (Spec.quote filename ++ []))
        by rw [List.append_nil]; rfl,
      skipWs_id 59 _ rfl, parseCDLoop_param _ filenameKey filename _ _ (List.cons_ne_nil _ _) (by decide)]
    rfl

theorem processLine_disposition (w : Bool) (name filename : Bytes) :
    processLine (Spec.litDisposition ++ Spec.quote name ++ fnParam w filename) {}
      = some { name := name, filename := filename, mime := [] } := by
  have hfd : ∀ x ∈ ofNats Gen.dispFormData, tokenChar x = true := by decide
  rw [show Spec.litDisposition ++ Spec.quote name ++ fnParam w filename
      = ofNats Gen.hdrDisposition ++ 58 :: 32 :: (ofNats Gen.dispFormData ++
        59 :: 32 :: (nameKey ++ 61 :: (Spec.quote name ++ fnParam w filename))) by rw [List.append_assoc]; rfl,
    processLine_named (ofNats Gen.hdrDisposition) _ {} (List.cons_ne_nil _ _) (by decide)
      (skipWs_tokens (ofNats Gen.dispFormData) _ (List.cons_ne_nil _ _) hfd),
    tokenSpan_eq (ofNats Gen.dispFormData) _ hfd (by intro y ys e; cases e; decide), if_pos (eqCI_refl _),
    eqCI_refl, if_neg (by decide)]
  exact parseCD_params w name filename

theorem disposition_no_cr (w : Bool) (name filename : Bytes) (hn : (13 : UInt8) ∉ name) (hf : (13 : UInt8) ∉ filename) :
    (13 : UInt8) ∉ Spec.litDisposition ++ Spec.quote name ++ fnParam w filename := by
  simp only [List.mem_append, not_or, fnParam]
  refine ⟨⟨by decide, quote_no_cr _ hn⟩, ?_⟩
  split
  · simp
  · simp only [List.mem_append, not_or]; exact ⟨by decide, quote_no_cr _ hf⟩

def metaOf (p : Part) : Meta := { name := p.name, filename := p.filename, mime := p.mime }

theorem mediaTypeRest_eq (t s rest : Bytes) (ht : t ≠ []) (hs : s ≠ []) (htt : ∀ c ∈ t, tokenChar c = true)
    (hst : ∀ c ∈ s, tokenChar c = true) (hr : ∀ y ys, rest = y :: ys → tokenChar y = false) :
    mediaTypeRest (t ++ 47 :: (s ++ rest)) = (lower t ++ [47] ++ lower s, rest) := by
  unfold mediaTypeRest
  -- no leading blanks, `t` is the token up to `/`, `s` the token after it
  simp only [skipWs_tokens t _ ht htt, List.isEmpty_eq_false_iff.mpr (List.append_ne_nil_of_left_ne_nil ht _),
    tokenSpan_eq t (47 :: (s ++ rest)) htt (by intro y ys e; cases e; decide), tokenSpan_eq s rest hst hr,
    bne_self_eq_false, Bool.false_eq_true, if_false, List.isEmpty_eq_false_iff.mpr hs,
    List.isEmpty_eq_false_iff.mpr ht]

/-- read back as itself; no CR and no leading blank, so it can stand as a header line's value -/
theorem mediaType_wf (m : Bytes) (h : Spec.WFmime m) : mediaType m = m ∧ (13 : UInt8) ∉ m ∧ skipWs m = m := by
  obtain ⟨t, s, rfl, ht, hs, hall⟩ := h
  have htt : ∀ x ∈ t, tokenChar x = true := fun x hx => tokenChar_of_isTokenByte x (hall x (by simp [hx])).1
  have hst : ∀ x ∈ s, tokenChar x = true := fun x hx => tokenChar_of_isTokenByte x (hall x (by simp [hx])).1
  refine ⟨?_, ?_, ?_⟩
  · have := mediaTypeRest_eq t s [] ht hs htt hst (by intro y ys e; cases e)
    rw [List.append_nil, ← List.singleton_append, ← List.append_assoc] at this
    rw [mediaType, this, lower_list_id t fun x hx => (hall x (by simp [hx])).2,
      lower_list_id s fun x hx => (hall x (by simp [hx])).2]
  · simp only [List.mem_append, List.mem_singleton, not_or]
    exact ⟨⟨fun h => absurd (htt 13 h) (by decide), by decide⟩, fun h => absurd (hst 13 h) (by decide)⟩
  · rw [List.append_assoc]; exact skipWs_tokens t _ ht htt

theorem processLine_contentType (mime : Bytes) (hw : Spec.WFmime mime) (m : Meta) :
    processLine (Spec.litContentType ++ mime) m = some { m with mime := mime } := by
  obtain ⟨hmt, _, hnoBlank⟩ := mediaType_wf mime hw
  rw [show Spec.litContentType ++ mime = ofNats Gen.hdrContentType ++ 58 :: 32 :: mime from rfl,
    processLine_named (ofNats Gen.hdrContentType) _ _ (List.cons_ne_nil _ _) (by decide) hnoBlank, hmt,
    if_neg (by decide), if_pos (eqCI_refl _)]

theorem encodeHeaderW_headerOK (w : Bool) (bkey : Bytes) (p : Part) (hw : Spec.WFpart bkey p) :
    headerOK (Spec.encodeHeaderW w p) (metaOf p) = true := by
  obtain ⟨hnames, hmime, _⟩ := hw
  have hP1 := processLine_disposition w p.name p.filename
  have hL1 : Spec.litDisposition ++ Spec.quote p.name ++ fnParam w p.filename ≠ []
      ∧ (13 : UInt8) ∉ Spec.litDisposition ++ Spec.quote p.name ++ fnParam w p.filename :=
    ⟨List.append_ne_nil_of_left_ne_nil (List.append_ne_nil_of_left_ne_nil (List.cons_ne_nil _ _) _) _,
      disposition_no_cr w _ _ (fun h => (hnames 13 (by simp [h])).1 rfl) (fun h => (hnames 13 (by simp [h])).1 rfl)⟩
  by_cases hm : p.mime = []
  · -- no Content-Type line
    rw [show Spec.encodeHeaderW w p = hdrBlock [Spec.litDisposition ++ Spec.quote p.name ++ fnParam w p.filename] by
      simp [Spec.encodeHeaderW, hm, Spec.crlf, hdrBlock, fnParam]]
    exact headerOK_block [_] ⟨hL1, trivial⟩ (List.cons_ne_nil _ _) _ (by rw [List.foldlM_cons, hP1, metaOf, hm]; rfl)
  · -- with a Content-Type line
    have hwm := hmime.resolve_left hm
    have hP2 := processLine_contentType p.mime hwm { name := p.name, filename := p.filename, mime := [] }
    obtain ⟨_, hnoCR, _⟩ := mediaType_wf p.mime hwm
    have hL2 : Spec.litContentType ++ p.mime ≠ [] ∧ (13 : UInt8) ∉ Spec.litContentType ++ p.mime :=
      ⟨List.append_ne_nil_of_left_ne_nil (List.cons_ne_nil _ _) _, by
        simp only [List.mem_append, not_or]; exact ⟨by decide, hnoCR⟩⟩
    rw [show Spec.encodeHeaderW w p = hdrBlock [Spec.litDisposition ++ Spec.quote p.name ++ fnParam w p.filename,
        Spec.litContentType ++ p.mime] by simp [Spec.encodeHeaderW, hm, Spec.crlf, hdrBlock, fnParam]]
    exact headerOK_block [_, _] ⟨hL1, hL2, trivial⟩ (List.cons_ne_nil _ _) _ (by
      rw [List.foldlM_cons, hP1, Option.bind_eq_bind, Option.bind_some, List.foldlM_cons, hP2]; rfl)

/-- `multipart/form-data; boundary=` -/
def litMultipartCT : Bytes := [109, 117, 108, 116, 105, 112, 97, 114, 116, 47, 102, 111, 114, 109, 45, 100, 97, 116, 97, 59, 32,
  98, 111, 117, 110, 100, 97, 114, 121, 61]

/-- `boundary` -/
def kBoundary : Bytes := [98, 111, 117, 110, 100, 97, 114, 121]

theorem boundary_of_pair (X bkey : Bytes) (hne : bkey ≠ [])
    (hpair : parsePairG true (59 :: 32 :: (kBoundary ++ 61 :: X)) = some (kBoundary, bkey, [])) :
    mediaType (litMultipartCT ++ X) = ctMultipart ∧ mkBoundary (litMultipartCT ++ X) = some (Spec.delimiter bkey) := by
  have hmtr : mediaTypeRest (litMultipartCT ++ X) = (ctMultipart, 59 :: 32 :: (kBoundary ++ 61 :: X)) :=
    (mediaTypeRest_eq [109, 117, 108, 116, 105, 112, 97, 114, 116] [102, 111, 114, 109, 45, 100, 97, 116, 97]
      (59 :: 32 :: (kBoundary ++ 61 :: X)) (List.cons_ne_nil _ _) (List.cons_ne_nil _ _) (by decide) (by decide)
      (by intro y ys e; cases e; decide)).trans (congrArg (·, _) (by decide))
  refine ⟨by rw [mediaType, hmtr], ?_⟩
  unfold mkBoundary ctParameter
  rw [hmtr]
  simp only [show ctMultipart.isEmpty = false from rfl, Bool.false_eq_true, if_false]
  rw [show (59 :: 32 :: (kBoundary ++ 61 :: X)).length = (kBoundary ++ 61 :: X).length + 1 + 1 from rfl, ctParams,
    skipWs_id 59 _ rfl, hpair]
  · simp only [show lower kBoundary = kBoundary by decide, List.any_nil, Bool.false_eq_true, if_false, List.nil_append]
    rw [ctParams]
    · simp [kBoundary, List.isEmpty_eq_false_iff.mpr hne, Spec.delimiter, Spec.crlf, Spec.dashes, ofNats,
        Gen.boundaryPrefix]
    · intro h; cases h
  · intro h; cases h

theorem boundary_of_content_type (bkey : Bytes) (hne : bkey ≠ []) (htok : ∀ c ∈ bkey, tokenChar c = true) :
    mediaType (litMultipartCT ++ bkey) = ctMultipart
    ∧ mkBoundary (litMultipartCT ++ bkey) = some (Spec.delimiter bkey) := by
  refine boundary_of_pair bkey bkey hne ?_
  obtain ⟨b0, bs, rfl⟩ := List.exists_cons_of_ne_nil hne
  have hb0 := htok b0 List.mem_cons_self
  rw [parsePairG_key true kBoundary b0 bs (List.cons_ne_nil _ _) (by decide) (token_not_ws hb0),
    show tokenSpan (b0 :: bs) = (b0 :: bs, []) by simpa using tokenSpan_eq _ [] htok (by intro y ys e; cases e)]
  simp [ne_of_class hb0 (d := 34) (by decide)]

theorem boundary_of_content_type_quoted (bkey : Bytes) (hne : bkey ≠ []) :
    mediaType (litMultipartCT ++ Spec.quote bkey) = ctMultipart
    ∧ mkBoundary (litMultipartCT ++ Spec.quote bkey) = some (Spec.delimiter bkey) :=
  boundary_of_pair _ bkey hne (by
    have := parsePairG_quoted true kBoundary bkey [] (List.cons_ne_nil _ _) (by decide)
    rwa [List.append_nil] at this)

end Cppcms.C12
