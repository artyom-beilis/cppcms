import Cppcms.C12.Matcher
import Cppcms.C12.Stream
/-!
# C12: a body of encoded parts is processed part by part

From the state between two parts the bytes of one encoded part lead through `meta_ready` and
`content_ready` back to that state with the part appended (`item_path`); so does the fold of the loop
(`item_step`, `tail_run`, `body_run`).  Also the status codes the loop can answer with.
-/
namespace Cppcms.C12
open Cppcms

/-- one encoded part: its header block, what the header means, its content -/
structure Item where
  hdr : Bytes
  info : Meta
  data : Bytes

def Item.part (it : Item) : Part :=
  { name := it.info.name, filename := it.info.filename, mime := it.info.mime, data := it.data }

/-- the body after the very first `--bkey`, with the delimiters written as `b = CRLF--bkey` -/
def tailOf (b : Bytes) : List Item → Bytes
  | [] => [45, 45, 13, 10]
  | it :: rest => [13, 10] ++ it.hdr ++ it.data ++ b ++ tailOf b rest

theorem encodeWith_eq (bkey : Bytes) (items : List Item) :
    Spec.encodeWith bkey (items.map fun it => (it.hdr, it.data)) =
      [45, 45] ++ bkey ++ tailOf (Spec.delimiter bkey) items := by
  induction items with
  | nil => simp [Spec.encodeWith, tailOf, Spec.dashes, Spec.crlf]
  | cons it rest ih =>
    simp only [List.map_cons, Spec.encodeWith, tailOf, ih, Spec.delimiter, Spec.dashes, Spec.crlf]
    simp

/-- parser state between two parts (right after a delimiter); `fs`: the parts completed so far -/
def between (fs : List Part) : P := { st := .crlfOrEof, pos := 0, filesRev := fs }

/-- parser state at the start of a part's content, its header block read as `m` -/
def inPart (fs : List Part) (m : Meta) : P := { st := .sepBoundary, pos := 0, cur := m, filesRev := fs }

/-- in state `p` the parser accepts exactly the byte `x`, and goes on in `p1` -/
def Expects (cfg : PCfg) (p : P) (x : UInt8) (p1 : P) : Prop :=
  ∀ c, pstep cfg p c = if c != x then .err else .cont p1

theorem Expects.step {cfg : PCfg} {p p1 : P} {x : UInt8} (h : Expects cfg p x p1) : pstep cfg p x = .cont p1 := by
  simpa using h x

theorem expects_firstBoundary (cfg : PCfg) (p : P) (hst : p.st = .firstBoundary) :
    Expects cfg p (cfg.boundary.getD p.pos 0)
      (if p.pos + 1 = cfg.boundary.length then { p with st := .crlfOrEof, pos := 0 }
       else { p with pos := p.pos + 1 }) := by
  intro c
  simp only [pstep, hst]
  split
  · rfl
  · split <;> rfl

/-- the first `--bkey` (the parser starts inside its boundary string, after the CRLF); induction on the number
of boundary bytes still expected -/
theorem first_boundary (cfg : PCfg) :
    ∀ (n : Nat) (p : P), p.st = .firstBoundary → p.pos + n + 1 = cfg.boundary.length →
      pfold cfg p (cfg.boundary.drop p.pos) = some { p with st := .crlfOrEof, pos := 0 } := by
  intro n
  induction n with
  | zero =>
    intro p hst hlen
    have hpos : p.pos < cfg.boundary.length := by omega
    rw [List.drop_eq_getElem_cons hpos, ← getD_lt _ _ hpos, pfold_cons (expects_firstBoundary cfg p hst).step,
      if_pos (by omega), List.drop_eq_nil_of_le (by omega)]
    rfl
  | succ n ih =>
    intro p hst hlen
    have hpos : p.pos < cfg.boundary.length := by omega
    rw [List.drop_eq_getElem_cons hpos, ← getD_lt _ _ hpos, pfold_cons (expects_firstBoundary cfg p hst).step,
      if_neg (by omega)]
    exact ih { p with pos := p.pos + 1 } hst (by simp only; omega)

theorem first_boundary_start (cfg : PCfg) (bkey : Bytes) (hb : cfg.boundary = Spec.delimiter bkey) :
    pfold cfg {} (45 :: 45 :: bkey) = some (between []) := by
  have := first_boundary cfg (bkey.length + 1) {} rfl
    (by rw [hb]; simp [Spec.delimiter, Spec.crlf, Spec.dashes, Gen.initPos]; omega)
  rwa [hb] at this

/-- from `expecting_crlfcrlf`: a block the scanner ends exactly at its last byte and `process_header` accepts
leads through `.cont` steps to `meta_ready` there -/
theorem header_path (cfg : PCfg) (m : Meta) :
    ∀ (h : Bytes) (p : P), p.st = .crlfcrlf → hdrEndsAt p.pos h = true →
      processHeader (p.hdrRev.reverse ++ h) = some m →
      ∃ pre c, h = pre ++ [c] ∧ ∃ p', pfold cfg p pre = some p' ∧
        pstep cfg p' c = .hdrDone { p with st := .sepBoundary, pos := 0, hdrRev := [], cur := m } := by
  intro h
  induction h with
  | nil => intro p _ he; cases he
  | cons c t ih =>
    intro p hst he hph
    cases t with
    | nil =>
      simp only [hdrEndsAt, List.isEmpty_nil, if_true, beq_iff_eq] at he
      refine ⟨[], c, rfl, p, rfl, ?_⟩
      simp only [pstep, hst, he, if_true, List.reverse_cons, hph]
    | cons c2 t2 =>
      simp only [hdrEndsAt, List.isEmpty_cons, Bool.false_eq_true, if_false, Bool.and_eq_true, bne_iff_ne, ne_eq] at he
      have hs : pstep cfg p c = .cont { p with hdrRev := c :: p.hdrRev, pos := crlfNext p.pos c } := by
        simp only [pstep, hst, he.1, if_false]
      obtain ⟨pre, cl, hsplit, p', hf, hlast⟩ :=
        ih { p with hdrRev := c :: p.hdrRev, pos := crlfNext p.pos c } hst he.2 (by simpa using hph)
      exact ⟨c :: pre, cl, by rw [hsplit]; rfl, p', by rw [pfold_cons hs]; exact hf, hlast⟩

/-- the form the loop needs (`.intro`, `.parses`, `.size`); `Props.ItemWF` implies it (`Props.ItemWF.ok`) -/
def ItemOK (cfg : Cfg) (it : Item) : Prop :=
  headerOK it.hdr it.info = true ∧ NoEarly cfg.boundary it.data ∧ sizeOk cfg it.info.mime it.data.length = true

/-- `ItemOK` without the size condition -/
structure ItemParses (cfg : Cfg) (it : Item) : Prop where
  header : headerOK it.hdr it.info = true
  content : NoEarly cfg.boundary it.data

theorem ItemOK.intro {cfg : Cfg} {it : Item} (parses : ItemParses cfg it)
    (size : sizeOk cfg it.info.mime it.data.length = true) : ItemOK cfg it := ⟨parses.header, parses.content, size⟩

theorem ItemOK.parses {cfg : Cfg} {it : Item} (h : ItemOK cfg it) : ItemParses cfg it := ⟨h.1, h.2.1⟩

theorem ItemOK.size {cfg : Cfg} {it : Item} (h : ItemOK cfg it) : sizeOk cfg it.info.mime it.data.length = true := h.2.2

/-- from the CRLF after the previous delimiter to the last byte of the part's own delimiter -/
theorem item_path (cfg : PCfg) (g : Guard cfg.boundary) (hdisk : cfg.diskOk = true) (it : Item)
    (hhdr : headerOK it.hdr it.info = true) (hne : NoEarly cfg.boundary it.data) (fs : List Part) :
    ∃ pre1 c1 pre2 c2 p1 p2, [13, 10] ++ it.hdr = pre1 ++ [c1] ∧ it.data ++ cfg.boundary = pre2 ++ [c2]
      ∧ pfold cfg (between fs) pre1 = some p1 ∧ pstep cfg p1 c1 = .hdrDone (inPart fs it.info)
      ∧ pfold cfg (inPart fs it.info) pre2 = some p2 ∧ pstep cfg p2 c2 = .ready (between (it.part :: fs)) := by
  simp only [headerOK, Bool.and_eq_true, beq_iff_eq] at hhdr
  obtain ⟨hpre, c1, hsplit, p1, hf1, hs1⟩ :=
    header_path cfg it.info it.hdr { between fs with st := .crlfcrlf } rfl hhdr.1 hhdr.2
  obtain ⟨pre2, c2, csplit, p2, hf2, hs2⟩ := content_path cfg g hdisk (inPart fs it.info) rfl rfl rfl it.data hne
  refine ⟨[13, 10] ++ hpre, c1, pre2, c2, p1, p2, by rw [hsplit, List.append_assoc], csplit, ?_, hs1, hf2, ?_⟩
  · exact hf1
  · rw [hs2]; simp [P.close, inPart, between, Item.part]

theorem item_step (cfg : Cfg) (g : Guard cfg.boundary) (hdisk : cfg.diskOk = true) (it : Item)
    (hok : ItemParses cfg it) (fs : List Part) (l : Last) :
    lrun cfg (.going (between fs) l) ([13, 10] ++ it.hdr ++ it.data ++ cfg.boundary) =
      if !sizeOk cfg it.info.mime it.data.length then .stop Gen.codeSizeReady else .going (between (it.part :: fs)) .part := by
  obtain ⟨pre1, c1, pre2, c2, p1, p2, e1, e2, hf1, hs1, hf2, hs2⟩ := item_path cfg.toPCfg g hdisk it hok.header hok.content fs
  rw [lrun_marker cfg _ l .cont _ (by simp), e1, List.append_assoc (pre1 ++ [c1]), e2, List.append_assoc,
    lrun_pfold cfg _ _ _ _ hf1, List.cons_append, lrun_cons, List.nil_append]
  simp only [lstep, hs1]
  rw [lrun_marker cfg _ .hdr .cont _ (by simp), lrun_pfold cfg _ _ _ _ hf2]
  simp only [lrun_cons, lstep, hs2, between, Item.part]
  rfl

theorem tail_run (cfg : Cfg) (g : Guard cfg.boundary) (hdisk : cfg.diskOk = true) :
    ∀ (items : List Item) (fs : List Part) (l : Last), (∀ it ∈ items, ItemOK cfg it) →
      lrun cfg (.going (between fs) l) (tailOf cfg.boundary items) =
        .eof { between ((items.map Item.part).reverse ++ fs) with st := .eofLf } := by
  intro items
  induction items with
  | nil => intro fs l _; rfl
  | cons it rest ih =>
    intro fs l hok
    have hit := hok it List.mem_cons_self
    rw [tailOf, lrun_append, item_step cfg g hdisk it hit.parses fs l, hit.size, if_neg (by decide),
      ih _ _ (fun it' h' => hok it' (List.mem_cons_of_mem _ h'))]
    simp

theorem tail_run_oversize (cfg : Cfg) (g : Guard cfg.boundary) (hdisk : cfg.diskOk = true)
    (big : Item) (hbig : ItemParses cfg big) (hsize : sizeOk cfg big.info.mime big.data.length = false)
    (post : List Item) :
    ∀ (items : List Item) (fs : List Part) (l : Last), (∀ it ∈ items, ItemOK cfg it) →
      lrun cfg (.going (between fs) l) (tailOf cfg.boundary (items ++ big :: post)) = .stop Gen.codeSizeReady := by
  intro items
  induction items with
  | nil =>
    intro fs l _
    rw [List.nil_append, tailOf, lrun_append, item_step cfg g hdisk big hbig fs l, hsize, if_pos (by decide), lrun_stop]
  | cons it more ih =>
    intro fs l hok
    have hit := hok it List.mem_cons_self
    rw [List.cons_append, tailOf, lrun_append, item_step cfg g hdisk it hit.parses fs l, hit.size, if_neg (by decide)]
    exact ih _ _ (fun it' h' => hok it' (List.mem_cons_of_mem _ h'))

theorem body_start (cfg : Cfg) (bkey : Bytes) (hb : cfg.boundary = Spec.delimiter bkey) (items : List Item) :
    lrun cfg (.going {} .cont) (Spec.encodeWith bkey (items.map fun it => (it.hdr, it.data))) =
      lrun cfg (.going (between []) .cont) (tailOf cfg.boundary items) := by
  rw [encodeWith_eq, ← hb]
  exact lrun_pfold cfg (45 :: 45 :: bkey) _ _ _ (first_boundary_start cfg.toPCfg bkey hb)

theorem body_run (cfg : Cfg) (bkey : Bytes) (hb : cfg.boundary = Spec.delimiter bkey)
    (hcr : (13 : UInt8) ∉ bkey) (hdisk : cfg.diskOk = true) (items : List Item) (hok : ∀ it ∈ items, ItemOK cfg it) :
    lrun cfg (.going {} .cont) (Spec.encodeWith bkey (items.map fun it => (it.hdr, it.data))) =
      .eof { between (items.map Item.part).reverse with st := .eofLf } := by
  rw [body_start cfg bkey hb, tail_run cfg (Guard.of_delimiter hb hcr) hdisk items [] _ hok, List.append_nil]

theorem body_run_oversize (cfg : Cfg) (bkey : Bytes) (hb : cfg.boundary = Spec.delimiter bkey)
    (hcr : (13 : UInt8) ∉ bkey) (hdisk : cfg.diskOk = true) (pre post : List Item) (big : Item)
    (hpre : ∀ it ∈ pre, ItemOK cfg it) (hbig : ItemParses cfg big)
    (hsize : sizeOk cfg big.info.mime big.data.length = false) :
    lrun cfg (.going {} .cont) (Spec.encodeWith bkey ((pre ++ big :: post).map fun it => (it.hdr, it.data))) = .stop Gen.codeSizeReady := by
  rw [body_start cfg bkey hb, tail_run_oversize cfg (Guard.of_delimiter hb hcr) hdisk big hbig hsize post pre [] _ hpre]

theorem encodeWith_pos (bkey : Bytes) (items : List Item) :
    0 < (Spec.encodeWith bkey (items.map fun it => (it.hdr, it.data))).length := by
  rw [encodeWith_eq]; simp

theorem run_roundtrip (cfg : Cfg) (bkey : Bytes) (hb : cfg.boundary = Spec.delimiter bkey)
    (hcr : (13 : UInt8) ∉ bkey) (hdisk : cfg.diskOk = true) (items : List Item)
    (hok : ∀ it ∈ items, ItemOK cfg it) (cs : List Bytes)
    (hcs : cs.flatten = Spec.encodeWith bkey (items.map fun it => (it.hdr, it.data))) :
    run cfg cs.flatten.length {} cs = .ready (items.map Item.part) := by
  rw [run_start cfg _ cs (hcs ▸ encodeWith_pos bkey items) (Nat.le_refl _), hcs, body_run cfg bkey hb hcr hdisk items hok]
  simp [verdict, finish, P.files, between]

theorem pstep_ready_files (cfg : PCfg) (p p' : P) (c : UInt8) (h : pstep cfg p c = .ready p') : p'.filesRev ≠ [] := by
  cases hst : p.st with
  | sepBoundary =>
    have := pstep_sep cfg p c hst
    rw [h] at this
    obtain ⟨f, hfl, _⟩ := this
    rw [hfl]; simp
  | crlfcrlf =>
    simp only [pstep, hst] at h
    split at h
    · split at h <;> cases h
    · cases h
  -- the other states answer `.err`, `.cont` or `.eofNl` only
  | firstBoundary => simp only [pstep, hst] at h; split at h <;> (try split at h) <;> cases h
  | crlfOrEof => simp only [pstep, hst] at h; split at h <;> (try split at h) <;> cases h
  | minus => simp only [pstep, hst] at h; split at h <;> cases h
  | eofCr => simp only [pstep, hst] at h; split at h <;> cases h
  | eofLf => simp only [pstep, hst] at h; split at h <;> cases h
  | lf => simp only [pstep, hst] at h; split at h <;> cases h

theorem ploop_codes (cfg : Cfg) (atLen : Bool) :
    ∀ (buf : Bytes) (p : P) (r : Res) (code : Nat), ploop cfg atLen p buf r = .error code → code = 400 ∨ code = 413 := by
  intro buf
  induction buf with
  | nil => intro p r code h; cases h
  | cons c rest ih =>
    intro p r code h
    cases hs : pstep cfg.toPCfg p c with
    | cont p' =>
      rw [ploop_cont hs] at h
      split at h
      · unfold chunkEnd at h
        split at h
        · split at h <;> cases h
          exact .inr rfl
        · cases h
      · exact ih _ _ _ h
    | hdrDone p' => simp only [ploop, hs] at h; exact ih _ _ _ h
    | ready p' =>
      simp only [ploop, hs] at h
      cases hfl : p'.filesRev with
      | nil => exact absurd hfl (pstep_ready_files cfg.toPCfg p p' c hs)
      | cons f fs =>
        rw [hfl] at h; simp only at h
        split at h
        · cases h; exact .inr rfl
        · exact ih _ _ _ h
    | eofNl p' =>
      simp only [ploop, hs] at h
      split at h
      · cases h; exact .inl rfl
      · split at h <;> cases h
        exact .inl rfl
    | err => simp only [ploop, hs] at h; cases h; exact .inl rfl
    | noRoom p' => simp only [ploop, hs] at h; cases h; exact .inr rfl

theorem run_codes (cfg : Cfg) (cl : Nat) : ∀ (cs : List Bytes) (s : RS) (code : Nat),
    run cfg cl s cs = .error code → code = 400 ∨ code = 413 := by
  intro cs
  induction cs with
  | nil => intro s code h; simp only [run] at h; split at h <;> cases h
  | cons c cs ih =>
    intro s code h
    rw [run_cons] at h
    cases hp : progress cfg cl s c with
    | ok s' => rw [hp] at h; exact ih s' code h
    | error e =>
      rw [hp] at h; cases h
      rw [progress_eq] at hp
      split at hp
      · cases hp
      · split at hp
        · next hl => cases hp; exact ploop_codes cfg _ _ _ _ _ hl
        · split at hp <;> cases hp
          exact .inl rfl

end Cppcms.C12
