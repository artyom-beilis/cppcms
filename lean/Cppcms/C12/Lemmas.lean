import Cppcms.C12.Model
/-!
# C12: the loop of `on_content_progress`

`wloop` (the literal `while`/`switch` over `consume`) equals the byte-level `ploop`.  `SepOut`: what one byte can
do inside a part whatever the disk, so that an oversize field stays oversize; `pfold`: runs of `.cont` steps.
-/
namespace Cppcms.C12
open Cppcms

theorem consume_nil (cfg : PCfg) (p : P) : consume cfg p [] = (endRes p, p, []) := rfl

/-- what the loop answers when the buffer ends after a `.cont` step -/
def chunkEnd (cfg : Cfg) (p : P) : Except Nat (P × Res) :=
  if p.fileReady then
    if !sizeOk cfg p.cur.mime p.dataRev.length then .error Gen.codeSizePartial else .ok (p, .contentPartial)
  else .ok (p, .continueInput)

theorem ploop_cont {cfg : Cfg} {p p' : P} {c : UInt8} (h : pstep cfg.toPCfg p c = .cont p')
    (atLen : Bool) (t : Bytes) (r : Res) :
    ploop cfg atLen p (c :: t) r = if t.isEmpty then chunkEnd cfg p' else ploop cfg atLen p' t r := by
  simp only [ploop, h, chunkEnd]

theorem wloop_nil (cfg : Cfg) (atLen : Bool) (fuel : Nat) (p : P) (r : Res) :
    wloop cfg atLen fuel p [] r = .ok (p, r) := by
  cases fuel <;> rfl

theorem wloop_eq_ploop (cfg : Cfg) (atLen : Bool) :
    ∀ (buf : Bytes) (fuel : Nat) (p : P) (r : Res), buf.length ≤ fuel →
      wloop cfg atLen fuel p buf r = ploop cfg atLen p buf r := by
  intro buf
  induction buf with
  | nil => intro fuel p r _; exact wloop_nil cfg atLen fuel p r
  | cons c rest ih =>
    intro fuel p r hlen
    obtain ⟨f, rfl⟩ : ∃ f, fuel = f + 1 := ⟨fuel - 1, by simp at hlen; omega⟩
    have hf : rest.length ≤ f := by simpa using hlen
    rw [wloop]
    simp only [List.isEmpty_cons, Bool.false_eq_true, if_false, consume]
    cases hs : pstep cfg.toPCfg p c with
    | cont p' =>
      rw [ploop_cont hs]
      cases rest with
      | nil =>
        -- `consume` returns at the end of the buffer; the `switch` does the size check
        simp only [consume_nil, endRes, chunkEnd, List.isEmpty_nil, if_true]
        cases p'.fileReady
        · simp only [Bool.false_eq_true, if_false, wloop_nil]
        · simp only [if_true]
          cases sizeOk cfg p'.cur.mime p'.dataRev.length <;> simp [wloop_nil]
      | cons c2 rest2 =>
        -- `consume` goes on: the same call as from `p'`
        rw [← ih (f + 1) p' r (Nat.le_succ_of_le hf), wloop]
        simp only [List.isEmpty_cons, Bool.false_eq_true, if_false]
    | hdrDone p' => simp only [ploop, hs]; exact ih f p' _ hf
    | ready p' =>
      simp only [ploop, hs]
      cases p'.filesRev with
      | nil => rfl
      | cons fl fls =>
        cases hso : sizeOk cfg fl.mime fl.data.length
        · simp [hso]
        · simp only [hso, Bool.not_true, Bool.false_eq_true, if_false]; exact ih f p' _ hf
    | eofNl p' =>
      simp only [ploop, hs]
      cases rest with
      | nil => cases atLen <;> simp [wloop_nil]
      | cons c2 rest2 => simp
    | err => simp only [ploop, hs]
    | noRoom p' => simp only [ploop, hs]

theorem progress_eq (cfg : Cfg) (cl : Nat) (s : RS) (chunk : Bytes) :
    progress cfg cl s chunk =
      if chunk.isEmpty then .ok s else
      match ploop cfg (s.read + chunk.length == cl) s.p chunk .continueInput with
      | .error code => .error code
      | .ok (p', r) =>
        if (s.read + chunk.length == cl) && r != .eof then .error Gen.codeNoEofAtLength
        else .ok { p := p', read := s.read + chunk.length } := by
  simp only [progress]
  rw [wloop_eq_ploop cfg _ chunk chunk.length s.p _ (Nat.le_refl _)]
  rfl

/-- run of `.cont` steps -/
def pfold (cfg : PCfg) : P → Bytes → Option P
  | p, [] => some p
  | p, c :: rest =>
    match pstep cfg p c with
    | .cont p' => pfold cfg p' rest
    | _ => none

theorem pfold_cons {cfg : PCfg} {p p' : P} {c : UInt8} (h : pstep cfg p c = .cont p') (t : Bytes) :
    pfold cfg p (c :: t) = pfold cfg p' t := by
  simp only [pfold, h]

/-- a function of (state, remaining bytes) that `.cont` steps leave unchanged may skip a `pfold` prefix: so do
`consume`, `lrun`, `trace` -/
theorem pfold_transport {α : Type} (cfg : PCfg) (F : P → Bytes → α) (rest : Bytes)
    (hF : ∀ p p' c t, pstep cfg p c = .cont p' → F p (c :: (t ++ rest)) = F p' (t ++ rest))
    (pre : Bytes) (p p' : P) (h : pfold cfg p pre = some p') : F p (pre ++ rest) = F p' rest := by
  induction pre generalizing p with
  | nil => cases h; rfl
  | cons c t ih =>
    cases hs : pstep cfg p c with
    | cont p1 => rw [pfold_cons hs] at h; exact (hF p p1 c t hs).trans (ih p1 h)
    | _ => simp [pfold, hs] at h

theorem fileWrite_some {cfg : PCfg} {d bs d' : Bytes} (h : fileWrite cfg d bs = some d') :
    d' = bs.reverse ++ d := by
  unfold fileWrite at h
  split at h <;> cases h
  rfl

/-- what one iteration of the matcher can do, whatever the boundary and the disk: go on or
close the part (the data only grows), or fail for lack of room -/
def SepOut (p : P) : Step → Prop
  | .cont p' => p'.st = .sepBoundary ∧ p'.cur = p.cur ∧ p.dataRev.length ≤ p'.dataRev.length
  | .ready p' => ∃ f, p'.filesRev = f :: p.filesRev ∧ f.mime = p.cur.mime ∧ p.dataRev.length ≤ f.data.length
  | .noRoom _ => True
  | _ => False

theorem sepFinish_out (cfg : PCfg) (p : P) (c : UInt8) (pos : Nat) (d : Bytes)
    (hst : p.st = .sepBoundary) (hd : p.dataRev.length ≤ d.length) :
    SepOut p (sepFinish cfg p c pos d) := by
  unfold sepFinish
  split
  · cases hw : fileWrite cfg d [c] with
    | none => trivial
    | some d' =>
      refine ⟨hst, rfl, ?_⟩
      simp only [fileWrite_some hw, List.length_append]; omega
  · split
    · exact ⟨_, rfl, rfl, by simpa [P.close] using hd⟩
    · exact ⟨hst, rfl, hd⟩

theorem pstep_sep (cfg : PCfg) (p : P) (c : UInt8) (hst : p.st = .sepBoundary) :
    SepOut p (pstep cfg p c) := by
  unfold pstep
  rw [hst]
  simp only
  split
  · exact sepFinish_out cfg p c _ _ hst (Nat.le_refl _)
  · split
    · cases hw : fileWrite cfg p.dataRev (cfg.boundary.take p.pos) with
      | none => trivial
      | some d => exact sepFinish_out cfg p c _ _ hst (by simp [fileWrite_some hw])
    · exact sepFinish_out cfg p c _ _ hst (Nat.le_refl _)

def Oversize (cfg : Cfg) (p : P) : Prop :=
  p.st = .sepBoundary ∧ sizeOk cfg p.cur.mime p.dataRev.length = false

theorem sizeOk_mono {cfg : Cfg} {m : Bytes} {a b : Nat} (hab : a ≤ b) (h : sizeOk cfg m a = false) :
    sizeOk cfg m b = false := by
  unfold sizeOk at *
  simp only [Bool.not_eq_false', Bool.and_eq_true, decide_eq_true_eq] at *
  exact ⟨h.1, by omega⟩

theorem oversize_step {cfg : Cfg} {p : P} (h : Oversize cfg p) (c : UInt8) :
    match pstep cfg.toPCfg p c with
    | .cont p' => Oversize cfg p'
    | .ready p' => ∃ f fs, p'.filesRev = f :: fs ∧ sizeOk cfg f.mime f.data.length = false
    | .noRoom _ => True
    | _ => False := by
  have := pstep_sep cfg.toPCfg p c h.1
  cases hs : pstep cfg.toPCfg p c with
  | cont p' =>
    rw [hs] at this
    exact ⟨this.1, by rw [this.2.1]; exact sizeOk_mono this.2.2 h.2⟩
  | ready p' =>
    rw [hs] at this
    obtain ⟨f, hfl, hm, hlen⟩ := this
    exact ⟨f, _, hfl, by rw [hm]; exact sizeOk_mono hlen h.2⟩
  | _ => rw [hs] at this; exact this

theorem progress_nil (cfg : Cfg) (cl : Nat) (s : RS) : progress cfg cl s [] = .ok s := rfl

theorem progress_read {cfg : Cfg} {cl : Nat} {s s' : RS} {c : Bytes} (h : progress cfg cl s c = .ok s') :
    s'.read = s.read + c.length := by
  rw [progress_eq] at h
  split at h
  · cases h; simp [List.isEmpty_iff.mp ‹_›]
  · split at h
    · cases h
    · split at h <;> cases h
      rfl

theorem run_cons (cfg : Cfg) (cl : Nat) (s : RS) (c : Bytes) (cs : List Bytes) :
    run cfg cl s (c :: cs) =
      match progress cfg cl s c with
      | .error code => .error code
      | .ok s' => run cfg cl s' cs := rfl

end Cppcms.C12
