import Cppcms.C12.Body
/-!
# C12: what a `multipart_filter` is told

The `on_upload_progress` callbacks depend on where the chunks end (by design).  The others are a function
of the byte stream alone (`trace`, which knows nothing of chunks), then `on_end_of_content` iff the request
is accepted (`noProg_evRun`).
-/
namespace Cppcms.C12
open Cppcms

/-- the callbacks that do not depend on chunk ends -/
def noProg (l : List Ev) : List Ev := l.filter fun e => match e with | .progress _ => false | _ => true

theorem noProg_append (a b : List Ev) : noProg (a ++ b) = noProg a ++ noProg b := by simp [noProg]

theorem noProg_newFile (n : Bytes) (k : Nat) (l : List Ev) : noProg (.newFile n k :: l) = .newFile n k :: noProg l := rfl
theorem noProg_dataReady (k : Nat) (l : List Ev) : noProg (.dataReady k :: l) = .dataReady k :: noProg l := rfl

/-- the callbacks other than progress reports that the bytes `buf` cause from state `p`, up to the
first byte at which the loop answers with a status -/
def trace (cfg : Cfg) (p : P) : Bytes → List Ev
  | [] => []
  | c :: rest =>
    match pstep cfg.toPCfg p c with
    | .cont p' => trace cfg p' rest
    | .hdrDone p' => .newFile p'.cur.name p'.dataRev.length :: trace cfg p' rest
    | .ready p' =>
      match p'.filesRev with
      | [] => []
      | f :: _ => if !sizeOk cfg f.mime f.data.length then [] else .dataReady f.data.length :: trace cfg p' rest
    | _ => []

theorem evLoop_nil (cfg : Cfg) (atLen : Bool) (fuel : Nat) (p : P) : evLoop cfg atLen fuel p [] = [] := by
  cases fuel <;> rfl

theorem noProg_evLoop (cfg : Cfg) (atLen : Bool) :
    ∀ (buf : Bytes) (fuel : Nat) (p : P), buf.length ≤ fuel → noProg (evLoop cfg atLen fuel p buf) = trace cfg p buf := by
  intro buf
  induction buf with
  | nil => intro fuel p _; rw [evLoop_nil]; rfl
  | cons c rest ih =>
    intro fuel p hlen
    obtain ⟨f, rfl⟩ : ∃ f, fuel = f + 1 := ⟨fuel - 1, by simp at hlen; omega⟩
    have hf : rest.length ≤ f := by simpa using hlen
    rw [evLoop]
    simp only [List.isEmpty_cons, Bool.false_eq_true, if_false, consume, trace]
    cases hs : pstep cfg.toPCfg p c with
    | cont p' =>
      simp only
      cases rest with
      | nil =>
        simp only [consume_nil, endRes, trace]
        cases p'.fileReady
        · simp only [Bool.false_eq_true, if_false, evLoop_nil]; rfl
        · cases sizeOk cfg p'.cur.mime p'.dataRev.length <;> simp [evLoop_nil, noProg]
      | cons c2 rest2 =>
        rw [← ih (f + 1) p' (Nat.le_succ_of_le hf), evLoop]
        simp only [List.isEmpty_cons, Bool.false_eq_true, if_false]
    | hdrDone p' => simp only [noProg_newFile, ih f p' hf]
    | ready p' =>
      simp only
      cases p'.filesRev with
      | nil => rfl
      | cons fl fls =>
        cases hso : sizeOk cfg fl.mime fl.data.length
        · simp [hso, noProg]
        · simp only [hso, Bool.not_true, Bool.false_eq_true, if_false, noProg_dataReady, ih f p' hf]
    | eofNl p' =>
      simp only
      cases rest with
      | nil => cases atLen <;> simp [evLoop_nil, noProg]
      | cons c2 rest2 => rfl
    | err => rfl
    | noRoom p' => rfl

theorem trace_pfold (cfg : Cfg) (pre rest : Bytes) (p p' : P) (h : pfold cfg.toPCfg p pre = some p') :
    trace cfg p (pre ++ rest) = trace cfg p' rest :=
  pfold_transport cfg.toPCfg (trace cfg) rest (fun _ _ _ _ hs => by simp only [trace, hs]) pre p p' h

theorem trace_oversize (cfg : Cfg) (buf : Bytes) (p : P) (h : Oversize cfg p) : trace cfg p buf = [] := by
  induction buf generalizing p with
  | nil => rfl
  | cons c rest ih =>
    have hstep := oversize_step h c
    simp only [trace]
    cases hs : pstep cfg.toPCfg p c with
    | cont p' => rw [hs] at hstep; exact ih p' hstep
    | ready p' =>
      rw [hs] at hstep
      obtain ⟨f, fs, hfl, hso⟩ := hstep
      simp [hfl, hso]
    | hdrDone p' => rw [hs] at hstep; exact hstep.elim
    | _ => rfl

/-- the callbacks the bytes `bs` cause once the loop stands at `s` -/
def traceFrom (cfg : Cfg) : LS → Bytes → List Ev
  | .going p _, bs => trace cfg p bs
  | _, _ => []

theorem trace_append (cfg : Cfg) (b : Bytes) (a : Bytes) (p : P) (l : Last) :
    trace cfg p (a ++ b) = trace cfg p a ++ traceFrom cfg (lrun cfg (.going p l) a) b := by
  induction a generalizing p l with
  | nil => rfl
  | cons c t ih =>
    rw [List.cons_append, lrun_cons]
    simp only [trace, lstep]
    cases hs : pstep cfg.toPCfg p c with
    | cont p' => exact ih p' _
    | hdrDone p' => exact congrArg _ (ih p' _)
    | ready p' =>
      simp only
      cases p'.filesRev with
      | nil => rw [lrun_stop]; rfl
      | cons fl fls =>
        cases hso : sizeOk cfg fl.mime fl.data.length
        · simp [hso, lrun_stop, traceFrom]
        · simp only [hso, Bool.not_true, Bool.false_eq_true, if_false, List.cons_append]; exact congrArg _ (ih p' _)
    | eofNl p' =>
      cases t with
      | nil => rfl
      | cons x xs => rw [lrun_eof]; rfl
    | err => rw [lrun_stop]; rfl
    | noRoom p' => rw [lrun_stop]; rfl

/-- where `progress` answers with a status no callback follows; else the loop goes on from its state -/
theorem traceFrom_progress (cfg : Cfg) (cl : Nat) (s : RS) (c rest : Bytes) (hlen : s.read + c.length + rest.length ≤ cl) :
    traceFrom cfg (lrun cfg (.going s.p .cont) c) rest =
      match progress cfg cl s c with
      | .error _ => []
      | .ok s' => trace cfg s'.p rest := by
  by_cases hc : c = []
  · subst hc; rfl
  have hrest : (s.read + c.length == cl) = true → rest = [] := fun h =>
    List.eq_nil_of_length_eq_zero (by have := beq_iff_eq.mp h; omega)
  rw [progress_eq, ploop_eq]
  simp only [List.isEmpty_eq_false_iff.mpr hc, Bool.false_eq_true, if_false]
  cases lrun cfg (.going s.p .cont) c with
  | stop code => rfl
  | eof p' =>
    cases hat : s.read + c.length == cl
    · rfl
    · rw [hrest hat]; rfl
  | going p' l =>
    cases hf : finish cfg (s.read + c.length == cl) (.going p' l) with
    | error code => exact trace_oversize cfg rest p' (finish_error_oversize hf).1
    | ok pr =>
      obtain ⟨rfl, hr⟩ := finish_going_ok hf
      cases hat : s.read + c.length == cl
      · rfl
      · rw [hrest hat]; simp [traceFrom, trace, hr]

theorem noProg_evRun (cfg : Cfg) (cl : Nat) :
    ∀ (cs : List Bytes) (s : RS), s.read + cs.flatten.length ≤ cl →
      noProg (evRun cfg cl s cs) =
        trace cfg s.p cs.flatten ++ (match run cfg cl s cs with | .ready _ => [.endOfContent] | _ => []) := by
  intro cs
  induction cs with
  | nil => intro s _; simp only [evRun, run]; split <;> rfl
  | cons c cs ih =>
    intro s hlen
    simp only [List.flatten_cons, List.length_append] at hlen
    have hc : noProg (if c.isEmpty then [] else evLoop cfg (s.read + c.length == cl) c.length s.p c)
        = trace cfg s.p c := by
      cases c with
      | nil => rfl
      | cons x xs => exact noProg_evLoop cfg _ _ _ s.p (Nat.le_refl _)
    rw [evRun, noProg_append, hc, List.flatten_cons, trace_append cfg _ c s.p .cont,
      traceFrom_progress cfg cl s c _ (by omega), run_cons, List.append_assoc]
    cases hp : progress cfg cl s c with
    | error code => rfl
    | ok s' => exact congrArg _ (ih s' (by rw [progress_read hp]; omega))

def partEvents (it : Item) : List Ev := [.newFile it.info.name 0, .dataReady it.data.length]

theorem trace_item (cfg : Cfg) (g : Guard cfg.boundary) (hdisk : cfg.diskOk = true)
    (it : Item) (hok : ItemOK cfg it) (fs : List Part) (rest : Bytes) :
    trace cfg (between fs) ([13, 10] ++ it.hdr ++ it.data ++ cfg.boundary ++ rest) =
      partEvents it ++ trace cfg (between (it.part :: fs)) rest := by
  obtain ⟨pre1, c1, pre2, c2, p1, p2, e1, e2, hf1, hs1, hf2, hs2⟩ := item_path cfg.toPCfg g hdisk it hok.parses.header hok.parses.content fs
  rw [e1, List.append_assoc (pre1 ++ [c1]), e2]
  simp only [List.append_assoc, List.cons_append, List.nil_append]
  rw [trace_pfold cfg _ _ _ _ hf1]
  simp only [trace, hs1]
  rw [trace_pfold cfg _ _ _ _ hf2]
  simp [trace, hs2, between, inPart, Item.part, partEvents, hok.size]

theorem trace_tail (cfg : Cfg) (g : Guard cfg.boundary) (hdisk : cfg.diskOk = true) :
    ∀ (items : List Item) (fs : List Part), (∀ it ∈ items, ItemOK cfg it) →
      trace cfg (between fs) (tailOf cfg.boundary items) = items.flatMap partEvents := by
  intro items
  induction items with
  | nil => intro fs _; rfl
  | cons it rest ih =>
    intro fs hok
    rw [tailOf, trace_item cfg g hdisk it (hok it List.mem_cons_self), List.flatMap_cons,
      ih _ (fun it' h' => hok it' (List.mem_cons_of_mem _ h'))]

theorem trace_body (cfg : Cfg) (bkey : Bytes) (hb : cfg.boundary = Spec.delimiter bkey)
    (hcr : (13 : UInt8) ∉ bkey) (hdisk : cfg.diskOk = true) (items : List Item) (hok : ∀ it ∈ items, ItemOK cfg it) :
    trace cfg {} (Spec.encodeWith bkey (items.map fun it => (it.hdr, it.data))) = items.flatMap partEvents := by
  rw [encodeWith_eq, ← hb]
  exact (trace_pfold cfg (45 :: 45 :: bkey) _ _ _ (first_boundary_start cfg.toPCfg bkey hb)).trans
    (trace_tail cfg (Guard.of_delimiter hb hcr) hdisk items [] hok)

end Cppcms.C12
