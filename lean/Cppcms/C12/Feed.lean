import Cppcms.C12.Model
/-!
# C12: what `get_buffer()` lets through

Whatever sizes the reads return, the pieces handed to `on_content_progress` (buffer size ≥ 1) concatenate to
the first `content_length` bytes of the stream.
-/
namespace Cppcms.C12
open Cppcms

theorem flatten_putBack (rem : Bytes) (cs : List Bytes) :
    (if rem.isEmpty then cs else rem :: cs).flatten = rem ++ cs.flatten := by
  split
  · next h => rw [List.isEmpty_iff.mp h]; rfl
  · rfl

theorem feed_flatten_aux (cl bufSize : Nat) (streamed : Bool) (hb : 0 < bufSize) :
    ∀ (fuel read : Nat) (chunks : List Bytes), chunks.flatten.length + chunks.length ≤ fuel →
      (feed cl bufSize streamed fuel read chunks).flatten = chunks.flatten.take (cl - read) := by
  intro fuel
  induction fuel with
  | zero =>
    intro read chunks h
    cases chunks with
    | nil => simp [feed]
    | cons c cs => simp at h
  | succ fuel ih =>
    intro read chunks h
    cases chunks with
    | nil => simp [feed]
    | cons c cs =>
      simp only [List.flatten_cons, List.length_append, List.length_cons] at h
      simp only [feed]
      by_cases hc : c = []
      · subst hc
        exact ih read cs (by rw [List.length_nil] at h; omega)
      · have hclen : 0 < c.length := List.length_pos_iff.mpr hc
        rw [List.isEmpty_eq_false_iff.mpr hc]
        simp only [Bool.false_eq_true, if_false]
        -- the room offered: at most what is missing, and something unless nothing is missing
        generalize hroom : (if streamed = true then min (cl - read) bufSize else cl - read) = room
        have hrle : room ≤ cl - read := by
          rw [← hroom]; split
          · exact Nat.min_le_left _ _
          · exact Nat.le_refl _
        by_cases hz : room = 0
        · have : cl - read = 0 := by
            rw [← hroom] at hz; split at hz
            · exact (Nat.min_eq_zero_iff.mp hz).resolve_right (Nat.ne_of_gt hb)
            · exact hz
          simp [hz, this]
        · have hfuel : c.length - room + cs.flatten.length + (cs.length + 1) ≤ fuel := by omega
          rw [if_neg hz, List.flatten_cons, ih _ _ (by
            rw [flatten_putBack, List.length_append, List.length_drop]
            split
            · exact Nat.le_of_succ_le hfuel
            · exact hfuel), flatten_putBack, List.flatten_cons]
          conv => rhs; rw [← List.take_append_drop room c, List.append_assoc, List.take_append,
            List.take_of_length_le (List.length_take ▸ Nat.le_trans (Nat.min_le_left _ _) hrle)]
          rw [Nat.sub_sub]

end Cppcms.C12
