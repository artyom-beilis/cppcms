import Cppcms.C12.Model
import Cppcms.Lib.Scan
import Cppcms.C15.Props
/-!
# C12: urlencoded forms — `parse_form_urlencoded` reads back what `util::urlencode` wrote (keys non-empty)
-/
namespace Cppcms.C12
open Cppcms

open Spec (encodeFormWith)

theorem splitAt1_eq (d : UInt8) (a : Bytes) (tail : Option Bytes) (h : d ∉ a) :
    splitAt1 d (a ++ match tail with | none => [] | some r => d :: r) = (a, tail) := by
  have ha : ∀ x ∈ a, (x != d) = true := fun x hx => bne_iff_ne.mpr fun e => h (e ▸ hx)
  unfold splitAt1
  cases tail with
  | none => rw [Scan.span_append ha Scan.stops_nil]
  | some r => rw [Scan.span_append ha (Scan.stops_cons (by simp))]

/-- `urlencode` writes unreserved bytes, `%` and hex digits: never `&` or `=` -/
theorem urlencode_no_sep (s : Bytes) (x : UInt8) (hx : x ∈ C15.urlencode s) : x ≠ 38 ∧ x ≠ 61 :=
  ⟨C15.urlencode_ne s x 38 hx (by decide), C15.urlencode_ne s x 61 hx (by decide)⟩

theorem urlencode_ne_nil (s : Bytes) (h : s ≠ []) : C15.urlencode s ≠ [] := by
  cases s with
  | nil => exact absurd rfl h
  | cons c t =>
    rw [C15.urlencode_cons]
    rcases C15.urlencodeByte_cases c with ⟨e, _⟩ | ⟨e, _⟩ <;> rw [e] <;> simp

theorem parseFormLoop_item (fuel : Nat) (name value : Bytes) (tail : Option Bytes) (acc : List (Bytes × Bytes))
    (hne : name ≠ []) (hn : (38 : UInt8) ∉ name ∧ (61 : UInt8) ∉ name) (hv : (38 : UInt8) ∉ value) :
    parseFormLoop (fuel + 1) ((name ++ 61 :: value) ++ match tail with | none => [] | some r => 38 :: r) acc =
      match tail with
      | none => (acc ++ [(C15.urldecode name, C15.urldecode value)], true)
      | some r => parseFormLoop fuel r (acc ++ [(C15.urldecode name, C15.urldecode value)]) := by
  have hitem : (38 : UInt8) ∉ name ++ 61 :: value := by
    simp only [List.mem_append, List.mem_cons, not_or]
    exact ⟨hn.1, by decide, hv⟩
  rw [parseFormLoop]
  · simp only [show UInt8.ofNat Gen.formAmp = 38 from rfl, show UInt8.ofNat Gen.formEq = 61 from rfl,
      splitAt1_eq 38 _ tail hitem, splitAt1_eq 61 name (some value) hn.2, List.isEmpty_eq_false_iff.mpr hne,
      Bool.false_eq_true, if_false]
    cases tail <;> rfl
  · simp [hne]

theorem parseFormLoop_encode :
    ∀ (kvs : List (Bytes × Bytes)) (acc : List (Bytes × Bytes)) (fuel : Nat),
      (∀ kv ∈ kvs, kv.1 ≠ []) → kvs.length ≤ fuel →
      parseFormLoop fuel (encodeFormWith C15.urlencode kvs) acc = (acc ++ kvs, true) := by
  intro kvs
  induction kvs with
  | nil => intro acc fuel _ _; cases fuel <;> simp [encodeFormWith, parseFormLoop]
  | cons kv rest ih =>
    intro acc fuel hkeys hfuel
    obtain ⟨k, v⟩ := kv
    obtain ⟨f, rfl⟩ : ∃ f, fuel = f + 1 := ⟨fuel - 1, by simp at hfuel; omega⟩
    have hstep := fun tail => parseFormLoop_item f (C15.urlencode k) (C15.urlencode v) tail acc
      (urlencode_ne_nil k (hkeys (k, v) List.mem_cons_self))
      ⟨fun h => (urlencode_no_sep k 38 h).1 rfl, fun h => (urlencode_no_sep k 61 h).2 rfl⟩
      (fun h => (urlencode_no_sep v 38 h).1 rfl)
    simp only [C15.Props.urldecode_urlencode] at hstep
    cases rest with
    | nil => simpa [encodeFormWith] using hstep none
    | cons kv2 rest2 =>
      have := hstep (some (encodeFormWith C15.urlencode (kv2 :: rest2)))
      simp only [List.append_assoc, List.cons_append] at this
      simp only [encodeFormWith, List.append_assoc, List.cons_append, List.nil_append, this]
      rw [ih _ f (fun kv h => hkeys kv (List.mem_cons_of_mem _ h)) (by simpa using hfuel)]
      simp

/-- the byte length that `parseForm` takes as fuel is at least the number of pairs -/
theorem encodeForm_length (kvs : List (Bytes × Bytes)) : kvs.length ≤ (encodeFormWith C15.urlencode kvs).length := by
  induction kvs with
  | nil => simp [encodeFormWith]
  | cons kv rest ih =>
    obtain ⟨k, v⟩ := kv
    cases rest with
    | nil => simp [encodeFormWith]; omega
    | cons kv2 rest2 =>
      simp only [encodeFormWith, List.length_append, List.length_cons, List.length_nil] at ih ⊢
      omega

end Cppcms.C12
