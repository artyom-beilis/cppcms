import Cppcms.C12.Lemmas
/-!
# C12: the loop of `on_content_progress` as a fold over the bytes of the body

`lstep` is what one byte does to the loop once the ends of the chunks are forgotten, `lrun` its fold over a
byte string.  The end of a chunk adds only `finish` (the size check of an unfinished part, the `eof` rules):
`ploop = finish ∘ lrun` on a non-empty chunk.  Hence a run over any chunks is the `verdict` on the fold of the whole stream
(`run_eq`), and every chunking gives the same outcome.
-/
namespace Cppcms.C12
open Cppcms

/-- what the last byte was to the loop: inside a `consume` call, or the end of one that answered
`meta_ready` / `content_ready` -/
inductive Last
  | cont | hdr | part

/-- the loop after some bytes of the body: going on, the closing CRLF just read, or answered with a status -/
inductive LS
  | going (p : P) (l : Last)
  | eof (p : P)
  | stop (code : Nat)

def lstep (cfg : Cfg) : LS → UInt8 → LS
  | .going p _, c =>
    match pstep cfg.toPCfg p c with
    | .cont p' => .going p' .cont
    | .hdrDone p' => .going p' .hdr
    | .ready p' =>
      match p'.filesRev with
      | [] => .stop 500
      | f :: _ => if !sizeOk cfg f.mime f.data.length then .stop Gen.codeSizeReady else .going p' .part
    | .eofNl p' => .eof p'
    | .err => .stop Gen.codeParseError
    | .noRoom _ => .stop Gen.codeNoRoom
  | .eof _, _ => .stop Gen.codeParseError
  | .stop code, _ => .stop code

def lrun (cfg : Cfg) (s : LS) (bs : Bytes) : LS := bs.foldl (lstep cfg) s

theorem lrun_cons (cfg : Cfg) (s : LS) (c : UInt8) (bs : Bytes) :
    lrun cfg s (c :: bs) = lrun cfg (lstep cfg s c) bs := rfl

theorem lrun_append (cfg : Cfg) (s : LS) (a b : Bytes) : lrun cfg s (a ++ b) = lrun cfg (lrun cfg s a) b :=
  List.foldl_append

theorem lrun_stop (cfg : Cfg) (code : Nat) (bs : Bytes) : lrun cfg (.stop code) bs = .stop code := by
  induction bs with
  | nil => rfl
  | cons c t ih => exact ih

theorem lrun_eof (cfg : Cfg) (p : P) (c : UInt8) (bs : Bytes) : lrun cfg (.eof p) (c :: bs) = .stop Gen.codeParseError :=
  lrun_stop cfg _ bs

theorem lrun_marker (cfg : Cfg) (p : P) (l l' : Last) (bs : Bytes) (h : bs ≠ []) :
    lrun cfg (.going p l) bs = lrun cfg (.going p l') bs := by
  cases bs with
  | nil => exact absurd rfl h
  | cons c t => rfl

theorem lrun_pfold (cfg : Cfg) (pre rest : Bytes) (p p' : P) (h : pfold cfg.toPCfg p pre = some p') :
    lrun cfg (.going p .cont) (pre ++ rest) = lrun cfg (.going p' .cont) rest :=
  pfold_transport cfg.toPCfg (fun p bs => lrun cfg (.going p .cont) bs) rest
    (fun _ _ _ _ hs => by simp only [lrun_cons, lstep, hs]) pre p p' h

/-- what the end of a chunk makes of the state of the loop -/
def finish (cfg : Cfg) (atLen : Bool) : LS → Except Nat (P × Res)
  | .going p .cont => chunkEnd cfg p
  | .going p .hdr => .ok (p, .metaReady)
  | .going p .part => .ok (p, .contentReady)
  | .eof p => if atLen then .ok (p, .eof) else .error Gen.codeEofBeforeLength
  | .stop code => .error code

theorem ploop_eq (cfg : Cfg) (atLen : Bool) : ∀ (buf : Bytes) (p : P) (r : Res),
    ploop cfg atLen p buf r = if buf.isEmpty then .ok (p, r) else finish cfg atLen (lrun cfg (.going p .cont) buf) := by
  intro buf
  induction buf with
  | nil => intro p r; rfl
  | cons c rest ih =>
    intro p r
    rw [lrun_cons]
    simp only [List.isEmpty_cons, Bool.false_eq_true, if_false, lstep]
    cases hs : pstep cfg.toPCfg p c with
    | cont p' => rw [ploop_cont hs, ih]; cases rest <;> rfl
    | hdrDone p' => simp only [ploop, hs]; rw [ih]; cases rest <;> rfl
    | ready p' =>
      simp only [ploop, hs]
      cases p'.filesRev with
      | nil => rw [lrun_stop]; rfl
      | cons f fs =>
        cases hso : sizeOk cfg f.mime f.data.length
        · simp only [hso, Bool.not_false, if_true, lrun_stop]; rfl
        · simp only [hso, Bool.not_true, Bool.false_eq_true, if_false]; rw [ih]; cases rest <;> rfl
    | eofNl p' =>
      -- `buffer+1 == buffer_end` fails when bytes follow: the same status as any byte after the closing CRLF
      simp only [ploop, hs]
      cases rest with
      | nil => cases atLen <;> rfl
      | cons x xs => rw [lrun_eof]; rfl
    | err => simp only [ploop, hs, lrun_stop]; rfl
    | noRoom p' => simp only [ploop, hs, lrun_stop]; rfl

theorem finish_going_ok {cfg : Cfg} {atLen : Bool} {p q : P} {l : Last} {r : Res}
    (h : finish cfg atLen (.going p l) = .ok (q, r)) : q = p ∧ r ≠ .eof := by
  cases l with
  | cont =>
    simp only [finish, chunkEnd] at h
    (repeat' split at h) <;> cases h <;> exact ⟨rfl, by decide⟩
  | hdr => cases h; exact ⟨rfl, by decide⟩
  | part => cases h; exact ⟨rfl, by decide⟩

theorem finish_error_oversize {cfg : Cfg} {atLen : Bool} {p : P} {l : Last} {code : Nat}
    (h : finish cfg atLen (.going p l) = .error code) : Oversize cfg p ∧ code = Gen.codeSizePartial := by
  cases l with
  | cont =>
    simp only [finish, chunkEnd] at h
    cases hfr : p.fileReady <;> cases hso : sizeOk cfg p.cur.mime p.dataRev.length <;> simp [hfr, hso] at h
    exact ⟨⟨by simpa [P.fileReady] using hfr, hso⟩, h.symm⟩
  | hdr => cases h
  | part => cases h

/-- needs `codeSizePartial`, `codeSizeReady` and `codeNoRoom` to be the same status -/
theorem finish_oversize (cfg : Cfg) (atLen : Bool) (bs : Bytes) (p : P) (h : Oversize cfg p) :
    finish cfg atLen (lrun cfg (.going p .cont) bs) = .error Gen.codeSizePartial := by
  induction bs generalizing p with
  | nil => simp [lrun, finish, chunkEnd, P.fileReady, h.1, h.2]
  | cons c rest ih =>
    have hstep := oversize_step h c
    rw [lrun_cons]
    simp only [lstep]
    cases hs : pstep cfg.toPCfg p c with
    | cont p' => rw [hs] at hstep; exact ih p' hstep
    | ready p' =>
      rw [hs] at hstep
      obtain ⟨f, fs, hfl, hso⟩ := hstep
      simp only [hfl, hso, Bool.not_false, if_true, lrun_stop]; rfl
    | noRoom p' => simp only [lrun_stop]; rfl
    | _ => rw [hs] at hstep; exact hstep.elim

/-- the answer once the bytes are in; `atLen`: they are all that was declared -/
def verdict (cfg : Cfg) (atLen : Bool) (s : LS) : Outcome :=
  match finish cfg atLen s with
  | .error code => .error code
  | .ok (p, r) => if atLen then (if r != .eof then .error Gen.codeNoEofAtLength else .ready p.files) else .pending

/-- a field over the limit that the chunk end refuses is refused by the rest of the stream as well -/
theorem verdict_chunkEnd (cfg : Cfg) (atLen : Bool) (p : P) (l : Last) (bs : Bytes) (hbs : bs ≠ []) :
    verdict cfg atLen (lrun cfg (.going p l) bs) =
      match finish cfg false (.going p l) with
      | .error code => .error code
      | .ok _ => verdict cfg atLen (lrun cfg (.going p .cont) bs) := by
  rw [lrun_marker cfg p l .cont bs hbs]
  cases hf : finish cfg false (.going p l) with
  | error code =>
    obtain ⟨ho, rfl⟩ := finish_error_oversize hf
    simp only [verdict, finish_oversize cfg atLen bs p ho]
  | ok _ => rfl

theorem run_empty (cfg : Cfg) (cl : Nat) (s : RS) : ∀ cs : List Bytes, cs.flatten = [] → run cfg cl s cs = run cfg cl s [] := by
  intro cs
  induction cs with
  | nil => intro _; rfl
  | cons c cs ih =>
    intro h
    obtain ⟨rfl, h⟩ := List.append_eq_nil_iff.mp h
    exact ih h

theorem run_eq (cfg : Cfg) (cl : Nat) : ∀ (cs : List Bytes) (s : RS), s.read + cs.flatten.length ≤ cl → cs.flatten ≠ [] →
    run cfg cl s cs = verdict cfg (s.read + cs.flatten.length == cl) (lrun cfg (.going s.p .cont) cs.flatten) := by
  intro cs
  induction cs with
  | nil => intro s _ h; exact absurd rfl h
  | cons c cs ih =>
    intro s hlen hne
    by_cases hc : c = []
    · subst hc; exact ih s hlen hne
    simp only [List.flatten_cons, List.length_append] at hlen hne ⊢
    rw [run_cons, progress_eq, ploop_eq, lrun_append]
    simp only [List.isEmpty_eq_false_iff.mpr hc, Bool.false_eq_true, if_false]
    generalize lrun cfg (.going s.p .cont) c = X
    by_cases hr : cs.flatten = []
    · -- the last bytes: what `progress` answers is the verdict
      simp only [hr, List.length_nil, Nat.add_zero, lrun, List.foldl_nil, verdict]
      cases finish cfg (s.read + c.length == cl) X with
      | error code => rfl
      | ok pr =>
        obtain ⟨p', r'⟩ := pr
        cases hat : s.read + c.length == cl <;> by_cases hre : r' = .eof <;> simp [run_empty cfg cl _ cs hr, run, hat, hre]
    · -- more bytes follow
      have hat : (s.read + c.length == cl) = false := by
        have := List.length_pos_iff.mpr hr
        simp only [beq_eq_false_iff_ne, ne_eq]; omega
      rw [hat]
      cases X with
      | stop code => simp only [finish, lrun_stop, verdict]
      | eof p' =>
        -- `eof` before the declared length here, a byte after the closing CRLF there: the same status
        obtain ⟨x, xs, hx⟩ := List.exists_cons_of_ne_nil hr
        rw [hx, lrun_eof]; rfl
      | going p' l =>
        rw [verdict_chunkEnd cfg _ p' l _ hr]
        cases hf : finish cfg false (.going p' l) with
        | error code => rfl
        | ok pr =>
          simp only [Bool.false_and, Bool.false_eq_true, if_false]
          rw [ih _ (by simp only; omega) hr, (finish_going_ok hf).1, Nat.add_assoc]

theorem run_start (cfg : Cfg) (cl : Nat) (cs : List Bytes) (h0 : 0 < cl) (hlen : cs.flatten.length ≤ cl) :
    run cfg cl {} cs = verdict cfg (cs.flatten.length == cl) (lrun cfg (.going {} .cont) cs.flatten) := by
  by_cases h : cs.flatten = []
  · rw [run_empty cfg cl {} cs h, h]
    simp [run, lrun, verdict, finish, chunkEnd, P.fileReady, Nat.ne_of_lt h0]
  · simpa using run_eq cfg cl cs {} (Nat.zero_add _ ▸ hlen) h

theorem verdict_ready {cfg : Cfg} {atLen : Bool} {X : LS} {parts : List Part} (h : verdict cfg atLen X = .ready parts) :
    atLen = true ∧ ∃ pf, X = .eof pf ∧ pf.files = parts := by
  unfold verdict at h
  cases hf : finish cfg atLen X with
  | error code => rw [hf] at h; cases h
  | ok pr =>
    obtain ⟨p, r⟩ := pr
    rw [hf] at h
    cases atLen
    · cases h
    · by_cases hr : r = .eof
      · subst hr
        cases X with
        | going q l => exact absurd rfl (finish_going_ok hf).2
        | eof q => cases hf; exact ⟨rfl, _, rfl, by simpa using h⟩
        | stop code => cases hf
      · simp [hr] at h

theorem verdict_at_len (cfg : Cfg) (X : LS) : verdict cfg true X ≠ .pending := by
  unfold verdict
  cases finish cfg true X with
  | error code => simp
  | ok pr => simp only [if_true]; split <;> simp

end Cppcms.C12
