import Cppcms.C19.Spec
/-! The reading primitives of `archive`: the `size_t` arithmetic mod 2^64 of `Gen` is brought into plain arithmetic for
an archive shorter than 2^64 bytes (`nextChunkSize_eq`, `readChunk_eq`, `readChunkAsString_eq`); memory safety
(`Ensures`) and reading back what `write_chunk` wrote (`At`) are read off these. -/
namespace Cppcms.C19
open Cppcms Cppcms.C19.Spec

@[simp] theorem Res.bind_ok {α β} (a : α) (s : St) (f : α → St → Res β) : (Res.ok a s).bind f = f a s := rfl
@[simp] theorem Res.bind_err {α β} (e : Err) (s : St) (f : α → St → Res β) : (Res.err e s : Res α).bind f = .err e s := rfl
@[simp] theorem Res.map_ok {α β} (a : α) (s : St) (f : α → β) : (Res.ok a s).map f = .ok (f a) s := rfl
@[simp] theorem Res.map_err {α β} (e : Err) (s : St) (f : α → β) : (Res.err e s : Res α).map f = .err e s := rfl
@[simp] theorem Res.st_ok {α} (a : α) (s : St) : (Res.ok a s).st = s := rfl
@[simp] theorem Res.st_err {α} (e : Err) (s : St) : (Res.err e s : Res α).st = s := rfl
theorem Res.bind_eq_ok {α β} {r : Res α} {f : α → St → Res β} {v : β} {s' : St} :
    r.bind f = .ok v s' ↔ ∃ a s1, r = .ok a s1 ∧ f a s1 = .ok v s' := by
  cases r with
  | err e s => simp
  | ok a s => exact ⟨fun h => ⟨a, s, rfl, h⟩, fun ⟨_, _, h1, h2⟩ => by cases h1; exact h2⟩

theorem Res.map_eq_ok {α β} {r : Res α} {f : α → β} {v : β} {s' : St} :
    r.map f = .ok v s' ↔ ∃ a, r = .ok a s' ∧ f a = v := by
  cases r with
  | err e s => simp
  | ok a s =>
    rw [Res.map_ok]
    exact ⟨fun h => by cases h; exact ⟨a, rfl, rfl⟩, fun ⟨_, h1, h2⟩ => by cases h1; rw [h2]⟩

theorem Res.bind_map_eq_ok {α β γ} {r : Res α} {f : α → St → Res β} {g : β → γ} {v : γ} {s' : St}
    (h : (r.bind fun a s1 => (f a s1).map g) = .ok v s') : ∃ a s1 x, r = .ok a s1 ∧ f a s1 = .ok x s' ∧ v = g x := by
  obtain ⟨a, s1, h1, h2⟩ := Res.bind_eq_ok.mp h
  obtain ⟨x, h3, rfl⟩ := Res.map_eq_ok.mp h2
  exact ⟨a, s1, x, h1, h3, rfl⟩

theorem Res.bind_congr {α β} {r : Res α} {f g : α → St → Res β} (h : ∀ a s, r = .ok a s → f a s = g a s) :
    r.bind f = r.bind g := by
  cases r with
  | err e s => rfl
  | ok a s => exact h a s rfl

/-- memory safety of a reader state: the cursor and every recorded read lie inside the buffer -/
def Safe (b : Bytes) (s : St) : Prop := s.ptr ≤ b.length ∧ ReadsWithin b.length s.reads

theorem readsWithin_cons {n off len : Nat} {l : List (Nat × Nat)} (h : off + len ≤ n) (hl : ReadsWithin n l) :
    ReadsWithin n ((off, len) :: l) := by
  intro iv hiv
  rcases List.mem_cons.mp hiv with rfl | h1
  · exact h
  · exact hl iv h1

theorem Safe.init (b : Bytes) : Safe b St.init := ⟨Nat.zero_le _, fun _ h => nomatch h⟩

theorem Safe.read {b : Bytes} {s : St} (hs : Safe b s) {off len : Nat} (h : off + len ≤ b.length) :
    Safe b (s.read off len) :=
  ⟨hs.1, readsWithin_cons h hs.2⟩

theorem Safe.advance {b : Bytes} {s : St} (hs : Safe b s) {off len : Nat} (h : off + len ≤ b.length) :
    Safe b ⟨off + len, (off, len) :: s.reads⟩ :=
  ⟨h, readsWithin_cons h hs.2⟩

/-- the final state of `r` is `Safe`, after an exception too, and `P v` if `r` is `ok v` -/
def Ensures {α : Type} (b : Bytes) (P : α → Prop) : Res α → Prop
  | .ok v s' => Safe b s' ∧ P v
  | .err _ s' => Safe b s'

namespace Ensures
variable {α β : Type} {b : Bytes} {P : α → Prop} {r : Res α}

theorem safe (h : Ensures b P r) : Safe b r.st := by
  cases r with
  | ok v s' => exact h.1
  | err e s' => exact h

theorem of_ok {v : α} {s' : St} (h : Ensures b P r) (hr : r = .ok v s') : P v := by
  subst hr; exact h.2

theorem mono {Q : α → Prop} (h : Ensures b P r) (hPQ : ∀ v, P v → Q v) : Ensures b Q r := by
  cases r with
  | ok v s' => exact ⟨h.1, hPQ v h.2⟩
  | err e s' => exact h

theorem bind {Q : β → Prop} {f : α → St → Res β} (h : Ensures b P r)
    (hf : ∀ a s, Safe b s → P a → Ensures b Q (f a s)) : Ensures b Q (r.bind f) := by
  cases r with
  | ok v s' => exact hf v s' h.1 h.2
  | err e s' => exact h

theorem map {Q : β → Prop} {f : α → β} (h : Ensures b P r) (hf : ∀ a, P a → Q (f a)) : Ensures b Q (r.map f) := by
  cases r with
  | ok v s' => exact ⟨h.1, hf v h.2⟩
  | err e s' => exact h

end Ensures

theorem leBytes_length (k n : Nat) : (leBytes k n).length = k := by
  induction k generalizing n with
  | zero => rfl
  | succ k ih => simp [leBytes, ih]

theorem leNat_leBytes (k n : Nat) : leNat (leBytes k n) = n % 256 ^ k := by
  induction k generalizing n with
  | zero => rw [Nat.pow_zero, Nat.mod_one]; rfl
  | succ k ih => rw [leBytes, leNat, ih, UInt8.toNat_ofNat', Nat.mod_mod, Nat.pow_succ', Nat.mod_mul]

theorem numBytes_length (k n : Nat) : (numBytes k n).length = k := by
  unfold numBytes; split <;> simp [leBytes_length]

theorem numVal_numBytes (k n : Nat) : numVal (numBytes k n) = n % 256 ^ k := by
  unfold numVal numBytes
  cases Gen.littleEndian <;> simp [leNat_leBytes]

theorem leBytes_leNat : ∀ (b : Bytes), leBytes b.length (leNat b) = b := by
  intro b
  induction b with
  | nil => rfl
  | cons c rest ih =>
    rw [List.length_cons, leBytes, leNat, Nat.add_mul_mod_self_left, Nat.add_mul_div_left _ _ (by decide),
      Nat.mod_eq_of_lt c.toNat_lt, Nat.div_eq_of_lt c.toNat_lt, Nat.zero_add, ih, UInt8.ofNat_toNat]

theorem numBytes_numVal (b : Bytes) : numBytes b.length (numVal b) = b := by
  unfold numVal numBytes
  cases Gen.littleEndian
  · simp only [Bool.false_eq_true, if_false]
    have := leBytes_leNat b.reverse
    rw [List.length_reverse] at this
    rw [this, List.reverse_reverse]
  · simp only [if_true]; exact leBytes_leNat b

theorem slice_length (b : Bytes) (off len : Nat) (h : off + len ≤ b.length) : (slice b off len).length = len := by
  rw [slice, List.length_take, List.length_drop, Nat.min_eq_left (Nat.le_sub_of_add_le' h)]

theorem slice_add (b : Bytes) (off m n : Nat) :
    slice b off (m + n) = slice b off m ++ slice b (off + m) n := by
  simp only [slice, List.take_add, List.drop_drop]

theorem slice_take (b : Bytes) (off : Nat) {m n : Nat} (h : m ≤ n) : slice b off m = (slice b off n).take m := by
  simp only [slice, List.take_take, Nat.min_eq_left h]

theorem chunk_length (data : Bytes) : (chunk data).length = 4 + data.length := by
  simp [chunk, numBytes_length, Gen.wrHdrLen]

/-- `(a + 2^64 - c) % 2^64` is how `Gen` writes the `size_t` difference `a - c` -/
theorem sizeT_sub {a c : Nat} (hc : c ≤ a) (ha : a < 2 ^ 64) :
    (a + 18446744073709551616 - c) % 18446744073709551616 = a - c := by
  rw [Nat.sub_add_comm hc, Nat.add_mod_right, Nat.mod_eq_of_lt (Nat.lt_of_le_of_lt (Nat.sub_le a c) ha)]

theorem hdrShort_eq {p n : Nat} (hn : n < 2 ^ 64) (hp : p ≤ n) : Gen.hdrShort p n = decide (n < p + 4) := by
  rw [Gen.hdrShort, sizeT_sub hp hn]
  exact decide_eq_decide.mpr (by omega)

/-- the length test is exactly "header and payload do not fit" (`Props.sizeBad_exact`), as an equation for rewriting -/
theorem sizeBad_eq {p size n : Nat} (hn : n < 2 ^ 64) (hp : p + 4 ≤ n) (hs : size < 2 ^ 32) :
    Gen.sizeBad p size n = decide (n < p + 4 + size) := by
  have h4 : 4 ≤ n - p := Nat.le_sub_of_add_le' hp
  rw [Gen.sizeBad, sizeT_sub (Nat.le_trans (Nat.le_add_right p 4) hp) hn,
    sizeT_sub h4 (Nat.lt_of_le_of_lt (Nat.sub_le n p) hn), ← Bool.decide_or]
  refine decide_eq_decide.mpr ⟨fun h => ?_, fun h => Or.inr (by omega)⟩
  rcases h with h | h
  · -- the wrap test: `p + size` wraps only beyond 2^64 > n
    by_cases hw : p + size < 18446744073709551616
    · rw [Nat.mod_eq_of_lt hw] at h; omega
    · omega
  · omega

theorem rcSkip_eq {p : Nat} (h : p + 4 < 2 ^ 64) : Gen.rcSkip p = p + 4 := Nat.mod_eq_of_lt h

theorem rcAdvance_eq {p len : Nat} (h : p + len < 2 ^ 64) : Gen.rcAdvance p len = p + len := Nat.mod_eq_of_lt h

theorem rsAdvance_eq {p size : Nat} (h : p + 4 + size < 2 ^ 64) : Gen.rsAdvance p size = p + 4 + size := by
  rw [Gen.rsAdvance, Nat.mod_eq_of_lt (a := 4 + size) (by omega), ← Nat.add_assoc, Nat.mod_eq_of_lt h]

/-- `std::vector<POD>` load: `n = size / sizeof(T)` elements, `n * sizeof(T)` bytes -/
theorem vpLen_vpCount {size n : Nat} (h : size < 2 ^ 64) : Gen.vpLen (Gen.vpCount size n) n = size / n * n :=
  Nat.mod_eq_of_lt (Nat.lt_of_le_of_lt (Nat.div_mul_le_self size n) h)

/-- the length field `next_chunk_size` decodes at offset `off`; `4`, `32` are `Gen.hdrReadLen`, `Gen.rdSizeBits`
(`nextChunkSize_eq`, `At_chunk` break if they are regenerated otherwise) -/
def hdrSize (b : Bytes) (off : Nat) : Nat := numVal (slice b off 4) % 2 ^ 32

theorem hdrSize_lt (b : Bytes) (off : Nat) : hdrSize b off < 2 ^ 32 := Nat.mod_lt _ (by decide)

section
variable {b : Bytes} (hb : b.length < 2 ^ 64) {s : St}
include hb

theorem nextChunkSize_eq (hp : s.ptr ≤ b.length) :
    nextChunkSize b s =
      if b.length ≤ s.ptr then .err .eof s
      else if b.length < s.ptr + 4 then .err .hdr s
      else if b.length < s.ptr + 4 + hdrSize b s.ptr then .err .size (s.read s.ptr 4)
      else .ok (hdrSize b s.ptr) (s.read s.ptr 4) := by
  unfold nextChunkSize
  simp only [Gen.eofCond, hdrShort_eq hb hp, decide_eq_true_eq, ge_iff_le]
  by_cases h1 : b.length ≤ s.ptr
  · rw [if_pos h1, if_pos h1]
  by_cases h2 : b.length < s.ptr + 4
  · rw [if_neg h1, if_neg h1, if_pos h2, if_pos h2]
  rw [if_neg h1, if_neg h1, if_neg h2, if_neg h2]
  simp only [Gen.hdrReadOff, Gen.hdrReadLen, Gen.rdSizeBits, Nat.zero_add]
  rw [← hdrSize, sizeBad_eq hb (Nat.le_of_not_lt h2) (hdrSize_lt b s.ptr)]
  simp only [decide_eq_true_eq]

theorem nextChunkSize_ok (hp : s.ptr ≤ b.length) {n : Nat} {s1 : St}
    (h : nextChunkSize b s = .ok n s1) : s1 = s.read s.ptr 4 ∧ s.ptr + 4 + n ≤ b.length := by
  rw [nextChunkSize_eq hb hp] at h
  by_cases h1 : b.length ≤ s.ptr
  · rw [if_pos h1] at h; cases h
  by_cases h2 : b.length < s.ptr + 4
  · rw [if_neg h1, if_pos h2] at h; cases h
  by_cases h3 : b.length < s.ptr + 4 + hdrSize b s.ptr
  · rw [if_neg h1, if_neg h2, if_pos h3] at h; cases h
  · rw [if_neg h1, if_neg h2, if_neg h3] at h; cases h; exact ⟨rfl, Nat.le_of_not_lt h3⟩

theorem nextChunkSize_of_fits (h : s.ptr + 4 + hdrSize b s.ptr ≤ b.length) :
    nextChunkSize b s = .ok (hdrSize b s.ptr) (s.read s.ptr 4) := by
  have h4 : s.ptr + 4 ≤ b.length := Nat.le_trans (Nat.le_add_right _ _) h
  rw [nextChunkSize_eq hb (Nat.le_trans (Nat.le_add_right _ _) h4), if_neg (by omega), if_neg (Nat.not_lt.mpr h4),
    if_neg (Nat.not_lt.mpr h)]

theorem nextChunkSize_spec (hs : Safe b s) :
    Ensures b (fun n => s.ptr + 4 + n ≤ b.length) (nextChunkSize b s) := by
  rw [nextChunkSize_eq hb hs.1]
  by_cases h1 : b.length ≤ s.ptr
  · rw [if_pos h1]; exact hs
  by_cases h2 : b.length < s.ptr + 4
  · rw [if_neg h1, if_pos h2]; exact hs
  have hs1 : Safe b (s.read s.ptr 4) := hs.read (Nat.le_of_not_lt h2)
  by_cases h3 : b.length < s.ptr + 4 + hdrSize b s.ptr
  · rw [if_neg h1, if_neg h2, if_pos h3]; exact hs1
  · rw [if_neg h1, if_neg h2, if_neg h3]; exact ⟨hs1, Nat.le_of_not_lt h3⟩

theorem readChunk_eq (hp : s.ptr ≤ b.length) (len : Nat) :
    readChunk b len s = (nextChunkSize b s).bind fun n s1 =>
      if n = len then .ok (slice b (s.ptr + 4) len) ⟨s.ptr + 4 + len, (s.ptr + 4, len) :: s1.reads⟩
      else .err .len s1 := by
  refine Res.bind_congr fun n s1 h => ?_
  obtain ⟨rfl, hle⟩ := nextChunkSize_ok hb hp h
  by_cases hn : n = len
  · subst hn
    simp only [Gen.rcMismatch, bne_self_eq_false, decide_false, Bool.false_eq_true, if_false, if_true, St.read,
      Gen.rcReadOff, Gen.rcReadLen, Nat.zero_add, rcSkip_eq (Nat.lt_of_le_of_lt (Nat.le_trans (Nat.le_add_right _ _) hle) hb)]
    rw [rcAdvance_eq (Nat.lt_of_le_of_lt hle hb)]
  · simp only [Gen.rcMismatch, bne_iff_ne, ne_eq, hn, not_false_eq_true, decide_true, if_true, if_false]

theorem readChunkAsString_eq (hp : s.ptr ≤ b.length) :
    readChunkAsString b s = (nextChunkSize b s).bind fun n s1 =>
      .ok (slice b (s.ptr + 4) n) ⟨s.ptr + 4 + n, (s.ptr + 4, n) :: s1.reads⟩ := by
  refine Res.bind_congr fun n s1 h => ?_
  obtain ⟨rfl, hle⟩ := nextChunkSize_ok hb hp h
  simp only [St.read, Gen.rsReadOff, Gen.rsReadLen, Nat.zero_add]
  rw [rsAdvance_eq (Nat.lt_of_le_of_lt hle hb)]

theorem readChunk_spec (hs : Safe b s) (len : Nat) :
    Ensures b (fun d => d.length = len) (readChunk b len s) := by
  rw [readChunk_eq hb hs.1]
  refine (nextChunkSize_spec hb hs).bind fun n s1 hs1 hn => ?_
  by_cases h : n = len
  · subst h
    rw [if_pos rfl]
    exact ⟨hs1.advance hn, slice_length b _ _ hn⟩
  · rw [if_neg h]; exact hs1

theorem readChunkAsString_spec (hs : Safe b s) :
    Ensures b (fun _ => True) (readChunkAsString b s) := by
  rw [readChunkAsString_eq hb hs.1]
  exact (nextChunkSize_spec hb hs).bind fun n s1 hs1 hn => ⟨hs1.advance hn, trivial⟩

end

/-- the bytes `x` sit in the archive `b` at offset `off` -/
def At (b : Bytes) (off : Nat) (x : Bytes) : Prop := off + x.length ≤ b.length ∧ slice b off x.length = x

theorem At_append {b : Bytes} {off : Nat} {x y : Bytes} :
    At b off (x ++ y) ↔ At b off x ∧ At b (off + x.length) y := by
  unfold At
  rw [List.length_append, slice_add, ← Nat.add_assoc]
  constructor
  · rintro ⟨hl, hs⟩
    have hx := Nat.le_trans (Nat.le_add_right _ _) hl
    obtain ⟨h1, h2⟩ := List.append_inj hs (slice_length b off x.length hx)
    exact ⟨⟨hx, h1⟩, hl, h2⟩
  · rintro ⟨⟨_, hx⟩, hl, hy⟩
    exact ⟨hl, by rw [hx, hy]⟩

theorem At.le {b : Bytes} {off : Nat} {x : Bytes} (h : At b off x) : off ≤ b.length :=
  Nat.le_trans (Nat.le_add_right _ _) h.1

theorem At_framed (pre x post : Bytes) : At (pre ++ x ++ post) pre.length x := by
  simp [At, slice]

theorem At_self (x : Bytes) : At x 0 x := by
  simpa using At_framed [] x []

/-- the length field of a written chunk holds the payload length mod 2^32 (`uint32_t size = len`) -/
theorem At_chunk {b : Bytes} {off : Nat} {data : Bytes} (h : At b off (chunk data)) :
    off + 4 + data.length ≤ b.length ∧ hdrSize b off = data.length % 2 ^ 32 ∧ slice b (off + 4) data.length = data := by
  unfold chunk at h
  rw [At_append, numBytes_length] at h
  obtain ⟨⟨_, h1⟩, h2, h3⟩ := h
  refine ⟨h2, ?_, h3⟩
  rw [numBytes_length] at h1
  rw [hdrSize, show (4 : Nat) = Gen.wrHdrLen from rfl, h1, numVal_numBytes]
  show data.length % 2 ^ 32 % 256 ^ 4 % 2 ^ 32 = _
  rw [show (256 : Nat) ^ 4 = 2 ^ 32 from by decide, Nat.mod_mod, Nat.mod_mod]

section
variable {b : Bytes} (hb : b.length < 2 ^ 64) {off : Nat} {data : Bytes} (hat : At b off (chunk data))
include hb hat

theorem nextChunkSize_chunk (r : List (Nat × Nat)) :
    nextChunkSize b ⟨off, r⟩ = .ok (data.length % 2 ^ 32) ⟨off, (off, 4) :: r⟩ := by
  obtain ⟨hl, hh, _⟩ := At_chunk hat
  have hfit := Nat.le_trans (Nat.add_le_add_left (Nat.mod_le data.length (2 ^ 32)) (off + 4)) hl
  rw [← hh] at hfit ⊢
  exact nextChunkSize_of_fits hb hfit

/-- a written chunk, wherever it sits, reads back as the first `len mod 2^32` bytes of its payload -/
theorem readChunkAsString_chunk (r : List (Nat × Nat)) :
    readChunkAsString b ⟨off, r⟩ = .ok (data.take (data.length % 2 ^ 32))
      ⟨off + 4 + data.length % 2 ^ 32, (off + 4, data.length % 2 ^ 32) :: (off, 4) :: r⟩ := by
  rw [readChunkAsString_eq hb hat.le, nextChunkSize_chunk hb hat, Res.bind_ok, slice_take b _ (Nat.mod_le _ _),
    (At_chunk hat).2.2]

end

end Cppcms.C19
