import Cppcms.C19.Lemmas
import Cppcms.C19.JsonC11
import Cppcms.C11.Props
import Cppcms.C06.Lemmas
import Cppcms.C07.Props
/-! C19: "Serialized objects round-trip exactly and malformed archives are rejected safely."

Every condition, read offset and cursor update of the archive primitives comes from `Gen.lean`, regenerated from
`src/archive.cpp` on every run: changing the bound in `next_chunk_size` changes `Gen.sizeBad`, and `load_safe` /
`sizeBad_exact` are re-checked against it.  Hypothesis of the safety, wf and round-trip theorems:
`b.length < 2 ^ 64`, the archive is a `std::string` in a 64-bit address space (else the mod-2^64 arithmetic of the
model would not be that of the code). -/
namespace Cppcms.C19.Props
open Cppcms Cppcms.C19 Cppcms.C19.Spec

/-- **Loading from arbitrary bytes never reads outside the archive.**  For every type of the universe and
every byte string, each interval the loader reads from `buffer_.c_str()` lies inside `[0, b.length)`, and the
final cursor is at most `b.length`.  (The third conjunct only says that the outcome is an `ok` or an `err`, which every
`Res` is.) -/
theorem load_safe [JsonCodec] (ty : Ty) (b : Bytes) (hb : b.length < 2 ^ 64) :
    ReadsWithin b.length (loadArchive ty b).st.reads ∧ (loadArchive ty b).st.ptr ≤ b.length ∧
    ((∃ v s, loadArchive ty b = .ok v s) ∨ (∃ e s, loadArchive ty b = .err e s)) := by
  have h := (loadsWf_all b hb ty St.init (Safe.init b)).safe
  refine ⟨h.2, h.1, ?_⟩
  cases hl : loadArchive ty b with
  | ok v s => exact Or.inl ⟨v, s, rfl⟩
  | err e s => exact Or.inr ⟨e, s, rfl⟩

/-- The same from any state reached earlier (several objects loaded from one archive, `serialize`
methods calling `ar & a & b & …`): a safe state stays safe. -/
theorem load_safe_resume [JsonCodec] (ty : Ty) (b : Bytes) (hb : b.length < 2 ^ 64) (s : St)
    (hs : s.ptr ≤ b.length ∧ ReadsWithin b.length s.reads) :
    (load b ty s).st.ptr ≤ b.length ∧ ReadsWithin b.length (load b ty s).st.reads :=
  (loadsWf_all b hb ty s hs).safe

/-- The three reading primitives of `archive` themselves (user code may call them in any order). -/
theorem primitives_safe (b : Bytes) (hb : b.length < 2 ^ 64) (s : St)
    (hs : s.ptr ≤ b.length ∧ ReadsWithin b.length s.reads) (len : Nat) :
    (let s' := (nextChunkSize b s).st; s'.ptr ≤ b.length ∧ ReadsWithin b.length s'.reads) ∧
    (let s' := (readChunk b len s).st; s'.ptr ≤ b.length ∧ ReadsWithin b.length s'.reads) ∧
    (let s' := (readChunkAsString b s).st; s'.ptr ≤ b.length ∧ ReadsWithin b.length s'.reads) :=
  ⟨(nextChunkSize_spec hb hs).safe, (readChunk_spec hb hs len).safe, (readChunkAsString_spec hb hs).safe⟩

/-- **Whatever a successful load returns is a value the C++ type can hold** (`wf`: sizes, array lengths, `std::set`/`std::map`
keys strictly increasing, `std::multiset`/`std::multimap` keys non-decreasing for the model's `operator<`) -- for arbitrary,
also malformed, archives. -/
theorem load_ok_wellformed [JsonCodec] (ty : Ty) (b : Bytes) (hb : b.length < 2 ^ 64) (v : Val ty) (s : St)
    (h : loadArchive ty b = .ok v s) : wf ty v = true :=
  (loadsWf_all b hb ty St.init (Safe.init b)).of_ok h

/-- The length test of `next_chunk_size`, as regenerated from the source, is *exactly* "header and
payload fit": it rejects every length that would leave the buffer and no length that fits.
(`ptr + 4 ≤ bufsize` is what the two earlier tests of the function establish; `size` is a `uint32_t`.) -/
theorem sizeBad_exact (ptr size bufsize : Nat) (hb : bufsize < 2 ^ 64) (hp : ptr + 4 ≤ bufsize) (hs : size < 2 ^ 32) :
    Gen.sizeBad ptr size bufsize = false ↔ ptr + 4 + size ≤ bufsize := by
  rw [sizeBad_eq hb hp hs, decide_eq_false_iff_not, Nat.not_lt]

/-- Defect D1: a bound of the form `ptr_ + size < ptr_ || ptr_ + size >= buffer_.size()`, which ignores the 4-byte
header, accepts the length 7 at `ptr_ = 0` in an 8-byte archive (`07 00 00 00 41 42 43 44`) although header and
payload would end at offset 11.  `oldBad` is that expression written out in the statement; it is not taken from `Gen`. -/
theorem prefix_bound_counterexample :
    let oldBad := fun (ptr size bufsize : Nat) =>
      decide ((ptr + size) % 2 ^ 64 < ptr) || decide ((ptr + size) % 2 ^ 64 ≥ bufsize)
    oldBad 0 7 8 = false ∧ ¬ (0 + 4 + 7 ≤ 8) := by
  decide +kernel

/-- **Save then load gives the value back**, for every type of the universe and every well-formed value
whose chunk payloads fit the `uint32_t` length field (`sizesFit`), whose `json::value` members satisfy the codec's law
(`jsonRT`) and whose serialisation is shorter than 2^64 bytes; the loader ends exactly at the end of the archive.
Under `jsonRT` every `json::value` that is serialised has `JsonCodec.write x = some _` (its `.json` clause), the case in
which `save ty v` is what the code writes; that `jsonRT` gives `savable ty v` (`saveE ty v = some (save ty v)`) is not proved. -/
theorem save_load_roundtrip [JsonCodec] (ty : Ty) (v : Val ty) (hw : wf ty v = true) (hf : sizesFit ty v = true)
    (hj : jsonRT ty v) (hlen : (save ty v).length < 2 ^ 64) :
    ∃ s, loadArchive ty (save ty v) = .ok v s ∧ s.ptr = (save ty v).length ∧ eof (save ty v) s = true := by
  obtain ⟨r', h⟩ := roundTrips_all (save ty v) hlen ty v hw hf hj 0 [] (At_self _)
  refine ⟨_, h, by simp, ?_⟩
  simp [eof, Gen.eofCond]

/-- The same inside a larger archive: whatever was written before and after (`a << x << v << y`), loading
at the position where `save ty v` starts returns `v` and leaves the cursor right behind it. -/
theorem save_load_roundtrip_framed [JsonCodec] (ty : Ty) (v : Val ty) (hw : wf ty v = true) (hf : sizesFit ty v = true)
    (hj : jsonRT ty v)
    (pre post : Bytes) (reads : List (Nat × Nat)) (hlen : (pre ++ save ty v ++ post).length < 2 ^ 64) :
    ∃ reads', load (pre ++ save ty v ++ post) ty ⟨pre.length, reads⟩
      = .ok v ⟨pre.length + (save ty v).length, reads'⟩ := by
  exact roundTrips_all _ hlen ty v hw hf hj _ _ (At_framed ..)

/-! Byte order and `sizeof(size_t)` come from the compiler's macros (`Gen.littleEndian`, `Gen.sizeofSizeT`); every theorem
of this file holds for either byte order (only the examples with literal bytes are little-endian). -/

/-- **Object representation of unsigned integers** (`memcpy(&x, …)` of a `k`-byte integer, either byte order): a bijection
between `k`-byte strings and `[0, 256^k)`; the length header (k = 4), the element counts (k = `sizeof(size_t)`) and the
numeric order of POD keys rest on it. -/
theorem pod_codec_roundtrip :
    (∀ k n, numVal (numBytes k n) = n % 256 ^ k ∧ (numBytes k n).length = k) ∧ (∀ b : Bytes, numBytes b.length (numVal b) = b) :=
  ⟨fun k n => ⟨numVal_numBytes k n, numBytes_length k n⟩, numBytes_numVal⟩

/-- **`operator<` of the model is a strict weak order on every type, and a strict total order on the well-formed
values of key types** — so `std::set` / `std::map` hold one entry per *value* and the "same key" classes of
`multiset` / `multimap` are classes of equal keys. -/
theorem operator_lt_order [JsonCodec] (ty : Ty) :
    (∀ a b : Val ty, lt ty a b = true → lt ty b a = false) ∧
    (∀ a b c : Val ty, lt ty a b = false → lt ty b c = false → lt ty a c = false) ∧
    (∀ a b c : Val ty, lt ty a b = true → lt ty b c = true → lt ty a c = true) ∧
    (keyable ty = true → ∀ a b : Val ty, wf ty a = true → wf ty b = true → lt ty a b = false → lt ty b a = false → a = b) :=
  ⟨(lt_strictWeak ty).asymm, (lt_strictWeak ty).negTrans, fun _ _ _ => (lt_strictWeak ty).trans, lt_tricho ty⟩

/-- the `.set` and `.mset` conjuncts of `container_elements_load_independently`, by `loadN_ok_iff` -/
theorem counted_load_steps {α β : Type} {b : Bytes} {ld : St → Res α} {post : List α → β} {s s' : St} {v : β}
    (h : ((loadCount b s).bind fun n s1 => (loadN ld n s1).map post) = .ok v s') :
    ∃ s1 l, loadCount b s = .ok l.length s1 ∧ Steps ld s1 l s' ∧ v = post l := by
  obtain ⟨n, s1, l, h1, h2, h3⟩ := Res.bind_map_eq_ok h
  obtain ⟨hl, hs⟩ := (loadN_ok_iff ld n s1 l s').mp h2
  exact ⟨s1, l, hl ▸ h1, hs, h3⟩

/-- **Container elements load independently of each other.**  `details::archive_load_container` declares `value_type tmp;`
*inside* the element loop, so every element is loaded into a default-constructed object.  Stated for `.seq` (↔), `.set` and
`.mset` (→ only; not for `.map`, `.mmap`, `.ptr`): the load of the container is the count followed by a chain of
applications of the one state-only function `load b t` (`Steps`), and for a user class with optional members that function is
its `serialize` run on the default object (`loadTaggedInto … (dflt …)`), never on what the previous element left behind.
`_pin` writes the extractor's shape check (`Gen.containerTmpPerElement`) into the statement; the proof does not use it. -/
theorem container_elements_load_independently [JsonCodec] (b : Bytes) (t : Ty) (s s' : St)
    (_pin : Gen.containerTmpPerElement = true) :
    (∀ v : List (Val t), load b (.seq t) s = .ok v s' ↔
      ∃ s1, loadCount b s = .ok v.length s1 ∧ Steps (load b t) s1 v s') ∧
    (∀ v : List (Val t), load b (.set t) s = .ok v s' →
      ∃ s1 l, loadCount b s = .ok l.length s1 ∧ Steps (load b t) s1 l s' ∧ v = setOfList (lt t) l) ∧
    (∀ v : List (Val t), load b (.mset t) s = .ok v s' →
      ∃ s1 l, loadCount b s = .ok l.length s1 ∧ Steps (load b t) s1 l s' ∧ v = msetOfList (lt t) l) ∧
    (∀ (ta tb : Ty) (st : St), load b (.tagged ta tb) st =
      loadTaggedInto (load b ta) (load b tb) (List.replicate 4 0, dflt ta, dflt tb) b st) := by
  refine ⟨fun v => ?_, fun _ => counted_load_steps, fun _ => counted_load_steps, fun _ _ _ => rfl⟩
  show ((loadCount b s).bind fun n s1 => loadN (load b t) n s1) = .ok v s' ↔ _
  rw [Res.bind_eq_ok]
  constructor
  · rintro ⟨n, s1, h1, h2⟩
    obtain ⟨hl, hs⟩ := (loadN_ok_iff (load b t) n s1 v s').mp h2
    exact ⟨s1, hl ▸ h1, hs⟩
  · rintro ⟨s1, hc, hs⟩
    exact ⟨_, s1, hc, (loadN_ok_iff (load b t) v.length s1 v s').mpr ⟨rfl, hs⟩⟩

/-- **`std::multimap` / `std::multiset`: equal keys keep their archive order.**  Whatever the archive holds (also
unsorted, also malformed elsewhere): if the load succeeds with `v`, then `v` is a permutation of the entries `l` in the
order they were read, and for every key `key` the entries of `v` equivalent to it are exactly those of `l`, in the
same order. -/
theorem multi_containers_keep_load_order [JsonCodec] (b : Bytes) (s s' : St) :
    (∀ (k w : Ty) (v : List (Val k × Val w)), load b (.mmap k w) s = .ok v s' →
      ∃ n s1 l, loadCount b s = .ok n s1 ∧ loadN (loadPair (load b k) (load b w)) n s1 = .ok l s' ∧
        v.Perm l ∧ ∀ key, v.filter (fun e => eqv (lt k) key e.1) = l.filter (fun e => eqv (lt k) key e.1)) ∧
    (∀ (t : Ty) (v : List (Val t)), load b (.mset t) s = .ok v s' →
      ∃ n s1 l, loadCount b s = .ok n s1 ∧ loadN (load b t) n s1 = .ok l s' ∧
        v.Perm l ∧ ∀ key, v.filter (fun e => eqv (lt t) key e) = l.filter (fun e => eqv (lt t) key e)) := by
  constructor
  · intro k w v h
    obtain ⟨n, s1, l, h1, h2, rfl⟩ := Res.bind_map_eq_ok h
    rw [mmapOfList_eq]
    exact ⟨n, s1, l, h1, h2, msetOfList_perm l, fun key =>
      msetOfList_stable ((lt_strictWeak k).comap Prod.fst) (((lt_strictWeak k).keyClass key).comap Prod.fst) l⟩
  · intro t v h
    obtain ⟨n, s1, l, h1, h2, rfl⟩ := Res.bind_map_eq_ok h
    exact ⟨n, s1, l, h1, h2, msetOfList_perm l, fun key =>
      msetOfList_stable (lt_strictWeak t) ((lt_strictWeak t).keyClass key) l⟩

/-- **`std::map` / `std::set`: of several archive entries with the same key the first one wins** (`insert` does not
overwrite): the entries of the result equivalent to `key` are the first such entry read, if any. -/
theorem unique_containers_keep_first [JsonCodec] (b : Bytes) (s s' : St) :
    (∀ (k w : Ty) (v : List (Val k × Val w)), load b (.map k w) s = .ok v s' →
      ∃ n s1 l, loadCount b s = .ok n s1 ∧ loadN (loadPair (load b k) (load b w)) n s1 = .ok l s' ∧
        ∀ key, v.filter (fun e => eqv (lt k) key e.1) = (l.filter (fun e => eqv (lt k) key e.1)).take 1) ∧
    (∀ (t : Ty) (v : List (Val t)), load b (.set t) s = .ok v s' →
      ∃ n s1 l, loadCount b s = .ok n s1 ∧ loadN (load b t) n s1 = .ok l s' ∧
        ∀ key, v.filter (fun e => eqv (lt t) key e) = (l.filter (fun e => eqv (lt t) key e)).take 1) := by
  constructor
  · intro k w v h
    obtain ⟨n, s1, l, h1, h2, rfl⟩ := Res.bind_map_eq_ok h
    rw [mapOfList_eq]
    exact ⟨n, s1, l, h1, h2, fun key =>
      setOfList_first ((lt_strictWeak k).comap Prod.fst) (((lt_strictWeak k).keyClass key).comap Prod.fst) l⟩
  · intro t v h
    obtain ⟨n, s1, l, h1, h2, rfl⟩ := Res.bind_map_eq_ok h
    exact ⟨n, s1, l, h1, h2, fun key => setOfList_first (lt_strictWeak t) ((lt_strictWeak t).keyClass key) l⟩

/-- The hypothesis `jsonRT` of the round-trip theorems, for the codec that C11 models (`c11Codec ops`: compact
`value::save`, `value::load(…, full = true)`), **is C11's `write_parse_roundtrip_partial`** under its hypotheses, for trees
whose numbers are fixed by one trip through text (`mapNum rt v = v`: C11 proves the text round trip only up to `rt`, the
printed precision being IEEE arithmetic). -/
theorem json_law_from_C11 {N : Type} (ops : C11.NumOps N) (fin : N → Prop) (rt : N → N)
    (hlaw : C11.Spec.NumLaw ops fin rt) (v : C11.Value N)
    (hu : C11.Spec.NoUndefined v) (hs : C11.Spec.AllStringsUtf8 v) (hf : C11.Spec.NumsFinite fin v)
    (hk : C11.Spec.KeysSorted v) (hd : C11.Spec.depth v ≤ 512) (hfix : C11.Spec.mapNum rt v = v) :
    @jsonRT (c11Codec ops) .json v := by
  -- `false` is `Gen.jsonSaveReadable`: with it and `Gen.jsonLoadFull` unfolded `c11Codec`'s `write` / `read` are C11's
  -- two functions by definition, so the last line closes (for these flag values only)
  obtain ⟨text, h1, h2⟩ := C11.Props.write_parse_roundtrip_partial ops fin rt hlaw v hu hs hf hk hd false
  rw [hfix] at h2
  exact ⟨text, h1, h2⟩

/-- A `json::value` saved to an archive and loaded back is the same tree — under C11's hypotheses (above) and
the `uint32` guard on the length of its text. -/
theorem json_value_roundtrip {N : Type} (ops : C11.NumOps N) (fin : N → Prop) (rt : N → N)
    (hlaw : C11.Spec.NumLaw ops fin rt) (v : C11.Value N)
    (hu : C11.Spec.NoUndefined v) (hs : C11.Spec.AllStringsUtf8 v) (hf : C11.Spec.NumsFinite fin v)
    (hk : C11.Spec.KeysSorted v) (hd : C11.Spec.depth v ≤ 512) (hfix : C11.Spec.mapNum rt v = v)
    (hfit : @sizesFit (c11Codec ops) .json v = true)
    (hlen : (@save (c11Codec ops) .json v).length < 2 ^ 64) :
    ∃ s, @loadArchive (c11Codec ops) .json (@save (c11Codec ops) .json v) = .ok v s := by
  letI := c11Codec ops
  obtain ⟨s, h, _⟩ := save_load_roundtrip .json v rfl hfit
    (json_law_from_C11 ops fin rt hlaw v hu hs hf hk hd hfix) hlen
  exact ⟨s, h⟩

/-! `session_interface::store_data(key,obj)` is `serialization_traits<T>::save(obj,buffer); set(key,buffer)` and
`fetch_data` is `buffer = get(key); serialization_traits<T>::load(buffer,obj)`; `cache_interface::store_data` /
`fetch_data` are the same around `store` / `fetch` (the translator checks that the four bodies still have exactly this
shape: `Gen.wrappersAreCompositions`).  `serialization_traits<T>::save` is `save ty` (an archive, `T::save`, `a.str()`),
`load` is `loadArchive ty`.  The store side is the model of C06 (session: `setValue`, `dfind`, `saveData`, `loadData`)
and of C07 (cache: `step`/`Op.store`/`Op.fetch`), whose own theorems supply the law of the store.
`_shape` on the three round-trip theorems writes that shape check into their statements; no proof uses it (the extractor's
exit status and the differential run enforce the shape), and the other two theorems rest on the same shape unnamed. -/

/-- `session_interface::set(key,value)` on the session's data map: the key is found with that value; `Sorted` and the
limits are kept -/
theorem session_set_spec (d : C06.Data) (k : C06.Key) (val : Bytes) :
    (∃ e, C06.dfind k (C06.setValue k val d) = some e ∧ e.value = val) ∧
    (C06.Sorted d → C06.Sorted (C06.setValue k val d)) ∧
    ((∀ p ∈ d, C06.withinLimits p) → k.length < C06.Gen.keyLimit → val.length < C06.Gen.dataLimit →
      ∀ p ∈ C06.setValue k val d, C06.withinLimits p) := by
  rw [C06.setValue_eq]
  refine ⟨⟨_, by rw [C06.dfind_dinsert, if_pos rfl], rfl⟩, C06.sorted_dinsert k _ d, fun hl hk hvl p hp => ?_⟩
  rcases C06.mem_dinsert hp with rfl | hp'
  · exact ⟨hk, hvl⟩
  · exact hl p hp'

/-- **Session: `store_data` then `fetch_data` returns the object** — in the same request (`get` reads the map `set`
wrote), and in a later request: `save()` serialises the map with `save_data`, the next `load()` parses it with
`load_data` (C06 `loadData_saveData`), and `fetch_data` finds the same bytes.  Beyond the hypotheses of
`save_load_roundtrip` and of C06's codec: **the serialised object is shorter than 2 MiB** (`Gen.dataLimit`, the 21-bit field
of the `packed` record).  (Which token/cookie carries `bs` to the next request, and that the request reads exactly this map,
is C06's `request_reads_spec` / `save_commutes_with_abs`; not repeated here.) -/
theorem session_store_data_fetch_data_roundtrip [JsonCodec] (ty : Ty) (v : Val ty)
    (hw : wf ty v = true) (hf : sizesFit ty v = true) (hj : jsonRT ty v) (hlen : (save ty v).length < 2 ^ 64)
    (d : C06.Data) (hs : C06.Sorted d) (hl : ∀ p ∈ d, C06.withinLimits p)
    (k : C06.Key) (hk : k.length < C06.Gen.keyLimit) (hv : (save ty v).length < C06.Gen.dataLimit)
    (_shape : Gen.wrappersAreCompositions = true) :
    let d1 := C06.setValue k (save ty v) d          -- store_data(k, v)
    (∃ e s, C06.dfind k d1 = some e ∧ loadArchive ty e.value = .ok v s) ∧
    (∃ bs, C06.saveData d1 = .ok bs ∧ C06.loadData bs = .ok d1) := by
  intro d1
  obtain ⟨⟨e, he, hval⟩, hsorted, hlim⟩ := session_set_spec d k (save ty v)
  obtain ⟨s, hload, _⟩ := save_load_roundtrip ty v hw hf hj hlen
  refine ⟨⟨e, s, he, by rw [hval]; exact hload⟩, ?_⟩
  exact C06.loadData_saveData d1 (hsorted hs) (hlim hl hk hv)

/-- At and beyond the limit the session cannot carry the object: `save()` throws (`save_data`:
"value too long"), whatever else the map holds. -/
theorem session_store_data_over_limit_throws [JsonCodec] (ty : Ty) (v : Val ty) (d : C06.Data) (k : C06.Key)
    (hv : C06.Gen.dataLimit ≤ (save ty v).length) :
    ∃ err, C06.saveData (C06.setValue k (save ty v) d) = .error err := by
  obtain ⟨⟨e, he, hval⟩, _, _⟩ := session_set_spec d k (save ty v)
  rw [C06.saveData_throws_iff]
  exact ⟨(k, e), C06.dfind_some_mem he, fun h => Nat.lt_irrefl _ (Nat.lt_of_lt_of_le (hval ▸ h.2) hv)⟩

/-- **Cache: what `fetch_data` finds is the most recent `store_data` of that key** (C07
`fetch_returns_latest_store`): for every history of cache operations, every size limit and back-end, if the fetch
hits with bytes `bs` and trigger list `tr` then the history contains a store of exactly `bs` under `k`, not expired, and
followed by no operation that invalidates `k` or one of `tr` (`Op.invalidates k tr`: store/remove of `k`, clear, rise
of a member of `tr`); and if those bytes were the serialisation of an object `v`, `fetch_data` yields `v`. -/
theorem cache_fetch_data_returns_latest_store_data [JsonCodec] (limit : Nat) (sl : Option Nat) (ops : List C07.Op)
    (now : C07.Time) (k : C07.Key) (bs : Bytes) (tr : List C07.Key) (dl : C07.Time) (g : C07.Gen)
    (hit : (C07.step (C07.Props.reach limit sl ops) (.fetch now k)).2 = .hit bs tr dl g) :
    (∃ pre post now₀ trigs gen env, ops = pre ++ C07.Op.store now₀ k bs trigs dl gen env :: post ∧
      (∀ op ∈ post, op.invalidates k tr = false) ∧ ¬ dl < now) ∧
    ∀ (ty : Ty) (v : Val ty), wf ty v = true → sizesFit ty v = true → jsonRT ty v → (save ty v).length < 2 ^ 64 →
      bs = save ty v → ∃ s, loadArchive ty bs = .ok v s := by
  obtain ⟨pre, post, now₀, trigs, gen, env, hsplit, _htrigs, _hstamp, hvalid, hlive⟩ :=
    C07.Props.fetch_returns_latest_store limit sl ops now k bs tr dl g hit
  refine ⟨⟨pre, post, now₀, trigs, gen, env, hsplit, hvalid, hlive⟩, ?_⟩
  intro ty v hw hf hj hlen hbs
  obtain ⟨s, h, _⟩ := save_load_roundtrip ty v hw hf hj hlen
  exact ⟨s, by rw [hbs]; exact h⟩

/-- **Cache: `store_data` then `fetch_data` returns the object** when nothing evicts it (C07
`live_entry_always_found`: no size limit, no failing allocation): after `store_data(k, v, trigs, deadline)` and
operations that neither invalidate `k` nor raise one of its triggers, a `fetch_data(k)` at or before the deadline hits and yields `v`. -/
theorem cache_store_data_fetch_data_roundtrip [JsonCodec] (ty : Ty) (v : Val ty)
    (hw : wf ty v = true) (hf : sizesFit ty v = true) (hj : jsonRT ty v) (hlen : (save ty v).length < 2 ^ 64)
    (pre post : List C07.Op) (now₀ now : C07.Time) (k : C07.Key) (trigs : List C07.Key) (dl : C07.Time)
    (gen : Option C07.Gen) (env : C07.StoreEnv)
    (hquiet : ∀ op ∈ pre ++ C07.Op.store now₀ k (save ty v) trigs dl gen env :: post, op.quiet)
    (hpost : ∀ op ∈ post, op.invalidates k (C07.ownTrigs k trigs) = false) (hlive : ¬ dl < now)
    (_shape : Gen.wrappersAreCompositions = true) :
    ∃ bs tr g s,
      (C07.step (C07.Props.reach 0 none (pre ++ C07.Op.store now₀ k (save ty v) trigs dl gen env :: post))
        (.fetch now k)).2 = .hit bs tr dl g ∧ loadArchive ty bs = .ok v s := by
  obtain ⟨s, h, _⟩ := save_load_roundtrip ty v hw hf hj hlen
  exact ⟨_, _, _, s, C07.Props.live_entry_always_found pre post now₀ now k (save ty v) trigs dl gen env hquiet hpost hlive, h⟩

/-- The abstract form (any store with `get k (set k d σ) = d`), for stores other than the two above. -/
theorem wrappers_roundtrip [JsonCodec] {Store Key : Type} (set : Key → Bytes → Store → Store) (get : Key → Store → Bytes)
    (hstore : ∀ k d σ, get k (set k d σ) = d)
    (ty : Ty) (v : Val ty) (hw : wf ty v = true) (hf : sizesFit ty v = true) (hj : jsonRT ty v)
    (hlen : (save ty v).length < 2 ^ 64) (k : Key) (σ : Store) (_shape : Gen.wrappersAreCompositions = true) :
    ∃ s, loadArchive ty (get k (set k (save ty v) σ)) = .ok v s := by
  rw [hstore]
  obtain ⟨s, h, _⟩ := save_load_roundtrip ty v hw hf hj hlen
  exact ⟨s, h⟩

/-- What `write_chunk` / `read_chunk_as_string` do for **any** payload, also beyond the `sizesFit` guard:
the length field holds `len mod 2^32`, so a string of 2^32 + k bytes is read back as its first k bytes. -/
theorem string_chunk_truncates (data : Bytes) (hlen : (chunk data).length < 2 ^ 64) :
    ∃ r, readChunkAsString (chunk data) St.init
      = .ok (data.take (data.length % 2 ^ 32)) ⟨4 + data.length % 2 ^ 32, r⟩ :=
  ⟨_, by rw [show St.init = ⟨0, []⟩ from rfl, readChunkAsString_chunk hlen (At_self _), Nat.zero_add]⟩

/-- Consequently the round trip of a `std::string` fails as soon as the guard fails. -/
theorem string_roundtrip_fails_beyond_guard [JsonCodec] (data : Bytes) (hbig : 2 ^ 32 ≤ data.length)
    (hlen : (chunk data).length < 2 ^ 64) :
    ∀ s, loadArchive .str (save .str data) ≠ .ok data s := by
  intro s h
  obtain ⟨r, h'⟩ := string_chunk_truncates data hlen
  rw [show loadArchive .str (save .str data) = readChunkAsString (chunk data) St.init from rfl, h'] at h
  injection h with hd _
  have hl := List.length_take_le (data.length % 2 ^ 32) data
  rw [hd] at hl
  exact Nat.lt_irrefl _ (Nat.lt_of_lt_of_le (Nat.lt_of_le_of_lt hl (Nat.mod_lt _ (by decide))) hbig)

/-- for the examples: a codec whose values are their own text -/
local instance : JsonCodec := ⟨Bytes, some, some, [], List.isEmpty, by intro x h; simpa using h, rfl⟩

/-- `wf` and `sizesFit` of `save_load_roundtrip` are met -/
example : wf (.map .str (.vecPod 2)) [([97], [1, 0, 2, 0]), ([98, 0], [])] = true
    ∧ sizesFit (.map .str (.vecPod 2)) [([97], [1, 0, 2, 0]), ([98, 0], [])] = true := by decide +kernel

example : wf (.pair (.ptr (.set (.pod 4))) (.seq .str)) (some [[1, 0, 0, 0], [0, 1, 0, 0]], [[], [0, 0]]) = true
    ∧ sizesFit (.pair (.ptr (.set (.pod 4))) (.seq .str)) (some [[1, 0, 0, 0], [0, 1, 0, 0]], [[], [0, 0]]) = true := by
  decide +kernel

example : wf (.pair (.mmap (.pod 1) (.mset .str)) (.arr .str 2)) ([([1], [[97], [97], [98]]), ([1], [])], [[], [0]]) = true
    ∧ sizesFit (.pair (.mmap (.pod 1) (.mset .str)) (.arr .str 2)) ([([1], [[97], [97], [98]]), ([1], [])], [[], [0]]) = true := by
  decide +kernel

/-- a store meeting `hstore`: a single cell -/
example : ∀ (k : Unit) (d : Bytes) (σ : Bytes), (fun (_ : Unit) (σ : Bytes) => σ) k ((fun (_ : Unit) (d : Bytes) (_ : Bytes) => d) k d σ) = d :=
  fun _ _ _ => rfl

/-- the hypotheses of the session theorems are met; the limits are 1024 and 2 MiB -/
example : C06.Sorted [([97], ⟨[1], false⟩), ([98], ⟨[], true⟩)] ∧
    (∀ p ∈ [(([97] : Bytes), (⟨[1], false⟩ : C06.Entry)), ([98], ⟨[], true⟩)], C06.withinLimits p) ∧
    C06.Gen.keyLimit = 1024 ∧ C06.Gen.dataLimit = 2 * 1024 * 1024 := by
  refine ⟨by simp [C06.Sorted]; decide, ?_, rfl, rfl⟩
  intro p hp
  simp only [List.mem_cons, List.not_mem_nil, or_false] at hp
  rcases hp with rfl | rfl <;> exact ⟨by decide, by decide⟩

/-- the hypotheses of `cache_store_data_fetch_data_roundtrip` are met: another key stored, a fetch, an unrelated trigger -/
example : (∀ op ∈ [C07.Op.store 0 [107, 50] [1] [] 10] ++ C07.Op.store 5 [107] [2, 3] [[116]] 100 none {} ::
      [C07.Op.fetch 6 [107], C07.Op.rise [120]], op.quiet) ∧
    (∀ op ∈ [C07.Op.fetch 6 [107], C07.Op.rise [120]], op.invalidates [107] (C07.ownTrigs [107] [[116]]) = false) ∧
    ¬ (100 : C07.Time) < 50 := by
  refine ⟨?_, by decide, by decide⟩
  intro op hop
  simp only [List.cons_append, List.nil_append, List.mem_cons, List.not_mem_nil, or_false] at hop
  rcases hop with rfl | rfl | rfl | rfl <;> simp [C07.Op.quiet]

/-- a multimap archive with keys 2,1,2,1 (values a,b,c,d): loads as 1→b, 1→d, 2→a, 2→c -/
example : ∃ s, loadArchive (.mmap (.pod 1) .str)
    [8,0,0,0, 4,0,0,0,0,0,0,0,  1,0,0,0,2, 1,0,0,0,97,  1,0,0,0,1, 1,0,0,0,98,  1,0,0,0,2, 1,0,0,0,99,  1,0,0,0,1, 1,0,0,0,100]
    = .ok [([1], [98]), ([1], [100]), ([2], [97]), ([2], [99])] s := ⟨_, rfl⟩

/-- the same bytes as a `std::map`: the first entry of each key wins -/
example : ∃ s, loadArchive (.map (.pod 1) .str)
    [8,0,0,0, 4,0,0,0,0,0,0,0,  1,0,0,0,2, 1,0,0,0,97,  1,0,0,0,1, 1,0,0,0,98,  1,0,0,0,2, 1,0,0,0,99,  1,0,0,0,1, 1,0,0,0,100]
    = .ok [([1], [98]), ([2], [97])] s := ⟨_, rfl⟩

/-- why the placement of `value_type tmp;` matters: the same bytes (`kind = 0`, nothing else) loaded into an object that still holds
the previous element's optional member keep that member, loaded into a default-constructed object they do not -/
example : (∃ s, loadTaggedInto (load [4,0,0,0, 0,0,0,0] .str) (load [4,0,0,0, 0,0,0,0] (.vecPod 4)) ([1,0,0,0], [104, 105], []) [4,0,0,0, 0,0,0,0] St.init
      = .ok ([0,0,0,0], [104, 105], []) s) ∧
    (∃ s, load [4,0,0,0, 0,0,0,0] (.tagged .str (.vecPod 4)) St.init = .ok ([0,0,0,0], [], []) s) := ⟨⟨_, rfl⟩, ⟨_, rfl⟩⟩

example : wf (.seq (.tagged .str (.vecPod 4))) [([1,0,0,0], [104, 105], []), ([0,0,0,0], [], []), ([2,0,0,0], [], [7,0,0,0])] = true
    ∧ wf (.seq (.tagged .str (.vecPod 4))) [([0,0,0,0], [104, 105], [])] = false := by decide +kernel

/-- a malformed set archive (elements 2, 1, 2 in that order) loads as the sorted, duplicate-free set {1, 2} -/
example : ∃ s, loadArchive (.set (.pod 1)) [8,0,0,0, 3,0,0,0,0,0,0,0, 1,0,0,0, 2, 1,0,0,0, 1, 1,0,0,0, 2] = .ok [[1], [2]] s :=
  ⟨_, rfl⟩

/-- the hypotheses of `json_law_from_C11` / `json_value_roundtrip` are met by `{"a":[1,"x",null]}` with the
executable binary64 conversions (`NumLaw` for the set `{1.0}`, `rt = id`: C11's `numLaw_one`) -/
example : @jsonRT (c11Codec C11.F64.ops) .json (.obj [([97], .arr [.num C11.Props.one, .str [120], .null])]) := by
  open C11 C11.Spec in
  refine json_law_from_C11 C11.F64.ops (fun x => x = C11.Props.one) id C11.Props.numLaw_one _
    (by simp [NoUndefined, Forall, ForallM, ForallL, DefinedNode])
    (by
      have u1 : Utf8 [97] := by simpa using Utf8.cons [97] [] (Utf8Char.u1 97 (by decide)) Utf8.nil
      have u2 : Utf8 [120] := by simpa using Utf8.cons [120] [] (Utf8Char.u1 120 (by decide)) Utf8.nil
      simp [AllStringsUtf8, Forall, ForallM, ForallL, StrNode, keys, u1, u2])
    (by simp [NumsFinite, Forall, ForallM, ForallL, FinNode])
    (by simp [KeysSorted, Forall, ForallM, ForallL, SortedNode, keys])
    (by decide +kernel)
    (by simp [mapNum, mapNumM, mapNumL])

/-- `wf` rejects a set sorted bytewise but not numerically -/
example : wf (.set (.pod 4)) [[0, 1, 0, 0], [1, 0, 0, 0]] = false := by decide +kernel

/-- the D1 witness `07 00 00 00 41 42 43 44` is rejected with "Invalid archive_format" after reading only the header -/
example : loadArchive .str [7, 0, 0, 0, 65, 66, 67, 68] = .err .size ⟨0, [(0, 4)]⟩ := by rfl

example : loadArchive .str [4, 0, 0, 0, 65, 66, 67, 68] = .ok [65, 66, 67, 68] ⟨8, [(4, 4), (0, 4)]⟩ := by rfl

example : loadArchive (.seq .str) [8, 0, 0, 0, 2, 0, 0, 0, 0, 0, 0, 0, 1, 0, 0, 0, 65, 1, 0]
    = .err .hdr ⟨17, [(16, 1), (12, 4), (4, 8), (0, 4)]⟩ := by rfl

end Cppcms.C19.Props
