import Cppcms.C19.Reader
/-! `operator<` of the model (`lt_strictWeak`, `lt_tricho`) and insertion into the ordered containers.  `std::map` /
`std::multimap` insertion is `std::set` / `std::multiset` insertion for the order on the keys (`mapInsert_eq`,
`mmapInsert_eq`), so the facts about the four containers are proved for sets and multisets. -/
namespace Cppcms.C19
open Cppcms Cppcms.C19.Spec

/-- what the ordered containers require of their `Compare` -/
structure StrictWeak {α : Type} (lt : α → α → Bool) : Prop where
  asymm : ∀ a b, lt a b = true → lt b a = false
  negTrans : ∀ a b c, lt a b = false → lt b c = false → lt a c = false

namespace StrictWeak
variable {α : Type} {lt : α → α → Bool} (h : StrictWeak lt)
include h

theorem lt_of_lt_of_not_lt {a b c : α} (hab : lt a b = true) (hcb : lt c b = false) : lt a c = true := by
  cases hac : lt a c with
  | true => rfl
  | false => have := h.negTrans a c b hac hcb; rw [hab] at this; cases this

theorem lt_of_not_lt_of_lt {a b c : α} (hba : lt b a = false) (hbc : lt b c = true) : lt a c = true := by
  cases hac : lt a c with
  | true => rfl
  | false => have := h.negTrans b a c hba hac; rw [hbc] at this; cases this

theorem trans {a b c : α} (hab : lt a b = true) (hbc : lt b c = true) : lt a c = true :=
  h.lt_of_lt_of_not_lt hab (h.asymm b c hbc)

theorem comap {β : Type} (f : β → α) : StrictWeak (fun a b => lt (f a) (f b)) :=
  ⟨fun a b => h.asymm (f a) (f b), fun a b c => h.negTrans (f a) (f b) (f c)⟩

end StrictWeak

theorem natLt_strictWeak {α : Type} (f : α → Nat) : StrictWeak (fun a b => decide (f a < f b)) := by
  constructor
  · intro a b h
    simp only [decide_eq_true_eq, decide_eq_false_iff_not] at h ⊢
    omega
  · intro a b c h1 h2
    simp only [decide_eq_false_iff_not] at h1 h2 ⊢
    omega

/-- one step `a < b || (!(b < a) && rest)` of a lexicographic comparison, over the truth values involved
(`ab` stands for `a < b`, `r…` for the rests) -/
theorem lexStep_asymm {ab ba r r' : Bool} (h1 : ab = true → ba = false) (hr : r = true → r' = false)
    (h : (ab || (!ba && r)) = true) : (ba || (!ab && r')) = false := by
  simp only [Bool.or_eq_true, Bool.and_eq_true, Bool.not_eq_true'] at h
  simp only [Bool.or_eq_false_iff, Bool.and_eq_false_iff, Bool.not_eq_false']
  rcases h with hab | ⟨hba, hrest⟩
  · exact ⟨h1 hab, Or.inl hab⟩
  · exact ⟨hba, Or.inr (hr hrest)⟩

theorem lexStep_negTrans {ab ba bc cb ac ca r1 r2 r3 : Bool}
    (h1 : ab = false → bc = false → ac = false) (h2 : bc = false → ca = false → ba = false)
    (h3 : ca = false → ab = false → cb = false) (hr : r1 = false → r2 = false → r3 = false)
    (hxy : (ab || (!ba && r1)) = false) (hyz : (bc || (!cb && r2)) = false) : (ac || (!ca && r3)) = false := by
  simp only [Bool.or_eq_false_iff, Bool.and_eq_false_iff, Bool.not_eq_false'] at hxy hyz ⊢
  refine ⟨h1 hxy.1 hyz.1, ?_⟩
  cases hca : ca with
  | true => exact Or.inl rfl
  | false =>
    -- then neither `b < a` nor `c < b`, so both comparisons were decided by their rests
    have hba := h2 hyz.1 hca
    have hcb := h3 hca hxy.1
    rw [hba] at hxy; rw [hcb] at hyz
    exact Or.inr (hr (hxy.2.resolve_left Bool.noConfusion) (hyz.2.resolve_left Bool.noConfusion))

theorem ltLex_strictWeak {α : Type} {lt : α → α → Bool} (h : StrictWeak lt) : StrictWeak (ltLex lt) := by
  constructor
  · intro x
    induction x with
    | nil => intro y _; cases y <;> rfl
    | cons a as ih =>
      intro y hxy
      cases y with
      | nil => cases hxy
      | cons c cs => exact lexStep_asymm (h.asymm a c) (ih cs) hxy
  · intro x
    induction x with
    | nil =>
      intro y z hxy hyz
      cases y with
      | nil => exact hyz
      | cons b bs => cases hxy
    | cons a as ih =>
      intro y z hxy hyz
      cases z with
      | nil => rfl
      | cons c cs =>
        cases y with
        | nil => cases hyz
        | cons b bs =>
          exact lexStep_negTrans (h.negTrans a b c) (h.negTrans b c a) (h.negTrans c a b) (ih bs cs) hxy hyz

/-- the order of `std::pair` -/
theorem pairLt_strictWeak {α β : Type} {la : α → α → Bool} {lb : β → β → Bool} (ha : StrictWeak la) (hb : StrictWeak lb) :
    StrictWeak (fun (x y : α × β) => la x.1 y.1 || (!la y.1 x.1 && lb x.2 y.2)) :=
  ⟨fun x y => lexStep_asymm (ha.asymm x.1 y.1) (hb.asymm x.2 y.2),
   fun x y z => lexStep_negTrans (ha.negTrans x.1 y.1 z.1) (ha.negTrans y.1 z.1 x.1) (ha.negTrans z.1 x.1 y.1)
     (hb.negTrans x.2 y.2 z.2)⟩

variable [JsonCodec] in
theorem lt_strictWeak : ∀ ty : Ty, StrictWeak (lt ty) := by
  intro ty
  induction ty with
  | pod n => exact natLt_strictWeak numVal
  | str => exact ltLex_strictWeak (natLt_strictWeak UInt8.toNat)
  | vecPod n => exact (ltLex_strictWeak (natLt_strictWeak numVal)).comap (podElems n)
  | seq t ih | set t ih | mset t ih => exact ltLex_strictWeak ih
  | arr t n ih => exact ltLex_strictWeak ih
  | map k v ihk ihv | mmap k v ihk ihv => exact ltLex_strictWeak (pairLt_strictWeak ihk ihv)
  | pair ta tb iha ihb => exact pairLt_strictWeak iha ihb
  | ptr t ih =>
    constructor
    · intro a b h
      cases a with
      | none => cases b <;> rfl
      | some x =>
        cases b with
        | none => cases h
        | some y => exact ih.asymm x y h
    · intro a b c h1 h2
      cases a with
      | none =>
        cases b with
        | none => exact h2
        | some y => cases h1
      | some x =>
        cases c with
        | none => rfl
        | some z =>
          cases b with
          | none => cases h2
          | some y => exact ih.negTrans x y z h1 h2
  | json => exact ⟨fun _ _ h => Bool.noConfusion h, fun _ _ _ _ _ => rfl⟩
  | tagged ta tb _ _ => exact ⟨fun _ _ h => Bool.noConfusion h, fun _ _ _ _ _ => rfl⟩

theorem lexStep_incomp {ab ba r r' : Bool} (h1 : (ab || (!ba && r)) = false) (h2 : (ba || (!ab && r')) = false) :
    ab = false ∧ ba = false ∧ r = false ∧ r' = false := by
  simp only [Bool.or_eq_false_iff, Bool.and_eq_false_iff, Bool.not_eq_false'] at h1 h2
  -- with both heads false, `!ba` and `!ab` are true, so the rests decide
  exact ⟨h1.1, h2.1, h1.2.resolve_left (h2.1 ▸ Bool.false_ne_true), h2.2.resolve_left (h1.1 ▸ Bool.false_ne_true)⟩

theorem ltLex_tricho {α : Type} {lt : α → α → Bool} {P : α → Prop}
    (helem : ∀ a b, P a → P b → lt a b = false → lt b a = false → a = b) :
    ∀ x y : List α, (∀ a ∈ x, P a) → (∀ b ∈ y, P b) → ltLex lt x y = false → ltLex lt y x = false → x = y := by
  intro x
  induction x with
  | nil =>
    intro y _ _ h1 _
    cases y with
    | nil => rfl
    | cons b bs => cases h1
  | cons a as ih =>
    intro y hx hy h1 h2
    cases y with
    | nil => cases h2
    | cons b bs =>
      rw [List.forall_mem_cons] at hx hy
      obtain ⟨e1, e2, r1, r2⟩ := lexStep_incomp h1 h2
      rw [helem a b hx.1 hy.1 e1 e2, ih bs hx.2 hy.2 r1 r2]

theorem ltByte_tricho (a b : UInt8) (h1 : ltByte a b = false) (h2 : ltByte b a = false) : a = b := by
  simp only [ltByte, decide_eq_false_iff_not] at h1 h2
  exact UInt8.toNat_inj.mp (by omega)

theorem ltNum_tricho (a b : Bytes) (hl : a.length = b.length) (h1 : ltNum a b = false) (h2 : ltNum b a = false) : a = b := by
  simp only [ltNum, decide_eq_false_iff_not] at h1 h2
  rw [← numBytes_numVal a, ← numBytes_numVal b, hl, show numVal a = numVal b by omega]

theorem chunks_spec (n : Nat) : ∀ (fuel : Nat) (b : Bytes), b.length ≤ fuel → n ∣ b.length →
    (∀ c ∈ chunks n fuel b, c.length = n) ∧ (chunks n fuel b).flatten = b := by
  intro fuel
  induction fuel with
  | zero =>
    intro b hf _
    rw [List.eq_nil_of_length_eq_zero (Nat.le_zero.mp hf)]
    exact ⟨fun _ h => (nomatch h), rfl⟩
  | succ f ih =>
    intro b hf hd
    cases b with
    | nil => exact ⟨fun _ h => (nomatch h), rfl⟩
    | cons x xs =>
      have hn : n ≤ (x :: xs).length := Nat.le_of_dvd (Nat.succ_pos _) hd
      have hn0 : 0 < n := Nat.pos_of_dvd_of_pos hd (Nat.succ_pos _)
      obtain ⟨h1, h2⟩ := ih ((x :: xs).drop n)
        (by rw [List.length_drop]; exact Nat.le_of_lt_succ (Nat.lt_of_lt_of_le (Nat.sub_lt (Nat.succ_pos _) hn0) hf))
        (by rw [List.length_drop]; exact Nat.dvd_sub hd (Nat.dvd_refl n))
      show (∀ c ∈ (x :: xs).take n :: chunks n f ((x :: xs).drop n), c.length = n) ∧
        ((x :: xs).take n :: chunks n f ((x :: xs).drop n)).flatten = x :: xs
      rw [List.flatten_cons, h2, List.take_append_drop, List.forall_mem_cons, List.length_take, Nat.min_eq_left hn]
      exact ⟨⟨rfl, h1⟩, rfl⟩

section
variable [JsonCodec]

/-- two well-formed values of a key type neither of which is smaller are equal -/
def Tricho (ty : Ty) : Prop :=
  keyable ty = true → ∀ (a b : Val ty), wf ty a = true → wf ty b = true → lt ty a b = false → lt ty b a = false → a = b

/-- also the step for the entries of maps -/
theorem tricho_pair {ta tb : Ty} (iha : Tricho ta) (ihb : Tricho tb) : Tricho (.pair ta tb) := by
  intro hk a b ha hb h1 h2
  have hk := Bool.and_eq_true_iff.mp hk
  have ha := Bool.and_eq_true_iff.mp ha
  have hb := Bool.and_eq_true_iff.mp hb
  obtain ⟨e1, e2, r1, r2⟩ := lexStep_incomp h1 h2
  exact Prod.ext (iha hk.1 a.1 b.1 ha.1 hb.1 e1 e2) (ihb hk.2 a.2 b.2 ha.2 hb.2 r1 r2)

theorem tricho_list {t : Ty} (ih : Tricho t) (hk : keyable t = true) {a b : List (Val t)}
    (ha : a.all (wf t) = true) (hb : b.all (wf t) = true) :
    ltLex (lt t) a b = false → ltLex (lt t) b a = false → a = b :=
  ltLex_tricho (ih hk) a b (List.all_eq_true.mp ha) (List.all_eq_true.mp hb)

theorem lt_tricho : ∀ ty : Ty, Tricho ty := by
  intro ty
  induction ty with
  | pod n =>
    intro _ (a : Bytes) (b : Bytes) ha hb
    exact ltNum_tricho a b ((beq_iff_eq.mp ha).trans (beq_iff_eq.mp hb).symm)
  | str =>
    intro _ a b _ _
    exact ltLex_tricho (P := fun _ => True) (fun a b _ _ => ltByte_tricho a b) a b (fun _ _ => trivial) (fun _ _ => trivial)
  | vecPod n =>
    intro _ (a : Bytes) (b : Bytes) ha hb h1 h2
    obtain ⟨la, fa⟩ := chunks_spec n a.length a (Nat.le_refl _) (Nat.dvd_of_mod_eq_zero (beq_iff_eq.mp ha))
    obtain ⟨lb, fb⟩ := chunks_spec n b.length b (Nat.le_refl _) (Nat.dvd_of_mod_eq_zero (beq_iff_eq.mp hb))
    rw [← fa, ← fb]
    exact congrArg List.flatten (ltLex_tricho (P := fun c => c.length = n)
      (fun x y hx hy => ltNum_tricho x y (hx.trans hy.symm)) _ _ la lb h1 h2)
  | seq t ih => exact fun hk _ _ ha hb => tricho_list ih hk ha hb
  | set t ih | mset t ih =>
    exact fun hk _ _ ha hb => tricho_list ih hk (Bool.and_eq_true_iff.mp ha).1 (Bool.and_eq_true_iff.mp hb).1
  | arr t n ih =>
    exact fun hk _ _ ha hb => tricho_list ih hk (Bool.and_eq_true_iff.mp ha).2 (Bool.and_eq_true_iff.mp hb).2
  | map k w ihk ihw | mmap k w ihk ihw =>
    exact fun hk _ _ ha hb =>
      tricho_list (tricho_pair ihk ihw) hk (Bool.and_eq_true_iff.mp ha).1 (Bool.and_eq_true_iff.mp hb).1
  | pair ta tb iha ihb => exact tricho_pair iha ihb
  | ptr t ih => exact fun hk => nomatch hk
  | json => exact fun hk => nomatch hk
  | tagged ta tb _ _ => exact fun hk => nomatch hk

end

/-- neither is smaller: the containers' notion of "same key" -/
def eqv {κ : Type} (lt : κ → κ → Bool) (a b : κ) : Bool := !lt a b && !lt b a

/-- `p` is one class of mutually incomparable elements; used for "the entries with key `k`": `eqv lt k`, for maps
`fun e => eqv lt k e.1` -/
structure KeyClass {α : Type} (lt : α → α → Bool) (p : α → Bool) : Prop where
  incomp : ∀ x y, p x = true → p y = true → lt x y = false
  congr : ∀ x y, lt x y = false → lt y x = false → p x = p y

theorem StrictWeak.keyClass {α : Type} {lt : α → α → Bool} (h : StrictWeak lt) (k : α) : KeyClass lt (eqv lt k) := by
  constructor
  · intro x y hx hy
    simp only [eqv, Bool.and_eq_true, Bool.not_eq_true'] at hx hy
    exact h.negTrans x k y hx.2 hy.1
  · intro x y hxy hyx
    have e1 : lt k x = lt k y :=
      Bool.eq_iff_iff.mpr ⟨fun hk => h.lt_of_lt_of_not_lt hk hyx, fun hk => h.lt_of_lt_of_not_lt hk hxy⟩
    have e2 : lt x k = lt y k :=
      Bool.eq_iff_iff.mpr ⟨h.lt_of_not_lt_of_lt hxy, h.lt_of_not_lt_of_lt hyx⟩
    rw [eqv, eqv, e1, e2]

theorem KeyClass.comap {α β : Type} {lt : α → α → Bool} {p : α → Bool} (hp : KeyClass lt p) (f : β → α) :
    KeyClass (fun a b => lt (f a) (f b)) (fun e => p (f e)) :=
  ⟨fun x y => hp.incomp (f x) (f y), fun x y => hp.congr (f x) (f y)⟩

theorem KeyClass.filter_eq_nil {α : Type} {lt : α → α → Bool} {p : α → Bool} (hp : KeyClass lt p) {x : α}
    (hpx : p x = true) {l : List α} (hl : ∀ z ∈ l, lt x z = true) : l.filter p = [] :=
  List.filter_eq_nil_iff.mpr fun z hz hpz => by
    have := hl z hz
    rw [hp.incomp x z hpx hpz] at this
    cases this

theorem pairwiseB_iff {α : Type} {r : α → α → Bool} {l : List α} :
    pairwiseB r l = true ↔ l.Pairwise (fun a b => r a b = true) := by
  induction l with
  | nil => simp [pairwiseB]
  | cons x xs ih => simp [pairwiseB, ih, List.all_eq_true]

theorem pairwiseB_not_iff {α : Type} {r : α → α → Bool} {l : List α} :
    pairwiseB (fun x y => !r y x) l = true ↔ l.Pairwise (fun a b => r b a = false) := by
  simp only [pairwiseB_iff, Bool.not_eq_true']

theorem snoc_induction {α : Type} {P : List α → Prop} (nil : P []) (snoc : ∀ l x, P l → P (l ++ [x])) : ∀ l, P l := by
  have : ∀ r : List α, P r.reverse := by
    intro r
    induction r with
    | nil => exact nil
    | cons x r ih => rw [List.reverse_cons]; exact snoc _ x ih
  intro l
  rw [← List.reverse_reverse l]
  exact this _

section Set
variable {α : Type} {lt : α → α → Bool}

theorem mem_setInsert {x z : α} : ∀ {l : List α}, z ∈ setInsert lt x l → z = x ∨ z ∈ l
  | [], hz => Or.inl (List.mem_singleton.mp hz)
  | y :: ys, hz => by
    unfold setInsert at hz
    by_cases hxy : lt x y = true
    · rw [if_pos hxy] at hz
      exact List.mem_cons.mp hz
    rw [if_neg hxy] at hz
    by_cases hyx : lt y x = true
    · rw [if_pos hyx] at hz
      rcases List.mem_cons.mp hz with rfl | hz
      · exact Or.inr List.mem_cons_self
      · exact (mem_setInsert hz).imp_right (List.mem_cons_of_mem _)
    · rw [if_neg hyx] at hz
      exact Or.inr hz

theorem setInsert_sorted (h : StrictWeak lt) (x : α) : ∀ {l : List α}, l.Pairwise (fun a b => lt a b = true) →
    (setInsert lt x l).Pairwise (fun a b => lt a b = true)
  | [], _ => List.pairwise_singleton _ _
  | y :: ys, hl => by
    have hl' := List.pairwise_cons.mp hl
    unfold setInsert
    by_cases hxy : lt x y = true
    · rw [if_pos hxy]
      exact List.pairwise_cons.mpr ⟨List.forall_mem_cons.mpr ⟨hxy, fun z hz => h.trans hxy (hl'.1 z hz)⟩, hl⟩
    rw [if_neg hxy]
    by_cases hyx : lt y x = true
    · rw [if_pos hyx]
      exact List.pairwise_cons.mpr
        ⟨fun z hz => (mem_setInsert hz).elim (fun e => e ▸ hyx) (hl'.1 z), setInsert_sorted h x hl'.2⟩
    · rw [if_neg hyx]
      exact hl

theorem setInsert_append (h : StrictWeak lt) {x : α} : ∀ {l : List α}, (∀ y ∈ l, lt y x = true) → setInsert lt x l = l ++ [x]
  | [], _ => rfl
  | y :: ys, hl => by
    rw [List.forall_mem_cons] at hl
    rw [setInsert, if_neg (by rw [h.asymm y x hl.1]; exact Bool.noConfusion), if_pos hl.1, setInsert_append h hl.2]
    rfl

theorem if_nil_self {α : Type} (l : List α) : (if l = [] then [] else l) = l := by
  split
  · rename_i h; exact h.symm
  · rfl

/-- the class `p` after inserting `x`: `x` if the class was empty and `x` belongs to it, else what it was -/
theorem setInsert_filter (h : StrictWeak lt) {p : α → Bool} (hp : KeyClass lt p) (x : α) :
    ∀ {l : List α}, l.Pairwise (fun a b => lt a b = true) →
      (setInsert lt x l).filter p = if l.filter p = [] then (if p x = true then [x] else []) else l.filter p
  | [], _ => by rw [setInsert, List.filter_nil, if_pos rfl, List.filter_cons, List.filter_nil]
  | y :: ys, hl => by
    have hl' := List.pairwise_cons.mp hl
    unfold setInsert
    by_cases hxy : lt x y = true
    · rw [if_pos hxy, List.filter_cons]
      by_cases hpx : p x = true
      · rw [if_pos hpx, if_pos hpx,
          hp.filter_eq_nil hpx (List.forall_mem_cons.mpr ⟨hxy, fun z hz => h.trans hxy (hl'.1 z hz)⟩), if_pos rfl]
      · rw [if_neg hpx, if_neg hpx, if_nil_self]
    rw [if_neg hxy]
    by_cases hyx : lt y x = true
    · rw [if_pos hyx]
      by_cases hpy : p y = true
      · -- `x` is above `y`, hence outside the class of `y`
        have hpx : ¬ p x = true := fun hpx => by rw [hp.incomp y x hpy hpx] at hyx; cases hyx
        rw [List.filter_cons_of_pos hpy, List.filter_cons_of_pos hpy, setInsert_filter h hp x hl'.2, if_neg hpx,
          if_nil_self, if_neg (List.cons_ne_nil _ _)]
      · rw [List.filter_cons_of_neg hpy, List.filter_cons_of_neg hpy, setInsert_filter h hp x hl'.2]
    · -- `x` is equivalent to `y` and is dropped
      rw [if_neg hyx, hp.congr x y (Bool.not_eq_true _ ▸ hxy) (Bool.not_eq_true _ ▸ hyx)]
      by_cases hpy : p y = true
      · rw [List.filter_cons_of_pos hpy, if_neg (List.cons_ne_nil _ _)]
      · rw [List.filter_cons_of_neg hpy, if_neg hpy, if_nil_self]

theorem setOfList_snoc (l : List α) (x : α) : setOfList lt (l ++ [x]) = setInsert lt x (setOfList lt l) := by
  simp [setOfList, List.foldl_append]

theorem setOfList_sorted (h : StrictWeak lt) (l : List α) : (setOfList lt l).Pairwise (fun a b => lt a b = true) := by
  induction l using snoc_induction with
  | nil => exact List.Pairwise.nil
  | snoc l x ih => rw [setOfList_snoc]; exact setInsert_sorted h x ih

theorem mem_setOfList {z : α} {l : List α} : z ∈ setOfList lt l → z ∈ l := by
  induction l using snoc_induction with
  | nil => exact id
  | snoc l x ih =>
    rw [setOfList_snoc, List.mem_append, List.mem_singleton]
    exact fun hz => (mem_setInsert hz).symm.imp_left ih

theorem setOfList_of_sorted (h : StrictWeak lt) {l : List α} : l.Pairwise (fun a b => lt a b = true) → setOfList lt l = l := by
  induction l using snoc_induction with
  | nil => intro _; rfl
  | snoc l x ih =>
    intro hl
    rw [List.pairwise_append] at hl
    rw [setOfList_snoc, ih hl.1, setInsert_append h (fun y hy => hl.2.2 y hy x List.mem_cons_self)]

/-- of the entries of one key class a `std::set` keeps the first one loaded (`insert` does not overwrite) -/
theorem setOfList_first (h : StrictWeak lt) {p : α → Bool} (hp : KeyClass lt p) (l : List α) :
    (setOfList lt l).filter p = (l.filter p).take 1 := by
  induction l using snoc_induction with
  | nil => rfl
  | snoc l x ih =>
    rw [setOfList_snoc, setInsert_filter h hp x (setOfList_sorted h l), ih, List.filter_append]
    cases l.filter p with
    | nil => simp [List.filter_cons]; split <;> rfl
    | cons a as => simp

end Set

section Multiset
variable {α : Type} {lt : α → α → Bool}

theorem msetInsert_perm (x : α) : ∀ l : List α, (msetInsert lt x l).Perm (x :: l)
  | [] => .refl _
  | y :: ys => by
    unfold msetInsert
    by_cases hxy : lt x y = true
    · rw [if_pos hxy]
    · rw [if_neg hxy]
      exact ((msetInsert_perm x ys).cons y).trans (.swap x y ys)

theorem msetInsert_sorted (h : StrictWeak lt) (x : α) : ∀ {l : List α}, l.Pairwise (fun a b => lt b a = false) →
    (msetInsert lt x l).Pairwise (fun a b => lt b a = false)
  | [], _ => List.pairwise_singleton _ _
  | y :: ys, hl => by
    have hl' := List.pairwise_cons.mp hl
    unfold msetInsert
    by_cases hxy : lt x y = true
    · have hyx := h.asymm x y hxy
      rw [if_pos hxy]
      exact List.pairwise_cons.mpr ⟨List.forall_mem_cons.mpr ⟨hyx, fun z hz => h.negTrans z y x (hl'.1 z hz) hyx⟩, hl⟩
    · rw [if_neg hxy]
      refine List.pairwise_cons.mpr ⟨fun z hz => ?_, msetInsert_sorted h x hl'.2⟩
      rcases List.mem_cons.mp ((msetInsert_perm x ys).mem_iff.mp hz) with rfl | hz
      · exact Bool.not_eq_true _ ▸ hxy
      · exact hl'.1 z hz

theorem msetInsert_append {x : α} : ∀ {l : List α}, (∀ y ∈ l, lt x y = false) → msetInsert lt x l = l ++ [x]
  | [], _ => rfl
  | y :: ys, hl => by
    rw [List.forall_mem_cons] at hl
    rw [msetInsert, if_neg (by rw [hl.1]; exact Bool.noConfusion), msetInsert_append hl.2]
    rfl

theorem msetInsert_filter (h : StrictWeak lt) {p : α → Bool} (hp : KeyClass lt p) (x : α) :
    ∀ {l : List α}, l.Pairwise (fun a b => lt b a = false) →
      (msetInsert lt x l).filter p = l.filter p ++ (if p x = true then [x] else [])
  | [], _ => by rw [msetInsert, List.filter_cons, List.filter_nil, List.nil_append]
  | y :: ys, hl => by
    have hl' := List.pairwise_cons.mp hl
    unfold msetInsert
    by_cases hxy : lt x y = true
    · rw [if_pos hxy, List.filter_cons]
      by_cases hpx : p x = true
      · rw [if_pos hpx, if_pos hpx, hp.filter_eq_nil hpx
          (List.forall_mem_cons.mpr ⟨hxy, fun z hz => h.lt_of_lt_of_not_lt hxy (hl'.1 z hz)⟩)]
        rfl
      · rw [if_neg hpx, if_neg hpx, List.append_nil]
    · rw [if_neg hxy]
      by_cases hpy : p y = true
      · rw [List.filter_cons_of_pos hpy, List.filter_cons_of_pos hpy, msetInsert_filter h hp x hl'.2]
        rfl
      · rw [List.filter_cons_of_neg hpy, List.filter_cons_of_neg hpy, msetInsert_filter h hp x hl'.2]

theorem msetOfList_snoc (l : List α) (x : α) : msetOfList lt (l ++ [x]) = msetInsert lt x (msetOfList lt l) := by
  simp [msetOfList, List.foldl_append]

theorem msetOfList_perm (l : List α) : (msetOfList lt l).Perm l := by
  induction l using snoc_induction with
  | nil => exact .refl _
  | snoc l x ih =>
    rw [msetOfList_snoc]
    exact ((msetInsert_perm x _).trans (ih.cons x)).trans (List.perm_append_singleton x l).symm

theorem msetOfList_sorted (h : StrictWeak lt) (l : List α) : (msetOfList lt l).Pairwise (fun a b => lt b a = false) := by
  induction l using snoc_induction with
  | nil => exact List.Pairwise.nil
  | snoc l x ih => rw [msetOfList_snoc]; exact msetInsert_sorted h x ih

theorem msetOfList_of_sorted {l : List α} : l.Pairwise (fun a b => lt b a = false) → msetOfList lt l = l := by
  induction l using snoc_induction with
  | nil => intro _; rfl
  | snoc l x ih =>
    intro hl
    rw [List.pairwise_append] at hl
    rw [msetOfList_snoc, ih hl.1, msetInsert_append (fun y hy => hl.2.2 y hy x List.mem_cons_self)]

/-- the entries of one key class keep their load order in a `std::multiset` -/
theorem msetOfList_stable (h : StrictWeak lt) {p : α → Bool} (hp : KeyClass lt p) (l : List α) :
    (msetOfList lt l).filter p = l.filter p := by
  induction l using snoc_induction with
  | nil => rfl
  | snoc l x ih =>
    rw [msetOfList_snoc, msetInsert_filter h hp x (msetOfList_sorted h l), ih, List.filter_append, List.filter_cons]
    rfl

end Multiset

section Map
variable {α β : Type} (lt : α → α → Bool)

theorem mapInsert_eq (x : α × β) (l : List (α × β)) : mapInsert lt x l = setInsert (fun a b => lt a.1 b.1) x l := by
  induction l with
  | nil => rfl
  | cons y ys ih => rw [mapInsert, setInsert, ih]

theorem mapOfList_eq (l : List (α × β)) : mapOfList lt l = setOfList (fun a b => lt a.1 b.1) l := by
  simp only [mapOfList, setOfList, mapInsert_eq]

theorem mmapInsert_eq (x : α × β) (l : List (α × β)) : mmapInsert lt x l = msetInsert (fun a b => lt a.1 b.1) x l := by
  induction l with
  | nil => rfl
  | cons y ys ih => rw [mmapInsert, msetInsert, ih]

theorem mmapOfList_eq (l : List (α × β)) : mmapOfList lt l = msetOfList (fun a b => lt a.1 b.1) l := by
  simp only [mmapOfList, msetOfList, mmapInsert_eq]

end Map

end Cppcms.C19
