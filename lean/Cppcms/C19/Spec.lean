import Cppcms.Common
import Cppcms.C19.Model
/-!
# C19 specification vocabulary

Predicates the property theorems are stated with (and that the judge evaluates on outputs of the
real code).  They use the model only for its vocabulary (`Ty`, `Val`, `lt`, `St`, `save`).
-/
namespace Cppcms.C19.Spec
open Cppcms Cppcms.C19

variable [JsonCodec]

/-- every recorded read `(offset,length)` lies inside a buffer of `n` bytes -/
def ReadsWithin (n : Nat) (reads : List (Nat × Nat)) : Prop :=
  ∀ iv ∈ reads, iv.1 + iv.2 ≤ n

/-- `r x y` for every `x` before `y` -/
def pairwiseB {α : Type} (r : α → α → Bool) : List α → Bool
  | [] => true
  | x :: xs => xs.all (r x) && pairwiseB r xs

/-- `n` zero bytes -/
def bytesAreZero (n : Nat) (v : Bytes) : Bool := v == List.replicate n 0

/-- recogniser of the default-constructed object -/
def isDflt : (ty : Ty) → Val ty → Bool
  | .pod n, v => bytesAreZero n v
  | .str, v => v.isEmpty
  | .vecPod _, v => v.isEmpty
  | .seq _, v => v.isEmpty
  | .set _, v => v.isEmpty
  | .map _ _, v => v.isEmpty
  | .pair a b, v => isDflt a v.1 && isDflt b v.2
  | .ptr _, v => v.isNone
  | .mset _, v => v.isEmpty
  | .mmap _ _, v => v.isEmpty
  | .arr t n, v => v.length == n && v.all (isDflt t)
  | .json, v => JsonCodec.isDflt v
  | .tagged a b, v => bytesAreZero 4 v.1 && isDflt a v.2.1 && isDflt b v.2.2

/-- well-formed values: PODs have their size, POD vectors a whole number of elements, sets and map
keys are strictly increasing, multisets and multimap keys non-decreasing (what the containers can hold),
arrays have their length; a tagged user class holds default values in the members its kind does not select (those
members are not serialised, so anything else would be lost by the class's own `serialize`) -/
def wf : (ty : Ty) → Val ty → Bool
  | .pod n, v => v.length == n
  | .str, _ => true
  | .vecPod n, v => v.length % n == 0
  | .seq t, v => v.all (wf t)
  | .set t, v => v.all (wf t) && pairwiseB (lt t) v
  | .map k w, v => v.all (fun x => wf k x.1 && wf w x.2) && pairwiseB (fun x y => lt k x.1 y.1) v
  | .pair a b, v => wf a v.1 && wf b v.2
  | .ptr t, v =>
    match v with
    | none => true
    | some x => wf t x
  | .mset t, v => v.all (wf t) && pairwiseB (fun x y => !lt t y x) v
  | .mmap k w, v => v.all (fun x => wf k x.1 && wf w x.2) && pairwiseB (fun x y => !lt k y.1 x.1) v
  | .arr t n, v => v.length == n && v.all (wf t)
  | .json, _ => true
  | .tagged a b, v =>
    v.1.length == 4 &&
      (if tagSel v.1 == 1 then wf a v.2.1 && isDflt b v.2.2
       else if tagSel v.1 == 2 then isDflt a v.2.1 && wf b v.2.2
       else isDflt a v.2.1 && isDflt b v.2.2)

/-- the guard under which `write_chunk`'s `uint32_t size = len` and the `size_t` element counts do
not truncate: every chunk payload is shorter than 2^32 bytes, every count below 2^64 -/
def sizesFit : (ty : Ty) → Val ty → Bool
  | .pod _, v => decide (v.length < 2 ^ 32)
  | .str, v => decide (v.length < 2 ^ 32)
  | .vecPod _, v => decide (v.length < 2 ^ 32)
  | .seq t, v => decide (v.length < 2 ^ 64) && v.all (sizesFit t)
  | .set t, v => decide (v.length < 2 ^ 64) && v.all (sizesFit t)
  | .map k w, v => decide (v.length < 2 ^ 64) && v.all (fun x => sizesFit k x.1 && sizesFit w x.2)
  | .pair a b, v => sizesFit a v.1 && sizesFit b v.2
  | .ptr t, v =>
    match v with
    | none => true
    | some x => sizesFit t x
  | .mset t, v => decide (v.length < 2 ^ 64) && v.all (sizesFit t)
  | .mmap k w, v => decide (v.length < 2 ^ 64) && v.all (fun x => sizesFit k x.1 && sizesFit w x.2)
  | .arr t _, v => v.all (sizesFit t)
  | .json, v =>
    match JsonCodec.write v with
    | some text => decide (text.length < 2 ^ 32)
    | none => false
  | .tagged a b, v => if tagSel v.1 == 1 then sizesFit a v.2.1 else if tagSel v.1 == 2 then sizesFit b v.2.2 else true

def allP {α : Type} (P : α → Prop) (l : List α) : Prop := ∀ x ∈ l, P x
def optP {α : Type} (P : α → Prop) (o : Option α) : Prop := ∀ x, o = some x → P x

/-- the law of the external JSON codec that the round trip of a value needs: every `json::value` inside it can
be written, and reading the written text gives the same value back (C11's write/parse round trip) -/
def jsonRT : (ty : Ty) → Val ty → Prop
  | .pod _, _ => True
  | .str, _ => True
  | .vecPod _, _ => True
  | .seq t, v => allP (jsonRT t) v
  | .set t, v => allP (jsonRT t) v
  | .map k w, v => allP (fun x => jsonRT k x.1 ∧ jsonRT w x.2) v
  | .pair a b, v => jsonRT a v.1 ∧ jsonRT b v.2
  | .ptr t, v => optP (jsonRT t) v
  | .mset t, v => allP (jsonRT t) v
  | .mmap k w, v => allP (fun x => jsonRT k x.1 ∧ jsonRT w x.2) v
  | .arr t _, v => allP (jsonRT t) v
  | .json, v => ∃ text, JsonCodec.write v = some text ∧ JsonCodec.read text = some v
  | .tagged a b, v => (tagSel v.1 = 1 → jsonRT a v.2.1) ∧ (tagSel v.1 = 2 → jsonRT b v.2.2)

/-- types with a value `operator<` in C++ (usable as keys of the ordered containers): everything except smart
pointers (they compare addresses), `json::value` (no `operator<`) and the user classes `tagged` (whatever `operator<` they
define is theirs) -/
def keyable : Ty → Bool
  | .pod _ => true
  | .str => true
  | .vecPod _ => true
  | .seq t => keyable t
  | .set t => keyable t
  | .map k w => keyable k && keyable w
  | .pair a b => keyable a && keyable b
  | .ptr _ => false
  | .mset t => keyable t
  | .mmap k w => keyable k && keyable w
  | .arr t _ => keyable t
  | .json => false
  | .tagged _ _ => false

/-- `Steps ld s l s'`: starting in state `s`, the elements of `l` are produced one after the other by the *same*
state-only function `ld` (each from the state the previous one left), ending in `s'`: no element's result depends
on the value of another element. -/
inductive Steps {α : Type} (ld : St → Res α) : St → List α → St → Prop
  | nil (s : St) : Steps ld s [] s
  | cons (s s1 s2 : St) (a : α) (as : List α) : ld s = .ok a s1 → Steps ld s1 as s2 → Steps ld s (a :: as) s2

/-- types whose archives are canonical (no set/map re-ordering, no pointer flag): a successful load
must have consumed exactly `save` of the value it returned -/
def flat : Ty → Bool
  | .pod _ => true
  | .str => true
  | .vecPod _ => true
  | .seq t => flat t
  | .set _ => false
  | .map _ _ => false
  | .pair a b => flat a && flat b
  | .ptr _ => false
  | .mset _ => false
  | .mmap _ _ => false
  | .arr t _ => flat t
  | .json => false
  | .tagged a b => flat a && flat b

/-- Judge for one successful load of the real code: archive `b`, returned value `v`, final `ptr_ = p`.
The cursor stayed inside the archive, the value is one the C++ type can hold, and for canonical
types the consumed prefix is exactly the serialization of the value. -/
def loadOutputOk (ty : Ty) (b : Bytes) (v : Val ty) (p : Nat) : Bool :=
  decide (p ≤ b.length) && wf ty v && (!flat ty || save ty v == b.take p)

end Cppcms.C19.Spec
