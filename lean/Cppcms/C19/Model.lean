import Cppcms.Common
import Cppcms.C19.Gen
/-!
# C19 model: `cppcms::archive` and the `archive_traits` of `cppcms/archive_traits.h`

* `archive` in load mode = the immutable buffer `b : Bytes` plus a state `St` (`ptr_` and the list of
  index intervals `(offset, length)` that the code has read from `buffer_.c_str()`).  The conditions,
  offsets and `ptr_` updates of `eof`, `next_chunk_size`, `read_chunk`, `read_chunk_as_string` come from
  `Gen.lean` (regenerated from `src/archive.cpp` on every run, `size_t` arithmetic mod 2^64); the order
  of the statements is transcribed by hand and tied by the correspondence run.
* `write_chunk` = `chunk` (length truncated to `uint32_t`; byte order and `sizeof(size_t)` of the target come from the
  compiler's macros via `Gen`).
* A type universe `Ty` with values `Val ty`, and generic `save` / `load` following `archive_traits`:
  arithmetic types (`pod n`: `n` raw bytes), `std::string`, `std::vector<POD>` (`vecPod n`), sequence
  containers `std::vector<T>` / `std::list<T>` (`seq`), `std::set` (`set`), `std::map` (`map`), `std::pair`
  and two-member serializable classes (`pair`), smart pointers (`ptr`), `std::multiset` (`mset`), `std::multimap` (`mmap`),
  arrays `T[n]` of non-arithmetic `T` (`arr`), `cppcms::json::value` (`json`), user classes with optional members (`tagged`).
A read never "fails" in the model: `slice` returns what is inside the buffer.  Memory safety is the
*theorem* that every recorded interval lies inside `[0, b.length)` (`Props.load_safe`).
-/
namespace Cppcms.C19
open Cppcms

/-- `cppcms::json::value` and its text form, as far as the archive is concerned: external to this model
(property C11).  `write` = `value::save(std::ostream&, compact)` (`none`: it throws `bad_value_cast`, e.g. on an
undefined member), `read` = `value::load(std::istream&, full = true)` into a value (`none`: it returns false).
The driver instantiates it with C11's executable parser and writer; the theorems are stated for any codec. -/
class JsonCodec where
  J : Type
  write : J → Option Bytes
  read : Bytes → Option J
  /-- the default-constructed `json::value` (undefined), and its recogniser -/
  dflt : J
  isDflt : J → Bool
  isDflt_eq : ∀ x, isDflt x = true → x = dflt
  isDflt_dflt : isDflt dflt = true

variable [JsonCodec]

/-! ## bytes and little-endian numbers -/

/-- little-endian value of a byte string -/
def leNat : Bytes → Nat
  | [] => 0
  | c :: rest => c.toNat + 256 * leNat rest

/-- the `k` low bytes of `n`, little endian -/
def leBytes : Nat → Nat → Bytes
  | 0, _ => []
  | k + 1, n => UInt8.ofNat (n % 256) :: leBytes k (n / 256)

/-- `len` bytes of `b` starting at `off` (what a `memcpy` from `buffer_.c_str()+off` delivers, as far
as the buffer goes) -/
def slice (b : Bytes) (off len : Nat) : Bytes := (b.drop off).take len

/-- the object representation of an unsigned integer of `k` bytes (`memcpy(&x,…)`), byte order of the target -/
def numBytes (k n : Nat) : Bytes := if Gen.littleEndian then leBytes k n else (leBytes k n).reverse

/-- the unsigned integer whose object representation is `b` -/
def numVal (b : Bytes) : Nat := if Gen.littleEndian then leNat b else leNat b.reverse

/-- `sizeof(size_t)` on the target -/
def sizeofSizeT : Nat := Gen.sizeofSizeT

/-! ## writing -/

/-- `archive::write_chunk(begin,len)`: `uint32_t size = len` (truncating), 4 bytes of it, then the data -/
def chunk (data : Bytes) : Bytes :=
  numBytes Gen.wrHdrLen (data.length % 2 ^ Gen.wrSizeBits) ++ data

/-- `archive_traits<size_t>::save(n,a)` -/
def saveCount (n : Nat) : Bytes := chunk (numBytes sizeofSizeT n)

/-! ## the reader -/

inductive Err
  | eof      -- "At end of archive"
  | hdr      -- "Invalid archive format"   (fewer than 4 bytes left)
  | size     -- "Invalid archive_format"   (length rejected)
  | len      -- "Invalid block length"     (read_chunk: next != len)
  | json     -- "Invalid json"             (archive_traits<json::value>::load: value::load returned false)
  deriving DecidableEq, Repr

structure St where
  ptr : Nat
  reads : List (Nat × Nat)      -- (offset, length), newest first
  deriving Repr

inductive Res (α : Type)
  | ok (a : α) (s : St)
  | err (e : Err) (s : St)

def Res.st {α} : Res α → St
  | .ok _ s => s
  | .err _ s => s

/-- sequencing: an exception ends the load -/
def Res.bind {α β} (r : Res α) (f : α → St → Res β) : Res β :=
  match r with
  | .err e s => .err e s
  | .ok a s => f a s

def Res.map {α β} (f : α → β) (r : Res α) : Res β :=
  match r with
  | .err e s => .err e s
  | .ok a s => .ok (f a) s

def St.read (s : St) (off len : Nat) : St := { s with reads := (off, len) :: s.reads }

/-- `size_t archive::next_chunk_size()` -/
def nextChunkSize (b : Bytes) (s : St) : Res Nat :=
  if Gen.eofCond s.ptr b.length then .err .eof s
  else if Gen.hdrShort s.ptr b.length then .err .hdr s
  else
    let s1 := s.read (Gen.hdrReadOff s.ptr) Gen.hdrReadLen
    let size := numVal (slice b (Gen.hdrReadOff s.ptr) Gen.hdrReadLen) % 2 ^ Gen.rdSizeBits
    if Gen.sizeBad s.ptr size b.length then .err .size s1 else .ok size s1

/-- `void archive::read_chunk(void *begin,size_t len)`; result = the bytes copied to `begin` -/
def readChunk (b : Bytes) (len : Nat) (s : St) : Res Bytes :=
  (nextChunkSize b s).bind fun next s1 =>
    if Gen.rcMismatch next len then .err .len s1
    else
      let p := Gen.rcSkip s1.ptr
      let s2 := s1.read (Gen.rcReadOff p) (Gen.rcReadLen len)
      .ok (slice b (Gen.rcReadOff p) (Gen.rcReadLen len)) { s2 with ptr := Gen.rcAdvance p len }

/-- `std::string archive::read_chunk_as_string()` -/
def readChunkAsString (b : Bytes) (s : St) : Res Bytes :=
  (nextChunkSize b s).bind fun size s1 =>
    let s2 := s1.read (Gen.rsReadOff s1.ptr) (Gen.rsReadLen size)
    .ok (slice b (Gen.rsReadOff s1.ptr) (Gen.rsReadLen size)) { s2 with ptr := Gen.rsAdvance s1.ptr size }

/-- `bool archive::eof()` -/
def eof (b : Bytes) (s : St) : Bool := Gen.eofCond s.ptr b.length

/-! ## the type universe -/

inductive Ty
  | pod (n : Nat)          -- arithmetic type of `n` bytes: `write_chunk(&d,sizeof(d))`
  | str                    -- std::string
  | vecPod (n : Nat)       -- std::vector<arithmetic type of n bytes>: one chunk, count derived from its size
  | seq (t : Ty)           -- std::vector<T> (T not arithmetic), std::list<T>
  | set (t : Ty)           -- std::set<T>
  | map (k v : Ty)         -- std::map<K,V>
  | pair (a b : Ty)        -- std::pair<A,B>; serializable class with members a, b (`ar & a & b`)
  | ptr (t : Ty)           -- booster::shared_ptr / std::unique_ptr / booster::copy_ptr ...
  | mset (t : Ty)          -- std::multiset<T>
  | mmap (k v : Ty)        -- std::multimap<K,V>
  | arr (t : Ty) (n : Nat) -- T[n], T not arithmetic: n elements, no count (arithmetic T[n] is one chunk = `pod`)
  | json                   -- cppcms::json::value: one chunk holding its compact text
  | tagged (a b : Ty)      -- user class with optional members: `ar & kind; if(kind==1) ar & a; else if(kind==2) ar & b;`
  deriving DecidableEq, Repr

/-- values: PODs and POD vectors are their raw bytes; sets and maps are the in-order element lists -/
def Val : Ty → Type
  | .pod _ => Bytes
  | .str => Bytes
  | .vecPod _ => Bytes
  | .seq t => List (Val t)
  | .set t => List (Val t)
  | .map k v => List (Val k × Val v)
  | .pair a b => Val a × Val b
  | .ptr t => Option (Val t)
  | .mset t => List (Val t)
  | .mmap k v => List (Val k × Val v)
  | .arr t _ => List (Val t)
  | .json => JsonCodec.J
  | .tagged a b => Bytes × Val a × Val b          -- (the `int kind`, member a, member b): the object holds all three

/-- the default-constructed (value-initialised) object of each type: what `value_type tmp;` / `new V()` / `T()` is -/
def dflt : (ty : Ty) → Val ty
  | .pod n => List.replicate n 0
  | .str => []
  | .vecPod _ => []
  | .seq _ => []
  | .set _ => []
  | .map _ _ => []
  | .pair a b => (dflt a, dflt b)
  | .ptr _ => none
  | .mset _ => []
  | .mmap _ _ => []
  | .arr t n => List.replicate n (dflt t)
  | .json => JsonCodec.dflt
  | .tagged a b => (List.replicate 4 0, dflt a, dflt b)

/-! ## ordering of keys (`operator<` of the C++ types) -/

/-- `std::lexicographical_compare` -/
def ltLex {α : Type} (lt : α → α → Bool) : List α → List α → Bool
  | _, [] => false
  | [], _ :: _ => true
  | a :: as, b :: bs => lt a b || (!lt b a && ltLex lt as bs)

def ltByte (a b : UInt8) : Bool := decide (a.toNat < b.toNat)

/-- numeric order of unsigned integer objects -/
def ltNum (a b : Bytes) : Bool := decide (numVal a < numVal b)

/-- the elements of a POD vector: consecutive groups of `n` bytes (`fuel` ≥ length suffices) -/
def chunks (n : Nat) : Nat → Bytes → List Bytes
  | 0, _ => []
  | fuel + 1, b => if b.isEmpty then [] else b.take n :: chunks n fuel (b.drop n)

/-- `std::vector<unsigned T>` as a list of its elements -/
def podElems (n : Nat) (b : Bytes) : List Bytes := chunks n b.length b

/-- `operator<`: unsigned integers numerically (`numVal`: the target's byte order), strings / containers lexicographically,
pairs lexicographically, POD vectors lexicographically over their (unsigned) elements; smart pointers compare
addresses in C++ and are not keys. -/
def lt : (ty : Ty) → Val ty → Val ty → Bool
  | .pod _, a, b => ltNum a b
  | .str, a, b => ltLex ltByte a b
  | .vecPod n, a, b => ltLex ltNum (podElems n a) (podElems n b)
  | .seq t, a, b => ltLex (lt t) a b
  | .set t, a, b => ltLex (lt t) a b
  | .map k v, a, b => ltLex (fun x y => lt k x.1 y.1 || (!lt k y.1 x.1 && lt v x.2 y.2)) a b
  | .pair ta tb, a, b => lt ta a.1 b.1 || (!lt ta b.1 a.1 && lt tb a.2 b.2)
  | .ptr t, a, b =>
    match a, b with
    | none, some _ => true
    | some x, some y => lt t x y
    | _, _ => false
  | .mset t, a, b => ltLex (lt t) a b
  | .mmap k v, a, b => ltLex (fun x y => lt k x.1 y.1 || (!lt k y.1 x.1 && lt v x.2 y.2)) a b
  | .arr t _, a, b => ltLex (lt t) a b
  | .json, _, _ => false          -- json::value has no operator<; never a key
  | .tagged _ _, _, _ => false    -- user classes: whatever operator< they define is theirs; never a key here

/-- `std::set<T>::insert(x)`: position by `<`, an equivalent element already present wins -/
def setInsert {α : Type} (lt : α → α → Bool) (x : α) : List α → List α
  | [] => [x]
  | y :: ys => if lt x y then x :: y :: ys else if lt y x then y :: setInsert lt x ys else y :: ys

/-- `std::map<K,V>::insert(pair)`: position by the key, an existing key wins -/
def mapInsert {α β : Type} (lt : α → α → Bool) (x : α × β) : List (α × β) → List (α × β)
  | [] => [x]
  | y :: ys => if lt x.1 y.1 then x :: y :: ys else if lt y.1 x.1 then y :: mapInsert lt x ys else y :: ys

/-- `std::multiset<T>::insert(x)`: behind the elements that are not greater (equal elements are
indistinguishable for the key types used) -/
def msetInsert {α : Type} (lt : α → α → Bool) (x : α) : List α → List α
  | [] => [x]
  | y :: ys => if lt x y then x :: y :: ys else y :: msetInsert lt x ys

/-- `std::multimap<K,V>::insert(pair)`: at the upper bound of the key (entries with equal keys keep their order) -/
def mmapInsert {α β : Type} (lt : α → α → Bool) (x : α × β) : List (α × β) → List (α × β)
  | [] => [x]
  | y :: ys => if lt x.1 y.1 then x :: y :: ys else y :: mmapInsert lt x ys

/-- which optional member the `kind` of a tagged user class selects -/
def tagSel (tag : Bytes) : Nat := if numVal tag == 1 then 1 else if numVal tag == 2 then 2 else 0

/-! ## save -/

/-- smart pointers: flag byte `empty` (1 = null), then the pointee -/
def savePtr {α : Type} (sv : α → Bytes) : Option α → Bytes
  | none => chunk [1]
  | some x => chunk [0] ++ sv x

def save : (ty : Ty) → Val ty → Bytes
  | .pod _, v => chunk v
  | .str, v => chunk v
  | .vecPod _, v => chunk v
  | .seq t, v => saveCount v.length ++ v.flatMap (save t)
  | .set t, v => saveCount v.length ++ v.flatMap (save t)
  | .map k w, v => saveCount v.length ++ v.flatMap (fun x => save k x.1 ++ save w x.2)
  | .pair a b, v => save a v.1 ++ save b v.2
  | .ptr t, v => savePtr (save t) v
  | .mset t, v => saveCount v.length ++ v.flatMap (save t)
  | .mmap k w, v => saveCount v.length ++ v.flatMap (fun x => save k x.1 ++ save w x.2)
  | .arr t _, v => v.flatMap (save t)
  | .json, v => chunk ((JsonCodec.write v).getD [])     -- meaningful only when `savable` (below): otherwise C++ throws
  | .tagged a b, v => chunk v.1 ++ (if tagSel v.1 == 1 then save a v.2.1 else if tagSel v.1 == 2 then save b v.2.2 else [])

/-- `archive_traits<T>::save` returns normally: no `json::value` inside throws while being written -/
def savable : (ty : Ty) → Val ty → Bool
  | .pod _, _ => true
  | .str, _ => true
  | .vecPod _, _ => true
  | .seq t, v => v.all (savable t)
  | .set t, v => v.all (savable t)
  | .map k w, v => v.all (fun x => savable k x.1 && savable w x.2)
  | .pair a b, v => savable a v.1 && savable b v.2
  | .ptr t, v =>
    match v with
    | none => true
    | some x => savable t x
  | .mset t, v => v.all (savable t)
  | .mmap k w, v => v.all (fun x => savable k x.1 && savable w x.2)
  | .arr t _, v => v.all (savable t)
  | .json, v => (JsonCodec.write v).isSome
  | .tagged a b, v => if tagSel v.1 == 1 then savable a v.2.1 else if tagSel v.1 == 2 then savable b v.2.2 else true

/-- what `archive_traits<T>::save` into a fresh archive produces; `none` = an exception (`json::bad_value_cast`)
leaves the function -/
def saveE (ty : Ty) (v : Val ty) : Option Bytes := if savable ty v then some (save ty v) else none

/-! ## load -/

/-- `for(i=0;i<n;i++) { load element }` : stops at the first exception -/
def loadN {α : Type} (ld : St → Res α) : Nat → St → Res (List α)
  | 0, s => .ok [] s
  | n + 1, s => (ld s).bind fun a s1 => (loadN ld n s1).map (a :: ·)

/-- `archive_traits<size_t>::load(n,a)` -/
def loadCount (b : Bytes) (s : St) : Res Nat := (readChunk b sizeofSizeT s).map numVal

/-- `archive_traits<std::pair<F,S>>::load`, `ar & a & b` of a serializable class -/
def loadPair {α β : Type} (la : St → Res α) (lb : St → Res β) (s : St) : Res (α × β) :=
  (la s).bind fun x s1 => (lb s1).map fun y => (x, y)

/-- what `std::insert_iterator` / `insert` leave in a set / map after the elements were loaded in order -/
def setOfList {α : Type} (lt : α → α → Bool) (l : List α) : List α :=
  l.foldl (fun acc x => setInsert lt x acc) []

def mapOfList {α β : Type} (lt : α → α → Bool) (l : List (α × β)) : List (α × β) :=
  l.foldl (fun acc x => mapInsert lt x acc) []

def msetOfList {α : Type} (lt : α → α → Bool) (l : List α) : List α :=
  l.foldl (fun acc x => msetInsert lt x acc) []

def mmapOfList {α β : Type} (lt : α → α → Bool) (l : List (α × β)) : List (α × β) :=
  l.foldl (fun acc x => mmapInsert lt x acc) []

/-- `archive_traits<json::value>::load`: the chunk as a string, `value::load(ss,true)`, "Invalid json" if it fails -/
def loadJson {α : Type} (rd : Bytes → Option α) (b : Bytes) (s : St) : Res α :=
  (readChunkAsString b s).bind fun text s1 =>
    match rd text with
    | some v => .ok v s1
    | none => .err .json s1

/-- `serialize()` of the tagged user class in load mode, **into an existing object `old`**: `ar & kind`, then only the
member the kind selects is loaded; the other members keep what the target held before.  (The `4` is `sizeof(int)`.) -/
def loadTaggedInto {α β : Type} (la : St → Res α) (lb : St → Res β) (old : Bytes × α × β) (b : Bytes) (s : St) :
    Res (Bytes × α × β) :=
  (readChunk b 4 s).bind fun tag s1 =>
    if tagSel tag == 1 then (la s1).map fun x => (tag, x, old.2.2)
    else if tagSel tag == 2 then (lb s1).map fun y => (tag, old.2.1, y)
    else .ok (tag, old.2.1, old.2.2) s1

def load (b : Bytes) : (ty : Ty) → St → Res (Val ty)
  | .pod n, s => readChunk b n s
  | .str, s => readChunkAsString b s
  | .vecPod n, s => (nextChunkSize b s).bind fun sz s1 => readChunk b (Gen.vpLen (Gen.vpCount sz n) n) s1
  | .seq t, s => (loadCount b s).bind fun n s1 => loadN (load b t) n s1
  | .set t, s => (loadCount b s).bind fun n s1 => (loadN (load b t) n s1).map (setOfList (lt t))
  | .map k v, s =>
    (loadCount b s).bind fun n s1 => (loadN (loadPair (load b k) (load b v)) n s1).map (mapOfList (lt k))
  | .pair ta tb, s => loadPair (load b ta) (load b tb) s
  | .ptr t, s =>
    (readChunk b Gen.ptrFlagLen s).bind fun flag s1 =>
      if numVal flag != 0 then .ok none s1 else (load b t s1).map some
  | .mset t, s => (loadCount b s).bind fun n s1 => (loadN (load b t) n s1).map (msetOfList (lt t))
  | .mmap k v, s =>
    (loadCount b s).bind fun n s1 => (loadN (loadPair (load b k) (load b v)) n s1).map (mmapOfList (lt k))
  | .arr t n, s => loadN (load b t) n s
  | .json, s => loadJson JsonCodec.read b s
  | .tagged ta tb, s => loadTaggedInto (load b ta) (load b tb) (List.replicate 4 0, dflt ta, dflt tb) b s

/-- state after `archive::str(bytes)` -/
def St.init : St := { ptr := Gen.strPtr, reads := [] }

/-- `archive a; a.str(bytes); archive_traits<T>::load(v,a)` -/
def loadArchive (ty : Ty) (b : Bytes) : Res (Val ty) := load b ty St.init

end Cppcms.C19
