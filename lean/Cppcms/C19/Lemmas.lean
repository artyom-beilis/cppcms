import Cppcms.C19.Order
/-! Round trip (`roundTrips_all`) and what every load guarantees (`loadsWf_all`: a safe final state, a well-formed value),
each by one induction over `Ty` from the facts about the primitives (`Reader`) and the ordered containers (`Order`);
also `isDflt_iff`, and `loadN_ok_iff` (`loadN` as a chain of `Steps`) for `Props`. -/
namespace Cppcms.C19
open Cppcms Cppcms.C19.Spec

/-- `ld` reads `x` back from wherever the bytes `w` sit in `b` and leaves the cursor behind them -/
def Reads {α : Type} (b : Bytes) (ld : St → Res α) (w : Bytes) (x : α) : Prop :=
  ∀ off r, At b off w → ∃ r', ld ⟨off, r⟩ = .ok x ⟨off + w.length, r'⟩

section Reads
variable {α β : Type} {b : Bytes}

theorem Reads.bind {la : St → Res α} {f : α → St → Res β} {u w : Bytes} {x : α} {y : β}
    (hx : Reads b la u x) (hy : Reads b (f x) w y) : Reads b (fun s => (la s).bind f) (u ++ w) y := by
  intro off r hat
  rw [At_append] at hat
  obtain ⟨r1, h1⟩ := hx off r hat.1
  obtain ⟨r2, h2⟩ := hy _ r1 hat.2
  exact ⟨r2, by show (la _).bind f = _; rw [h1, Res.bind_ok, h2, List.length_append, Nat.add_assoc]⟩

theorem Reads.bind_ok {la : St → Res α} {f : α → St → Res β} {u : Bytes} {x : α} {y : β}
    (hx : Reads b la u x) (hf : ∀ s, f x s = .ok y s) : Reads b (fun s => (la s).bind f) u y := by
  intro off r hat
  obtain ⟨r1, h1⟩ := hx off r hat
  exact ⟨r1, by show (la _).bind f = _; rw [h1, Res.bind_ok, hf]⟩

theorem Reads.congr {ld ld' : St → Res α} {w : Bytes} {x : α} (h : ∀ s, ld s = ld' s) (hr : Reads b ld' w x) :
    Reads b ld w x :=
  fun off r hat => h _ ▸ hr off r hat

theorem Reads.map {la : St → Res α} {u : Bytes} {x : α} (hx : Reads b la u x) (g : α → β) :
    Reads b (fun s => (la s).map g) u (g x) := by
  intro off r hat
  obtain ⟨r1, h1⟩ := hx off r hat
  exact ⟨r1, by show (la _).map g = _; rw [h1, Res.map_ok]⟩

theorem reads_readChunk (hb : b.length < 2 ^ 64) {data : Bytes} (hd : data.length < 2 ^ 32) :
    Reads b (readChunk b data.length) (chunk data) data :=
  fun off r hat => ⟨_, by
    rw [readChunk_eq hb hat.le, nextChunkSize_chunk hb hat, Res.bind_ok, Nat.mod_eq_of_lt hd, if_pos rfl,
      (At_chunk hat).2.2, chunk_length, Nat.add_assoc]⟩

theorem reads_readChunkAsString (hb : b.length < 2 ^ 64) {data : Bytes} (hd : data.length < 2 ^ 32) :
    Reads b (readChunkAsString b) (chunk data) data :=
  fun off r hat => ⟨_, by
    rw [readChunkAsString_chunk hb hat, Nat.mod_eq_of_lt hd, List.take_length, chunk_length, Nat.add_assoc]⟩

theorem reads_loadCount (hb : b.length < 2 ^ 64) {n : Nat} (hn : n < 2 ^ 64) : Reads b (loadCount b) (saveCount n) n := by
  have h := (reads_readChunk hb (data := numBytes sizeofSizeT n) (by rw [numBytes_length]; decide)).map numVal
  rw [numBytes_length, numVal_numBytes, Nat.mod_eq_of_lt (show n < 256 ^ sizeofSizeT from hn)] at h
  exact h

theorem reads_loadN {sv : α → Bytes} {ld : St → Res α} :
    ∀ {l : List α}, (∀ x ∈ l, Reads b ld (sv x) x) → Reads b (loadN ld l.length) (l.flatMap sv) l
  | [], _ => fun _ r _ => ⟨r, rfl⟩
  | x :: xs, h => by
    rw [List.forall_mem_cons] at h
    exact h.1.bind ((reads_loadN h.2).map (x :: ·))

end Reads

/-- `std::vector<POD>`: the chunk size is peeked, then the chunk is read as a whole -/
theorem reads_vecPod {b : Bytes} (hb : b.length < 2 ^ 64) (n : Nat) {v : Bytes} (hmod : v.length % n = 0)
    (hf : v.length < 2 ^ 32) :
    Reads b (fun s => (nextChunkSize b s).bind fun sz s1 => readChunk b (Gen.vpLen (Gen.vpCount sz n) n) s1)
      (chunk v) v := by
  intro off r hat
  show ∃ r', (nextChunkSize b _).bind _ = _
  rw [nextChunkSize_chunk hb hat, Res.bind_ok, Nat.mod_eq_of_lt hf, vpLen_vpCount (Nat.lt_trans hf (by decide)),
    Nat.div_mul_cancel (Nat.dvd_of_mod_eq_zero hmod)]
  exact reads_readChunk hb hf off _ hat

section
variable [JsonCodec] {ta tb : Ty} (v : Val (.tagged ta tb))

/- for `rw` in the `tagged` cases (`simp only [wf]` would generate the equations of all thirteen constructors) -/
theorem wf_tagged : wf (.tagged ta tb) v =
    (v.1.length == 4 && if tagSel v.1 == 1 then wf ta v.2.1 && isDflt tb v.2.2
      else if tagSel v.1 == 2 then isDflt ta v.2.1 && wf tb v.2.2 else isDflt ta v.2.1 && isDflt tb v.2.2) := rfl

theorem sizesFit_tagged : sizesFit (.tagged ta tb) v =
    if tagSel v.1 == 1 then sizesFit ta v.2.1 else if tagSel v.1 == 2 then sizesFit tb v.2.2 else true := rfl

end

section
variable [JsonCodec]

theorem isDflt_iff : ∀ (ty : Ty) (v : Val ty), isDflt ty v = true ↔ v = dflt ty := by
  intro ty
  induction ty with
  | pod n => exact fun v => beq_iff_eq (α := Bytes)
  | str | vecPod n | seq t _ | set t _ | mset t _ => exact fun v => List.isEmpty_iff
  | map k w _ _ | mmap k w _ _ => exact fun v => List.isEmpty_iff
  | ptr t _ => exact fun v => Option.isNone_iff_eq_none
  | json => exact fun v => ⟨JsonCodec.isDflt_eq v, fun h => h ▸ JsonCodec.isDflt_dflt⟩
  | pair a b iha ihb =>
    intro v
    refine Bool.and_eq_true_iff.trans ?_
    rw [iha, ihb]
    exact (Prod.ext_iff (y := (dflt a, dflt b))).symm
  | arr t n ih =>
    intro (v : List (Val t))
    refine Bool.and_eq_true_iff.trans ?_
    rw [beq_iff_eq, List.all_eq_true]
    exact (and_congr_right fun _ => forall₂_congr fun x _ => ih x).trans List.eq_replicate_iff.symm
  | tagged a b iha ihb =>
    intro v
    refine Bool.and_eq_true_iff.trans ?_
    rw [Bool.and_eq_true, iha, ihb, and_assoc]
    exact (and_congr (beq_iff_eq (α := Bytes)) Prod.ext_iff.symm).trans
      (Prod.ext_iff (y := (List.replicate 4 0, dflt a, dflt b))).symm

theorem isDflt_dflt : ∀ ty : Ty, isDflt ty (dflt ty) = true := fun ty => (isDflt_iff ty _).mpr rfl

theorem isDflt_eq : ∀ (ty : Ty) (v : Val ty), isDflt ty v = true → v = dflt ty := fun ty v => (isDflt_iff ty v).mp

end

section
variable [JsonCodec]

/-- the motive of `roundTrips_all`: `load b ty` reads `save ty v` back wherever it sits in `b` -/
def RoundTrips (b : Bytes) (ty : Ty) : Prop :=
  ∀ v : Val ty, wf ty v = true → sizesFit ty v = true → jsonRT ty v → Reads b (load b ty) (save ty v) v

/-- also the step for the entries of maps -/
theorem rt_pair {b : Bytes} {ta tb : Ty} (iha : RoundTrips b ta) (ihb : RoundTrips b tb) : RoundTrips b (.pair ta tb) := by
  intro v hw hf hj
  have hw := Bool.and_eq_true_iff.mp hw
  have hf := Bool.and_eq_true_iff.mp hf
  exact (iha v.1 hw.1 hf.1 hj.1).bind ((ihb v.2 hw.2 hf.2 hj.2).map _)

theorem rt_elems {b : Bytes} {t : Ty} (ih : RoundTrips b t) {v : List (Val t)} (hw : v.all (wf t) = true)
    (hf : v.all (sizesFit t) = true) (hj : allP (jsonRT t) v) : ∀ x ∈ v, Reads b (load b t) (save t x) x :=
  fun x hx => ih x (List.all_eq_true.mp hw x hx) (List.all_eq_true.mp hf x hx) (hj x hx)

/-- set / mset / map / mmap alike: count chunk, `loadN`, then the `insert`s.
`post`: what they make of the elements read; `c`: the sortedness `wf` asks of it -/
theorem rt_counted {b : Bytes} (hb : b.length < 2 ^ 64) {t : Ty} (ih : RoundTrips b t) {v : List (Val t)} {c : Bool}
    (hw : (v.all (wf t) && c) = true) (hf : (decide (v.length < 2 ^ 64) && v.all (sizesFit t)) = true)
    (hj : allP (jsonRT t) v) {post : List (Val t) → List (Val t)} (hpost : c = true → post v = v) :
    Reads b (fun s => (loadCount b s).bind fun n s1 => (loadN (load b t) n s1).map post)
      (saveCount v.length ++ v.flatMap (save t)) v := by
  have hw := Bool.and_eq_true_iff.mp hw
  have hf := Bool.and_eq_true_iff.mp hf
  have h := (reads_loadN (rt_elems ih hw.1 hf.2 hj)).map post
  rw [hpost hw.2] at h
  exact (reads_loadCount hb (of_decide_eq_true hf.1)).bind h

theorem roundTrips_all (b : Bytes) (hb : b.length < 2 ^ 64) : ∀ ty : Ty, RoundTrips b ty := by
  intro ty
  induction ty with
  | pod n =>
    intro (v : Bytes) hw hf _
    exact beq_iff_eq.mp hw ▸ reads_readChunk hb (of_decide_eq_true hf)
  | str => exact fun v _ hf _ => reads_readChunkAsString hb (of_decide_eq_true hf)
  | vecPod n => exact fun v hw hf _ => reads_vecPod hb n (beq_iff_eq.mp hw) (of_decide_eq_true hf)
  | seq t ih =>
    intro v hw hf hj
    have hf := Bool.and_eq_true_iff.mp hf
    exact (reads_loadCount hb (of_decide_eq_true hf.1)).bind (reads_loadN (rt_elems ih hw hf.2 hj))
  | set t ih =>
    exact fun v hw hf hj => rt_counted hb ih hw hf hj fun hc =>
      setOfList_of_sorted (lt_strictWeak t) (pairwiseB_iff.mp hc)
  | mset t ih =>
    exact fun v hw hf hj => rt_counted hb ih hw hf hj fun hc => msetOfList_of_sorted (pairwiseB_not_iff.mp hc)
  | map k w ihk ihw =>
    exact fun v hw hf hj => rt_counted hb (rt_pair ihk ihw) hw hf hj fun hc => (mapOfList_eq (lt k) v).trans
      (setOfList_of_sorted ((lt_strictWeak k).comap Prod.fst) (pairwiseB_iff.mp hc))
  | mmap k w ihk ihw =>
    exact fun v hw hf hj => rt_counted hb (rt_pair ihk ihw) hw hf hj fun hc => (mmapOfList_eq (lt k) v).trans
      (msetOfList_of_sorted (pairwiseB_not_iff.mp hc))
  | pair ta tb iha ihb => exact rt_pair iha ihb
  | ptr t ih =>
    intro (v : Option (Val t)) hw hf hj
    cases v with
    | none => exact (reads_readChunk (data := [1]) hb (by decide)).bind_ok fun _ => rfl
    | some x => exact (reads_readChunk (data := [0]) hb (by decide)).bind ((ih x hw hf (hj x rfl)).map some)
  | arr t n ih =>
    intro (v : List (Val t)) hw hf hj
    have hw := Bool.and_eq_true_iff.mp hw
    exact beq_iff_eq.mp hw.1 ▸ reads_loadN (rt_elems ih hw.2 hf hj)
  | json =>
    intro (v : JsonCodec.J) _ hf ⟨text, hwr, hrd⟩
    have hf : (match JsonCodec.write v with | some text => decide (text.length < 2 ^ 32) | none => false) = true := hf
    show Reads b (loadJson JsonCodec.read b) (chunk ((JsonCodec.write v).getD [])) v
    rw [hwr] at hf ⊢
    exact (reads_readChunkAsString hb (of_decide_eq_true hf)).bind_ok fun s => by simp only [hrd]
  | tagged ta tb iha ihb =>
    intro v hw hf hj
    rw [wf_tagged, Bool.and_eq_true, beq_iff_eq] at hw
    rw [sizesFit_tagged] at hf
    have htag := hw.1 ▸ reads_readChunk (data := v.1) hb (by rw [hw.1]; decide)
    show Reads b (loadTaggedInto (load b ta) (load b tb) (List.replicate 4 0, dflt ta, dflt tb) b)
      (chunk v.1 ++ if tagSel v.1 == 1 then save ta v.2.1 else if tagSel v.1 == 2 then save tb v.2.2 else []) v
    -- the members the kind does not select are default in `v` (`wf`) and stay default in the loaded object
    by_cases e1 : (tagSel v.1 == 1) = true
    · rw [if_pos e1] at hf ⊢
      rw [if_pos e1, Bool.and_eq_true] at hw
      exact htag.bind (.congr (fun _ => if_pos e1)
        (isDflt_eq tb v.2.2 hw.2.2 ▸ (iha v.2.1 hw.2.1 hf (hj.1 (beq_iff_eq.mp e1))).map _))
    by_cases e2 : (tagSel v.1 == 2) = true
    · rw [if_neg e1, if_pos e2] at hf ⊢
      rw [if_neg e1, if_pos e2, Bool.and_eq_true] at hw
      exact htag.bind (.congr (fun _ => (if_neg e1).trans (if_pos e2))
        (isDflt_eq ta v.2.1 hw.2.1 ▸ (ihb v.2.2 hw.2.2 hf (hj.2 (beq_iff_eq.mp e2))).map _))
    · rw [if_neg e1, if_neg e2, Bool.and_eq_true] at hw
      rw [if_neg e1, if_neg e2, List.append_nil]
      exact htag.bind_ok fun s => ((if_neg e1).trans (if_neg e2)).trans (congrArg (Res.ok · s)
        (Prod.ext rfl (Prod.ext (isDflt_eq ta _ hw.2.1).symm (isDflt_eq tb _ hw.2.2).symm)))

end

theorem loadN_ok_iff {α : Type} (ld : St → Res α) : ∀ (n : Nat) (s : St) (l : List α) (s' : St),
    loadN ld n s = .ok l s' ↔ l.length = n ∧ Steps ld s l s'
  | 0, s, l, s' => by
    constructor
    · intro h; cases h; exact ⟨rfl, .nil s⟩
    · rintro ⟨hl, hs⟩
      cases hs with
      | nil => rfl
      | cons => cases hl
  | n + 1, s, l, s' => by
    rw [loadN, Res.bind_eq_ok]
    constructor
    · rintro ⟨a, s1, h1, h2⟩
      obtain ⟨as, h3, rfl⟩ := Res.map_eq_ok.mp h2
      obtain ⟨hl, hs⟩ := (loadN_ok_iff ld n s1 as s').mp h3
      exact ⟨congrArg (· + 1) hl, .cons s s1 s' a as h1 hs⟩
    · rintro ⟨hl, hs⟩
      cases hs with
      | nil => cases hl
      | cons _ s1 _ a as h1 hrest =>
        exact ⟨a, s1, h1, Res.map_eq_ok.mpr ⟨as, (loadN_ok_iff ld n s1 as s').mpr ⟨Nat.succ.inj hl, hrest⟩, rfl⟩⟩

section Ensures
variable {α : Type} {b : Bytes} {P : α → Prop}

theorem ensures_loadN {ld : St → Res α} (hld : ∀ s, Safe b s → Ensures b P (ld s)) :
    ∀ n s, Safe b s → Ensures b (fun l => l.length = n ∧ ∀ x ∈ l, P x) (loadN ld n s)
  | 0, _, hs => ⟨hs, rfl, fun _ h => nomatch h⟩
  | n + 1, s, hs => (hld s hs).bind fun _ s1 hs1 pa => (ensures_loadN hld n s1 hs1).map fun _ hl =>
      ⟨congrArg (· + 1) hl.1, List.forall_mem_cons.mpr ⟨pa, hl.2⟩⟩

theorem loadCount_spec (hb : b.length < 2 ^ 64) {s : St} (hs : Safe b s) : Ensures b (fun _ => True) (loadCount b s) :=
  (readChunk_spec hb hs _).map fun _ _ => trivial

/-- The same shape for `Ensures`.
`hsub`, `hc`: the `insert`s (`post`) keep only elements that were read and establish the sortedness `c` -/
theorem ensures_counted (hb : b.length < 2 ^ 64) {ld : St → Res α} {p : α → Bool}
    (hld : ∀ s, Safe b s → Ensures b (fun x => p x = true) (ld s)) {post : List α → List α} {c : List α → Bool}
    (hsub : ∀ l x, x ∈ post l → x ∈ l) (hc : ∀ l, c (post l) = true) (s : St) (hs : Safe b s) :
    Ensures b (fun v => (v.all p && c v) = true) ((loadCount b s).bind fun n s1 => (loadN ld n s1).map post) :=
  (loadCount_spec hb hs).bind fun n s1 hs1 _ => (ensures_loadN hld n s1 hs1).map fun l hl =>
    Bool.and_eq_true_iff.mpr ⟨List.all_eq_true.mpr fun x hx => hl.2 x (hsub l x hx), hc l⟩

end Ensures

section
variable [JsonCodec]

/-- the motive of `loadsWf_all`: on any bytes `load b ty` stays safe and returns only well-formed values -/
def LoadsWf (b : Bytes) (ty : Ty) : Prop :=
  ∀ s : St, Safe b s → Ensures b (fun v => wf ty v = true) (load b ty s)

/-- also the step for the entries of maps -/
theorem loadsWf_pair {b : Bytes} {ta tb : Ty} (iha : LoadsWf b ta) (ihb : LoadsWf b tb) : LoadsWf b (.pair ta tb) :=
  fun s hs => (iha s hs).bind fun _ s1 hs1 hx => (ihb s1 hs1).map fun _ hy => Bool.and_eq_true_iff.mpr ⟨hx, hy⟩

theorem loadsWf_all (b : Bytes) (hb : b.length < 2 ^ 64) : ∀ ty : Ty, LoadsWf b ty := by
  intro ty
  induction ty with
  | pod n => exact fun s hs => (readChunk_spec hb hs n).mono fun d hd => beq_iff_eq.mpr hd
  | str => exact fun s hs => (readChunkAsString_spec hb hs).mono fun _ _ => rfl
  | vecPod n =>
    intro s hs
    refine (nextChunkSize_spec hb hs).bind fun sz s1 hs1 hsz => (readChunk_spec hb hs1 _).mono fun d hd => ?_
    have hlt : sz < 2 ^ 64 := Nat.lt_of_le_of_lt (Nat.le_trans (Nat.le_add_left _ _) hsz) hb
    exact beq_iff_eq.mpr (by rw [hd, vpLen_vpCount hlt]; exact Nat.mul_mod_left _ _)
  | seq t ih =>
    exact fun s hs => (loadCount_spec hb hs).bind fun n s1 hs1 _ =>
      (ensures_loadN ih n s1 hs1).mono fun l hl => List.all_eq_true.mpr hl.2
  | set t ih =>
    exact ensures_counted hb ih (fun _ _ => mem_setOfList) fun l =>
      pairwiseB_iff.mpr (setOfList_sorted (lt_strictWeak t) l)
  | mset t ih =>
    exact ensures_counted hb ih (fun l _ => (msetOfList_perm l).mem_iff.mp) fun l =>
      pairwiseB_not_iff.mpr (msetOfList_sorted (lt_strictWeak t) l)
  | map k w ihk ihw =>
    exact ensures_counted hb (loadsWf_pair ihk ihw) (fun l _ => mapOfList_eq (lt k) l ▸ mem_setOfList) fun l =>
      mapOfList_eq (lt k) l ▸ pairwiseB_iff.mpr (setOfList_sorted ((lt_strictWeak k).comap Prod.fst) l)
  | mmap k w ihk ihw =>
    exact ensures_counted hb (loadsWf_pair ihk ihw)
      (fun l _ => mmapOfList_eq (lt k) l ▸ (msetOfList_perm l).mem_iff.mp) fun l =>
      mmapOfList_eq (lt k) l ▸ pairwiseB_not_iff.mpr (msetOfList_sorted ((lt_strictWeak k).comap Prod.fst) l)
  | pair ta tb iha ihb => exact loadsWf_pair iha ihb
  | ptr t ih =>
    intro s hs
    refine (readChunk_spec hb hs _).bind fun flag s1 hs1 _ => ?_
    split
    · exact ⟨hs1, rfl⟩  -- non-zero flag: the null pointer
    · exact (ih s1 hs1).map fun x hx => hx  -- the pointee is loaded
  | arr t n ih =>
    exact fun s hs => (ensures_loadN ih n s hs).mono fun l hl =>
      Bool.and_eq_true_iff.mpr ⟨beq_iff_eq.mpr hl.1, List.all_eq_true.mpr hl.2⟩
  | json =>
    intro s hs
    refine (readChunkAsString_spec hb hs).bind fun text s1 hs1 _ => ?_
    split
    · exact ⟨hs1, rfl⟩  -- the codec read the text
    · exact hs1  -- "Invalid json"
  | tagged ta tb iha ihb =>
    intro s hs
    refine (readChunk_spec hb hs 4).bind fun tag s1 hs1 hl => ?_
    show Ensures b (fun v => wf (.tagged ta tb) v = true)
      (if tagSel tag == 1 then (load b ta s1).map fun x => (tag, x, dflt tb)
       else if tagSel tag == 2 then (load b tb s1).map fun y => (tag, dflt ta, y)
       else .ok (tag, dflt ta, dflt tb) s1)
    have hl := beq_iff_eq.mpr hl
    by_cases e1 : (tagSel tag == 1) = true
    · rw [if_pos e1]
      exact (iha s1 hs1).map fun x hx => Bool.and_eq_true_iff.mpr
        ⟨hl, (if_pos e1).trans (Bool.and_eq_true_iff.mpr ⟨hx, isDflt_dflt tb⟩)⟩
    rw [if_neg e1]
    by_cases e2 : (tagSel tag == 2) = true
    · rw [if_pos e2]
      exact (ihb s1 hs1).map fun y hy => Bool.and_eq_true_iff.mpr
        ⟨hl, ((if_neg e1).trans (if_pos e2)).trans (Bool.and_eq_true_iff.mpr ⟨isDflt_dflt ta, hy⟩)⟩
    · rw [if_neg e2]
      exact ⟨hs1, Bool.and_eq_true_iff.mpr
        ⟨hl, ((if_neg e1).trans (if_neg e2)).trans (Bool.and_eq_true_iff.mpr ⟨isDflt_dflt ta, isDflt_dflt tb⟩)⟩⟩

end

end Cppcms.C19
