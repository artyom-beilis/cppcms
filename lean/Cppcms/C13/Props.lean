import Cppcms.C13.Lemmas
/-!
# C13 — property theorems

"The built-in file server never serves anything outside its document roots."
The model (`Model.lean`) transcribes `src/internal_file_server.cpp` from `PATH_INFO` on, with
every constant it compares against regenerated from the source (`Gen.lean`); the file system
is the parameter `Fs`.  Statements are for all byte strings / all file systems obeying the
stated laws.
-/
namespace Cppcms.C13.Props
open Cppcms Cppcms.C13 Cppcms.C13.Spec

/-- For every input byte string (including NUL, non-UTF-8, no
leading slash, empty) the lexically normalised path is absolute and none of its components is
empty, `.` or `..`: no `..` survives, so appending it to a root cannot climb above the root.
(The code's quirk `normalize "/a/b/../c" = "/ac"` is covered: glued components are still
proper names.) -/
theorem normalize_never_climbs (p : Bytes) : canonical (normalize p) = true := by
  obtain ⟨hw, h⟩ := normalize_eq_compStep p
  rw [h]
  split
  · exact canonical_slash
  · next hne => exact canonical_render _ (by simpa using hne) (by simpa [GoodState] using hw)

/-- For a request without a `..` piece, normalisation is
exactly "drop the empty pieces (repeated/trailing slashes) and the `.` pieces": the components of
the result are the remaining pieces, in order.  (With `..` the code glues the next piece onto the
component before the removed one — `/a/b/../c` ↦ `/ac` — which `normalize_never_climbs` covers.) -/
theorem normalize_resolves_dots_and_slashes (p : Bytes)
    (h : ∀ c ∈ splitSlash (afterLead p), c ≠ [46, 46]) :
    comps (normalize p) = (splitSlash (afterLead p)).filter (fun c => c != [] && c != [46]) := by
  rw [normalize_of_noUp p h]
  split
  · next he => rw [he]; rfl
  · next hne =>
    refine comps_render _ hne fun c hc => ?_
    have hc := List.mem_filter.mp hc
    have hk : c ≠ [] ∧ c ≠ [46] := by simpa using hc.2
    exact (goodComp_iff c).mpr ⟨hk.1, hk.2, h c hc.1, splitSlash_slashFree _ c hc.1⟩

/-- The other half of "lexical normalisation is right": a request
that is already canonical is left untouched, so the safety above is not bought by mangling
well-formed paths (a `normalize` that always answered `/` would also "never climb"). -/
theorem normalize_fixes_canonical (p : Bytes) (h : canonical p = true) : normalize p = p := by
  rcases canonical_cases p h with rfl | ⟨hne, hp⟩
  · decide +kernel
  · -- the pieces of a rendered path are its components; none is `..` and all are kept
    obtain ⟨P, hP, hg, rfl⟩ : ∃ P, P ≠ [] ∧ (∀ d ∈ P, goodComp d = true) ∧ p = render P :=
      ⟨_, hne, ((canonical_iff p).mp h).2, hp⟩
    have hs : splitSlash (afterLead (render P)) = P := by
      cases P with
      | nil => exact absurd rfl hP
      | cons c cs =>
        rw [render_cons, afterLead_cons, if_pos rfl]
        exact splitSlash_render c cs fun d hd => good_slashFree (hg d hd)
    have hk : P.filter (fun c => c != [] && c != [46]) = P := List.filter_eq_self.mpr fun c hc => by
      have := (goodComp_iff c).mp (hg c hc)
      simp [this.1, this.2.1]
    rw [normalize_of_noUp _ (by rw [hs]; exact fun c hc => ((goodComp_iff c).mp (hg c hc)).2.2.1), hs, hk,
      if_neg hP]

theorem normalize_idempotent (p : Bytes) : normalize (normalize p) = normalize p :=
  normalize_fixes_canonical _ (normalize_never_climbs p)

/-- Normalisation invents no bytes: every byte of the result is a
byte of the input or `/`.  In particular a NUL-free request stays NUL-free. -/
theorem normalize_bytes_from_input (p : Bytes) : ∀ x ∈ normalize p, x ∈ p ∨ x = 47 := by
  intro x hx
  rw [(normalize_eq_compStep p).2] at hx
  split at hx
  · exact Or.inr (by simpa using hx)
  · -- a byte of the rendering is a `/` or a byte of a component on the final stack, hence of a piece
    obtain ⟨d, hd, hxd⟩ := List.mem_flatMap.mp hx
    rcases List.mem_cons.mp hxd with rfl | hxd
    · exact Or.inr rfl
    · have := foldl_compStep_mem _ _ x (List.mem_flatten.mpr ⟨d, List.mem_reverse.mp hd, hxd⟩)
      obtain ⟨c, hc, hxc⟩ := List.mem_flatten.mp (this.resolve_left (by simp))
      exact Or.inl (afterLead_subset p x (splitSlash_subset _ c hc x hxc))

/-- On canonical paths the string test the code uses
is exactly the component-wise prefix relation: `/al` is a prefix of `/al` and `/al/x`, never of
`/alX`. -/
theorem is_file_prefix_iff_component_prefix (p f : Bytes) (hp : canonical p = true) (hf : canonical f = true) :
    isFilePrefix p f = compPrefix p f := by
  rw [Bool.eq_iff_iff, compPrefix, List.isPrefixOf_iff_prefix, isFilePrefix_spec]
  rcases canonical_cases p hp with rfl | ⟨hne, hpr⟩
  · refine ⟨fun _ => List.nil_prefix, fun _ => ?_⟩
    obtain ⟨t, rfl⟩ := List.head?_eq_some_iff.mp ((canonical_iff f).mp hf).1
    exact ⟨t, rfl, Or.inr (Or.inl rfl)⟩
  · have hroot : p ≠ [47] := fun e => hne (e ▸ rfl)
    constructor
    · -- the remainder is empty or starts at a `/`, and splitting distributes over that cut
      rintro ⟨rest, rfl, hcase⟩
      rcases (hcase.resolve_left fun h => hne (h ▸ rfl)).resolve_left (canonical_getLast p hp hroot) with rfl | h
      · rw [List.append_nil]; exact List.prefix_refl _
      · obtain ⟨r, rfl⟩ := List.head?_eq_some_iff.mp h
        rw [comps_append_slash _ _ hne]
        exact List.prefix_append _ _
    · rintro ⟨G, hG⟩
      have hfr := (canonical_cases f hf).resolve_left fun e =>
        hne (List.append_eq_nil_iff.mp (e ▸ hG : comps p ++ G = comps [47])).1
      exact ⟨render G, by rw [hfr.2, ← hG, render_append, ← hpr], by cases G <;> simp⟩

/-- the alias loop inverted: the document root with `n`; or, for the first alias `a` passing `is_file_prefix`: it is
configured, `n = a.1 ++ rest`, the cut is at a boundary (`is_file_prefix`'s four ways of accepting), and its target
goes on with `rest` (`/` if empty) -/
theorem pickRoot_cases (cfg : Config) (n : Bytes) :
    let found := cfg.aliases.find? fun a => isFilePrefix a.1 n
    (found = none ∧ pickRoot cfg n = (cfg.docRoot, n)) ∨
    ∃ a rest, found = some a ∧ a ∈ cfg.aliases ∧ n = a.1 ++ rest ∧
      (a.1 = [] ∨ a.1.getLast? = some 47 ∨ rest = [] ∨ rest.head? = some 47) ∧
      pickRoot cfg n = (a.2, if rest = [] then [47] else rest) := by
  unfold pickRoot
  cases h : cfg.aliases.find? (fun a => isFilePrefix a.1 n) with
  | none => exact Or.inl ⟨rfl, rfl⟩
  | some a =>
    obtain ⟨rest, rfl, hb⟩ := (isFilePrefix_spec a.1 n).mp (List.find?_some (p := fun a : Path × Path => isFilePrefix a.1 n) h)
    exact Or.inr ⟨a, rest, rfl, List.mem_of_find?_eq_some h, rfl, hb, by simp [gen_cidr]⟩

/-- For a canonical (normalised) request `n` and alias urls that
are canonical and not `/` (an assumption on the configuration: the constructor only checks length ≥ 2
and the leading `/`, and strips one trailing `/`), the alias loop picks
the *first alias whose url is a component-wise prefix of `n`*, hands on its target as root and a
canonical remainder whose components are exactly the rest of `n`'s; with no such alias it is the
document root and `n` itself. -/
theorem alias_choice_component_wise (cfg : Config) (n : Bytes) (hn : canonical n = true)
    (hal : ∀ a ∈ cfg.aliases, canonical a.1 = true ∧ a.1 ≠ [47]) :
    match cfg.aliases.find? (fun a => compPrefix a.1 n) with
    | some a => (pickRoot cfg n).1 = a.2 ∧ canonical (pickRoot cfg n).2 = true ∧
                comps n = comps a.1 ++ comps (pickRoot cfg n).2
    | none => pickRoot cfg n = (cfg.docRoot, n) := by
  rw [← find?_congr fun a ha => is_file_prefix_iff_component_prefix a.1 n (hal a ha).1 hn]
  rcases pickRoot_cases cfg n with ⟨h0, e⟩ | ⟨a, rest, h0, ha, rfl, hboundary, e⟩ <;> rw [h0]
  · exact e
  · obtain ⟨hca, hna⟩ := hal a ha
    have hne := ((canonical_cases a.1 hca).resolve_left hna).1
    rw [e]
    by_cases hr : rest = []
    · subst hr
      exact ⟨rfl, canonical_slash, by simp [comps]⟩
    · obtain ⟨r, rfl⟩ := List.head?_eq_some_iff.mp <|
        ((hboundary.resolve_left fun h => hne (h ▸ rfl)).resolve_left (canonical_getLast a.1 hca hna)).resolve_left hr
      obtain ⟨hcr, hcomps⟩ := canonical_cut a.1 r (fun h => hne (h ▸ rfl)) hn
      exact ⟨rfl, hcr, by rw [if_neg hr, comps_append_slash _ _ hne, hcomps]⟩

theorem pickRoot_root {P : Path → Prop} (cfg : Config) (n : Bytes) (hd : P cfg.docRoot)
    (ha : ∀ a ∈ cfg.aliases, P a.2) : P (pickRoot cfg n).1 := by
  rcases pickRoot_cases cfg n with ⟨-, e⟩ | ⟨a, _, -, hmem, -, -, e⟩ <;> rw [e]
  · exact hd
  · exact ha a hmem

theorem pickRoot_rest_canonical (cfg : Config) (n : Bytes) (hn : canonical n = true)
    (hl : (pickRoot cfg n).2.head? = some 47) : canonical (pickRoot cfg n).2 = true := by
  rcases pickRoot_cases cfg n with ⟨-, e⟩ | ⟨a, rest, -, -, rfl, -, e⟩ <;> rw [e] at hl ⊢
  · exact hn
  · by_cases hr : rest = []
    · rw [if_pos hr]; exact canonical_slash
    · rw [if_neg hr] at hl ⊢
      obtain ⟨r, rfl⟩ := List.head?_eq_some_iff.mp hl
      by_cases ha : a.1 = []
      · rwa [ha] at hn
      · exact (canonical_cut a.1 r ha hn).1

theorem pickRoot_rest_bytes (cfg : Config) (n : Bytes) : ∀ b ∈ (pickRoot cfg n).2, b ∈ n ∨ b = 47 := by
  rcases pickRoot_cases cfg n with ⟨-, e⟩ | ⟨a, rest, -, -, rfl, -, e⟩ <;> rw [e] <;> intro b hb
  · exact Or.inl hb
  · split at hb
    · exact Or.inr (by simpa using hb)
    · exact Or.inl (List.mem_append_right _ hb)

/-- POSIX law for the external `realpath`: every answer is an absolute path without empty, `.`
or `..` components and without trailing slash, and (being a C string) contains no NUL -/
def RealpathLaw (fs : Fs) : Prop := ∀ q r, fs.realpath q = some r → canonical r = true ∧ (0 : UInt8) ∉ r

/-- what `constructor_establishes_roots` gives for an accepted configuration -/
def RootsCanonical (cfg : Config) : Prop :=
  canonical cfg.docRoot = true ∧ ∀ a ∈ cfg.aliases, canonical a.2 = true

theorem construct_some (fs : Fs) (raw : RawConfig) (cfg : Config) (h : construct fs raw = some cfg) :
    fs.realpath (cstr raw.docRoot) = some cfg.docRoot ∧ constructAliases fs raw.aliases = some cfg.aliases := by
  unfold construct at h
  split at h
  · cases h
  · split at h
    · cases h
    · cases h; exact ⟨‹_›, ‹_›⟩

theorem constructAliases_some (fs : Fs) (l al : List (Path × Path)) (h : constructAliases fs l = some al) :
    (∀ a ∈ l, fs.realpath (cstr a.2) ≠ none) ∧ ∀ b ∈ al, ∃ q, fs.realpath q = some b.2 := by
  induction l generalizing al with
  | nil => cases h; simp
  | cons x rest ih =>
    obtain ⟨url, p⟩ := x
    unfold constructAliases at h
    split at h
    · cases h
    · split at h
      · cases h
      · next cp hcp =>
        split at h
        · cases h
        · next l' hl' =>
          cases h
          obtain ⟨h1, h2⟩ := ih l' hl'
          exact ⟨List.forall_mem_cons.mpr ⟨by simp [hcp], h1⟩, List.forall_mem_cons.mpr ⟨⟨_, hcp⟩, h2⟩⟩

/-- If the constructor accepts a configuration, every root it stores is a `realpath` answer, so under
`RealpathLaw fs` the hypotheses `RootsCanonical` and "roots are NUL-free" of the
theorems below are what the constructor guarantees. -/
theorem constructor_establishes_roots (fs : Fs) (raw : RawConfig) (cfg : Config) (hfs : RealpathLaw fs)
    (h : construct fs raw = some cfg) :
    RootsCanonical cfg ∧ ((0 : UInt8) ∉ cfg.docRoot ∧ ∀ a ∈ cfg.aliases, (0 : UInt8) ∉ a.2) := by
  obtain ⟨hroot, hal⟩ := construct_some fs raw cfg h
  have hal : ∀ a ∈ cfg.aliases, canonical a.2 = true ∧ (0 : UInt8) ∉ a.2 := fun a ha =>
    let ⟨q, hq⟩ := (constructAliases_some fs _ _ hal).2 a ha
    hfs q a.2 hq
  exact ⟨⟨(hfs _ _ hroot).1, fun a ha => (hal a ha).1⟩, (hfs _ _ hroot).2, fun a ha => (hal a ha).2⟩

/-- An alias whose target `realpath` cannot resolve (a
missing directory) makes the constructor throw: no instance exists, so nothing is served — in
particular the alias is never registered with an empty root (for which `is_file_prefix("",x)`
would hold for every `x`). -/
theorem constructor_refuses_unresolvable_alias (fs : Fs) (raw : RawConfig)
    (h : ∃ a ∈ raw.aliases, fs.realpath (cstr a.2) = none) : construct fs raw = none := by
  obtain ⟨a, ha, hnone⟩ := h
  cases hc : construct fs raw with
  | none => rfl
  | some cfg => exact absurd hnone ((constructAliases_some fs _ _ (construct_some fs raw cfg hc).2).1 a ha)

theorem trimSep_canonical (root rest : Bytes) (h : canonical rest = true) :
    trimSep (root ++ rest) = root ++ (if rest = [47] then [] else rest) := by
  have hsep : Gen.sep = 47 := rfl
  rw [trimSep, hsep]
  by_cases hrest : rest = [47]
  · subst hrest; simp
  · have hlast := canonical_getLast rest h hrest
    rw [if_neg hrest, if_neg]
    cases hg : rest.getLast? with
    | none => rw [List.getLast?_eq_none_iff.mp hg] at h; cases h
    | some v => simpa [hg] using hlast

theorem isInRoot_some (fs : Fs) (input root real : Path) (h : isInRoot fs input root = some real) :
    fs.realpath (cstr (root ++ [47] ++ input)) = some real ∧ isFilePrefix root real = true := by
  unfold isInRoot at h
  have hjoin : Gen.inRootJoin = [47] := rfl
  rw [hjoin] at h
  split at h
  · cases h
  · split at h
    · cases h; exact ⟨‹_›, ‹_›⟩
    · cases h

/-- `check_in_document_root` (`cidr`) inverted: the remainder handed on is canonical; `real` is `realpath` of `root/rest`
lying under `root` (symlink checking on) or `root ++ rest` without a trailing `/` (off) -/
theorem cidr_some (fs : Fs) (cfg : Config) (f : Bytes) (real : Path)
    (h : checkInDocumentRoot fs cfg f = some real) :
    let rn := pickRoot cfg (normalize f)
    canonical rn.2 = true ∧
      (if cfg.checkSymlinks then
        fs.realpath (cstr (rn.1 ++ [47] ++ rn.2)) = some real ∧ isFilePrefix rn.1 real = true
       else real = rn.1 ++ (if rn.2 = [47] then [] else rn.2)) := by
  intro rn
  have hcan := pickRoot_rest_canonical cfg (normalize f) (normalize_never_climbs f)
  unfold checkInDocumentRoot at h
  simp only [gen_cidr] at h
  split at h
  · cases h
  · split at h
    · cases h
    · next hl =>
      have hcan : canonical rn.2 = true := hcan (by simpa using hl)
      refine ⟨hcan, ?_⟩
      split at h
      · next hs => rw [if_pos hs]; exact isInRoot_some fs _ _ _ h
      · next hs => cases h; rw [if_neg hs]; exact trimSep_canonical _ _ hcan

theorem indexPath_some (fs : Fs) (cfg : Config) (f : Bytes) (p2 : Path) (h : indexPath fs cfg f = some p2) :
    checkInDocumentRoot fs cfg (f ++ [47] ++ cfg.indexFile) = some p2 := by
  unfold indexPath at h
  have hjoin : Gen.indexJoin = [47] := rfl
  rw [hjoin] at h
  split at h
  · cases h
  · split at h
    · cases h; assumption
    · cases h

/-- what the decision tree of `main` has established when it answers -/
inductive MainSpec (fs : Fs) (cfg : Config) (f : Bytes) : Outcome → Prop
  | notFound : MainSpec fs cfg f .notFound
  | redirect (p : Path) (hc : checkInDocumentRoot fs cfg f = some p) (hd : fs.mode (cstr p) &&& 0o040000 ≠ 0)
      (hne : f ≠ []) (hl : f.getLast? ≠ some 47)
      (hi : (indexPath fs cfg f).isSome = true ∨ cfg.listing = true) :
      MainSpec fs cfg f (.redirect (f ++ [47]))
  | listing (p : Path) (names : List Bytes) (hc : checkInDocumentRoot fs cfg f = some p)
      (hl : cfg.listing = true) (hr : fs.readdir (cstr p) = some names) :
      MainSpec fs cfg f (.listing f p (names.filterMap (listRow fs p)))
  | serve (req : Bytes) (p : Path) (c : Bytes) (hreq : req = f ∨ req = f ++ [47] ++ cfg.indexFile)
      (hc : checkInDocumentRoot fs cfg req = some p) (hm : fs.mode (cstr p) &&& 0o100000 ≠ 0)
      (hr : fs.read (cstr p) = some c) : MainSpec fs cfg f (.serve p c)

theorem serveFile_spec (fs : Fs) (cfg : Config) (f req : Bytes) (p : Path)
    (hreq : req = f ∨ req = f ++ [47] ++ cfg.indexFile) (hc : checkInDocumentRoot fs cfg req = some p)
    (hm : fs.mode (cstr p) &&& 0o100000 ≠ 0) : MainSpec fs cfg f (serveFile fs p) := by
  unfold serveFile
  cases hr : fs.read (cstr p) with
  | none => exact .notFound
  | some c => exact .serve req p c hreq hc hm hr

theorem main_spec (fs : Fs) (cfg : Config) (f : Bytes) (o : Outcome) (h : main fs cfg f = o) : MainSpec fs cfg f o := by
  subst h
  unfold main
  cases hc : checkInDocumentRoot fs cfg f with
  | none => exact .notFound
  | some p =>
    simp only [gen_masks, gen_cidr]
    split
    · next hdir =>      -- `s & S_IFDIR`: a directory
      split
      · next hcond =>   -- no trailing `/`, and an index file or listing: redirect
        simp only [Bool.and_eq_true, Bool.not_eq_true', bne_iff_ne, ne_eq, Bool.or_eq_true,
          List.isEmpty_eq_false_iff] at hcond
        obtain ⟨⟨hne, hlast⟩, hidx⟩ := hcond
        exact .redirect p hc (by simpa using hdir) hne hlast hidx
      · split
        · next p2 hidx =>   -- an index file was found: it takes the place of `path`
          split
          · exact .notFound   -- (its `S_IFREG` bit tested again: cannot fail, `indexPath` tested it with the same mask, `gen_masks`)
          · next hreg =>
            exact serveFile_spec fs cfg f _ p2 (Or.inr rfl) (indexPath_some fs cfg f p2 hidx) (by simpa using hreg)
        · split             -- no index file
          · next hl =>      -- listing on: `list_dir`
            unfold listDir
            cases hr : fs.readdir (cstr p) with
            | none => exact .notFound
            | some names => exact .listing p names hc hl hr
          · exact .notFound
    · split               -- not a directory
      · exact .notFound
      · next hreg => exact serveFile_spec fs cfg f f p (Or.inl rfl) hc (by simpa using hreg)

/-- what `main` handed to `open` (file streamed) or `opendir` (directory listed), if anything -/
abbrev openedPath (fs : Fs) (cfg : Config) (f : Bytes) : Option Path := (main fs cfg f).opened

theorem opened_cidr (fs : Fs) (cfg : Config) (f : Bytes) (path : Path) (h : openedPath fs cfg f = some path) :
    ∃ req, (req = f ∨ req = f ++ [47] ++ cfg.indexFile) ∧ checkInDocumentRoot fs cfg req = some path := by
  unfold openedPath at h
  generalize ho : main fs cfg f = o at h
  cases main_spec fs cfg f o ho with
  | notFound => cases h
  | redirect => cases h
  | listing p names hc => cases h; exact ⟨f, Or.inl rfl, hc⟩
  | serve req p c hreq hc => cases h; exact ⟨req, hreq, hc⟩

/-- Symlink checking on: whenever `main` streams a file or lists a
directory — for the request itself or for request + `/` + index file — the path it opens is the
answer `realpath` gave for `root ++ "/" ++ rest`, where `(root, rest)` is what the alias loop chose
for the normalised request (`alias_choice_component_wise` says which), `rest` is canonical, and, given
`RealpathLaw fs` and `RootsCanonical cfg`, the opened path lies inside `root` component-wise (`Spec.inside`), i.e.
after all symbolic links were followed; it contains no NUL, so the kernel is handed exactly this path. -/
theorem served_inside_root_symlinks (fs : Fs) (cfg : Config) (f : Bytes) (path : Path)
    (hfs : RealpathLaw fs) (hroots : RootsCanonical cfg) (hs : cfg.checkSymlinks = true)
    (h : openedPath fs cfg f = some path) :
    ∃ req, (req = f ∨ req = f ++ [47] ++ cfg.indexFile) ∧
      canonical (pickRoot cfg (normalize req)).2 = true ∧
      fs.realpath (cstr ((pickRoot cfg (normalize req)).1 ++ [47] ++ (pickRoot cfg (normalize req)).2)) = some path ∧
      inside (pickRoot cfg (normalize req)).1 path = true ∧ cstr path = path := by
  obtain ⟨req, hreq, hc⟩ := opened_cidr fs cfg f path h
  obtain ⟨hcan, hrest⟩ := cidr_some fs cfg req path hc
  rw [if_pos hs] at hrest
  have hrootc := pickRoot_root (P := fun r => canonical r = true) cfg (normalize req) hroots.1 hroots.2
  obtain ⟨hpathc, hnul⟩ := hfs _ _ hrest.1
  refine ⟨req, hreq, hcan, hrest.1, ?_, cstr_of_nul_free path hnul⟩
  rw [inside, hrootc, hpathc, ← is_file_prefix_iff_component_prefix _ _ hrootc hpathc, hrest.2]
  rfl

/-- Symlink checking off: the check is purely lexical.  Whatever `main`
opens is, as a `std::string`, `root ++ rest` for the chosen root and a canonical `rest` (in
particular free of `..`; a lone `/` is dropped). -/
theorem served_lexical_no_symlink_check (fs : Fs) (cfg : Config) (f : Bytes) (path : Path)
    (hs : cfg.checkSymlinks = false) (h : openedPath fs cfg f = some path) :
    ∃ req, (req = f ∨ req = f ++ [47] ++ cfg.indexFile) ∧
      canonical (pickRoot cfg (normalize req)).2 = true ∧
      path = (pickRoot cfg (normalize req)).1 ++
        (if (pickRoot cfg (normalize req)).2 = [47] then [] else (pickRoot cfg (normalize req)).2) := by
  obtain ⟨req, hreq, hc⟩ := opened_cidr fs cfg f path h
  obtain ⟨hcan, hrest⟩ := cidr_some fs cfg req path hc
  rw [hs] at hrest
  exact ⟨req, hreq, hcan, hrest⟩

/-- Symlink checking off, and `PATH_INFO`, the index file name and the
roots free of NUL (they are C strings in every deployment): the `std::string` that `main` opens
contains no NUL, so the C string the kernel receives is the whole `root ++ rest` of
`served_lexical_no_symlink_check`, not a truncation of it. -/
theorem served_lexical_cstring (fs : Fs) (cfg : Config) (f : Bytes) (path : Path)
    (hs : cfg.checkSymlinks = false) (h : openedPath fs cfg f = some path)
    (hf : (0 : UInt8) ∉ f) (hi : (0 : UInt8) ∉ cfg.indexFile)
    (hr : (0 : UInt8) ∉ cfg.docRoot ∧ ∀ a ∈ cfg.aliases, (0 : UInt8) ∉ a.2) :
    (0 : UInt8) ∉ path ∧ cstr path = path := by
  obtain ⟨req, hreq, _, hp⟩ := served_lexical_no_symlink_check fs cfg f path hs h
  have hreq0 : (0 : UInt8) ∉ req := by
    rcases hreq with rfl | rfl
    · exact hf
    · simp [hf, hi]
  have hroot0 := pickRoot_root (P := fun r => (0 : UInt8) ∉ r) cfg (normalize req) hr.1 hr.2
  have hrest0 : (0 : UInt8) ∉ (pickRoot cfg (normalize req)).2 := fun m => by
    rcases pickRoot_rest_bytes cfg (normalize req) 0 m with m | m
    · rcases normalize_bytes_from_input req 0 m with m | m
      · exact hreq0 m
      · cases m
    · cases m
  have h0 : (0 : UInt8) ∉ path := by
    rw [hp, List.mem_append, not_or]
    exact ⟨hroot0, by split <;> simp [hrest0]⟩
  exact ⟨h0, cstr_of_nul_free path h0⟩

/-- Whatever the request target, the `PATH_INFO` the HTTP front end hands to
the file server contains no NUL (it is stored as a C string): the hypothesis of
`served_lexical_cstring` holds for every request that arrives over HTTP. -/
theorem path_info_nul_free (target : Bytes) : (0 : UInt8) ∉ pathInfoOfTarget target :=
  cstr_nul_free _

/-- "`path` is where the request may legitimately lead": the kernel is handed exactly `path`; it is
derived from the request (or request + `/` + index file) through the chosen root; with symlink
checking on it is a `realpath` answer inside that root, with it off it is `root ++ rest` with `rest`
canonical. -/
def Confined (fs : Fs) (cfg : Config) (f : Bytes) (path : Path) : Prop :=
  cstr path = path ∧
  ∃ req, (req = f ∨ req = f ++ [47] ++ cfg.indexFile) ∧
    canonical (pickRoot cfg (normalize req)).2 = true ∧
    (if cfg.checkSymlinks then
       fs.realpath (cstr ((pickRoot cfg (normalize req)).1 ++ [47] ++ (pickRoot cfg (normalize req)).2)) = some path ∧
       inside (pickRoot cfg (normalize req)).1 path = true
     else
       path = (pickRoot cfg (normalize req)).1 ++
         (if (pickRoot cfg (normalize req)).2 = [47] then [] else (pickRoot cfg (normalize req)).2))

/-- The three confinement theorems composed with the HTTP glue, for every request target (any bytes, any
percent-encoding): under their hypotheses, less NUL-freeness of the request, whatever `main` opens is `Confined`. -/
theorem http_request_confined (fs : Fs) (cfg : Config) (target : Bytes) (path : Path)
    (hfs : RealpathLaw fs) (hroots : RootsCanonical cfg)
    (hi : (0 : UInt8) ∉ cfg.indexFile) (hr : (0 : UInt8) ∉ cfg.docRoot ∧ ∀ a ∈ cfg.aliases, (0 : UInt8) ∉ a.2)
    (h : openedPath fs cfg (pathInfoOfTarget target) = some path) :
    Confined fs cfg (pathInfoOfTarget target) path := by
  unfold Confined
  cases hs : cfg.checkSymlinks with
  | true =>
    obtain ⟨req, hreq, hc, hreal, hin, hcs⟩ := served_inside_root_symlinks fs cfg _ path hfs hroots hs h
    exact ⟨hcs, req, hreq, hc, hreal, hin⟩
  | false =>
    obtain ⟨req, hreq, hc, hp⟩ := served_lexical_no_symlink_check fs cfg _ path hs h
    exact ⟨(served_lexical_cstring fs cfg _ path hs h (path_info_nul_free target) hi hr).2, req, hreq, hc, hp⟩

/-- the file system of the witness below: `/r` and `/r/..` are directories, `/r/..` holds `s` -/
def witnessFs : Fs where
  realpath _ := none
  mode q := if q = [47, 114] ∨ q = [47, 114, 47, 46, 46] then 16877
            else if q = [47, 114, 47, 46, 46, 47, 115] then 33188 else 0
  readdir q := if q = [47, 114, 47, 46, 46] then some [[46], [46, 46], [115]] else none
  read _ := none

/-- Why `served_lexical_cstring` assumes NUL-freeness: called
with `file_name = "/..\0/"`, symlink checking off and listing on, `main` lists the directory
`"/r/..\0"`, which the kernel reads as `/r/..` — the parent of the document root.  This is a fact
about the function `main`, not about the server: no front end can deliver a NUL inside
`PATH_INFO` (`path_info_nul_free`). -/
theorem nul_truncation_needs_hypothesis :
    let cfg : Config := { docRoot := [47, 114], aliases := [], checkSymlinks := false, listing := true }
    main witnessFs cfg [47, 46, 46, 0, 47] = .listing [47, 46, 46, 0, 47] [47, 114, 47, 46, 46, 0] [⟨[115], [47]⟩] ∧
    noDotDot (cstr [47, 114, 47, 46, 46, 0]) = false := by
  decide +kernel

/-- If `main` streams `content` from `path` then `stat(path)` had
the `S_IFREG` bit (mask `0100000`) and `content` is what opening and reading `path` gave. -/
theorem only_regular_files_streamed (fs : Fs) (cfg : Config) (f : Bytes) (path : Path) (content : Bytes)
    (h : main fs cfg f = .serve path content) :
    fs.mode (cstr path) &&& 0o100000 ≠ 0 ∧ fs.read (cstr path) = some content := by
  cases main_spec fs cfg f _ h with
  | serve req _ _ _ _ hm hr => exact ⟨hm, hr⟩

/-- POSIX laws for the externals `stat` and `open`: the type field of `st_mode` is one of the seven
file types minus `S_IFLNK` (stat follows links; 0 = stat failed), and a socket cannot be opened -/
def StatLaw (fs : Fs) : Prop :=
  (∀ q, ftype (fs.mode q) ∈ statTypes) ∧ (∀ q, ftype (fs.mode q) = ftSock → fs.read q = none)

/-- The code tests the file type with `&` (so a socket,
`0140000`, passes `& S_IFREG`); under the POSIX laws above what is actually streamed is still a
regular file. -/
theorem only_regular_files_streamed_posix (fs : Fs) (cfg : Config) (f : Bytes) (path : Path) (content : Bytes)
    (hlaw : StatLaw fs) (h : main fs cfg f = .serve path content) :
    ftype (fs.mode (cstr path)) = ftReg := by
  obtain ⟨hbit, hread⟩ := only_regular_files_streamed fs cfg f path content h
  have hb := and_two_pow_ne_zero _ 15 hbit
  have ht := hlaw.1 (cstr path)
  have hs := hlaw.2 (cstr path)
  unfold ftype ftReg ftSock statTypes at *
  simp only [List.mem_cons, List.not_mem_nil, or_false] at ht
  -- of the types `stat` can report only `S_IFREG` (8) and `S_IFSOCK` (12) have the bit
  rcases (by omega : fs.mode (cstr path) / 4096 % 16 = 8 ∨ fs.mode (cstr path) / 4096 % 16 = 12) with e | e
  · exact e
  · rw [hs e] at hread; cases hread

theorem main_listing (fs : Fs) (cfg : Config) (f url : Bytes) (path : Path) (rows : List Row)
    (h : main fs cfg f = .listing url path rows) :
    cfg.listing = true ∧ url = f ∧
    ∃ names, fs.readdir (cstr path) = some names ∧ rows = names.filterMap (listRow fs path) := by
  cases main_spec fs cfg f _ h with
  | listing _ names _ hl hr => exact ⟨hl, rfl, names, hr, rfl⟩

theorem listRow_some (fs : Fs) (path : Path) (name : Bytes) (r : Row) (h : listRow fs path name = some r) :
    r.name = name ∧ name.head? ≠ some 46 ∧ (r.add = [] ∨ r.add = [47]) := by
  rw [listRow_eq] at h
  split at h
  · cases h
  · split at h
    · cases h; exact ⟨rfl, ‹_›, Or.inr rfl⟩
    · split at h
      · cases h; exact ⟨rfl, ‹_›, Or.inl rfl⟩
      · cases h

/-- what holds of every row of a listing of a directory whose entries are `names` -/
structure ListedRow (names : List Bytes) (r : Row) : Prop where
  entry : r.name ∈ names
  not_dot : r.name.head? ≠ some 46
  add : r.add = [] ∨ r.add = [47]
  text : escapedFor (r.name ++ r.add) r.text = true
  href : attrSafe r.href = true
  anchor : parseAnchor r.anchor = some (r.href, r.text)
  judge : rowOk names r.anchor = true

theorem row_wellformed (names : List Bytes) (r : Row) (hmem : r.name ∈ names)
    (hdot : r.name.head? ≠ some 46) (hadd : r.add = [] ∨ r.add = [47]) : ListedRow names r := by
  have hsafe : attrSafe r.href = true := by
    rw [Row.href, attrSafe_append, attrSafe_urlencode]
    rcases hadd with e | e <;> rw [e] <;> rfl
  have hparse : parseAnchor r.anchor = some (r.href, r.text) := parseAnchor_build r.href r.text hsafe
  have hesc : escapedFor (r.name ++ r.add) r.text = true := by
    rw [Row.text]
    rcases hadd with e | e <;> rw [e]
    · rw [List.append_nil, List.append_nil]; exact escapedFor_escape r.name
    · rw [escape_append_slash]; exact escapedFor_escape _
  refine ⟨hmem, hdot, hadd, hesc, hsafe, hparse, ?_⟩
  rw [rowOk, hparse]
  simp only [hsafe, Bool.true_and, List.any_eq_true]
  refine ⟨r.name, hmem, ?_⟩
  rcases hadd with e | e <;> rw [e] at hesc <;> simp_all

theorem listing_rows (fs : Fs) (cfg : Config) (f url : Bytes) (path : Path) (rows : List Row)
    (h : main fs cfg f = .listing url path rows) :
    ∃ names, fs.readdir (cstr path) = some names ∧ ∀ r ∈ rows, ListedRow names r := by
  obtain ⟨-, -, names, hrd, rfl⟩ := main_listing fs cfg f url path rows h
  refine ⟨names, hrd, fun r hr => ?_⟩
  obtain ⟨name, hn, hrow⟩ := List.mem_filterMap.mp hr
  obtain ⟨rfl, hdot, hadd⟩ := listRow_some fs path name r hrow
  exact row_wellformed names r hn hdot hadd

theorem listing_only_when_enabled (fs : Fs) (cfg : Config) (f url : Bytes) (path : Path) (rows : List Row)
    (h : main fs cfg f = .listing url path rows) : cfg.listing = true :=
  (main_listing fs cfg f url path rows h).1

/-- `list_dir` gets the request path for the page title (`url = f`; the model has no title, and `escape` of any
string is well-formed);
every row is an entry `readdir` returned for the directory opened, its name does not start with
`.`, and its visible text is safe markup-wise (`Spec.escapedFor`: no `< > " '`, every `&` starts a
character reference) and un-escapes to the name, or the name plus `/`. -/
theorem listing_skips_dotfiles_and_escapes (fs : Fs) (cfg : Config) (f url : Bytes) (path : Path) (rows : List Row)
    (h : main fs cfg f = .listing url path rows) :
    url = f ∧ escapedFor url (escape url) = true ∧
    ∃ names, fs.readdir (cstr path) = some names ∧
      ∀ r ∈ rows, r.name ∈ names ∧ r.name.head? ≠ some 46 ∧ (r.add = [] ∨ r.add = [47]) ∧
        escapedFor (r.name ++ r.add) r.text = true := by
  obtain ⟨names, hrd, hrows⟩ := listing_rows fs cfg f url path rows h
  refine ⟨(main_listing fs cfg f url path rows h).2.1, escapedFor_escape url, names, hrd, fun r hr => ?_⟩
  have w := hrows r hr
  exact ⟨w.entry, w.not_dot, w.add, w.text⟩

/-- The link target of every row — `util::urlencode(name)` plus `/`
for directories, over the byte classes extracted from `urlencode_impl` — is safe inside the
single-quoted `href='…'` the code puts it in: it contains none of `' " < > &`, so no entry name can
end the attribute early or open markup.  Consequently the whole anchor the code writes is read back
by an HTML parser as exactly (href, text) (`Spec.parseAnchor`), and the row satisfies the judge's
predicate `Spec.rowOk` for the directory that was read. -/
theorem listing_href_attribute_safe (fs : Fs) (cfg : Config) (f url : Bytes) (path : Path) (rows : List Row)
    (h : main fs cfg f = .listing url path rows) :
    ∃ names, fs.readdir (cstr path) = some names ∧
      ∀ r ∈ rows, attrSafe r.href = true ∧ parseAnchor r.anchor = some (r.href, r.text) ∧
        rowOk names r.anchor = true := by
  obtain ⟨names, hrd, hrows⟩ := listing_rows fs cfg f url path rows h
  exact ⟨names, hrd, fun r hr => ⟨(hrows r hr).href, (hrows r hr).anchor, (hrows r hr).judge⟩⟩

/-- Exactly which entries are omitted: a name is shown iff it does not start
with `.` and `stat(dir/name)` succeeded with the `S_IFDIR` or the `S_IFREG` bit (dot-files, dangling
links, FIFOs and character devices are left out; the bits are tested with `&`, so a block device,
`0060000`, and a socket, `0140000`, pass as directories); order is `readdir` order. -/
theorem listing_rows_exact (fs : Fs) (cfg : Config) (f url : Bytes) (path : Path) (rows : List Row)
    (h : main fs cfg f = .listing url path rows) :
    ∃ names, fs.readdir (cstr path) = some names ∧
      rows.map (·.name) = names.filter (fun n => n.head? != some 46 &&
        (fs.mode (cstr (path ++ [47] ++ n)) &&& 0o040000 != 0 || fs.mode (cstr (path ++ [47] ++ n)) &&& 0o100000 != 0)) := by
  obtain ⟨_, _, names, hrd, hrows⟩ := main_listing fs cfg f url path rows h
  refine ⟨names, hrd, ?_⟩
  rw [hrows, List.map_filterMap, ← List.filterMap_eq_filter]
  congr 1
  funext n
  rw [listRow_eq, Option.guard]
  generalize fs.mode _ = m
  by_cases h1 : n.head? = some 46
  · simp [h1]
  · cases h2 : m &&& 0o040000 != 0 <;> cases h3 : m &&& 0o100000 != 0 <;> simp [h1]

/-- The only redirect the file server issues goes to the request path plus a
trailing `/`, and only for a path that `check_in_document_root` accepted, whose `stat` has the
`S_IFDIR` bit, that does not already end in `/`, when an index file exists or listing is on. -/
theorem redirect_target (fs : Fs) (cfg : Config) (f loc : Bytes) (h : main fs cfg f = .redirect loc) :
    loc = f ++ [47] ∧ f ≠ [] ∧ f.getLast? ≠ some 47 ∧
    (∃ p, checkInDocumentRoot fs cfg f = some p ∧ fs.mode (cstr p) &&& 0o040000 ≠ 0) ∧
    ((indexPath fs cfg f).isSome = true ∨ cfg.listing = true) := by
  cases main_spec fs cfg f _ h with
  | redirect p hc hd hne hl hi => exact ⟨rfl, hne, hl, ⟨p, hc, hd⟩, hi⟩

/-- Out of the box (settings absent) symlink checking is on, listing is off
and the index file is `index.html` — the constructor's defaults as extracted from the source. -/
theorem defaults_are_safe :
    Gen.defaultCheckSymlink = true ∧ Gen.defaultListing = false ∧
    Gen.defaultIndex = [105, 110, 100, 101, 120, 46, 104, 116, 109, 108] := by decide

/-- The statement of C13 in one piece, for every HTTP request target, every configuration with canonical
NUL-free roots and NUL-free index name, and every file system obeying `RealpathLaw`
and `StatLaw`: the reply is a 404, a redirect to the request path plus `/`, a listing (only if enabled; of a
confined directory; every row a non-dot entry, escaped), or the content of a confined **regular** file. -/
theorem file_server_property (fs : Fs) (cfg : Config) (target : Bytes)
    (hfs : RealpathLaw fs) (hst : StatLaw fs) (hroots : RootsCanonical cfg)
    (hi : (0 : UInt8) ∉ cfg.indexFile) (hr : (0 : UInt8) ∉ cfg.docRoot ∧ ∀ a ∈ cfg.aliases, (0 : UInt8) ∉ a.2) :
    match main fs cfg (pathInfoOfTarget target) with
    | .notFound => True
    | .redirect loc => loc = pathInfoOfTarget target ++ [47]
    | .listing url path rows =>
        cfg.listing = true ∧ Confined fs cfg (pathInfoOfTarget target) path ∧
        escapedFor (pathInfoOfTarget target) (escape url) = true ∧
        ∃ names, fs.readdir path = some names ∧
          ∀ r ∈ rows, r.name ∈ names ∧ r.name.head? ≠ some 46 ∧ escapedFor (r.name ++ r.add) r.text = true ∧
            attrSafe r.href = true ∧ rowOk names r.anchor = true
    | .serve path content =>
        Confined fs cfg (pathInfoOfTarget target) path ∧ ftype (fs.mode path) = ftReg ∧ fs.read path = some content := by
  have hconf := fun path => http_request_confined fs cfg target path hfs hroots hi hr
  cases hm : main fs cfg (pathInfoOfTarget target) with
  | notFound => trivial
  | redirect loc => exact (redirect_target fs cfg _ loc hm).1
  | listing url path rows =>
    have hc := hconf path (by rw [openedPath, hm]; rfl)
    obtain ⟨hl, hu, _⟩ := main_listing fs cfg _ url path rows hm
    obtain ⟨names, hrd, hrows⟩ := listing_rows fs cfg _ url path rows hm
    refine ⟨hl, hc, hu ▸ escapedFor_escape url, names, hc.1 ▸ hrd, fun r hr' => ?_⟩
    have w := hrows r hr'
    exact ⟨w.entry, w.not_dot, w.text, w.href, w.judge⟩
  | serve path content =>
    have hc := hconf path (by rw [openedPath, hm]; rfl)
    have h1 := only_regular_files_streamed_posix fs cfg _ path content hst hm
    have h2 := (only_regular_files_streamed fs cfg _ path content hm).2
    rw [hc.1] at h1 h2
    exact ⟨hc, h1, h2⟩

-- non-vacuity and sanity instances: tests of the statements' reading, not of the theorems

section Examples
/-- a small file system: `/r/a.txt`, `/r/d/` (dir, no index, holds `.h` and `<b>`), `/r/l` → `/o/s.txt` (outside);
`/t` is an alias target with `index.html` -/
def exFs : Fs where
  realpath q :=
    if q = [47,114,47,47,97,46,116,120,116] then some [47,114,47,97,46,116,120,116]        -- /r//a.txt
    else if q = [47,114,47,47,100] then some [47,114,47,100]                               -- /r//d
    else if q = [47,114,47,47,108] then some [47,111,47,115,46,116,120,116]                -- /r//l -> /o/s.txt
    else if q = [47,116,47,47] then some [47,116]                                          -- /t//
    else if q = [47,116,47,47,105,110,100,101,120,46,104,116,109,108] then some [47,116,47,105,110,100,101,120,46,104,116,109,108]
    else none
  mode q :=
    if q = [47,114,47,100] ∨ q = [47,116] then 16877
    else if q = [47,114,47,97,46,116,120,116] ∨ q = [47,111,47,115,46,116,120,116] ∨ q = [47,116,47,105,110,100,101,120,46,104,116,109,108]
          ∨ q = [47,114,47,100,47,60,98,62] ∨ q = [47,114,47,108] then 33188
    else 0
  readdir q := if q = [47,114,47,100] then some [[46], [46,46], [46,104], [60,98,62]] else none
  read q :=
    if q = [47,114,47,97,46,116,120,116] then some [65]
    else if q = [47,111,47,115,46,116,120,116] ∨ q = [47,114,47,108] then some [83]
    else if q = [47,116,47,105,110,100,101,120,46,104,116,109,108] then some [73]
    else none

def exCfg : Config := { docRoot := [47,114], aliases := [([47,120], [47,116])], checkSymlinks := true, listing := true }

-- a file is served: hypotheses of served_inside_root_symlinks / only_regular_files_streamed are met non-trivially
example : main exFs exCfg [47,97,46,116,120,116] = .serve [47,114,47,97,46,116,120,116] [65] := by decide +kernel
-- the symlink to the outside is refused (404) although the target is a regular file
example : main exFs exCfg [47,108] = .notFound := by decide +kernel
-- alias `/x` → `/t` with an index file: `/x/` serves `/t/index.html`
example : main exFs exCfg [47,120,47] = .serve [47,116,47,105,110,100,101,120,46,104,116,109,108] [73] := by decide +kernel
-- `/xy` is not under alias `/x`
example : main exFs exCfg [47,120,121] = .notFound := by decide +kernel
-- directory without trailing slash: redirect; with it: listing that omits `.h` and escapes `<b>`
example : main exFs exCfg [47,100] = .redirect [47,100,47] := by decide +kernel
example : main exFs exCfg [47,100,47] = .listing [47,100,47] [47,114,47,100] [⟨[60,98,62], []⟩] := by decide +kernel
example : (Row.text ⟨[60,98,62], []⟩) = [38,108,116,59,98,38,103,116,59] := by decide +kernel
-- climbing is neutralised lexically, and the quirk of the real code is reproduced
example : normalize [47,46,46,47,46,46,47,97,46,116,120,116] = [47,97,46,116,120,116] := by decide +kernel
example : normalize [47,97,47,98,47,46,46,47,99] = [47,97,99] := by decide +kernel
-- is_file_prefix on canonical paths: `/al` vs `/alX`, `/al/x`, `/al`
example : isFilePrefix [47,97,108] [47,97,108,88] = false ∧ isFilePrefix [47,97,108] [47,97,108,47,120] = true ∧
    isFilePrefix [47,97,108] [47,97,108] = true := by decide +kernel
-- the laws the headline theorem assumes of the externals hold of the example file system
theorem of_ite_some {α : Type} {P : α → Prop} {c : Prop} [Decidable c] {a r : α} {e : Option α}
    (ha : P a) (he : e = some r → P r) (h : (if c then some a else e) = some r) : P r := by
  split at h
  · cases h; exact ha
  · exact he h
theorem exFs_realpathLaw : RealpathLaw exFs := by
  intro q r
  -- one step per row of the table
  have step := @of_ite_some Path (fun r => canonical r = true ∧ (0 : UInt8) ∉ r)
  refine step ?_ (step ?_ (step ?_ (step ?_ (step ?_ fun h : none = some r => nomatch h))))
  all_goals decide +kernel
theorem exFs_statLaw : StatLaw exFs := by
  constructor
  · intro q
    simp only [exFs]
    split
    · decide
    · split <;> decide
  · intro q h
    simp only [exFs] at h
    split at h
    · simp [ftype, ftSock] at h
    · split at h <;> simp [ftype, ftSock] at h
example : ∀ q ∈ [[47,114,47,47,97,46,116,120,116], [47,114,47,47,100], [47,114,47,47,108], [47,116,47,47]],
    ∀ r, exFs.realpath q = some r → canonical r = true ∧ (0 : UInt8) ∉ r :=
  fun q _ r h => exFs_realpathLaw q r h
theorem exCfg_rootsCanonical : RootsCanonical exCfg := by unfold RootsCanonical; decide +kernel
example : RootsCanonical exCfg := exCfg_rootsCanonical
-- the headline theorem applies to the example (request `/x/`, alias with index file)
example : Confined exFs exCfg (pathInfoOfTarget [47,120,47]) [47,116,47,105,110,100,101,120,46,104,116,109,108] := by
  have h := file_server_property exFs exCfg [47,120,47] exFs_realpathLaw exFs_statLaw
    exCfg_rootsCanonical (by decide +kernel) (by decide +kernel)
  rw [show main exFs exCfg (pathInfoOfTarget [47,120,47]) =
    .serve [47,116,47,105,110,100,101,120,46,104,116,109,108] [73] by decide +kernel] at h
  exact h.1
-- symlink checking off: the same request for `/l` is accepted lexically (root ++ rest) and the link is followed
example : main exFs { exCfg with checkSymlinks := false } [47,108] = .serve [47,114,47,108] [83] := by decide +kernel
example : checkInDocumentRoot exFs { exCfg with checkSymlinks := false } [47,46,46,47,108] = some [47,114,47,108] := by decide +kernel
-- PATH_INFO from a request target: `%2e%2e` decodes to `..`, `%00` cuts the string
example : pathInfoOfTarget [47,37,50,101,37,50,101,47,97,37,48,48,98,63,113] = [47,46,46,47,97] := by
  decide +kernel
end Examples

end Cppcms.C13.Props
