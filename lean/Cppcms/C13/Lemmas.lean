import Cppcms.C13.Model
import Cppcms.C13.Spec
import Cppcms.C15.Props
import Cppcms.Lib.Scan
/-! Lemmas about strings and the model functions of C13: splitting/joining at `/`, canonical paths, the
`normalize_path` loop as a machine on components, what `is_file_prefix` computes, the listing's escaping. -/
namespace Cppcms.C13
open Cppcms Spec

-- the generated constants, read back: a changed constant breaks these first

theorem gen_norm :
    Gen.normLead = 47 ∧ Gen.normLeadStr = [47] ∧ Gen.normFind = 47 ∧ Gen.normSkipLen = 1 ∧ Gen.normSkipCh = 46 ∧
    Gen.normUpLen = 2 ∧ Gen.normUp0 = 46 ∧ Gen.normUp1 = 46 ∧ Gen.normBack = 47 ∧ Gen.normAppend = 47 ∧
    Gen.normTrim = 47 := by decide

theorem gen_pfx : Gen.sep = 47 ∧ Gen.pfxEmptyLen = 0 ∧ Gen.pfxLastOff = 1 ∧
    (∀ a b, Gen.pfxTooLong a b = decide (a > b)) ∧ (∀ a b, Gen.pfxHasNext a b = decide (a > b)) :=
  ⟨rfl, rfl, rfl, fun _ _ => rfl, fun _ _ => rfl⟩

/-- `cidr`: `check_in_document_root`; the last three are constants of `main` -/
theorem gen_cidr : Gen.cidrEmptyRepl = [47] ∧ Gen.cidrLead = 47 ∧ Gen.inRootJoin = [47] ∧ Gen.indexJoin = [47] ∧
    Gen.redirEndCh = 47 ∧ Gen.redirSuffix = [47] := by decide

theorem gen_masks : Gen.mainDirMask = 0o040000 ∧ Gen.mainIndexMask = 0o100000 ∧ Gen.mainRegMask = 0o100000 ∧
    Gen.listDirMask = 0o040000 ∧ Gen.listRegMask = 0o100000 := by decide

theorem gen_list : Gen.listSkipStr = [46] ∧ Gen.listSkipLen = 1 ∧ Gen.listJoin = [47] ∧ Gen.listDirAdd = [47] := by decide

/-- `/c1/c2/.../cn` (empty for no components) -/
def render (cs : List Bytes) : Bytes := cs.flatMap (fun c => 47 :: c)

@[simp] theorem render_nil : render [] = [] := rfl
@[simp] theorem render_cons (c : Bytes) (cs : List Bytes) : render (c :: cs) = 47 :: (c ++ render cs) := by
  simp [render]
theorem render_append (a b : List Bytes) : render (a ++ b) = render a ++ render b := by
  simp [render]

theorem splitSlash_ne_nil (t : Bytes) : splitSlash t ≠ [] := by
  cases t with
  | nil => simp [splitSlash]
  | cons c rest =>
    rw [splitSlash]
    split
    · simp
    · split <;> simp

/-- induction along `splitSlash`: a `/` opens a new piece, any other byte joins the first piece
(there always is one) -/
theorem splitSlash_induction {motive : Bytes → List Bytes → Prop} (nil : motive [] [[]])
    (slash : ∀ t l, motive t l → motive (47 :: t) ([] :: l))
    (byte : ∀ x t h l, x ≠ 47 → motive t (h :: l) → motive (x :: t) ((x :: h) :: l)) :
    ∀ t, motive t (splitSlash t) := by
  intro t
  induction t with
  | nil => exact nil
  | cons x t ih =>
    rw [splitSlash]
    split
    · next hx => exact hx ▸ slash t _ ih
    · next hx =>
      split
      · next hs => exact absurd hs (splitSlash_ne_nil t)
      · next h l hs => exact byte x t h l hx (hs ▸ ih)

theorem render_splitSlash (t : Bytes) : render (splitSlash t) = 47 :: t := by
  refine splitSlash_induction (motive := fun t l => render l = 47 :: t) rfl ?_ ?_ t
  · intro t l ih; simp [ih]
  · intro x t h l _ ih; simpa using ih

theorem splitSlash_slashFree (t : Bytes) : ∀ c ∈ splitSlash t, (47 : UInt8) ∉ c := by
  refine splitSlash_induction (motive := fun _ l => ∀ c ∈ l, (47 : UInt8) ∉ c) (by simp) ?_ ?_ t
  · intro t l ih; simpa using ih
  · intro x t h l hx ih c hc
    rcases List.mem_cons.mp hc with rfl | hc
    · simpa [Ne.symm hx] using ih h (by simp)
    · exact ih c (by simp [hc])

theorem splitSlash_subset (t : Bytes) : ∀ c ∈ splitSlash t, ∀ b ∈ c, b ∈ t := by
  intro c hc b hb
  have : b ∈ render (splitSlash t) := List.mem_flatMap.mpr ⟨c, hc, List.mem_cons_of_mem _ hb⟩
  rw [render_splitSlash] at this
  rcases List.mem_cons.mp this with rfl | h
  · exact absurd hb (splitSlash_slashFree t c hc)
  · exact h

theorem splitSlash_append_slash (a r : Bytes) : splitSlash (a ++ 47 :: r) = splitSlash a ++ splitSlash r := by
  refine splitSlash_induction (motive := fun a l => splitSlash (a ++ 47 :: r) = l ++ splitSlash r) ?_ ?_ ?_ a
  · simp [splitSlash]
  · intro t l ih; simp [splitSlash, ih]
  · intro x t h l hx ih; simp [splitSlash, hx, ih]

theorem splitSlash_of_slashFree (c : Bytes) (h : (47 : UInt8) ∉ c) : splitSlash c = [c] := by
  induction c with
  | nil => rfl
  | cons x c ih =>
    simp only [List.mem_cons, not_or] at h
    rw [splitSlash, if_neg (Ne.symm h.1), ih h.2]

theorem splitSlash_render (c : Bytes) (cs : List Bytes) (h : ∀ d ∈ c :: cs, (47 : UInt8) ∉ d) :
    splitSlash (c ++ render cs) = c :: cs := by
  induction cs generalizing c with
  | nil => simpa using splitSlash_of_slashFree c (h c (by simp))
  | cons d cs ih =>
    rw [render_cons, splitSlash_append_slash, splitSlash_of_slashFree c (h c (by simp)),
      ih d (fun e he => h e (List.mem_cons_of_mem _ he))]
    rfl

theorem goodComp_iff (c : Bytes) :
    goodComp c = true ↔ c ≠ [] ∧ c ≠ [46] ∧ c ≠ [46, 46] ∧ (47 : UInt8) ∉ c := by
  simp [goodComp, and_assoc]

theorem good_slashFree {c : Bytes} (h : goodComp c = true) : (47 : UInt8) ∉ c := ((goodComp_iff c).mp h).2.2.2
theorem good_ne_nil {c : Bytes} (h : goodComp c = true) : c ≠ [] := ((goodComp_iff c).mp h).1

theorem canonical_iff (p : Bytes) :
    canonical p = true ↔ p.head? = some 47 ∧ ∀ c ∈ comps p, goodComp c = true := by
  simp [canonical]

theorem canonical_slash : canonical [47] = true := by decide

theorem comps_cons (a : UInt8) (t : Bytes) (ht : t ≠ []) : comps (a :: t) = splitSlash t := by
  cases t with
  | nil => exact absurd rfl ht
  | cons _ _ => rfl

theorem comps_append_slash (p r : Bytes) (hp : comps p ≠ []) :
    comps (p ++ 47 :: r) = comps p ++ splitSlash r := by
  -- a path of at most one byte has no components, so `p` has at least two
  match p, hp with
  | [], hp | [_], hp => exact absurd rfl hp
  | a :: b :: t, _ => exact splitSlash_append_slash (b :: t) r

theorem comps_render (P : List Bytes) (hne : P ≠ []) (hg : ∀ d ∈ P, goodComp d = true) :
    comps (render P) = P := by
  cases P with
  | nil => exact absurd rfl hne
  | cons c cs =>
    rw [render_cons, comps_cons _ _ (by simp [good_ne_nil (hg c (by simp))])]
    exact splitSlash_render c cs fun d hd => good_slashFree (hg d hd)

theorem canonical_render (P : List Bytes) (hne : P ≠ []) (hg : ∀ d ∈ P, goodComp d = true) :
    canonical (render P) = true := by
  rw [canonical_iff, comps_render P hne hg]
  cases P with
  | nil => exact absurd rfl hne
  | cons c cs => exact ⟨by simp, hg⟩

theorem canonical_cases (p : Bytes) (h : canonical p = true) :
    p = [47] ∨ (comps p ≠ [] ∧ p = render (comps p)) := by
  match p, ((canonical_iff p).mp h).1 with
  | [x], hh => left; simpa using hh
  | x :: y :: t, hh =>
    obtain rfl : x = 47 := by simpa using hh
    exact Or.inr ⟨splitSlash_ne_nil _, (render_splitSlash _).symm⟩

theorem canonical_cut (x r : Bytes) (hx : x ≠ []) (h : canonical (x ++ 47 :: r) = true) :
    canonical (47 :: r) = true ∧ comps (47 :: r) = splitSlash r := by
  obtain ⟨_, hg⟩ := (canonical_iff _).mp h
  cases x with
  | nil => exact absurd rfl hx
  | cons a x =>
    rw [List.cons_append, comps_cons _ _ (by simp), splitSlash_append_slash] at hg
    have hr : r ≠ [] := by
      rintro rfl
      exact absurd (hg [] (by simp [splitSlash])) (by decide)
    have hc := comps_cons 47 r hr
    exact ⟨(canonical_iff _).mpr ⟨rfl, hc ▸ fun c hc => hg c (List.mem_append_right _ hc)⟩, hc⟩

theorem canonical_getLast (p : Bytes) (h : canonical p = true) (hp : p ≠ [47]) : p.getLast? ≠ some 47 := by
  intro hl
  obtain ⟨x, rfl⟩ := List.getLast?_eq_some_iff.mp hl
  exact absurd (canonical_cut x [] (by rintro rfl; exact hp rfl) h).2 (by decide)

theorem splitSep_eq (t : Bytes) : splitSep t = splitSlash t := by
  induction t with
  | nil => rfl
  | cons x t ih =>
    have hfind : Gen.normFind = 47 := rfl
    rw [splitSep, splitSlash, ih, hfind]; cases splitSlash t <;> rfl

theorem isSkip_iff (c : Bytes) : isSkip c = true ↔ c = [] ∨ c = [46] := by
  match c with
  | [] => simp [isSkip]
  | [a] => simp [isSkip, gen_norm]
  | a :: b :: r => simp [isSkip, gen_norm]

theorem isUp_iff (c : Bytes) : isUp c = true ↔ c = [46, 46] := by
  match c with
  | [] => simp [isUp, gen_norm]
  | [a] => simp [isUp, gen_norm]
  | [a, b] => simp [isUp, gen_norm]
  | a :: b :: e :: r => simp [isUp, gen_norm]

theorem stepComp_skip (b c : Bytes) (last : Bool) (h : c = [] ∨ c = [46]) : stepComp b c last = b := by
  rcases h with rfl | rfl <;> rfl

theorem stepComp_up (b : Bytes) (last : Bool) : stepComp b [46, 46] last = dotdot b := rfl

theorem stepComp_push (b c : Bytes) (last : Bool) (hs : ¬(c = [] ∨ c = [46])) (hu : c ≠ [46, 46]) :
    stepComp b c last = (if last then [] else [47]) ++ c.reverse ++ b := by
  have happ : Gen.normAppend = 47 := rfl
  rw [stepComp, if_neg (mt (isSkip_iff c).mp hs), if_neg (mt (isUp_iff c).mp hu), happ]

theorem backScan_cons (c : UInt8) (t : Bytes) :
    backScan (c :: t) = if t = [] then [c] else if c = 47 then t else backScan t := by
  cases t <;> simp [backScan, gen_norm]

theorem dotdot_cons (c : UInt8) (t : Bytes) : dotdot (c :: t) = if t = [] then [c] else backScan t := by
  cases t <;> simp [dotdot]

theorem finalTrim_cons (c : UInt8) (t : Bytes) :
    finalTrim (c :: t) = if c = 47 ∧ t ≠ [] then t else c :: t := by
  cases t <;> simp [finalTrim, gen_norm]

/-- the part of the request the loop walks over: everything after the leading `/` (added if missing) -/
def afterLead (p : Bytes) : Bytes :=
  match p with
  | 47 :: t => t
  | p => p

theorem afterLead_subset (p : Bytes) : ∀ y ∈ afterLead p, y ∈ p := by
  unfold afterLead
  split <;> simp +contextual

theorem afterLead_cons (x : UInt8) (t : Bytes) : afterLead (x :: t) = if x = 47 then t else x :: t := by
  unfold afterLead
  split <;> simp_all

theorem reverse_of_slashFree (c : Bytes) (hne : c ≠ []) (hf : (47 : UInt8) ∉ c) :
    ∃ x l, c.reverse = x :: l ∧ x ≠ 47 ∧ (47 : UInt8) ∉ l := by
  cases hr : c.reverse with
  | nil => exact absurd (List.reverse_eq_nil_iff.mp hr) hne
  | cons x l =>
    have : (47 : UInt8) ∉ x :: l := by rwa [← hr, List.mem_reverse]
    simp only [List.mem_cons, not_or] at this
    exact ⟨x, l, rfl, Ne.symm this.1, this.2⟩

/-- `stepComp` is told whether the piece is the last one only to leave out the separator after it,
which `finalTrim` would remove anyway -/
theorem finalTrim_normLoop (cs : List Bytes) (b : Bytes) (hne : cs ≠ []) (hf : ∀ c ∈ cs, (47 : UInt8) ∉ c) :
    finalTrim (normLoop b cs) = finalTrim (cs.foldl (stepComp · · false) b) := by
  induction cs generalizing b with
  | nil => exact absurd rfl hne
  | cons c cs ih =>
    cases cs with
    | cons c2 cs => exact ih _ (by simp) fun e he => hf e (List.mem_cons_of_mem _ he)
    | nil =>
      show finalTrim (stepComp b c true) = finalTrim (stepComp b c false)
      by_cases hs : c = [] ∨ c = [46]
      · rw [stepComp_skip b c _ hs, stepComp_skip b c _ hs]
      · by_cases hu : c = [46, 46]
        · rw [hu, stepComp_up, stepComp_up]
        · obtain ⟨x, l, hr, hx, _⟩ := reverse_of_slashFree c (fun e => hs (Or.inl e)) (hf c (by simp))
          rw [stepComp_push b c _ hs hu, stepComp_push b c _ hs hu, hr]
          simp [finalTrim_cons, hx]

theorem normalize_eq (p : Bytes) :
    normalize p = (finalTrim ((splitSlash (afterLead p)).foldl (stepComp · · false) [47])).reverse := by
  rw [← finalTrim_normLoop _ _ (splitSlash_ne_nil _) (splitSlash_slashFree _)]
  unfold normalize
  simp only [gen_norm, splitSep_eq]
  match p with
  | [] => rfl
  | x :: t => by_cases hx : x = 47 <;> simp [hx, afterLead_cons]

/-- the output buffer (reversed) for a stack of components (head = last written) -/
def stackBuf : List Bytes → Bytes
  | [] => []
  | d :: st => d.reverse ++ 47 :: stackBuf st

theorem stackBuf_reverse (st : List Bytes) : (stackBuf st).reverse = render st.reverse := by
  induction st with
  | nil => rfl
  | cons d st ih => simp [stackBuf, ih, render_append]

theorem backScan_append_slash (l r : Bytes) (hl : (47 : UInt8) ∉ l) :
    backScan (l ++ 47 :: r) = if r = [] then [47] else r := by
  induction l with
  | nil => simp [backScan_cons]
  | cons x l ih =>
    simp only [List.mem_cons, not_or] at hl
    rw [List.cons_append, backScan_cons, if_neg (by simp), if_neg (Ne.symm hl.1), ih hl.2]

/-- the `/a/b/../c = /ac` quirk glues good pieces: the result has length ≥ 2, and length 2 only from
two single bytes, the first of which is not `.` -/
theorem good_append (d c : Bytes) (hd : goodComp d = true) (hc : goodComp c = true) : goodComp (d ++ c) = true := by
  rw [goodComp_iff] at *
  obtain ⟨d1, d2, -, d4⟩ := hd
  obtain ⟨c1, -, -, c4⟩ := hc
  match d, c with
  | [], _ => exact absurd rfl d1
  | _, [] => exact absurd rfl c1
  | [x], y :: c => simp_all
  | x :: z :: d, y :: c => simp_all

/-- `normalize_path` on components.  The state is the stack of components written (last first) and
whether a separator follows the last one.  `..` pops; only after a `..` does no separator follow,
and the next piece is then glued onto the last component (the `/a/b/../c = /ac` quirk). -/
def compStep (s : List Bytes × Bool) (c : Bytes) : List Bytes × Bool :=
  if c = [] ∨ c = [46] then s
  else if c = [46, 46] then (s.1.tail, false)
  else (if s.2 then c :: s.1 else (s.1.headD [] ++ c) :: s.1.tail, true)

/-- the (reversed) output buffer of a state: a `/` on top when a separator is pending, and also on the empty stack,
where it is the leading `/` at `min_pos` that the C++ loop never steps behind -/
def stateBuf (s : List Bytes × Bool) : Bytes := (if s.2 || s.1.isEmpty then [47] else []) ++ stackBuf s.1

def GoodState (s : List Bytes × Bool) : Prop := ∀ c ∈ s.1, goodComp c = true

/-- `..` pops: `dotdot` steps back one byte (the pending separator, else the last byte of the top component), then
`backScan` crosses the slash-free rest of that component and removes the `/` in front of it -/
theorem dotdot_buf (s : List Bytes × Bool) (hw : GoodState s) : dotdot (stateBuf s) = stateBuf (s.1.tail, false) := by
  obtain ⟨st, sep⟩ := s
  cases st with
  | nil => cases sep <;> rfl
  | cons d st =>
    have hd := hw d (by simp)
    have hpopped : (if stackBuf st = [] then [47] else stackBuf st) = stateBuf (st, false) := by
      cases st <;> simp [stateBuf, stackBuf]
    change _ = stateBuf (st, false)
    cases sep with
    | true =>
      -- buffer `/ :: d.reverse ++ / :: below`: step over the pending `/`, scan over `d.reverse`
      rw [← hpopped, ← backScan_append_slash d.reverse _ (by simpa using good_slashFree hd)]
      simp [stateBuf, stackBuf, dotdot_cons]
    | false =>
      -- buffer `x :: l ++ / :: below` with `d.reverse = x :: l`: step over `x`, scan over `l`
      obtain ⟨x, l, hr, _, hl⟩ := reverse_of_slashFree d (good_ne_nil hd) (good_slashFree hd)
      rw [← hpopped, ← backScan_append_slash l _ hl]
      simp [stateBuf, stackBuf, hr, dotdot_cons]

/-- the simulation: `stepComp` on the buffer is `compStep` on the state -/
theorem stepComp_buf (s : List Bytes × Bool) (c : Bytes) (hw : GoodState s) (hf : (47 : UInt8) ∉ c) :
    stepComp (stateBuf s) c false = stateBuf (compStep s c) ∧ GoodState (compStep s c) := by
  unfold compStep
  by_cases hs : c = [] ∨ c = [46]
  · rw [stepComp_skip _ c _ hs, if_pos hs]; exact ⟨rfl, hw⟩
  · by_cases hu : c = [46, 46]
    · rw [hu, stepComp_up, if_neg (by decide), if_pos rfl]
      exact ⟨dotdot_buf s hw, fun e he => hw e (List.mem_of_mem_tail he)⟩
    · have hc : goodComp c = true :=
        (goodComp_iff c).mpr ⟨fun e => hs (Or.inl e), fun e => hs (Or.inr e), hu, hf⟩
      rw [stepComp_push _ c _ hs hu, if_neg hs, if_neg hu]
      obtain ⟨st, sep⟩ := s
      cases sep with
      | true => exact ⟨by simp [stateBuf, stackBuf], List.forall_mem_cons.mpr ⟨hc, hw⟩⟩
      | false =>
        cases st with
        | nil => exact ⟨by simp [stateBuf, stackBuf], by simpa [GoodState] using hc⟩
        | cons d st =>
          have hg := List.forall_mem_cons.mp hw
          exact ⟨by simp [stateBuf, stackBuf], List.forall_mem_cons.mpr ⟨good_append d c hg.1 hc, hg.2⟩⟩

theorem foldl_stepComp_buf (cs : List Bytes) (s : List Bytes × Bool) (hw : GoodState s)
    (hf : ∀ c ∈ cs, (47 : UInt8) ∉ c) :
    cs.foldl (stepComp · · false) (stateBuf s) = stateBuf (cs.foldl compStep s) ∧ GoodState (cs.foldl compStep s) := by
  induction cs generalizing s with
  | nil => exact ⟨rfl, hw⟩
  | cons c cs ih =>
    obtain ⟨h1, h2⟩ := stepComp_buf s c hw (hf c (by simp))
    rw [List.foldl_cons, List.foldl_cons, h1]
    exact ih _ h2 fun e he => hf e (List.mem_cons_of_mem _ he)

/-- `finalTrim` removes a pending `/`, not the `/` of the empty stack -/
theorem finalTrim_buf (s : List Bytes × Bool) (hw : GoodState s) :
    (finalTrim (stateBuf s)).reverse = if s.1 = [] then [47] else render s.1.reverse := by
  obtain ⟨st, sep⟩ := s
  cases st with
  | nil => cases sep <;> rfl
  | cons d st =>
    obtain ⟨x, l, hr, hx, _⟩ :=
      reverse_of_slashFree d (good_ne_nil (hw d (by simp))) (good_slashFree (hw d (by simp)))
    rw [if_neg (by simp), ← stackBuf_reverse]
    cases sep <;> simp [stateBuf, stackBuf, hr, finalTrim_cons, hx]

/-- `normalize` as a run of the component machine; the start state's pending separator is the leading `/` -/
theorem normalize_eq_compStep (p : Bytes) :
    let s := (splitSlash (afterLead p)).foldl compStep ([], true)
    GoodState s ∧ normalize p = if s.1 = [] then [47] else render s.1.reverse := by
  obtain ⟨h1, h2⟩ :=
    foldl_stepComp_buf (splitSlash (afterLead p)) ([], true) (by simp [GoodState]) (splitSlash_slashFree _)
  exact ⟨h2, by rw [normalize_eq, ← finalTrim_buf _ h2, ← h1]; rfl⟩

theorem foldl_compStep_noUp (cs st : List Bytes) (hnu : ∀ c ∈ cs, c ≠ [46, 46]) :
    cs.foldl compStep (st, true) = ((cs.filter fun c => c != [] && c != [46]).reverse ++ st, true) := by
  induction cs generalizing st with
  | nil => rfl
  | cons c cs ih =>
    have hcs := fun e he => hnu e (List.mem_cons_of_mem _ he)
    rw [List.foldl_cons]
    by_cases hs : c = [] ∨ c = [46]
    · rcases hs with rfl | rfl <;> exact ih st hcs
    · rw [compStep, if_neg hs, if_neg (hnu c (by simp)), ih _ hcs]
      simp only [not_or] at hs
      simp [hs]

theorem normalize_of_noUp (p : Bytes) (h : ∀ c ∈ splitSlash (afterLead p), c ≠ [46, 46]) :
    let kept := (splitSlash (afterLead p)).filter fun c => c != [] && c != [46]
    normalize p = if kept = [] then [47] else render kept := by
  rw [(normalize_eq_compStep p).2, foldl_compStep_noUp _ [] h]
  simp only [List.append_nil, List.reverse_eq_nil_iff, List.reverse_reverse]

theorem compStep_mem (s : List Bytes × Bool) (c : Bytes) (x : UInt8) (h : x ∈ (compStep s c).1.flatten) :
    x ∈ s.1.flatten ∨ x ∈ c := by
  obtain ⟨st, sep⟩ := s
  by_cases hs : c = [] ∨ c = [46]
  · exact Or.inl (by rwa [compStep, if_pos hs] at h)
  · by_cases hu : c = [46, 46]
    · rw [compStep, if_neg hs, if_pos hu] at h
      obtain ⟨d, hd, hx⟩ := List.mem_flatten.mp h
      exact Or.inl (List.mem_flatten.mpr ⟨d, List.mem_of_mem_tail hd, hx⟩)
    · -- the new head is `c`, or the old head followed by `c`
      rw [compStep, if_neg hs, if_neg hu] at h
      cases sep <;> cases st <;> simp_all [or_comm, or_left_comm]

theorem foldl_compStep_mem (cs : List Bytes) (s : List Bytes × Bool) (x : UInt8)
    (h : x ∈ (cs.foldl compStep s).1.flatten) : x ∈ s.1.flatten ∨ x ∈ cs.flatten := by
  induction cs generalizing s with
  | nil => exact Or.inl h
  | cons c cs ih =>
    rcases ih _ h with h | h
    · rcases compStep_mem s c x h with h | h <;> simp [h]
    · simp [h]

theorem isFilePrefix_append (p rest : Bytes) :
    isFilePrefix p (p ++ rest) = true ↔
      p = [] ∨ p.getLast? = some 47 ∨ rest = [] ∨ rest.head? = some 47 := by
  simp only [isFilePrefix, gen_pfx]
  simp [List.getLast?_eq_getElem?, List.head?_eq_getElem?, List.getElem?_append_right, or_assoc]

theorem isFilePrefix_spec (p f : Bytes) :
    isFilePrefix p f = true ↔
      ∃ rest, f = p ++ rest ∧ (p = [] ∨ p.getLast? = some 47 ∨ rest = [] ∨ rest.head? = some 47) := by
  constructor
  · intro h
    have ht : f.take p.length = p := by
      by_cases ht : f.take p.length = p
      · exact ht
      · rw [isFilePrefix, if_pos (bne_iff_ne.mpr ht), ite_self] at h
        cases h
    have hf : f = p ++ f.drop p.length := by
      rw [← List.take_append_drop p.length f, ht]; simp
    exact ⟨_, hf, (isFilePrefix_append p _).mp (hf ▸ h)⟩
  · rintro ⟨rest, rfl, h⟩
    exact (isFilePrefix_append p rest).mpr h

theorem find?_congr {α : Type} {p q : α → Bool} {l : List α} (h : ∀ a ∈ l, p a = q a) :
    l.find? p = l.find? q := by
  induction l with
  | nil => rfl
  | cons a l ih =>
    rw [List.find?_cons, List.find?_cons, h a (by simp), ih fun b hb => h b (List.mem_cons_of_mem _ hb)]

theorem cstr_of_nul_free (p : Bytes) (h : (0 : UInt8) ∉ p) : cstr p = p :=
  Scan.takeWhile_of_all fun _ ha => bne_iff_ne.mpr fun e => h (e ▸ ha)

theorem cstr_nul_free (p : Bytes) : (0 : UInt8) ∉ cstr p := fun h => by
  simpa using List.all_eq_true.mp (List.all_takeWhile (l := p) (p := (· != 0))) 0 h

-- single mode bits
theorem and_two_pow_ne_zero (m i : Nat) (h : m &&& 2 ^ i ≠ 0) : m / 2 ^ i % 2 = 1 := by
  by_cases hb : m.testBit i = true
  · rw [Nat.testBit_eq_decide_div_mod_eq] at hb
    simpa using hb
  · exfalso
    apply h
    apply Nat.eq_of_testBit_eq
    intro j
    simp only [Nat.testBit_and, Nat.zero_testBit, Nat.testBit_two_pow]
    by_cases hij : i = j
    · subst hij; simp [hb]
    · simp [hij]

theorem and_two_pow_eq_zero (m i : Nat) (h : m &&& 2 ^ i = 0) : m / 2 ^ i % 2 = 0 := by
  have : (m &&& 2 ^ i).testBit i = false := by rw [h]; simp
  simp only [Nat.testBit_and, Nat.testBit_two_pow, decide_true, Bool.and_true] at this
  rw [Nat.testBit_eq_decide_div_mod_eq] at this
  have := of_decide_eq_false this
  omega

-- C13 has its own copies of `util::escape`, `util::urlencode`, their tables and the judges of C15; the copies are equal
theorem escape_eq_C15 : escape = C15.escape := rfl

theorem urlencode_eq_C15 : urlencode = C15.urlencode := rfl

theorem noMarkup_eq_C15 : noMarkup = C15.Spec.noMarkup := rfl

theorem unescape_eq_C15 (s : Bytes) : unescape s = C15.Spec.unescape s := by
  fun_induction unescape s <;> simp [C15.Spec.unescape, *]

theorem ampsOk_eq_C15 (s : Bytes) : ampsOk s = C15.Spec.ampsOk s := by
  induction s with
  | nil => rfl
  | cons c s ih => rw [ampsOk, C15.Spec.ampsOk, ih]; rfl

theorem escapedFor_escape (s : Bytes) : escapedFor s (escape s) = true := by
  have hsafe := C15.Props.escape_no_markup s
  rw [escapedFor, unescape_eq_C15, ampsOk_eq_C15, noMarkup_eq_C15, escape_eq_C15, hsafe.1, hsafe.2,
    C15.Props.unescape_escape s]
  simp

theorem escape_append_slash (s : Bytes) : escape s ++ [47] = escape (s ++ [47]) := by
  simp [escape]; rfl

theorem isDotFile_iff (name : Bytes) : isDotFile name = true ↔ name.head? = some 46 := by
  cases name <;> simp [isDotFile, gen_list]

/-- a failed `stat` (mode 0) has no bit set, so the test for it is absorbed -/
theorem listRow_eq (fs : Fs) (path : Path) (name : Bytes) :
    listRow fs path name =
      if name.head? = some 46 then none
      else if fs.mode (cstr (path ++ [47] ++ name)) &&& 0o040000 != 0 then some ⟨name, [47]⟩
      else if fs.mode (cstr (path ++ [47] ++ name)) &&& 0o100000 != 0 then some ⟨name, []⟩
      else none := by
  simp only [listRow, isDotFile_iff, gen_list, gen_masks]
  split
  · rfl
  · generalize fs.mode _ = m
    by_cases h0 : m = 0 <;> simp [h0]

theorem attrSafe_append (a b : Bytes) : attrSafe (a ++ b) = (attrSafe a && attrSafe b) :=
  List.all_append

/-- the unreserved bytes, `%` and the hex digits are none of `' " < > &` -/
theorem attrSafe_urlencode (s : Bytes) : attrSafe (urlencode s) = true := by
  rw [attrSafe, List.all_eq_true]
  intro x hx
  have h := fun d => C15.urlencode_ne s x d (urlencode_eq_C15 ▸ hx)
  simp [h 39 (by decide), h 34 (by decide), h 60 (by decide), h 62 (by decide), h 38 (by decide)]

theorem parseAnchor_build (href text : Bytes) (hs : attrSafe href = true) :
    parseAnchor (anchorOpen ++ href ++ anchorMid ++ text ++ anchorClose) = some (href, text) := by
  -- the closing quote `'` (39) is the first of the five bytes `attrSafe` excludes
  have hq : ∀ c ∈ href, (c != 39) = true := fun c hc => by
    have := List.all_eq_true.mp hs c hc
    simp only [Bool.and_eq_true] at this
    obtain ⟨⟨⟨⟨hquote, _⟩, _⟩, _⟩, _⟩ := this
    exact hquote
  have ht : (href ++ 39 :: 62 :: (text ++ anchorClose)).takeWhile (· != 39) = href := by
    rw [List.takeWhile_append_of_pos hq, List.takeWhile_cons_of_neg (by simp), List.append_nil]
  simp [parseAnchor, anchorOpen, anchorMid, ht]

end Cppcms.C13
