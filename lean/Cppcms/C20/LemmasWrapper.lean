import Cppcms.C20.Terms
import Cppcms.C20.LemmasNum
/-!
# C20 — the `booster::regex` wrapper, `option::matches`, what a reported span cuts out of the subject (`sub_split`) and the
typed-parameter conversions, against `Spec`

The source facts on which "whole string" depends (C strings or ranges, the span tests of the two `regex::match`
overloads) are fields of `Quirks`, so that the pre-fix source (`pathCStr := true`) is an instance of the same model.  The
lemmas of this and the next modules take a `q` with `Quirks.Fixed`: these four facts are all they use of the source.
`Fixed` determines `q`, so this is `Gen.quirks` seen through that interface, not a family of sources.  `MethodClassAZ` is a
closed fact about `Gen`, a hypothesis here and proved once as `Props.gen_method`.
-/
namespace Cppcms.C20
open Cppcms

/-- the `marks` vector built by `regex::match(begin,end,marks)` -/
def padMarks (rx : Rx) (r : Regex) (raw : Raw) : List Span :=
  let got := (raw.1 :: raw.2).take (patSize rx r)
  got ++ List.replicate (patSize rx r - got.length) (-1, -1)

theorem whole_eq_some {rx : Rx} {r : Regex} {s : Bytes} {raw : Raw} :
    Spec.whole rx r s = some raw ↔ rx.exec r.pat r.flags s = some raw ∧ raw.1 = ((0 : Int), (s.length : Int)) := by
  unfold Spec.whole
  cases rx.exec r.pat r.flags s with
  | none => simp
  | some raw' =>
    simp only [Option.ite_none_right_eq_some, Option.some.injEq]
    constructor
    · rintro ⟨h, rfl⟩; exact ⟨rfl, h⟩
    · rintro ⟨rfl, h⟩; exact ⟨h, rfl⟩

/-- a span test with `Fixed`'s iff, in the form both wrapper lemmas rewrite with -/
theorem reject_eq {f : Int → Int → Int → Bool} (h : ∀ a b n, f a b n = false ↔ (a = 0 ∧ b = n)) (sp : Span) (n : Int) :
    f sp.1 sp.2 n = !decide (sp = (0, n)) := by
  cases hf : f sp.1 sp.2 n with
  | false => simp [Prod.ext_iff, (h _ _ _).1 hf]
  | true =>
    have : ¬ (sp.1 = 0 ∧ sp.2 = n) := fun e => by rw [(h _ _ _).2 e] at hf; cases hf
    simp [Prod.ext_iff, this]

theorem rxMatchMarks_eq (rx : Rx) {q : Quirks} (hq : q.Fixed) (r : Regex) (s : Bytes) :
    rxMatchMarks rx q r s = (Spec.whole rx r s).map fun raw => ⟨s, padMarks rx r raw⟩ := by
  unfold rxMatchMarks Spec.whole
  cases rx.exec r.pat r.flags s with
  | none => rfl
  | some raw =>
    simp only [reject_eq hq.marks raw.1, Bool.not_eq_true', decide_eq_false_iff_not, ite_not]
    split <;> rfl

theorem rxMatch_eq (rx : Rx) {q : Quirks} (hq : q.Fixed) (r : Regex) (s : Bytes) :
    rxMatch rx q r s = (Spec.whole rx r s).isSome := by
  unfold rxMatch Spec.whole
  cases rx.exec r.pat r.flags s with
  | none => rfl
  | some raw =>
    simp only [reject_eq hq.noMarks raw.1, Bool.not_not]
    split <;> simp [*]

section
variable {rx : Rx} (hs : RxSound rx) {r : Regex} {s : Bytes} {raw : Raw} (hw : Spec.whole rx r s = some raw)
include hs hw

/-- the padding adds unset spans only -/
theorem cmatch_get_eq (n : Int) : (CMatch.mk s (padMarks rx r raw)).get n = Spec.group s raw n := by
  have hpad : padMarks rx r raw = (raw.1 :: raw.2) ++ List.replicate (patSize rx r - (raw.2.length + 1)) (-1, -1) := by
    have ha : raw.2.length + 1 ≤ patSize rx r := Nat.succ_le_succ (hs.arity _ _ _ _ (whole_eq_some.1 hw).1)
    unfold padMarks
    rw [List.take_of_length_le (l := raw.1 :: raw.2) ha]
    rfl
  simp only [CMatch.get, Spec.group, hpad, List.getElem?_append, List.getElem?_replicate]
  by_cases h1 : n.toNat < (raw.1 :: raw.2).length
  · simp only [h1, if_true]
    rfl
  · simp only [h1, if_false, List.getElem?_eq_none (Nat.le_of_not_lt h1)]
    by_cases h2 : n.toNat - (raw.1 :: raw.2).length < patSize rx r - (raw.2.length + 1)
    · simp only [h2, if_true]
    · simp only [h2, if_false]

theorem cmatch_str_eq (n : Int) : (CMatch.mk s (padMarks rx r raw)).str n = Spec.groupStr s raw n := by
  unfold CMatch.str Spec.groupStr
  rw [cmatch_get_eq hs hw]

theorem cmatch_all_eq : (CMatch.mk s (padMarks rx r raw)).all = Spec.groups rx r s raw := by
  have hlen : (padMarks rx r raw).length = patSize rx r := by
    simp only [padMarks, List.length_append, List.length_replicate, List.length_take]
    exact Nat.add_sub_cancel' (Nat.min_le_left _ _)
  unfold CMatch.all Spec.groups
  rw [hlen]
  exact List.map_congr_left fun i _ => cmatch_get_eq hs hw _

end

theorem methodOk_eq (rx : Rx) {q : Quirks} (hq : q.Fixed) (hm : MethodClassAZ) (filter req : Option Bytes) :
    methodOk rx q filter req = Spec.methodOk rx filter req := by
  have hlit : ∀ m : Bytes, methodLiteral m = m.all Spec.upperAZ := fun m =>
    List.all_congr rfl fun c => hm c.toNat
  unfold methodOk Spec.methodOk
  cases filter <;> cases req <;> simp only [hlit, rxMatch_eq rx hq]

theorem optMatches_eq (rx : Rx) {q : Quirks} (hq : q.Fixed) (hm : MethodClassAZ)
    (re : Regex) (filter req : Option Bytes) (path : Bytes) :
    optMatches rx q re filter req path =
      if Spec.methodOk rx filter req then (Spec.whole rx re path).map fun raw => ⟨path, padMarks rx re raw⟩ else none := by
  simp only [optMatches, methodOk_eq rx hq hm, hq.path, rxMatchMarks_eq rx hq, Bool.false_eq_true, if_false]

theorem sub_split (s : Bytes) {a b : Int} (h0 : 0 ≤ a) (hab : a ≤ b) (hbl : b ≤ s.length) :
    s = s.take a.toNat ++ sub s a b ++ s.drop b.toNat ∧ ((s.take a.toNat).length : Int) = a ∧
      ((sub s a b).length : Int) = b - a := by
  obtain ⟨i, rfl⟩ := Int.eq_ofNat_of_zero_le h0
  obtain ⟨j, rfl⟩ := Int.eq_ofNat_of_zero_le (Int.le_trans h0 hab)
  have hij : i ≤ j := Int.ofNat_le.1 hab
  have hjl : j ≤ s.length := Int.ofNat_le.1 hbl
  simp only [sub, Int.toNat_natCast, List.length_take, List.length_drop]
  refine ⟨?_, by rw [Nat.min_eq_left (Nat.le_trans hij hjl)],
    by rw [Nat.min_eq_left (Nat.sub_le_sub_right hjl i), Int.ofNat_sub hij]⟩
  have : s.drop j = (s.drop i).drop (j - i) := by rw [List.drop_drop, Nat.add_sub_cancel' hij]
  rw [List.append_assoc, this, List.take_append_drop, List.take_append_drop]

theorem convertParam_eq (rx : Rx) (t : PType) (s : Bytes) : convertParam rx t s = Spec.convert rx t s := by
  unfold convertParam Spec.convert
  cases rx.valid s with
  | false => rfl
  | true =>
    cases t with
    | str => rfl
    | _ => rw [← decInt_eq]; exact congrArg (Option.map decInt) (parseNum_eq_numeral _ (by decide) s)

theorem convertAll_eq {rx : Rx} (hs : RxSound rx) {r : Regex} {url : Bytes} {raw : Raw} (hw : Spec.whole rx r url = some raw)
    (ps : List (Int × PType)) :
    convertAll rx ⟨url, padMarks rx r raw⟩ ps =
      ps.mapM fun gt => (Spec.convert rx gt.2 (Spec.groupStr url raw gt.1)).map some := by
  induction ps with
  | nil => rfl
  | cons gt rest ih =>
    simp only [convertAll, List.mapM_cons, cmatch_str_eq hs hw, convertParam_eq, ih]
    cases Spec.convert rx gt.2 (Spec.groupStr url raw gt.1) with
    | none => rfl
    | some v => cases (rest.mapM fun gt => (Spec.convert rx gt.2 (Spec.groupStr url raw gt.1)).map some) <;> rfl

end Cppcms.C20
