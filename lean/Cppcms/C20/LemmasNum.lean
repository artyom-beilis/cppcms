import Cppcms.C20.Model
import Cppcms.C20.Spec
/-!
# C20 — the stream extraction of integers (`num_get`'s digit loop with its incremental overflow test)
accepts exactly the decimal numerals in range (types of ≥ 5 bits), and yields their value.
-/
namespace Cppcms.C20
open Cppcms

/-- What the digit loop holds after `ds` when it held `r` before.  Started at 0 this is `Spec.digitsValue`, the `v` inside
`atoiDigits` and the fold written out in `Props.template_index_value`, each by `rfl`. -/
def valueFrom (r : Nat) (ds : Bytes) : Nat := ds.foldl (fun a c => a * 10 + (c.toNat - 48)) r

theorem valueFrom_cons (r : Nat) (c : UInt8) (cs : Bytes) :
    valueFrom r (c :: cs) = valueFrom (r * 10 + (c.toNat - 48)) cs := List.foldl_cons ..

theorem valueFrom_mono (r r' : Nat) (h : r ≤ r') (ds : Bytes) : valueFrom r ds ≤ valueFrom r' ds := by
  induction ds generalizing r r' with
  | nil => exact h
  | cons c cs ih => exact ih _ _ (Nat.add_le_add_right (Nat.mul_le_mul_right 10 h) _)

theorem valueFrom_ge (r : Nat) (ds : Bytes) : r ≤ valueFrom r ds := by
  induction ds generalizing r with
  | nil => exact Nat.le_refl r
  | cons c cs ih => exact Nat.le_trans (by omega) (ih (r * 10 + (c.toNat - 48)))

/-- The digit loop on any input, from any state with `hinv`.  Flag, count and rest are determined by the leading digits; the
accumulated value is stated only while the flag is clear, since past `r > max / 10` the loop stops accumulating.
`hmax`: a digit is at most 9, so `max - d` in the code's test is a true subtraction and `r * 10 > max - d` says
`r * 10 + d > max`; below 9 the truncated subtraction would let a digit above `max` through. -/
theorem scanDigits_eq (max : Nat) (hmax : 9 ≤ max) (s : Bytes) (r : Nat) (o : Bool) (n : Nat) (hinv : o = false → r ≤ max) :
    (scanDigits max s r o n).2 =
      (o || decide (max < valueFrom r (s.takeWhile isDigit)), n + (s.takeWhile isDigit).length, s.dropWhile isDigit) ∧
    ((o || decide (max < valueFrom r (s.takeWhile isDigit))) = false →
      (scanDigits max s r o n).1 = valueFrom r (s.takeWhile isDigit)) := by
  fun_induction scanDigits max s r o n with
  -- no leading digit (end of input, or a non-digit): the state is returned as it is
  | case1 r o n => cases o <;> simp [valueFrom, Nat.not_lt.2 (hinv _)]
  | case4 c cs r o n hc => cases o <;> simp [hc, valueFrom, Nat.not_lt.2 (hinv _)]
  | case2 c cs r o n hc hbig ih =>
    -- already too large: the flag is set, and the value exceeds `max`
    have hge := valueFrom_ge (r * 10 + (c.toNat - 48)) (cs.takeWhile isDigit)
    have hgt : max < valueFrom (r * 10 + (c.toNat - 48)) (cs.takeWhile isDigit) := by omega
    simp only [List.takeWhile_cons, List.dropWhile_cons, hc, if_true, List.length_cons, valueFrom_cons, (ih nofun).1, hgt,
      decide_true, Bool.or_true, Bool.true_or, Nat.add_assoc, Nat.add_comm 1]
    exact ⟨trivial, nofun⟩
  | case3 c cs r o n hc d hbig ih =>
    -- a digit that overflows makes the value exceed `max`, so the flag may be set right away
    have hd9 : d ≤ 9 := by
      simp only [isDigit, Bool.and_eq_true, decide_eq_true_eq] at hc; omega
    have hge := valueFrom_ge (r * 10 + d) (cs.takeWhile isDigit)
    have hflag : ((o || decide (r * 10 > max - d)) || decide (max < valueFrom (r * 10 + d) (cs.takeWhile isDigit))) =
        (o || decide (max < valueFrom (r * 10 + d) (cs.takeWhile isDigit))) := by
      by_cases hov : r * 10 > max - d
      · have hgt : max < valueFrom (r * 10 + d) (cs.takeWhile isDigit) := by omega
        simp only [hov, hgt, decide_true, Bool.or_true]
      · simp only [hov, decide_false, Bool.or_false]
    have := ih (by simp only [Bool.or_eq_false_iff, decide_eq_false_iff_not]; omega)
    rw [hflag] at this
    simpa only [List.takeWhile_cons, List.dropWhile_cons, hc, if_true, List.length_cons, valueFrom_cons, Nat.add_assoc,
      Nat.add_comm 1] using this

/-! The specification does not import the model and keeps its own copies of these. -/
theorem isDigit_eq : isDigit = Spec.isDigit := rfl
theorem isSpace_eq : isSpace = Spec.isSpace := rfl
theorem valueFrom_zero (ds : Bytes) : valueFrom 0 ds = Spec.digitsValue ds := rfl
theorem decInt_eq : decInt = Spec.decInt := rfl

/-- `5 ≤ bits`: the smallest bound, `2 ^ (bits - 1) - 1` of a non-negative signed value, then reaches the 9 of `scanDigits_eq` -/
theorem numMax_ge (t : NumTy) (hb : 5 ≤ t.bits) (neg : Bool) : 9 ≤ numMax t neg := by
  have h1 : 2 ^ 4 ≤ 2 ^ (t.bits - 1) := Nat.pow_le_pow_right (by omega) (by omega)
  have h2 : 2 ^ 4 ≤ 2 ^ t.bits := Nat.pow_le_pow_right (by omega) (by omega)
  unfold numMax
  repeat' split
  all_goals omega

/-- One step for the four combinations of sign and signedness: `f` is what they do with the value, in `parseNum` and
`Spec.numeral` alike.  `r o n rest`: the loop's value, overflow flag, digit count, unread rest. -/
theorem parseNum_scan (M : Nat) (hM : 9 ≤ M) (ds : Bytes) (f : Nat → Option Int) {r : Nat} {o : Bool} {n : Nat} {rest : Bytes}
    (hscan : scanDigits M ds 0 false 0 = (r, o, n, rest)) :
    (if (n == 0 || o || !rest.isEmpty) = true then none else f r) =
    if (ds.isEmpty || !ds.all isDigit) = true then none
    else if valueFrom 0 ds ≤ M then f (valueFrom 0 ds) else none := by
  obtain ⟨hrest, hval⟩ := scanDigits_eq M hM ds 0 false 0 (fun _ => Nat.zero_le _)
  rw [hscan] at hrest hval
  obtain ⟨rfl, rfl, rfl⟩ : o = _ ∧ n = _ ∧ rest = _ := by simpa only [Prod.mk.injEq] using hrest
  by_cases hall : ds.all isDigit = true
  · -- digits only: all of `ds` is read
    have ht : ds.takeWhile isDigit = ds := by
      simpa using List.takeWhile_append_of_pos (l₂ := []) (List.all_eq_true.1 hall)
    have hd : ds.dropWhile isDigit = [] := by
      simpa using List.dropWhile_append_of_pos (l₂ := []) (List.all_eq_true.1 hall)
    rw [ht] at hval ⊢
    rw [hd]
    by_cases hov : M < valueFrom 0 ds
    · simp [hov, Nat.not_le.2 hov]
    · rw [show r = valueFrom 0 ds from hval (by simp [hov])]
      cases ds <;> simp [hall, hov, Nat.le_of_not_lt hov]
  · -- a non-digit is left unread: both sides fail
    have hd : (ds.dropWhile isDigit).isEmpty = false := by
      cases h : ds.dropWhile isDigit with
      | nil =>
        have := List.all_takeWhile (p := isDigit) (l := ds)
        rw [← List.takeWhile_append_dropWhile (p := isDigit) (l := ds), h, List.append_nil] at hall
        exact absurd this hall
      | cons _ _ => rfl
    simp [hd, hall]

theorem parseNum_eq_numeral (t : NumTy) (hb : 5 ≤ t.bits) (s : Bytes) :
    parseNum t s = Spec.numeral t.signed t.bits s := by
  unfold parseNum Spec.numeral
  rw [← isSpace_eq, ← isDigit_eq]
  dsimp only
  generalize s.dropWhile isSpace = s'
  generalize (s'.head? == some 45) = neg
  generalize (if (neg || s'.head? == some 43) = true then s'.drop 1 else s') = ds
  obtain ⟨r, o, n, rest, hscan⟩ : ∃ r o n rest, scanDigits (numMax t neg) ds 0 false 0 = (r, o, n, rest) := ⟨_, _, _, _, rfl⟩
  rw [hscan]
  dsimp only
  rw [parseNum_scan (numMax t neg) (numMax_ge t hb neg) ds (fun r =>
    if neg = true then (if t.signed = true then some (-(r : Int)) else some (((2 ^ t.bits - r) % 2 ^ t.bits : Nat) : Int))
    else some (r : Int)) hscan, valueFrom_zero]
  obtain ⟨sg, bits⟩ := t
  cases sg <;> cases neg <;> rfl
end Cppcms.C20
