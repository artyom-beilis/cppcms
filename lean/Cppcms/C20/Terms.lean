import Cppcms.C20.Model
/-!
# C20 — the words of the statements in `Props` that are neither model nor specification

What the source facts are assumed to be, what one `option::dispatch` did (`entryAttempt`, read through the three functions on
`Attempt`), and the grammar of mapper templates: the general one and its positional fragment (`SegsOk`, `tplSrc`, `tplInst`).
-/
namespace Cppcms.C20
open Cppcms

/-- the source facts under which routing is whole-string -/
structure Quirks.Fixed (q : Quirks) : Prop where
  path : q.pathCStr = false
  mount : q.mountStrCStr = false
  marks : ∀ a b n, q.spanRejectMarks a b n = false ↔ (a = 0 ∧ b = n)
  noMarks : ∀ a b n, q.spanRejectNoMarks a b n = false ↔ (a = 0 ∧ b = n)

/-- the byte class extracted from `option::option` is `A-Z` -/
def MethodClassAZ : Prop := ∀ c : Nat, Gen.methodCharLiteral c = (decide (65 ≤ c) && decide (c ≤ 90))

def Attempt.isFire : Attempt → Bool
  | .fire _ => true
  | _ => false

def Attempt.rejectEv : Attempt → Option Event
  | .reject ev => some ev
  | _ => none

def Attempt.fireEvs : Attempt → List Event
  | .fire evs => evs
  | _ => []

/-- what `option::dispatch` of one entry does -/
def entryAttempt (rx : Rx) (q : Quirks) (req : Option Bytes) (url : Bytes) : Entry → Attempt
  | .leaf l => leafAttempt rx q req l url
  | .mount re sel child =>
    match optMatches rx q re none req url with
    | none => .skip
    | some m =>
      let r := dispatch rx q req child (m.str sel)
      .fire (if r.1 then r.2 else r.2 ++ [.notFound])

/-- literal text: a brace would open or close a placeholder -/
def BraceFree (s : Bytes) : Prop := ∀ c ∈ s, c.toNat ≠ Gen.tplOpen ∧ c.toNat ≠ Gen.tplClose

inductive Ph where
  | idx (ds : Bytes)
  | kw (k : Bytes)
deriving DecidableEq, Repr

def Ph.text : Ph → Bytes
  | .idx ds => ds
  | .kw k => k

/-- what `real_assign` stores in `indexes` -/
def Ph.index : Ph → Int
  | .idx ds => atoiDigits ds
  | .kw _ => 0

/-- `max_index = std::max(index,max_index)` — only for index placeholders -/
def Ph.bump (m : Int) : Ph → Int
  | .idx ds => max (atoiDigits ds) m
  | .kw _ => m

/-- what `real_assign` stores in `keys` -/
def Ph.key : Ph → Bytes
  | .idx _ => []
  | .kw k => k

/-- accepted by `real_assign`: an index whose `atoi` is not 0; a keyword with a non-digit (so not empty) and no `}` -/
def Ph.Ok : Ph → Prop
  | .idx ds => ds ≠ [] ∧ ds.any (fun c => Gen.tplNotDigit c.toNat) = false ∧ atoiDigits ds ≠ 0
  | .kw k => k.any (fun c => Gen.tplNotDigit c.toNat) = true ∧ ∀ c ∈ k, c.toNat ≠ Gen.tplClose

def bOpen : UInt8 := UInt8.ofNat Gen.tplOpen
def bClose : UInt8 := UInt8.ofNat Gen.tplClose

/-- `l₁{p₁}l₂{p₂}…` without the tail -/
def tplPre : List (Bytes × Ph) → Bytes
  | [] => []
  | (l, p) :: segs => l ++ bOpen :: (p.text ++ bClose :: tplPre segs)

/-- `G`: the general grammar (indexes of any length, keywords), as against the positional fragment `SegsOk` -/
def GSegsOk (segs : List (Bytes × Ph)) : Prop := ∀ lp ∈ segs, BraceFree lp.1 ∧ lp.2.Ok

instance (s : Bytes) : Decidable (BraceFree s) := by unfold BraceFree; infer_instance
instance (p : Ph) : Decidable p.Ok := by cases p <;> unfold Ph.Ok <;> infer_instance
instance (segs : List (Bytes × Ph)) : Decidable (GSegsOk segs) := by unfold GSegsOk; infer_instance

/-- what `data::write` puts in its place; `none` = `indexRange` (also a negative index, from an over-long digit string) -/
def Ph.value (params : List Bytes) (helpers overrides : List (Bytes × Bytes)) (p : Ph) : Option Bytes :=
  if p.index = 0 then
    some (match lookupKV overrides p.key with
          | some v => v
          | none => (lookupKV helpers p.key).getD [])
  else if p.index < 0 then none
  else params[p.index.toNat - 1]?

/-- the instantiation one expects in the general grammar (`tplInst` is the positional one) -/
def instG (params : List Bytes) (helpers overrides : List (Bytes × Bytes)) : List (Bytes × Ph) → Bytes → Option Bytes
  | [], tail => some tail
  | (l, p) :: segs, tail =>
    match p.value params helpers overrides, instG params helpers overrides segs tail with
    | some v, some r => some (l ++ v ++ r)
    | _, _ => none

/-- `{d}` -/
def paramTok (d : Nat) : Bytes := [UInt8.ofNat Gen.tplOpen, UInt8.ofNat (48 + d), UInt8.ofNat Gen.tplClose]

/-- source text of a template in the positional fragment: `l₁{d₁}l₂{d₂}…tail` -/
def tplSrc : List (Bytes × Nat) → Bytes → Bytes
  | [], tail => tail
  | (l, d) :: segs, tail => l ++ paramTok d ++ tplSrc segs tail

/-- the instantiation one expects: every `{d}` replaced by the `d`-th parameter -/
def tplInst (params : List Bytes) : List (Bytes × Nat) → Bytes → Bytes
  | [], tail => tail
  | (l, d) :: segs, tail => l ++ (params[d - 1]?).getD [] ++ tplInst params segs tail

/-- `1 ≤ d ≤ 9`: the index is one byte and never the rejected `{0}` -/
def SegsOk (segs : List (Bytes × Nat)) : Prop := ∀ ld ∈ segs, BraceFree ld.1 ∧ 1 ≤ ld.2 ∧ ld.2 ≤ 9

instance (segs : List (Bytes × Nat)) : Decidable (SegsOk segs) := by unfold SegsOk; infer_instance

end Cppcms.C20
