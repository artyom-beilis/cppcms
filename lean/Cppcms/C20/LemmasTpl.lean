import Cppcms.C20.Terms
/-!
# C20 — `url_mapper::real_assign` / `data::write` on templates

A template is `l₀ {p₁} l₁ {p₂} … tail` with brace-free literals and placeholders that are either an index (digits of any
length, read with `atoi`) or a keyword (`Ph.Ok`).
Everything is proved for this grammar; the positional fragment `l₁{d₁}…tail` with single digits `dᵢ` (`tplSrc`) is
the instance in which every placeholder is `Ph.idx [48 + dᵢ]`.
-/
namespace Cppcms.C20
open Cppcms

theorem bOpen_toNat : bOpen.toNat = Gen.tplOpen := by decide
theorem bClose_toNat : bClose.toNat = Gen.tplClose := by decide

theorem tplScan_text (l : Bytes) (hl : BraceFree l) (cur : Bytes) (a : TplAcc) (rest : Bytes) :
    tplScan false cur a (l ++ rest) = tplScan false (l.reverse ++ cur) a rest := by
  induction l generalizing cur with
  | nil => rfl
  | cons c cs ih =>
    have hc := hl c (.head _)
    simp only [List.cons_append, tplScan, Bool.false_eq_true, if_false, hc.1, hc.2]
    rw [ih fun x hx => hl x (.tail _ hx)]
    simp

theorem tplScan_tail (l : Bytes) (hl : BraceFree l) (cur : Bytes) (a : TplAcc) :
    tplScan false cur a l = .ok { a with parts := a.parts ++ [cur.reverse ++ l] } := by
  have := tplScan_text l hl cur a []
  rw [List.append_nil] at this
  simp [this, tplScan]

theorem tplScan_inside_unclosed (b : Bytes) (hb : ∀ c ∈ b, c.toNat ≠ Gen.tplClose) (cur : Bytes) (acc : TplAcc) :
    tplScan true cur acc b = .error .unclosed := by
  induction b generalizing cur with
  | nil => rfl
  | cons c cs ih =>
    simp only [tplScan, if_true, hb c (.head _), if_false]
    exact ih (fun x hx => hb x (.tail _ hx)) _

theorem tplScan_inside (k : Bytes) (hk : ∀ c ∈ k, c.toNat ≠ Gen.tplClose) (cur : Bytes) (acc : TplAcc) (rest : Bytes) :
    tplScan true cur acc (k ++ bClose :: rest) =
      match tplPlaceholder acc (cur.reverse ++ k) with
      | .error e => .error e
      | .ok a' => tplScan false [] a' rest := by
  induction k generalizing cur with
  | nil =>
    simp only [List.nil_append, tplScan, if_true, bClose_toNat, List.append_nil]
    cases tplPlaceholder acc cur.reverse <;> rfl
  | cons c cs ih =>
    simp only [List.cons_append, tplScan, if_true, hk c (.head _), if_false]
    rw [ih fun x hx => hk x (.tail _ hx)]
    simp

theorem notDigit_not_close (ds : Bytes) (h : ds.any (fun c => Gen.tplNotDigit c.toNat) = false) :
    ∀ c ∈ ds, c.toNat ≠ Gen.tplClose := by
  intro c hc hcl
  have := List.any_eq_false.1 h c hc
  rw [hcl] at this
  exact absurd (by decide : Gen.tplNotDigit Gen.tplClose = true) (by simpa using this)

theorem tplPlaceholder_ok (a : TplAcc) (p : Ph) (hp : p.Ok) :
    tplPlaceholder a p.text =
      .ok { parts := a.parts, indexes := a.indexes ++ [p.index], keys := a.keys ++ [p.key],
            maxIdx := p.bump a.maxIdx } := by
  cases p with
  | idx ds =>
    obtain ⟨hne, hd, h0⟩ := hp
    have he : ds.isEmpty = false := List.isEmpty_eq_false_iff.2 hne
    simp only [tplPlaceholder, Ph.text, he, hd, h0, Bool.false_eq_true, if_false, Ph.index, Ph.key, Ph.bump]
  | kw k =>
    have he : k.isEmpty = false := by cases k with
      | nil => cases hp.1
      | cons _ _ => rfl
    simp only [tplPlaceholder, Ph.text, he, hp.1, Bool.false_eq_true, if_false, if_true, Ph.index, Ph.key, Ph.bump]

theorem Ph.Ok.noClose {p : Ph} (hp : p.Ok) : ∀ c ∈ p.text, c.toNat ≠ Gen.tplClose := by
  cases p with
  | idx ds => exact notDigit_not_close ds hp.2.1
  | kw k => exact hp.2

/-- The first literal is joined to what was pending (`cur`); with no segment `cur` stays pending: hence the two cases. -/
theorem tplScan_pre (segs : List (Bytes × Ph)) (hs : GSegsOk segs) (cur : Bytes) (a : TplAcc) (rest : Bytes) :
    tplScan false cur a (tplPre segs ++ rest) =
      match segs with
      | [] => tplScan false cur a rest
      | (l, _) :: more =>
        tplScan false []
          { parts := a.parts ++ (cur.reverse ++ l) :: more.map (·.1),
            indexes := a.indexes ++ segs.map (·.2.index),
            keys := a.keys ++ segs.map (·.2.key),
            maxIdx := segs.foldl (fun m lp => lp.2.bump m) a.maxIdx } rest := by
  induction segs generalizing cur a with
  | nil => rfl
  | cons lp more ih =>
    obtain ⟨l, p⟩ := lp
    have hlp := hs (l, p) (.head _)
    simp only [tplPre, List.append_assoc, List.cons_append]
    rw [tplScan_text l hlp.1]
    simp only [tplScan, Bool.false_eq_true, if_false, bOpen_toNat, if_true]
    rw [tplScan_inside p.text hlp.2.noClose, List.reverse_nil, List.nil_append, tplPlaceholder_ok _ p hlp.2]
    simp only
    rw [ih fun x hx => hs x (.tail _ hx)]
    cases more with
    | nil => simp
    | cons lp' more' => simp

theorem parseTpl_pre (segs : List (Bytes × Ph)) (hs : GSegsOk segs) (tail : Bytes) (ht : BraceFree tail) (isApp : Bool) :
    parseTpl (tplPre segs ++ tail) isApp =
      if isApp && segs.foldl (fun m lp => lp.2.bump m) (0 : Int) != 1 then .error .appArity
      else .ok (⟨segs.map (·.1) ++ [tail], segs.map (·.2.index), segs.map (·.2.key)⟩,
                (segs.foldl (fun m lp => lp.2.bump m) (0 : Int)).toNat) := by
  unfold parseTpl
  rw [tplScan_pre segs hs]
  cases segs with
  | nil => simp [tplScan_tail tail ht]
  | cons lp more => simp [tplScan_tail tail ht]

theorem parseTpl_scan_error (segs : List (Bytes × Ph)) (hs : GSegsOk segs) {rest : Bytes} {e : TplErr} (isApp : Bool)
    (h : ∀ cur acc, tplScan false cur acc rest = .error e) : parseTpl (tplPre segs ++ rest) isApp = .error e := by
  unfold parseTpl
  rw [tplScan_pre segs hs]
  cases segs <;> simp only [h]

theorem writeTpl_go_cons (params : List Bytes) (helpers overrides : List (Bytes × Bytes)) (l : Bytes) (p : Ph)
    (parts : List Bytes) (idx : List Int) (keys : List Bytes) (acc : Bytes) :
    writeTpl.go params helpers overrides (l :: parts) (p.index :: idx) (p.key :: keys) acc =
      match p.value params helpers overrides with
      | some v => writeTpl.go params helpers overrides parts idx keys (acc ++ l ++ v)
      | none => .error .indexRange := by
  rw [writeTpl.go, Ph.value]
  split
  · rfl
  · split
    · rfl
    · simp only [List.drop_one, List.tail_cons]
      cases params[p.index.toNat - 1]? <;> rfl

theorem writeTpl_go_general (params : List Bytes) (helpers overrides : List (Bytes × Bytes))
    (segs : List (Bytes × Ph)) (tail : Bytes) (acc : Bytes) :
    writeTpl.go params helpers overrides (segs.map (·.1) ++ [tail]) (segs.map (·.2.index)) (segs.map (·.2.key)) acc =
      match instG params helpers overrides segs tail with
      | some r => .ok (acc ++ r)
      | none => .error .indexRange := by
  induction segs generalizing acc with
  | nil => simp [writeTpl.go, instG]
  | cons lp rest ih =>
    simp only [List.map_cons, List.cons_append, writeTpl_go_cons, instG, ih]
    cases lp.2.value params helpers overrides with
    | none => rfl
    | some v => cases instG params helpers overrides rest tail <;> simp

/-- the same segment in the general grammar -/
def posSeg (ld : Bytes × Nat) : Bytes × Ph := (ld.1, .idx [UInt8.ofNat (48 + ld.2)])

theorem tplSrc_eq (segs : List (Bytes × Nat)) (tail : Bytes) : tplSrc segs tail = tplPre (segs.map posSeg) ++ tail := by
  induction segs with
  | nil => rfl
  | cons ld rest ih => simp [tplSrc, tplPre, paramTok, posSeg, Ph.text, bOpen, bClose, ih]

theorem digit_ok (d : Nat) (h1 : 1 ≤ d) (h9 : d ≤ 9) :
    (Ph.idx [UInt8.ofNat (48 + d)]).Ok ∧ (Ph.idx [UInt8.ofNat (48 + d)]).index = Int.ofNat d := by
  have : ∀ d : Fin 10, 1 ≤ d.val →
      (Ph.idx [UInt8.ofNat (48 + d.val)]).Ok ∧ (Ph.idx [UInt8.ofNat (48 + d.val)]).index = Int.ofNat d.val := by
    decide +kernel
  exact this ⟨d, Nat.lt_succ_of_le h9⟩ h1

/-- what `parseTpl_pre` needs of the positional fragment: well-formed in the general grammar, with the same indexes and
arity fold -/
theorem posSegs_ok (segs : List (Bytes × Nat)) (hs : SegsOk segs) :
    GSegsOk (segs.map posSeg) ∧ (segs.map posSeg).map (·.2.index) = segs.map (fun ld => Int.ofNat ld.2) ∧
    ∀ m : Int, (segs.map posSeg).foldl (fun m lp => lp.2.bump m) m = segs.foldl (fun m ld => max (Int.ofNat ld.2) m) m := by
  induction segs with
  | nil => exact ⟨nofun, rfl, fun _ => rfl⟩
  | cons ld rest ih =>
    have hld := hs ld (.head _)
    obtain ⟨hok, hidx⟩ := digit_ok ld.2 hld.2.1 hld.2.2
    obtain ⟨ih1, ih2, ih3⟩ := ih fun x hx => hs x (.tail _ hx)
    refine ⟨?_, ?_, fun m => ?_⟩
    · intro lp hlp
      cases hlp with
      | head => exact ⟨hld.1, hok⟩
      | tail _ h => exact ih1 _ h
    · simp only [List.map_cons, ih2, posSeg, hidx]
    · have : (posSeg ld).2.bump m = max (Int.ofNat ld.2) m := by rw [← hidx]; rfl
      simp only [List.map_cons, List.foldl_cons, this, ih3]

theorem instG_pos (params : List Bytes) (helpers overrides : List (Bytes × Bytes)) (segs : List (Bytes × Nat))
    (hs : SegsOk segs) (hb : ∀ ld ∈ segs, ld.2 ≤ params.length) (tail : Bytes) :
    instG params helpers overrides (segs.map posSeg) tail = some (tplInst params segs tail) := by
  induction segs with
  | nil => rfl
  | cons ld rest ih =>
    have hld := hs ld (.head _)
    have hlt : ld.2 - 1 < params.length := by have := hb ld (.head _); omega
    have h0 : (ld.2 : Int) ≠ 0 := by omega
    have hneg : ¬ ((ld.2 : Int) < 0) := by omega
    simp only [List.map_cons, instG, Ph.value, posSeg, (digit_ok ld.2 hld.2.1 hld.2.2).2, Int.ofNat_eq_natCast, h0, hneg,
      if_false, Int.toNat_natCast, List.getElem?_eq_getElem hlt, tplInst, Option.getD_some,
      ih (fun x hx => hs x (.tail _ hx)) (fun x hx => hb x (.tail _ hx))]

end Cppcms.C20
