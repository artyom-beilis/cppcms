import Cppcms.Common
/-!
# C20 — shared vocabulary for model and specification

Types, the two byte-string helpers every definition needs, `CMatch`'s accessors (`operator[]`,
`str()`) and `RxSound`: the regex engine parameter `Rx`, `booster::regex` values, the application
tree, events observed at the handlers, mount points and the URL-mapper tree.
-/
namespace Cppcms.C20
open Cppcms

/-- A C string: the bytes before the first NUL (`std::string::c_str()` read by `strlen`). -/
def cstr (s : Bytes) : Bytes := s.takeWhile (· ≠ 0)

/-- `std::string(begin+a, begin+b)` -/
def sub (s : Bytes) (a b : Int) : Bytes := (s.drop a.toNat).take (b.toNat - a.toNat)

/-- compile flags of a `booster::regex`: `regex::icase` → `PCRE_CASELESS`, `regex::utf8` → `PCRE_UTF8`
(with `utf8` the engine refuses subjects that are not valid UTF-8: `PCRE_ERROR_BADUTF8`, i.e. no match) -/
structure RFlags where
  icase : Bool := false
  utf8 : Bool := false
deriving DecidableEq, Repr

/-- offsets pair as PCRE writes it into `ovector` (`(-1,-1)` = group did not participate) -/
abbrev Span := Int × Int

/-- Result of one successful `pcre_exec`: the pair for the whole match and the pairs of the
capture groups `1 .. rc-1` (`rc` = return value = highest group that participated + 1). -/
abbrev Raw := Span × List Span

/-- The external regex engine (libpcre), as seen through the two calls `booster::regex` makes.

* `info pat flags` — `pcre_compile(pat)` **and** `pcre_compile("(?:"+pat+")\\z")` both succeed;
  the value is `PCRE_INFO_CAPTURECOUNT` of `pat`.  `none`: `regex::assign` throws.
* `exec pat flags s` — `pcre_exec` of the compiled `(?:pat)\z` on `s` at offset 0 with
  `PCRE_ANCHORED` and an `ovector` large enough for all groups.
-/
structure Rx where
  info : Bytes → RFlags → Option Nat
  exec : Bytes → RFlags → Bytes → Option Raw
  /-- second external: `cppcms::encoding::valid(context().locale(), begin, end)` — "is this byte string valid text
  in the request's character encoding"; the subject of property C14, here a parameter.  Used by the typed handlers
  of `url_dispatcher::map()` on every captured parameter. -/
  valid : Bytes → Bool := fun _ => true

/-- A reported span is unset or lies inside the subject. -/
def spanOk (n : Nat) (sp : Span) : Prop := sp = (-1, -1) ∨ (0 ≤ sp.1 ∧ sp.1 ≤ sp.2 ∧ sp.2 ≤ (n : Int))

instance (n : Nat) (sp : Span) : Decidable (spanOk n sp) := by unfold spanOk; infer_instance

/-- Soundness hypothesis on the engine (what the PCRE documentation promises about `ovector`):
every reported span lies within the subject, and no more groups are reported than the pattern has. -/
structure RxSound (rx : Rx) : Prop where
  spans : ∀ pat ic s r, rx.exec pat ic s = some r → spanOk s.length r.1 ∧ ∀ sp ∈ r.2, spanOk s.length sp
  arity : ∀ pat ic s r, rx.exec pat ic s = some r → r.2.length ≤ (rx.info pat ic).getD 0

/-- A constructed `booster::regex`: pattern text and flags. -/
structure Regex where
  pat : Bytes
  flags : RFlags := {}
deriving DecidableEq, Repr

/-- `booster::cmatch` after a successful `regex_match`: the subject and one span per group 0..mark_count. -/
structure CMatch where
  subj : Bytes
  marks : List Span
deriving DecidableEq, Repr

/-- `match_results::operator[]` followed by `sub_match::str()`-relevant data: `none` = `matched == false`. -/
def CMatch.get (m : CMatch) (n : Int) : Option Bytes :=
  if n < 0 then none
  else match m.marks[n.toNat]? with
    | none => none
    | some sp => if sp.1 = -1 then none else some (sub m.subj sp.1 sp.2)

/-- conversion of `m[n]` to `std::string` (unmatched → empty) -/
def CMatch.str (m : CMatch) (n : Int) : Bytes := (m.get n).getD []

/-- all groups as the `rhandler` / `generic_handler` sees them (`m[i]` for `i < m.size()`) -/
def CMatch.all (m : CMatch) : List (Option Bytes) :=
  (List.range m.marks.length).map fun (i : Nat) => m.get (Int.ofNat i)

/-- parameter types of `url_dispatcher::map(…, &C::member, obj, g₁, g₂, …)` handlers that are modelled:
`std::string` (taken as is) and the four integer types read with `std::istream >>` -/
inductive PType where
  | str | i32 | u32 | i64 | u64
deriving DecidableEq, Repr

/-- What a handler registered with the dispatcher receives. -/
inductive Kind where
  /-- `assign(re, handler)` : no arguments -/
  | h0
  /-- `assign(re, handlerN, p1..pN)` : `m[p_i]` converted to `std::string` -/
  | hN (sel : List Int)
  /-- `assign_generic(re, rhandler)` : the whole `cmatch` -/
  | rh
  /-- `map_generic([method,] re, generic_handler)`: gets the `cmatch`; returns `false`
  ("parameters did not validate", the scan continues) iff group `rej.1` converts to `rej.2`. -/
  | gen (rej : Option (Int × Bytes))
  /-- `map([method,] re, &C::member, obj, g₁ … gₙ)`: group `gᵢ` is checked to be valid text and converted to the
  `i`-th parameter type; if any check or conversion fails the member is **not** called and the scan continues -/
  | typed (ps : List (Int × PType))
deriving DecidableEq, Repr

structure Leaf where
  id : Nat
  re : Regex
  /-- the `method` argument of `map_generic(method, re, h)` -/
  meth : Option Bytes := none
  kind : Kind
deriving DecidableEq, Repr

/-- An application = the option vector of its `url_dispatcher`, in registration order; a
`mounted` option owns the child application.  One inductive with two recursive positions
(child, rest of the vector) so that recursion and induction are structural. -/
inductive Opts where
  | nil
  | leaf (l : Leaf) (rest : Opts)
  | mount (re : Regex) (sel : Int) (child : Opts) (rest : Opts)
deriving DecidableEq, Repr

inductive Event where
  /-- handler `id` was executed with these arguments (`none` = unmatched group, only visible to `rh`/`gen`) -/
  | ran (id : Nat) (args : List (Option Bytes))
  /-- generic handler `id` was executed and returned `false` -/
  | rejected (id : Nat) (args : List (Option Bytes))
  /-- `application::main` of a (child or root) application found no option: 404 -/
  | notFound
deriving DecidableEq, Repr

/-- one option seen from its dispatcher -/
inductive Entry where
  | leaf (l : Leaf)
  | mount (re : Regex) (sel : Int) (child : Opts)
deriving DecidableEq, Repr

/-- the option vector of one application -/
def Opts.level : Opts → List Entry
  | .nil => []
  | .leaf l rest => .leaf l :: rest.level
  | .mount re sel child rest => .mount re sel child :: rest.level

def Opts.depth : Opts → Nat
  | .nil => 0
  | .leaf _ rest => rest.depth
  | .mount _ _ child rest => max (child.depth + 1) rest.depth

/-- `cppcms::mount_point` -/
structure MountPoint where
  host : Option Regex := none
  script : Option Regex := none
  path : Option Regex := none
  group : Int := 0
  /-- `selection_ == match_path_info` -/
  selPath : Bool := true
deriving DecidableEq, Repr

/-! ## URL mapper -/

/-- `url_mapper::data::entry` without the child pointer: `parts[0] idx[0] parts[1] … parts[n]`;
index 0 = keyword substitution `{key}` (the key is in `keys`), `k` = parameter `{k}` (an `int`: `atoi` of
a very long digit string can come out negative). -/
structure Tpl where
  parts : List Bytes
  indexes : List Int
  keys : List Bytes
deriving DecidableEq, Repr

/-- `by_key` of one mapper, flattened to an association list with unique `(key, arity)`;
`app` entries are the ones created by `url_mapper::mount` (arity is always 1) and own the child mapper. -/
inductive MNode where
  | nil
  | url (key : Bytes) (arity : Nat) (tpl : Tpl) (rest : MNode)
  | app (key : Bytes) (tpl : Tpl) (child : MNode) (rest : MNode)
deriving DecidableEq, Repr

inductive MapErr where
  | keyNotFound | badArity | notChild | indexRange | noParent | tooManyKeywords
deriving DecidableEq, Repr

inductive TplErr where
  | emptyIndex | zeroIndex | unclosed | strayClose | appArity | badKey | sharedKey
deriving DecidableEq, Repr

end Cppcms.C20
