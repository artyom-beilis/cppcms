import Cppcms.C20.Terms
import Cppcms.C20.LemmasDispatch
import Cppcms.C20.LemmasPool
import Cppcms.C20.LemmasMapper
import Cppcms.C20.LemmasTpl
import Cppcms.C20.Example
/-!
# C20 — property theorems

A request is routed to the first mount point and then the first handler, in registration order, whose patterns and HTTP
method match the **entire** respective string, with exactly the captured groups as arguments, and to none (404) when
nothing matches; a URL the mapper produces for a key and parameters, routed from the root, reaches that key's handler with
those parameters at any depth of nesting.
Words of the statements that are neither model nor specification are defined in `Terms`.

The routing statements are about the model instantiated with `Gen.quirks`, the facts the translator extracted from the
**current** source (`Gen.lean`): if `option::matches` goes back to `path.c_str()`, a `regex::match` overload loses its span
test or the method class changes, `gen_fixed` / `gen_method` stop type-checking, and with them everything below that uses
them.  The numeral, template, key and `stackbuf` theorems involve no `Quirks`; `d13_counterexample_before_fix` is about
the pre-fix instance.

The regex engine is the parameter `rx : Rx` everywhere.  Theorems that say "whole string" need no
hypothesis on it (the wrapper's own span test does the work); theorems that talk about the
*contents* of groups assume `RxSound rx`.
-/
namespace Cppcms.C20.Props
open Cppcms Cppcms.C20

/-- see `wrapper_pins_source` -/
theorem gen_fixed : Gen.quirks.Fixed where
  path := rfl
  mount := rfl
  marks a b n := by simp [Gen.quirks, Gen.spanRejectMarks]
  noMarks a b n := by simp [Gen.quirks, Gen.spanRejectNoMarks]

theorem gen_method : MethodClassAZ := fun c => by simp [Gen.methodCharLiteral]

/-- `regex::assign` compiles `"(?:" + pattern + ")\z"`; both `regex::match` overloads run it with
`PCRE_ANCHORED` at offset 0 and answer `false` unless the reported match is `[0, end-begin)`;
`option::matches` and `mount_point::match(std::string…)` pass ranges (not C strings); literal
methods are exactly the all-`A-Z` strings.  The first four conjuncts pin generated constants that no model
definition reads (anchoring at offset 0 and `\z` are the stated meaning of `Rx.exec`); the last two, `gen_fixed` and
`gen_method`, are what the other theorems use. -/
theorem wrapper_pins_source :
    Gen.anchoredPre = [40, 63, 58] ∧ Gen.anchoredPost = [41, 92, 122] ∧
    Gen.execAnchoredMarks = true ∧ Gen.execAnchoredNoMarks = true ∧
    Gen.quirks.Fixed ∧ MethodClassAZ :=
  ⟨by decide, by decide, by decide, by decide, gen_fixed, gen_method⟩

/-- **For every engine**: when `booster::regex_match` answers true — with or without a `cmatch` —
the engine's reported match is exactly `[0, |s|)`.  An engine answer that covers only a prefix
(`(*ACCEPT)`, `\K`, a `$` before a trailing newline, …) is refused by the wrapper. -/
theorem full_match_only (rx : Rx) (r : Regex) (s : Bytes) :
    (∀ m, rxMatchMarks rx Gen.quirks r s = some m →
        ∃ gs, rx.exec r.pat r.flags s = some (((0 : Int), (s.length : Int)), gs) ∧ m.subj = s) ∧
    (rxMatch rx Gen.quirks r s = true →
        ∃ gs, rx.exec r.pat r.flags s = some (((0 : Int), (s.length : Int)), gs)) := by
  have key : ∀ raw, Spec.whole rx r s = some raw → ∃ gs, rx.exec r.pat r.flags s = some (((0 : Int), (s.length : Int)), gs) :=
    fun raw hw => ⟨raw.2, by rw [(whole_eq_some.1 hw).1, ← (whole_eq_some.1 hw).2]⟩
  constructor
  · intro m hm
    rw [rxMatchMarks_eq rx gen_fixed] at hm
    obtain ⟨raw, hw, rfl⟩ := Option.map_eq_some_iff.1 hm
    obtain ⟨gs, h⟩ := key raw hw
    exact ⟨gs, h, rfl⟩
  · intro hm
    rw [rxMatch_eq rx gen_fixed, Option.isSome_iff_exists] at hm
    obtain ⟨raw, hw⟩ := hm
    exact key raw hw

/-- `option::matches` succeeds iff the method filter holds and the engine matched the **entire**
path — for every engine, every path (embedded NULs and newlines included) and every method. -/
theorem matches_is_whole_path (rx : Rx) (re : Regex) (filter req : Option Bytes) (path : Bytes) :
    (optMatches rx Gen.quirks re filter req path).isSome =
      (Spec.methodOk rx filter req && (Spec.whole rx re path).isSome) := by
  rw [optMatches_eq rx gen_fixed gen_method]
  cases Spec.methodOk rx filter req <;> simp

/-- Under `RxSound`: the `cmatch` a handler receives is about the whole path, and its group `n`
(for every `n`, also negative or too large) is the engine's group `n`; a participating group with
reported span `(a,b)` is literally `path[a..b)`. -/
theorem groups_exact (rx : Rx) (hs : RxSound rx) (re : Regex) (filter req : Option Bytes) (path : Bytes) (m : CMatch)
    (h : optMatches rx Gen.quirks re filter req path = some m) :
    m.subj = path ∧ ∃ raw, Spec.whole rx re path = some raw ∧ (∀ n, m.get n = Spec.group path raw n) ∧
      ∀ (n : Nat) (a b : Int), (raw.1 :: raw.2)[n]? = some (a, b) → a ≠ -1 →
        ∃ pre post, path = pre ++ sub path a b ++ post ∧ (pre.length : Int) = a ∧ ((sub path a b).length : Int) = b - a := by
  rw [optMatches_eq rx gen_fixed gen_method] at h
  split at h
  · simp only [Option.map_eq_some_iff] at h
    obtain ⟨raw, hw, rfl⟩ := h
    refine ⟨rfl, raw, hw, cmatch_get_eq hs hw, ?_⟩
    intro n a b hn ha
    have hsp := hs.spans _ _ _ _ (whole_eq_some.1 hw).1
    have hok : spanOk path.length (a, b) := by
      rcases List.mem_cons.1 (List.mem_of_getElem? hn) with h | h
      · exact h ▸ hsp.1
      · exact hsp.2 _ h
    rcases hok with h1 | ⟨h0, hab, hbl⟩
    · exact absurd (congrArg Prod.fst h1) ha
    · exact ⟨_, _, sub_split path h0 hab hbl⟩
  · cases h

/-- `url_dispatcher::dispatch` = the **first** option, in registration order, whose
`option::dispatch` returns true; what was observed before it are only generic handlers that ran and
declined; if there is none the result is `false` (→ 404).  Any engine. -/
theorem dispatch_is_first_match (rx : Rx) (req : Option Bytes) (o : Opts) (url : Bytes) :
    dispatch rx Gen.quirks req o url =
      match o.level.find? (fun e => (entryAttempt rx Gen.quirks req url e).isFire) with
      | none => (false, o.level.filterMap fun e => (entryAttempt rx Gen.quirks req url e).rejectEv)
      | some e =>
        (true, ((o.level.takeWhile fun e => !(entryAttempt rx Gen.quirks req url e).isFire).filterMap
                  fun e => (entryAttempt rx Gen.quirks req url e).rejectEv)
               ++ (entryAttempt rx Gen.quirks req url e).fireEvs) := by
  rw [dispatch_eq_run, runAttempts_find]
  simp only [List.find?_map, List.takeWhile_map, List.filterMap_map, Function.comp_def]
  cases o.level.find? (fun e => (entryAttempt rx Gen.quirks req url e).isFire) <;> rfl

/-- **Model = specification** for application trees of any depth: the dispatcher does what
`Spec.route` says — first option in registration order whose method filter holds and whose pattern
matches the entire URL, called with exactly the captured groups; a mounted application gets the
selected group and answers 404 itself. -/
theorem dispatch_eq_spec (rx : Rx) (hs : RxSound rx) (req : Option Bytes) (o : Opts) (url : Bytes) :
    dispatch rx Gen.quirks req o url = Spec.route rx req (o.depth + 1) o url :=
  dispatch_eq_route rx gen_fixed gen_method hs req (o.depth + 1) o url (by omega)

/-- Nested applications, any depth: handler `id` runs with `args` **iff** the routing relation
`Spec.Reaches` holds — a chain of mounts, each the first taking option of its level, each entered
with the selected group, ending in a level whose first taking option is that handler. -/
theorem mount_then_dispatch (rx : Rx) (hs : RxSound rx) (req : Option Bytes) (o : Opts) (url : Bytes)
    (id : Nat) (args : List (Option Bytes)) :
    Event.ran id args ∈ (dispatch rx Gen.quirks req o url).2 ↔ Spec.Reaches rx req o url id args := by
  constructor
  · rw [dispatch_eq_spec rx hs]
    exact reaches_of_ran_mem_route id args _ o url
  · -- each step of the relation is one level of `dispatch`
    intro h
    induction h with
    | atHandler hf ht =>
      rw [dispatch_step rx gen_fixed gen_method hs]
      simp only [hf, ht]
      exact List.mem_append_right _ (.head _)
    | through hf hw _ ih =>
      rw [dispatch_step rx gen_fixed gen_method hs]
      simp only [hf, hw]
      exact List.mem_append_left _ (List.mem_append_right _ ih)

/-- Every argument any handler, at any depth, is given is a contiguous substring of the request path — or, for the
integer parameters of typed `map()` handlers, the (decimal text of the) value that such a substring denotes
(`Spec.ArgOf`). -/
theorem args_infix_of_request (rx : Rx) (hs : RxSound rx) (req : Option Bytes) (o : Opts) (url : Bytes)
    (ev : Event) (hev : ev ∈ (dispatch rx Gen.quirks req o url).2) (x : Bytes) (hx : some x ∈ ev.args) :
    Spec.ArgOf rx url x :=
  args_argOf_route _ o url ev (dispatch_eq_spec rx hs req o url ▸ hev) x hx

/-- `parameter >> value` followed by the `eof()` test (libstdc++'s digit loop with its incremental overflow test,
after the sentry skipped white space and one sign was read) accepts **exactly** the decimal numerals in the range of
the type and yields their value — for every byte string, for `int`, `unsigned`, `long long`, `unsigned long long`. -/
theorem typed_integer_is_numeral (s : Bytes) :
    parseNum ⟨true, 32⟩ s = Spec.numeral true 32 s ∧ parseNum ⟨false, 32⟩ s = Spec.numeral false 32 s ∧
    parseNum ⟨true, 64⟩ s = Spec.numeral true 64 s ∧ parseNum ⟨false, 64⟩ s = Spec.numeral false 64 s :=
  ⟨parseNum_eq_numeral _ (by decide) s, parseNum_eq_numeral _ (by decide) s,
   parseNum_eq_numeral _ (by decide) s, parseNum_eq_numeral _ (by decide) s⟩

/-- one parameter: valid text (external `rx.valid`) and, for integer types, a numeral in range -/
theorem typed_param_eq_spec (rx : Rx) (t : PType) (s : Bytes) : convertParam rx t s = Spec.convert rx t s :=
  convertParam_eq rx t s

/-- **A typed handler (of an application with a request context) takes the request iff its pattern matches the whole URL,
its method filter holds AND every selected group converts to its parameter type**; then the member is called with exactly the converted values.
Otherwise `option::dispatch` returns `false` without having called anything and the scan goes on to the next option. -/
theorem typed_handler_applies_iff (rx : Rx) (hs : RxSound rx) (req : Option Bytes) (l : Leaf) (ps : List (Int × PType))
    (hk : l.kind = .typed ps) (url : Bytes) :
    leafAttempt rx Gen.quirks req l url =
      match req, Spec.whole rx l.re url with
      | some _, some raw =>
        if Spec.methodOk rx l.meth req then
          match ps.mapM fun gt => (Spec.convert rx gt.2 (Spec.groupStr url raw gt.1)).map some with
          | some vals => .fire [.ran l.id vals]
          | none => .skip
        else .skip
      | _, _ => .skip := by
  rw [leafAttempt_eq rx gen_fixed gen_method hs]
  unfold Spec.leafTry
  rw [hk]
  dsimp only
  cases req with
  | none => rfl
  | some r =>
    cases Spec.methodOk rx l.meth (some r) <;> cases Spec.whole rx l.re url with
    | none => rfl
    | some raw =>
      dsimp only [Option.isSome_some, Bool.and_true, Bool.and_false, Option.bind_some]
      cases (ps.mapM fun gt => (Spec.convert rx gt.2 (Spec.groupStr url raw gt.1)).map some) <;> rfl

/-- numerals: range ends of `int`, white space, signs, `unsigned` negation, junk -/
example :
    Spec.numeral true 32 [50, 49, 52, 55, 52, 56, 51, 54, 52, 55] = some 2147483647 ∧          -- "2147483647"
    Spec.numeral true 32 [50, 49, 52, 55, 52, 56, 51, 54, 52, 56] = none ∧                     -- "2147483648"
    Spec.numeral true 32 [45, 50, 49, 52, 55, 52, 56, 51, 54, 52, 56] = some (-2147483648) ∧   -- "-2147483648"
    Spec.numeral true 32 [32, 9, 48, 48, 55] = some 7 ∧                                       -- " \t007"
    Spec.numeral true 32 [55, 32] = none ∧ Spec.numeral true 32 [] = none ∧ Spec.numeral true 32 [43] = none ∧
    Spec.numeral true 32 [45, 43, 49] = none ∧ Spec.numeral true 32 [49, 97] = none ∧
    Spec.numeral false 32 [45, 49] = some 4294967295 ∧ Spec.numeral false 32 [45, 48] = some 0 ∧
    parseNum ⟨true, 32⟩ [50, 49, 52, 55, 52, 56, 51, 54, 52, 56] = none ∧ parseNum ⟨false, 32⟩ [45, 49] = some 4294967295 := by
  decide +kernel

/-- two handlers on one pattern: `/p/2147483648` does not fit `int`, so the `unsigned` one (registered later) gets it;
`/p/12` goes to the first -/
example :
    let rx : Rx := { info := fun _ _ => some 1,
                     exec := fun _ _ s => if s.take 3 = [47, 112, 47] then some ((0, s.length), [(3, s.length)]) else none }
    let o : Opts := .leaf ⟨1, ⟨[120], {}⟩, none, .typed [(1, .i32)]⟩ (.leaf ⟨2, ⟨[120], {}⟩, none, .typed [(1, .u32)]⟩ .nil)
    dispatch rx Gen.quirks (some [71]) o [47, 112, 47, 50, 49, 52, 55, 52, 56, 51, 54, 52, 56] =
      (true, [.ran 2 [some [50, 49, 52, 55, 52, 56, 51, 54, 52, 56]]]) ∧
    dispatch rx Gen.quirks (some [71]) o [47, 112, 47, 49, 50] = (true, [.ran 1 [some [49, 50]]]) ∧
    dispatch rx Gen.quirks none o [47, 112, 47, 49, 50] = (false, []) := by decide +kernel

/-- `mount_point::match` = all configured patterns match their whole strings; the result is the
selected string or its group.  The `std::string` overload is about the strings as given (NULs
included), the `char const*` overload about the C strings. -/
theorem mpMatch_eq_spec (rx : Rx) (hs : RxSound rx) (mp : MountPoint) (h s p : Bytes) :
    mpMatchStr rx Gen.quirks mp h s p = Spec.mpMatch rx mp h s p ∧
    mpMatchPtr rx Gen.quirks mp h s p = Spec.mpMatch rx mp (cstr h) (cstr s) (cstr p) := by
  constructor
  · unfold mpMatchStr; rw [gen_fixed.mount]; simp [mpMatchC_eq rx gen_fixed hs]
  · unfold mpMatchPtr; exact mpMatchC_eq rx gen_fixed hs _ _ _ _

/-- The scan of the first list of `applications_pool` (`apps`: pools and factories; the whole function when no classic
asynchronous application is mounted) returns the **first** mount point, in mount order, that matches, with its index and
selected string.  Both lists: `pool_scan_order`. -/
theorem pool_is_first_match (rx : Rx) (hs : RxSound rx) (mps : List MountPoint) (h s p : Bytes) :
    poolFind rx Gen.quirks h s p mps 0 = Spec.poolFind rx mps (cstr h) (cstr s) (cstr p) :=
  poolFind_eq (fun mp => (mpMatch_eq_spec rx hs mp h s p).2) mps 0

theorem poolRoute_eq_spec (rx : Rx) (hs : RxSound rx) (apps : List (MountPoint × Opts)) (meth h s p : Bytes) :
    poolRoute rx Gen.quirks apps meth h s p = Spec.poolRoute rx apps meth (cstr h) (cstr s) (cstr p) := by
  unfold poolRoute Spec.poolRoute
  rw [pool_is_first_match rx hs]
  generalize Spec.poolFind rx _ _ _ _ = found
  cases found with
  | none => rfl
  | some im => simp [appMain_eq_main rx gen_fixed gen_method hs (some meth)]

/-- **Both lists of `applications_pool`.**  `get_application_specific_pool` returns the first accepting mount
point in `Spec.scanOrder`: all pools/factories (`mount(pool,…)`, `mount(factory,…)`) in their mount order, then the
classic asynchronous applications (`mount(intrusive_ptr<application>,…)`) in their mount order with the dead ones
left out — in particular, among overlapping asynchronous mounts the **first** registered wins, although the loop
over them runs to the end. -/
theorem pool_scan_order (rx : Rx) (hs : RxSound rx) (ms : List (Bool × MountPoint)) (dead : List Nat) (h s p : Bytes) :
    poolFindAll rx Gen.quirks h s p ms dead = Spec.poolFindAll rx ms dead (cstr h) (cstr s) (cstr p) :=
  poolFindAll_eq (fun mp => (mpMatch_eq_spec rx hs mp h s p).2) ms dead

/-- the same after any number of "the application that got the request dies" rounds, and with `application::main` -/
theorem poolRouteAll_eq_spec (rx : Rx) (hs : RxSound rx) (apps : List (Bool × MountPoint × Opts)) (rounds : Nat) (meth h s p : Bytes) :
    poolRouteAll rx Gen.quirks apps rounds meth h s p = Spec.poolRouteAll rx apps rounds meth (cstr h) (cstr s) (cstr p) := by
  have hkill : ∀ (ms : List (Bool × MountPoint)) (r : Nat) (dead : List Nat),
      poolKill rx Gen.quirks h s p ms r dead = Spec.poolKill rx ms (cstr h) (cstr s) (cstr p) r dead := by
    intro ms r
    induction r with
    | zero => intro dead; rfl
    | succ r ih =>
      intro dead
      -- the two differ in the scan only
      simp only [poolKill, Spec.poolKill, pool_scan_order rx hs]
      generalize Spec.poolFindAll rx ms dead _ _ _ = found
      cases found with
      | none => rfl
      | some im => simp only [ih]
  unfold poolRouteAll Spec.poolRouteAll
  simp only [hkill, pool_scan_order rx hs]
  generalize Spec.poolFindAll rx _ _ _ _ _ = found
  cases found with
  | none => rfl
  | some im => simp [appMain_eq_main rx gen_fixed gen_method hs (some meth)]

/-- two overlapping classic asynchronous mounts and a catch-all pool: the pool wins although mounted last (its list is
scanned first); without it the first asynchronous mount wins; once that one has died, the second -/
example :
    let a1 : Bool × MountPoint := (true, ⟨none, none, some (Ex.re Ex.exPat_blogm), 1, true⟩)
    let a2 : Bool × MountPoint := (true, ⟨none, none, none, 0, true⟩)
    let s3 : Bool × MountPoint := (false, ⟨none, none, none, 0, true⟩)
    (poolFindAll Ex.exRx Gen.quirks [] [] Ex.profileUrl [a1, a2, s3] []).map (·.1) = some 2 ∧
    (poolFindAll Ex.exRx Gen.quirks [] [] Ex.profileUrl [a1, a2] []).map (·.1) = some 0 ∧
    (poolFindAll Ex.exRx Gen.quirks [] [] Ex.profileUrl [a1, a2] [0]).map (·.1) = some 1 ∧
    poolKill Ex.exRx Gen.quirks [] [] Ex.profileUrl [a1, a2] 2 [] = [1, 0] := by decide +kernel

/-- **Templates, general grammar** (`l₁{p₁}…lₙ{pₙ}tail`, placeholders = digit strings of any length or keywords, mixed
freely): `real_assign` stores exactly the literals, the `atoi` values (0 for keywords) and the keys; the arity is the
largest index. -/
theorem parseTpl_general_grammar (segs : List (Bytes × Ph)) (hs : GSegsOk segs) (tail : Bytes) (ht : BraceFree tail) :
    parseTpl (tplPre segs ++ tail) false =
      .ok (⟨segs.map (·.1) ++ [tail], segs.map (·.2.index), segs.map (·.2.key)⟩,
           (segs.foldl (fun m lp => lp.2.bump m) (0 : Int)).toNat) :=
  parseTpl_pre segs hs tail ht false

/-- **Error ordering**: after any well-formed prefix the first malformed construct decides the error, whatever follows
(`{}` emptyIndex · all-digit placeholder with `atoi` 0 zeroIndex · `}` outside strayClose · never closed `{` unclosed). -/
theorem parseTpl_first_error_wins (segs : List (Bytes × Ph)) (hs : GSegsOk segs) (a : Bytes) (ha : BraceFree a) (rest : Bytes)
    (isApp : Bool) :
    parseTpl (tplPre segs ++ (a ++ bOpen :: bClose :: rest)) isApp = .error .emptyIndex ∧
    (∀ ds, ds ≠ [] → ds.any (fun c => Gen.tplNotDigit c.toNat) = false → atoiDigits ds = 0 →
        parseTpl (tplPre segs ++ (a ++ bOpen :: (ds ++ bClose :: rest))) isApp = .error .zeroIndex) ∧
    parseTpl (tplPre segs ++ (a ++ bClose :: rest)) isApp = .error .strayClose ∧
    ((∀ c ∈ rest, c.toNat ≠ Gen.tplClose) → parseTpl (tplPre segs ++ (a ++ bOpen :: rest)) isApp = .error .unclosed) := by
  have hco : Gen.tplClose ≠ Gen.tplOpen := by decide
  -- whatever the state after the prefix is, the continuation fails the same way
  refine ⟨parseTpl_scan_error segs hs isApp fun cur acc => ?_,
    fun ds hne hd h0 => parseTpl_scan_error segs hs isApp fun cur acc => ?_,
    parseTpl_scan_error segs hs isApp fun cur acc => ?_,
    fun hr => parseTpl_scan_error segs hs isApp fun cur acc => ?_⟩
  · rw [tplScan_text a ha]; simp [tplScan, bOpen_toNat, bClose_toNat, tplPlaceholder]
  · rw [tplScan_text a ha]
    simp only [tplScan, Bool.false_eq_true, if_false, bOpen_toNat, if_true]
    rw [tplScan_inside ds (notDigit_not_close ds hd)]
    have he : ds.isEmpty = false := by cases ds <;> simp_all
    simp [tplPlaceholder, he, hd, h0]
  · rw [tplScan_text a ha]; simp [tplScan, bClose_toNat, hco]
  · rw [tplScan_text a ha]
    simp [tplScan, bOpen_toNat, tplScan_inside_unclosed rest hr]

/-- a digit string denoting a number below 2³¹ is read as that number (`{10}`, `{123}`); the glibc behaviour for longer
strings (saturation, truncation to `int`, possibly 0 or negative) is `atoiDigits` itself, tied by correspondence -/
theorem template_index_value (ds : Bytes) (h : ds.foldl (fun acc c => acc * 10 + (c.toNat - 48)) 0 < 2 ^ 31) :
    atoiDigits ds = Int.ofNat (ds.foldl (fun acc c => acc * 10 + (c.toNat - 48)) 0) := by
  unfold atoiDigits
  generalize ds.foldl (fun acc c => acc * 10 + (c.toNat - 48)) 0 = v at h ⊢
  have h1 : ¬ v ≥ 2 ^ 63 := by omega
  have h2 : v % 2 ^ 32 = v := Nat.mod_eq_of_lt (by omega)
  have h3 : ¬ v ≥ 2 ^ 31 := by omega
  simp [h1, h2, h3]

/-- **Instantiation, general grammar**: each index placeholder ↦ its parameter, each keyword ↦ the call's keyword
parameter, else the `set_value` helper, else nothing; an index outside `1..#params` (also a negative one) ⇒ `indexRange`. -/
theorem writeTpl_general_grammar (params : List Bytes) (helpers overrides : List (Bytes × Bytes))
    (segs : List (Bytes × Ph)) (tail : Bytes) :
    writeTpl ⟨segs.map (·.1) ++ [tail], segs.map (·.2.index), segs.map (·.2.key)⟩ params helpers overrides =
      match instG params helpers overrides segs tail with
      | some r => .ok r
      | none => .error .indexRange := by
  have := writeTpl_go_general params helpers overrides segs tail []
  simp only [List.nil_append] at this
  exact this

/-- a template without braces is one literal part, arity 0 -/
theorem parseTpl_literal (s : Bytes) (h : BraceFree s) : parseTpl s false = .ok (⟨[s], [], []⟩, 0) :=
  parseTpl_pre [] nofun s h false

/-- `l₁{d₁}l₂{d₂}…tail` (digits 1..9, brace-free literals) parses to exactly those parts and indexes;
the arity is the largest index (the instance `posSeg` of `parseTpl_general_grammar`) -/
theorem parseTpl_param (segs : List (Bytes × Nat)) (hs : SegsOk segs) (tail : Bytes) (ht : BraceFree tail) :
    parseTpl (tplSrc segs tail) false =
      .ok (⟨segs.map (·.1) ++ [tail], segs.map (fun ld => Int.ofNat ld.2), segs.map (fun _ => [])⟩,
           (segs.foldl (fun m ld => max (Int.ofNat ld.2) m) (0 : Int)).toNat) := by
  obtain ⟨hok, hidx, hmax⟩ := posSegs_ok segs hs
  rw [tplSrc_eq, parseTpl_pre _ hok tail ht, hidx, hmax]
  simp [posSeg, Ph.key]

/-- malformed templates are rejected with the specific error, whatever follows (the first four:
`parseTpl_first_error_wins` without a prefix) -/
theorem parseTpl_errors (a : Bytes) (ha : BraceFree a) (rest : Bytes) (isApp : Bool) :
    parseTpl (a ++ [UInt8.ofNat Gen.tplOpen, UInt8.ofNat Gen.tplClose] ++ rest) isApp = .error .emptyIndex ∧
    parseTpl (a ++ [UInt8.ofNat Gen.tplOpen, 48, UInt8.ofNat Gen.tplClose] ++ rest) isApp = .error .zeroIndex ∧
    parseTpl (a ++ [UInt8.ofNat Gen.tplClose] ++ rest) isApp = .error .strayClose ∧
    ((∀ c ∈ rest, c.toNat ≠ Gen.tplClose) → parseTpl (a ++ [UInt8.ofNat Gen.tplOpen] ++ rest) isApp = .error .unclosed) ∧
    (∀ segs tail, SegsOk segs → BraceFree tail → segs.foldl (fun m ld => max (Int.ofNat ld.2) m) (0 : Int) ≠ 1 →
        parseTpl (tplSrc segs tail) true = .error .appArity) := by
  obtain ⟨h1, h2, h3, h4⟩ := parseTpl_first_error_wins [] nofun a ha rest isApp
  simp only [tplPre, List.nil_append, bOpen, bClose] at h1 h2 h3 h4
  refine ⟨by simpa using h1, by simpa using h2 [48] (by decide) (by decide) (by decide), by simpa using h3,
    fun h => by simpa using h4 h, ?_⟩
  intro segs tail hs ht hm
  obtain ⟨hok, -, hmax⟩ := posSegs_ok segs hs
  rw [tplSrc_eq, parseTpl_pre _ hok tail ht, hmax]
  simpa using hm

/-- parsing a template and instantiating it substitutes exactly the parameters: `{d}` ↦ `params[d-1]`,
literal text unchanged, for every template of the positional fragment and parameters covering every index -/
theorem writeTpl_parse_roundtrip (segs : List (Bytes × Nat)) (hs : SegsOk segs) (tail : Bytes) (ht : BraceFree tail)
    (params : List Bytes) (hb : ∀ ld ∈ segs, ld.2 ≤ params.length) (helpers overrides : List (Bytes × Bytes)) :
    ∃ t n, parseTpl (tplSrc segs tail) false = .ok (t, n) ∧
      writeTpl t params helpers overrides = .ok (tplInst params segs tail) :=
  ⟨_, _, by rw [tplSrc_eq]; exact parseTpl_pre _ (posSegs_ok segs hs).1 tail ht false,
   by rw [writeTpl_general_grammar, instG_pos params helpers overrides segs hs hb]⟩

/-- `a{key}b` parses to a keyword placeholder, and instantiating it inserts the keyword parameter of the
call if given, else the `set_value` helper, else nothing — for all brace-free `a`, `b` and every key
that is non-empty, not all digits and has no `}` -/
theorem parseTpl_keyword_roundtrip (a : Bytes) (ha : BraceFree a) (k : Bytes) (hk : ∀ c ∈ k, c.toNat ≠ Gen.tplClose)
    (hnd : k.any (fun c => Gen.tplNotDigit c.toNat) = true) (b : Bytes) (hb : BraceFree b)
    (params : List Bytes) (helpers overrides : List (Bytes × Bytes)) :
    ∃ t, parseTpl (a ++ UInt8.ofNat Gen.tplOpen :: (k ++ UInt8.ofNat Gen.tplClose :: b)) false = .ok (t, 0) ∧
      writeTpl t params helpers overrides =
        .ok (a ++ (match lookupKV overrides k with
                   | some v => v
                   | none => (lookupKV helpers k).getD []) ++ b) :=
  have hok : GSegsOk [(a, .kw k)] := fun lp h => by cases List.mem_singleton.1 h; exact ⟨ha, hnd, hk⟩
  ⟨_, by simpa [tplPre, bOpen, bClose, Ph.text, Ph.index, Ph.key, Ph.bump] using parseTpl_pre _ hok b hb false,
   by have := writeTpl_general_grammar params helpers overrides [(a, .kw k)] b
      simp only [instG, Ph.value, Ph.index, Ph.key, if_true, List.map_cons, List.map_nil, List.nil_append,
        List.cons_append] at this
      exact this⟩

/-- `/{lang}/x` with `lang` given both as helper and as keyword parameter -/
example : ∃ t, parseTpl [47, 123, 108, 97, 110, 103, 125, 47, 120] false = .ok (t, 0) ∧
    writeTpl t [] [([108, 97, 110, 103], [101, 110])] [([108, 97, 110, 103], [104, 101])] = .ok [47, 104, 101, 47, 120] := by
  exact ⟨⟨[[47], [47, 120]], [0], [[108, 97, 110, 103]]⟩, by decide +kernel, by decide +kernel⟩

/-- `/{lang}/p{10}-{1}` : a mixed template with a two-digit index — well-formed, arity 10; instantiated with ten parameters -/
example :
    let segs : List (Bytes × Ph) := [([47], .kw [108, 97, 110, 103]), ([47, 112], .idx [49, 48]), ([45], .idx [49])]
    GSegsOk segs ∧ tplPre segs = [47, 123, 108, 97, 110, 103, 125, 47, 112, 123, 49, 48, 125, 45, 123, 49, 125] ∧
    parseTpl (tplPre segs ++ []) false = .ok (⟨[[47], [47, 112], [45], []], [0, 10, 1], [[108, 97, 110, 103], [], []]⟩, 10) ∧
    instG [[97], [98], [99], [100], [101], [102], [103], [104], [105], [106]] [([108, 97, 110, 103], [101, 110])] [] segs [] =
      some [47, 101, 110, 47, 112, 106, 45, 97] ∧
    instG [[97]] [] [] segs [] = none := by
  decide +kernel

/-- over-long digit strings: `{4294967296}` is index 0 (rejected), `{4294967297}` is index 1, `{99999999999999999999}` is −1 -/
example : atoiDigits [52, 50, 57, 52, 57, 54, 55, 50, 57, 54] = 0 ∧ atoiDigits [52, 50, 57, 52, 57, 54, 55, 50, 57, 55] = 1 ∧
    atoiDigits [57, 57, 57, 57, 57, 57, 57, 57, 57, 57, 57, 57, 57, 57, 57, 57, 57, 57, 57, 57] = -1 := by decide +kernel

/-- the mapper's syntax constants as extracted from the source: keys may not contain `/ ; ,`, may not be
`.` or `..`; placeholders are `{…}`; an index is a string of ASCII digits -/
theorem mapper_constants_pinned :
    Gen.keyForbiddenChars = [47, 59, 44] ∧ Gen.keyForbiddenWords = [[46, 46], [46]] ∧
    Gen.tplOpen = 123 ∧ Gen.tplClose = 125 ∧ (∀ c, Gen.tplNotDigit c = (decide (c < 48) || decide (57 < c))) :=
  ⟨by decide, by decide, by decide, by decide, fun _ => rfl⟩

/-- every key that `url_mapper::assign(key,url)` accepts (NUL-free: `map` takes a C string) is read by
`url_mapper::map` as exactly that key of the addressed mapper — no `/` navigation, no `..`, no keywords;
it denotes the child application's default entry iff it was mounted as an application. -/
theorem valid_key_addressable (p : MPos) (key : Bytes) (hv : keyValid key = true) (hnul : (0 : UInt8) ∉ key) :
    mapperForKey p (cstr key) =
      match isApp p.cur key with
      | some c => .ok (⟨c, (p.cur, key) :: p.up⟩, [], [])
      | none => .ok (p, key, []) := by
  simp only [keyValid, Bool.not_eq_true', Bool.or_eq_false_iff, List.any_eq_false, List.contains_eq_mem,
    decide_eq_false_iff_not, decide_eq_true_eq] at hv
  obtain ⟨⟨hne, hchars⟩, hwords⟩ := hv
  have h47 : (47 : UInt8) ∉ key := fun hm => hchars 47 hm (by decide)
  have h59 : (59 : UInt8) ∉ key := fun hm => hchars 59 hm (by decide)
  have hd : (key == [46]) = false := beq_eq_false_iff_ne.2 fun e => hwords (e ▸ by decide)
  have hdd : (key == [46, 46]) = false := beq_eq_false_iff_ne.2 fun e => hwords (e ▸ by decide)
  have hhead : (key.head? == some 47) = false := by
    cases key with
    | nil => rfl
    | cons c cs => exact beq_eq_false_iff_ne.2 fun e => h47 (Option.some.inj e ▸ .head _)
  have hc59 : key.contains 59 = false := by simpa using h59
  rw [cstr, takeWhile_ne_of_not_mem 0 key hnul]
  simp only [mapperForKey, hne, Bool.false_eq_true, if_false, hhead, splitOn_no_sep 47 key h47, List.getLast?_singleton,
    Option.getD_some, List.dropLast_singleton, walk, takeWhile_ne_of_not_mem 59 key h59, hc59, hd, hdd]
  cases isApp p.cur key <;> rfl

example : keyValid Ex.kProfile = true ∧ (0 : UInt8) ∉ Ex.kProfile := by decide +kernel

/-- **mapper/dispatcher consistency, any depth.**  Let `key` (any key form: relative, `a/b`, `..`,
absolute, with keywords) resolve to mapper `p'`, entry `rk`, keywords `kws`, no more than `params`.  If the site is
`Consistent` along the chain from `p'` up to the root (a decidable, purely local check per level,
in which the keyword parameters are substituted into the entry's template **and into every
ancestor's mount template**), then `url_mapper::map` produces `root ++ u`, and routing `u` from the
root application makes the handlers observe exactly `expected` — for `expected = [.ran id args]`:
exactly the handler `id` runs, with exactly `args`. -/
theorem mapper_dispatch_consistent (rx : Rx) (hs : RxSound rx) (req : Option Bytes) (ctx : MCtx) (p p' : MPos) (key rk : Bytes)
    (kws : List Bytes) (params : List Bytes) (cur : Opts) (anc : List Opts) (expected : List Event)
    (hkey : mapperForKey p (cstr key) = .ok (p', rk, kws)) (hk : kws.length ≤ params.length)
    (hc : Consistent rx req ctx (mkOverrides kws (params.take kws.length)) p' cur anc rk (params.drop kws.length) expected = true) :
    ∃ u, mapUrl ctx p key params = .ok (ctx.root ++ u) ∧
      appMain rx Gen.quirks req (rootOf cur anc) u = expected := by
  obtain ⟨u, hmap, hmain⟩ := consistent_spec rx gen_fixed gen_method hs req ctx _ p' cur anc rk _ expected hc
  refine ⟨u, ?_, hmain⟩
  unfold mapUrl
  simp only [hkey]
  have : ¬ params.length < kws.length := by omega
  simp [this, hmap]

/-- **`util::stackbuf` collects all bytes, in order**, however many there are and wherever the stack/heap and the
doubling boundaries fall (byte 129, 257, 513, … of a URL included), for every on-stack size ≥ 1. -/
theorem stackbuf_collects_all_bytes_in_order (N : Nat) (hN : 1 ≤ N) (s : Bytes) :
    (SBuf.write N (SBuf.init N) s).data = s :=
  (SBuf.write_eq (b := SBuf.init N) (by decide) s ⟨Nat.zero_le _, hN, fun _ => rfl⟩).1

/-- hence in the default configuration (`misc.invalid_url_throws = false`) `map` produces the same URL as in the throwing one,
cut at its first NUL (`output << temp_buf.c_str()`), and the fixed text on any error -/
theorem mapUrlNT_eq (ctx : MCtx) (p : MPos) (key : Bytes) (params : List Bytes) :
    mapUrlNT ctx p key params =
      match mapUrl ctx p key params with
      | .ok u => cstr u
      | .error _ => invalidUrlText := by
  unfold mapUrlNT
  cases mapUrl ctx p key params with
  | error e => rfl
  | ok u => simp only [stackbuf_collects_all_bytes_in_order Gen.sbDefaultSize (by decide) u]

/-- `mapper_dispatch_consistent` for the default (non-throwing) configuration -/
theorem mapper_dispatch_consistent_default_config (rx : Rx) (hs : RxSound rx) (req : Option Bytes) (ctx : MCtx) (p p' : MPos) (key rk : Bytes)
    (kws : List Bytes) (params : List Bytes) (cur : Opts) (anc : List Opts) (expected : List Event)
    (hkey : mapperForKey p (cstr key) = .ok (p', rk, kws)) (hk : kws.length ≤ params.length)
    (hc : Consistent rx req ctx (mkOverrides kws (params.take kws.length)) p' cur anc rk (params.drop kws.length) expected = true) :
    ∃ u, mapUrlNT ctx p key params = cstr (ctx.root ++ u) ∧
      appMain rx Gen.quirks req (rootOf cur anc) u = expected := by
  obtain ⟨u, h1, h2⟩ := mapper_dispatch_consistent rx hs req ctx p p' key rk kws params cur anc expected hkey hk hc
  exact ⟨u, by rw [mapUrlNT_eq, h1], h2⟩

/-- 300 bytes through a 4-byte buffer: seven doublings, nothing lost -/
example : (SBuf.write 4 (SBuf.init 4) (List.replicate 300 65 ++ [66])).data = List.replicate 300 65 ++ [66] ∧
    (SBuf.write 4 (SBuf.init 4) (List.replicate 300 65 ++ [66])).cap = 512 := by
  obtain ⟨hd, hc⟩ := SBuf.write_eq (b := SBuf.init 4) (by decide) (List.replicate 300 65 ++ [66])
    ⟨Nat.zero_le _, by decide, fun _ => rfl⟩
  exact ⟨hd, hc.trans (by decide +kernel)⟩

section Examples
open Ex

theorem exRx_sound : RxSound exRx := by
  have htab : ∀ e ∈ exTable, (spanOk e.2.1.length e.2.2.1 ∧ ∀ sp ∈ e.2.2.2, spanOk e.2.1.length sp) ∧
      e.2.2.2.length ≤ ((exCounts.find? (·.1 == e.1)).map (·.2)).getD 0 := by decide +kernel
  have hfind : ∀ pat ic s r, exRx.exec pat ic s = some r → (pat, s, r) ∈ exTable := by
    intro pat ic s r h
    obtain ⟨⟨a, b, c⟩, he, rfl⟩ := Option.map_eq_some_iff.1 h
    obtain ⟨rfl, rfl⟩ : a = pat ∧ b = s := by simpa using List.find?_some he
    exact List.mem_of_find?_eq_some he
  exact ⟨fun pat ic s r h => (htab _ (hfind pat ic s r h)).1, fun pat ic s r h => (htab _ (hfind pat ic s r h)).2⟩

/-- the engine reports a match of `/about` on `/aboutX` that covers only a prefix (as `(*ACCEPT)` would):
the wrapper refuses it, in both overloads -/
example : exRx.exec exPat_about {} aboutX = some ((0, 6), []) ∧
    rxMatchMarks exRx Gen.quirks (re exPat_about) aboutX = none ∧ rxMatch exRx Gen.quirks (re exPat_about) aboutX = false := by
  decide +kernel

/-- `groups_exact` / `matches_is_whole_path` on a real match with two groups -/
example : (optMatches exRx Gen.quirks (re exPat_profile) none none [47, 112, 114, 111, 102, 105, 108, 101, 47, 98, 111, 98, 47, 55]).map
    (fun m => (m.str 1, m.str 2, m.get 3, m.get (-1))) = some (bob, seven, none, none) := by decide +kernel

/-- the depth-3 site is `Consistent` for key `profile` of the innermost application -/
theorem ex_consistent : Consistent exRx (some GET) ctx [] usersPos usersOpts [blogOpts, rootOpts] kProfile [bob, seven]
    [.ran 3 [some bob, some seven]] = true := by decide +kernel

/-- … so the theorem applies: the mapped URL is `/root/blog/u/profile/bob/7` and it is routed, from
the root through two mounted applications, to handler 3 with `("bob","7")` -/
example : mapUrl ctx usersPos kProfile [bob, seven] = .ok (ctx.root ++ profileUrl) ∧
    appMain exRx Gen.quirks (some GET) rootOpts profileUrl = [.ran 3 [some bob, some seven]] := by
  obtain ⟨u, h1, h2⟩ := mapper_dispatch_consistent exRx exRx_sound (some GET) ctx usersPos usersPos kProfile kProfile [] [bob, seven]
    usersOpts [blogOpts, rootOpts] [.ran 3 [some bob, some seven]] (by decide +kernel) (by decide +kernel) ex_consistent
  have hu : u = profileUrl := by
    have : mapUrl ctx usersPos kProfile [bob, seven] = .ok (ctx.root ++ profileUrl) := by decide +kernel
    rw [this] at h1
    exact (List.append_cancel_left (Except.ok.inj h1)).symm
  subst hu
  exact ⟨h1, h2⟩

/-- `mount_then_dispatch`: the routing relation for that request, spelled out -/
example : Spec.Reaches exRx (some GET) rootOpts profileUrl 3 [some bob, some seven] :=
  (mount_then_dispatch exRx exRx_sound (some GET) rootOpts profileUrl 3 [some bob, some seven]).1 (by decide +kernel)

/-- first match: `/blog/post/42` goes to handler 2 (not to the later `users` mount), `/nope` to nobody -/
example : dispatch exRx Gen.quirks none rootOpts [47, 98, 108, 111, 103, 47, 112, 111, 115, 116, 47, 52, 50] =
    (true, [.ran 2 [some [52, 50]]]) ∧ dispatch exRx Gen.quirks none rootOpts [47, 110, 111, 112, 101] = (false, []) := by decide +kernel

/-- templates: `/profile/{1}/{2}` is in the positional fragment -/
example : SegsOk [([47, 112, 114, 111, 102, 105, 108, 101, 47], 1), ([47], 2)] ∧ BraceFree ([] : Bytes) ∧
    tplSrc [([47, 112, 114, 111, 102, 105, 108, 101, 47], 1), ([47], 2)] [] =
      [47, 112, 114, 111, 102, 105, 108, 101, 47, 123, 49, 125, 47, 123, 50, 125] := by
  decide +kernel

/-- a mount point on path-info with group selection -/
example : mpMatchStr exRx Gen.quirks ⟨none, none, some (re exPat_blogm), 1, true⟩ [] [] profileUrl =
    some [47, 117, 47, 112, 114, 111, 102, 105, 108, 101, 47, 98, 111, 98, 47, 55] := by decide +kernel

end Examples

/-- D13: with `option::matches` passing `path.c_str()` (the source before /repo commit 3937457),
`dispatch("ab\0cd")` ran the handler registered for `ab` although the engine, asked about the
whole path, says no: the full-strength statement was false of that code. -/
theorem d13_counterexample_before_fix :
    let rx : Rx := { info := fun _ _ => some 0,
                     exec := fun _ _ s => if s = [97, 98] then some ((0, 2), []) else none }
    let qOld : Quirks := { Gen.quirks with pathCStr := true }
    let o : Opts := .leaf ⟨1, ⟨[97, 98], {}⟩, none, .h0⟩ .nil
    dispatch rx qOld none o [97, 98, 0, 99, 100] = (true, [.ran 1 []]) ∧
    Spec.route rx none 1 o [97, 98, 0, 99, 100] = (false, []) := by decide +kernel

end Cppcms.C20.Props
