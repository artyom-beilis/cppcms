import Cppcms.C20.LemmasWrapper
/-!
# C20 — `mount_point::match` against `Spec.mpMatch`, and the scans of `applications_pool` as `findSome?`
-/
namespace Cppcms.C20
open Cppcms

theorem mpMatchC_eq (rx : Rx) {q : Quirks} (hq : q.Fixed) (hs : RxSound rx) (mp : MountPoint) (h s p : Bytes) :
    mpMatchC rx q mp h s p = Spec.mpMatch rx mp h s p := by
  -- the selecting pattern: test it, then take the string or the group
  have hsel : ∀ (r : Regex) (x : Bytes),
      (if mp.group = 0 then (if rxMatch rx q r x then some x else none) else (rxMatchMarks rx q r x).map (·.str mp.group)) =
      if (Spec.whole rx r x).isSome then
        (if mp.group = 0 then some x else (Spec.whole rx r x).map fun raw => Spec.groupStr x raw mp.group)
      else none := by
    intro r x
    rw [rxMatch_eq rx hq, rxMatchMarks_eq rx hq]
    cases hw : Spec.whole rx r x with
    | none => simp
    | some raw => simp [cmatch_str_eq hs hw]
  unfold mpMatchC Spec.mpMatch
  extract_lets ok selRe selStr
  have hok : ∀ f x, Option.any (fun r => !rxMatch rx q r x) f = !ok f x := by
    intro f x; cases f <;> simp [ok, rxMatch_eq rx hq]
  simp only [hok, hsel, selRe, selStr]
  -- both sides fail as soon as a filter fails; when both filters hold, the selecting pattern decides (`hsel`)
  cases ok mp.host h
  · simp
  · cases mp.selPath
    · -- `script_name` selects, `path_info` filters
      cases ok mp.path p
      · simp
      · cases mp.script <;> simp [ok]
    · -- `path_info` selects, `script_name` filters
      cases ok mp.script s
      · simp
      · cases mp.path <;> simp [ok]

/-! Stated for any `f` the mount-point test equals, so that neither `RxSound` nor the `cstr` arguments enter here; `Props` puts
in `Spec.mpMatch` through `mpMatch_eq_spec`. -/
section
variable {rx : Rx} {q : Quirks} {h s p : Bytes} {f : MountPoint → Option Bytes} (hf : ∀ mp, mpMatchPtr rx q mp h s p = f mp)
include hf

theorem poolFind_eq (mps : List MountPoint) (i : Nat) :
    poolFind rx q h s p mps i = (mps.zipIdx i).findSome? fun (mp, j) => (f mp).map fun m => (j, m) := by
  fun_induction poolFind rx q h s p mps i with
  | case1 i => rfl
  | case2 mp rest i m hm => simp only [List.zipIdx_cons, List.findSome?_cons, ← hf, hm, Option.map_some]
  | case3 mp rest i hm ih => simp only [List.zipIdx_cons, List.findSome?_cons, ← hf, hm, Option.map_none, ih]

theorem poolScanApps_eq (l : List (Nat × MountPoint)) :
    poolScanApps rx q h s p l = l.findSome? fun im => (f im.2).map fun m => (im.1, m) := by
  fun_induction poolScanApps rx q h s p l with
  | case1 => rfl
  | case2 i mp rest m hm => simp only [List.findSome?_cons, ← hf, hm, Option.map_some]
  | case3 i mp rest hm ih => simp only [List.findSome?_cons, ← hf, hm, Option.map_none, ih]

/-- the second loop runs to the end but keeps the first hit (`else if(!result)`): that is `Option.or` with the first
accepting live mount -/
theorem poolScanLegacy_eq (dead : List Nat) (l : List (Nat × MountPoint)) (result : Option (Nat × Bytes)) :
    poolScanLegacy rx q h s p dead l result =
      result.or ((l.filter fun im => !dead.contains im.1).findSome? fun im => (f im.2).map fun m => (im.1, m)) := by
  fun_induction poolScanLegacy rx q h s p dead l result with
  | case1 result => cases result <;> rfl
  | case2 i mp rest result hdead ih =>            -- a dead pool is erased
    simp only [List.filter_cons, hdead, Bool.not_true, Bool.false_eq_true, if_false, ih]
  | case3 i mp rest hlive r ih =>                 -- a result already: not examined
    simp only [ih, Option.some_or]
  | case4 i mp rest hlive hm ih =>                -- no result yet; it declines
    simp only [List.filter_cons, hlive, Bool.not_false, if_true, List.findSome?_cons, ← hf, hm, Option.map_none, ih]
  | case5 i mp rest hlive m hm ih =>              -- no result yet; it accepts
    simp only [List.filter_cons, hlive, Bool.not_false, if_true, List.findSome?_cons, ← hf, hm, Option.map_some, ih,
      Option.some_or, Option.none_or]

theorem poolFindAll_eq (ms : List (Bool × MountPoint)) (dead : List Nat) :
    poolFindAll rx q h s p ms dead = (Spec.scanOrder ms dead).findSome? fun im => (f im.2).map fun m => (im.1, m) := by
  unfold poolFindAll Spec.scanOrder
  rw [List.findSome?_append, poolScanApps_eq hf, poolScanLegacy_eq hf]
  -- the first loop's early return, then the second loop from no result = `Option.or` of the two scans
  simp only [mountsOf]
  split <;> simp only [*, Option.some_or, Option.none_or]

end

end Cppcms.C20
