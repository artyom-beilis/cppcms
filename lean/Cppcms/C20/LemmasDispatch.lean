import Cppcms.C20.LemmasWrapper
/-!
# C20 — handlers, `url_dispatcher::dispatch` and `application::main` against `Spec.leafTry`, `Spec.route`, `Spec.main`

`dispatch_step` is the bridge: one level of `dispatch`, without fuel, is the body of `Spec.route`.  Which events routing
produces is proved on `Spec.route` by its own induction principle, for every engine and every fuel; `dispatch_eq_route`
carries it to the model.
-/
namespace Cppcms.C20
open Cppcms

@[simp] theorem Attempt.isFire_skip : Attempt.isFire .skip = false := rfl
@[simp] theorem Attempt.isFire_reject (ev : Event) : Attempt.isFire (.reject ev) = false := rfl
@[simp] theorem Attempt.isFire_fire (evs : List Event) : Attempt.isFire (.fire evs) = true := rfl
@[simp] theorem Attempt.rejectEv_skip : Attempt.rejectEv .skip = none := rfl
@[simp] theorem Attempt.rejectEv_reject (ev : Event) : Attempt.rejectEv (.reject ev) = some ev := rfl
@[simp] theorem Attempt.rejectEv_fire (evs : List Event) : Attempt.rejectEv (.fire evs) = none := rfl
@[simp] theorem Attempt.fireEvs_skip : Attempt.fireEvs .skip = [] := rfl
@[simp] theorem Attempt.fireEvs_reject (ev : Event) : Attempt.fireEvs (.reject ev) = [] := rfl
@[simp] theorem Attempt.fireEvs_fire (evs : List Event) : Attempt.fireEvs (.fire evs) = evs := rfl

/-- the loop of `url_dispatcher::dispatch` over the results of `option::dispatch` -/
def runAttempts : List Attempt → Bool × List Event
  | [] => (false, [])
  | .skip :: rest => runAttempts rest
  | .reject ev :: rest => let r := runAttempts rest; (r.1, ev :: r.2)
  | .fire evs :: _ => (true, evs)

theorem dispatch_eq_run (rx : Rx) (q : Quirks) (req : Option Bytes) (o : Opts) (url : Bytes) :
    dispatch rx q req o url = runAttempts (o.level.map (entryAttempt rx q req url)) := by
  induction o with
  | nil => rfl
  | leaf l rest ih =>
    simp only [dispatch, Opts.level, List.map_cons, entryAttempt, ih]
    cases leafAttempt rx q req l url <;> rfl
  | mount re sel child rest _ ih =>
    simp only [dispatch, Opts.level, List.map_cons, entryAttempt, ih]
    cases optMatches rx q re none req url <;> rfl

theorem runAttempts_find (as : List Attempt) :
    runAttempts as =
      match as.find? Attempt.isFire with
      | none => (false, as.filterMap Attempt.rejectEv)
      | some a => (true, (as.takeWhile fun a => !a.isFire).filterMap Attempt.rejectEv ++ a.fireEvs) := by
  fun_induction runAttempts as with
  | case1 => rfl
  | case2 rest ih => rw [ih]; rfl
  | case3 ev rest r ih =>
    simp only [List.find?_cons, Attempt.isFire_reject, r, ih]
    cases rest.find? Attempt.isFire <;> rfl
  | case4 => rfl

theorem takes_leaf_iff {rx : Rx} {req : Option Bytes} {url : Bytes} {l : Leaf} :
    Spec.takes rx req url (.leaf l) = true ↔ ∃ ev, Spec.leafTry rx req l url = some (true, ev) := by
  cases h : Spec.leafTry rx req l url with
  | none => simp [Spec.takes, h]
  | some t => obtain ⟨b, ev⟩ := t; cases b <;> simp [Spec.takes, h]

theorem mem_declined {rx : Rx} {req : Option Bytes} {url : Bytes} {es : List Entry} {ev : Event}
    (h : ev ∈ es.filterMap (Spec.declined rx req url)) : ∃ l, Spec.leafTry rx req l url = some (false, ev) := by
  obtain ⟨e, _, he⟩ := List.mem_filterMap.1 h
  cases e with
  | mount re sel child => cases he
  | leaf l =>
    cases ht : Spec.leafTry rx req l url with
    | none => simp [Spec.declined, ht] at he
    | some t =>
      obtain ⟨b, ev'⟩ := t
      cases b <;> simp only [Spec.declined, ht, Option.some.injEq, reduceCtorEq] at he
      exact ⟨l, he ▸ ht⟩

theorem depth_of_mem_level {o : Opts} {re : Regex} {sel : Int} {child : Opts}
    (h : Entry.mount re sel child ∈ o.level) : child.depth + 1 ≤ o.depth := by
  induction o with
  | nil => cases h
  | leaf l rest ih =>
    cases h with
    | tail _ h => exact ih h
  | mount re' sel' child' rest _ ih =>
    cases h with
    | head => exact Nat.le_max_left _ _
    | tail _ h => exact Nat.le_trans (ih h) (Nat.le_max_right _ _)

theorem sub_infix (s : Bytes) (a b : Int) : sub s a b <:+: s :=
  (List.take_prefix _ _).isInfix.trans (List.drop_suffix _ _).isInfix

theorem groupStr_infix (s : Bytes) (raw : Raw) (n : Int) : Spec.groupStr s raw n <:+: s := by
  unfold Spec.groupStr Spec.group
  split
  · exact List.nil_infix
  · split
    · exact List.nil_infix
    · split
      · exact List.nil_infix
      · exact sub_infix _ _ _

theorem mem_of_mapM_some {α β} {f : α → Option β} {l : List α} {vals : List β} (h : l.mapM f = some vals) {v : β}
    (hv : v ∈ vals) : ∃ a ∈ l, f a = some v := by
  induction l generalizing vals with
  | nil => cases h; cases hv
  | cons a rest ih =>
    simp only [List.mapM_cons, bind, Option.bind_eq_some_iff, pure, Option.some.injEq] at h
    obtain ⟨b, hb, bs, hbs, rfl⟩ := h
    cases hv with
    | head => exact ⟨a, .head _, hb⟩
    | tail _ hv =>
      obtain ⟨a', ha', hf⟩ := ih hbs hv
      exact ⟨a', .tail _ ha', hf⟩

theorem leafTry_event {rx : Rx} {req : Option Bytes} {l : Leaf} {url : Bytes} {b : Bool} {ev : Event}
    (h : Spec.leafTry rx req l url = some (b, ev)) :
    ∃ a, ev = (if b then .ran l.id a else .rejected l.id a) ∧ ∀ x, some x ∈ a → Spec.ArgOf rx url x := by
  have hstr : ∀ raw n, Spec.ArgOf rx url (Spec.groupStr url raw n) := fun raw n => ⟨_, groupStr_infix _ _ _, .inl rfl⟩
  have hgroups : ∀ raw x, some x ∈ Spec.groups rx l.re url raw → Spec.ArgOf rx url x := by
    intro raw x hx
    simp only [Spec.groups, List.mem_map] at hx
    obtain ⟨i, _, hi⟩ := hx
    have : x = Spec.groupStr url raw (Int.ofNat i) := by unfold Spec.groupStr; rw [hi]; rfl
    exact this ▸ hstr raw _
  unfold Spec.leafTry at h
  split at h
  · -- `gen`: all groups
    simp only [Option.ite_none_right_eq_some, Option.map_eq_some_iff] at h
    obtain ⟨-, raw, -, he⟩ := h
    refine ⟨_, ?_, hgroups raw⟩
    split at he
    · split at he <;> cases he <;> rfl
    · cases he; rfl
  · -- `typed`: what the selected groups convert to
    simp only [Option.ite_none_right_eq_some, Option.bind_eq_some_iff, Option.map_eq_some_iff] at h
    obtain ⟨-, raw, -, vals, hvals, he⟩ := h
    cases he
    refine ⟨vals, rfl, fun x hx => ?_⟩
    obtain ⟨gt, -, hgt⟩ := mem_of_mapM_some hvals hx
    obtain ⟨y, hy, hxy⟩ := Option.map_eq_some_iff.1 hgt
    cases hxy
    exact ⟨_, groupStr_infix _ _ _, .inr ⟨gt.2, hy⟩⟩
  · -- `h0`: no argument
    obtain ⟨raw, -, he⟩ := Option.map_eq_some_iff.1 h
    cases he
    exact ⟨[], rfl, nofun⟩
  · -- `hN`: the selected groups
    obtain ⟨raw, -, he⟩ := Option.map_eq_some_iff.1 h
    cases he
    refine ⟨_, rfl, fun x hx => ?_⟩
    obtain ⟨n, -, hn⟩ := List.mem_map.1 hx
    cases hn
    exact hstr raw n
  · -- `rh`: all groups
    obtain ⟨raw, -, he⟩ := Option.map_eq_some_iff.1 h
    cases he
    exact ⟨_, rfl, hgroups raw⟩

theorem leafTry_args {rx : Rx} {req : Option Bytes} {l : Leaf} {url : Bytes} {b : Bool} {ev : Event} {x : Bytes}
    (ht : Spec.leafTry rx req l url = some (b, ev)) (hx : some x ∈ ev.args) : Spec.ArgOf rx url x := by
  obtain ⟨a, rfl, ha⟩ := leafTry_event ht
  cases b <;> exact ha x hx

/-- any fuel: too little of it only cuts the event list short -/
theorem args_argOf_route {rx : Rx} {req : Option Bytes} (fuel : Nat) (o : Opts) (url : Bytes) :
    ∀ ev ∈ (Spec.route rx req fuel o url).2, ∀ x, some x ∈ ev.args → Spec.ArgOf rx url x := by
  have hbefore : ∀ {url ev x} (es : List Entry), ev ∈ es.filterMap (Spec.declined rx req url) → some x ∈ ev.args →
      Spec.ArgOf rx url x := fun _ hev => (mem_declined hev).elim fun _ => leafTry_args
  fun_induction Spec.route rx req fuel o url with
  | case1 => nofun
  -- nothing takes the URL; `case4` (a taking mount that does not match) cannot occur
  | case2 | case4 => exact fun ev hev x => hbefore _ hev
  | case3 fuel o url es before l hf =>                      -- a handler takes it
    intro ev hev x hx
    rcases List.mem_append.1 hev with h | h
    · exact hbefore _ h hx
    · split at h
      · cases List.mem_singleton.1 h
        exact leafTry_args (by assumption) hx
      · cases h
  | case5 fuel o url es before re sel child hf raw hw r ih =>   -- a mount takes it
    intro ev hev x hx
    simp only [List.mem_append] at hev
    rcases hev with (h | h) | h
    · exact hbefore _ h hx
    · obtain ⟨s, hs', hx'⟩ := ih ev h x hx
      exact ⟨s, hs'.trans (groupStr_infix _ _ _), hx'⟩
    · -- the child's own 404 carries no argument
      split at h
      · cases h
      · cases List.mem_singleton.1 h
        cases hx

theorem reaches_of_ran_mem_route {rx : Rx} {req : Option Bytes} (id : Nat) (args : List (Option Bytes)) (fuel : Nat)
    (o : Opts) (url : Bytes) :
    Event.ran id args ∈ (Spec.route rx req fuel o url).2 → Spec.Reaches rx req o url id args := by
  -- what is observed before the first taking option are `rejected` events
  have hbefore : ∀ {url} (es : List Entry), Event.ran id args ∉ es.filterMap (Spec.declined rx req url) := by
    intro url es hmem
    obtain ⟨l, ht⟩ := mem_declined hmem
    obtain ⟨a, ha, _⟩ := leafTry_event ht
    cases ha
  fun_induction Spec.route rx req fuel o url with
  | case1 => nofun
  | case2 | case4 => exact fun h => absurd h (hbefore _)
  | case3 fuel o url es before l hf =>
    obtain ⟨ev, ht⟩ := takes_leaf_iff.1 (List.find?_some hf)
    obtain ⟨a, rfl, _⟩ := leafTry_event ht
    intro h
    rcases List.mem_append.1 h with h | h
    · exact absurd h (hbefore _)
    · simp only [ht, List.mem_singleton] at h
      cases h
      exact .atHandler hf ht
  | case5 fuel o url es before re sel child hf raw hw r ih =>
    intro h
    simp only [List.mem_append] at h
    rcases h with (h | h) | h
    · exact absurd h (hbefore _)
    · exact .through hf hw (ih h)
    · split at h <;> simp at h

/-- `Spec.leafTry`'s answer in the model's vocabulary -/
def tryToAttempt : Option (Bool × Event) → Attempt
  | none => .skip
  | some (true, ev) => .fire [ev]
  | some (false, ev) => .reject ev

section
variable (rx : Rx) {q : Quirks} (hq : q.Fixed) (hm : MethodClassAZ) (hs : RxSound rx) (req : Option Bytes)
include hq hm hs

theorem leafAttempt_eq (l : Leaf) (url : Bytes) :
    leafAttempt rx q req l url = tryToAttempt (Spec.leafTry rx req l url) := by
  unfold leafAttempt Spec.leafTry
  simp only [optMatches_eq rx hq hm]
  cases hw : Spec.whole rx l.re url with
  | none =>
    simp only [Option.map_none, Option.bind_none, ite_self]
    cases l.kind <;> rfl
  | some raw =>
    have hstr := cmatch_str_eq hs hw
    have hall := cmatch_all_eq hs hw
    cases l.kind with
    | h0 => rfl
    | hN sel => simp only [Spec.methodOk, if_true, Option.map_some, hstr]; rfl
    | rh => simp only [Spec.methodOk, if_true, Option.map_some, hall]; rfl
    | typed ps =>
      cases req with
      | none => rfl
      | some rq =>
        cases Spec.methodOk rx l.meth (some rq) with
        | false => rfl
        | true =>
          simp only [Option.isNone_some, Option.isSome_some, Bool.true_and, if_true, Option.map_some, convertAll_eq hs hw,
            Option.bind_some, Bool.false_eq_true, if_false]
          cases (ps.mapM fun gt => (Spec.convert rx gt.2 (Spec.groupStr url raw gt.1)).map some) <;> rfl
    | gen rej =>
      cases req with
      | none => rfl
      | some rq =>
        cases Spec.methodOk rx l.meth (some rq) with
        | false => rfl
        | true =>
          cases rej with
          | none => simp only [Option.isNone_some, Option.isSome_some, Bool.true_and, if_true, Option.map_some, hall]; rfl
          | some gv =>
            simp only [Option.isNone_some, Option.isSome_some, Bool.true_and, if_true, Option.map_some, genRejects, hstr, hall,
              Bool.false_eq_true, if_false]
            cases Spec.groupStr url raw gv.1 == gv.2 <;> rfl

theorem mountAttempt_eq (re : Regex) (sel : Int) (child : Opts) (url : Bytes) :
    entryAttempt rx q req url (.mount re sel child) =
      match Spec.whole rx re url with
      | none => .skip
      | some raw => .fire (appMain rx q req child (Spec.groupStr url raw sel)) := by
  simp only [entryAttempt, optMatches_eq rx hq hm, Spec.methodOk, if_true]
  cases hw : Spec.whole rx re url with
  | none => rfl
  | some raw => simp only [Option.map_some, cmatch_str_eq hs hw]; rfl

theorem entryAttempt_spec (url : Bytes) (e : Entry) :
    (entryAttempt rx q req url e).isFire = Spec.takes rx req url e ∧
    (entryAttempt rx q req url e).rejectEv = Spec.declined rx req url e := by
  cases e with
  | leaf l =>
    simp only [entryAttempt, leafAttempt_eq rx hq hm hs, Spec.takes, Spec.declined]
    cases Spec.leafTry rx req l url with
    | none => exact ⟨rfl, rfl⟩
    | some t => obtain ⟨b, ev⟩ := t; cases b <;> exact ⟨rfl, rfl⟩
  | mount re sel child =>
    rw [mountAttempt_eq rx hq hm hs]
    simp only [Spec.takes, Spec.declined]
    cases Spec.whole rx re url <;> exact ⟨rfl, rfl⟩

/-- the right-hand side is the body of `Spec.route` with `dispatch` in place of the recursive call -/
theorem dispatch_step (o : Opts) (url : Bytes) :
    dispatch rx q req o url =
      let before := (o.level.takeWhile fun e => !Spec.takes rx req url e).filterMap (Spec.declined rx req url)
      match o.level.find? (Spec.takes rx req url) with
      | none => (false, before)
      | some (.leaf l) => (true, before ++ match Spec.leafTry rx req l url with | some (_, ev) => [ev] | none => [])
      | some (.mount re sel child) =>
        match Spec.whole rx re url with
        | none => (true, before)
        | some raw =>
          let r := dispatch rx q req child (Spec.groupStr url raw sel)
          (true, before ++ r.2 ++ if r.1 then [] else [.notFound]) := by
  rw [dispatch_eq_run, runAttempts_find]
  simp only [List.find?_map, List.takeWhile_map, List.filterMap_map, Function.comp_def, entryAttempt_spec rx hq hm hs]
  cases hf : o.level.find? (Spec.takes rx req url) with
  | none =>
    -- nothing takes the request: the scan ran over the whole vector
    have : o.level.takeWhile (fun e => !Spec.takes rx req url e) = o.level := by
      simpa using List.takeWhile_append_of_pos (p := fun e => !Spec.takes rx req url e) (l₂ := [])
        fun e he => by simpa using List.find?_eq_none.1 hf e he
    simp only [Option.map_none, this]
  | some e =>
    have htake : Spec.takes rx req url e = true := List.find?_some hf
    cases e with
    | leaf l =>
      obtain ⟨ev, ht⟩ := takes_leaf_iff.1 htake
      simp only [Option.map_some, entryAttempt, leafAttempt_eq rx hq hm hs, ht]
      rfl
    | mount re sel child =>
      simp only [Option.map_some, mountAttempt_eq rx hq hm hs]
      cases Spec.whole rx re url with
      | none => simp
      | some raw =>
        simp only [Attempt.fireEvs_fire, appMain]
        split <;> simp

theorem dispatch_eq_route :
    ∀ (fuel : Nat) (o : Opts) (url : Bytes), o.depth < fuel →
      dispatch rx q req o url = Spec.route rx req fuel o url := by
  intro fuel
  induction fuel with
  | zero => intro o url h; cases h
  | succ fuel ih =>
    intro o url hd
    rw [dispatch_step rx hq hm hs]
    simp only [Spec.route]
    cases hf : o.level.find? (Spec.takes rx req url) with
    | none => rfl
    | some e =>
      cases e with
      | leaf l => rfl
      | mount re sel child =>
        have hdc : child.depth < fuel :=
          Nat.lt_of_lt_of_le (depth_of_mem_level (List.mem_of_find?_eq_some hf)) (Nat.le_of_lt_succ hd)
        simp only [ih child _ hdc]
        rfl

theorem appMain_eq_main (o : Opts) (url : Bytes) : appMain rx q req o url = Spec.main rx req o url := by
  unfold appMain Spec.main
  rw [dispatch_eq_route rx hq hm hs req (o.depth + 1) o url (Nat.lt_succ_self _)]

end

end Cppcms.C20
