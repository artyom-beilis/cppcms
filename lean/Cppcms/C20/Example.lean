import Cppcms.C20.Model
/-!
# C20 — a concrete engine and a site three applications deep used by the non-vacuity `example`s in `Props.lean`

The engine is a finite table of raw answers (libpcre's for these patterns, but the last row: a prefix-only
answer for the wrapper to refuse), so that
every hypothesis (`RxSound`, `Consistent`, …) can be checked by evaluation.
-/
namespace Cppcms.C20.Ex
open Cppcms Cppcms.C20

instance instDecEqExcept {ε α : Type} [DecidableEq ε] [DecidableEq α] : DecidableEq (Except ε α)
  | .ok a, .ok b => if h : a = b then isTrue (by rw [h]) else isFalse (by intro e; cases e; exact h rfl)
  | .error a, .error b => if h : a = b then isTrue (by rw [h]) else isFalse (by intro e; cases e; exact h rfl)
  | .ok _, .error _ => isFalse (by intro e; cases e)
  | .error _, .ok _ => isFalse (by intro e; cases e)

/-- patterns of the example site -/
def exPat_about : Bytes := [47, 97, 98, 111, 117, 116]  -- /about
def exPat_blogm : Bytes := [47, 98, 108, 111, 103, 40, 47, 46, 42, 41]  -- /blog(/.*)
def exPat_post : Bytes := [47, 112, 111, 115, 116, 47, 40, 92, 100, 43, 41]  -- /post/(\d+)
def exPat_um : Bytes := [47, 117, 40, 47, 46, 42, 41]  -- /u(/.*)
def exPat_profile : Bytes := [47, 112, 114, 111, 102, 105, 108, 101, 47, 40, 91, 97, 45, 122, 93, 43, 41, 47, 40, 92, 100, 43, 41]  -- /profile/([a-z]+)/(\d+)

/-- the example engine's answers (everything else: no match) -/
def exTable : List (Bytes × Bytes × Raw) := [
  (exPat_profile, [47, 112, 114, 111, 102, 105, 108, 101, 47, 98, 111, 98, 47, 55], ((0, 14), [(9, 12), (13, 14)])),
  (exPat_um, [47, 117, 47, 112, 114, 111, 102, 105, 108, 101, 47, 98, 111, 98, 47, 55], ((0, 16), [(2, 16)])),
  (exPat_blogm, [47, 98, 108, 111, 103, 47, 117, 47, 112, 114, 111, 102, 105, 108, 101, 47, 98, 111, 98, 47, 55], ((0, 21), [(5, 21)])),
  (exPat_post, [47, 112, 111, 115, 116, 47, 52, 50], ((0, 8), [(6, 8)])),
  (exPat_blogm, [47, 98, 108, 111, 103, 47, 112, 111, 115, 116, 47, 52, 50], ((0, 13), [(5, 13)])),
  (exPat_about, [47, 97, 98, 111, 117, 116], ((0, 6), [])),
  (exPat_about, [47, 97, 98, 111, 117, 116, 88], ((0, 6), []))]

def exCounts : List (Bytes × Nat) := [(exPat_about, 0), (exPat_blogm, 1), (exPat_post, 1), (exPat_um, 1), (exPat_profile, 2)]

def exRx : Rx where
  info pat _ := (exCounts.find? (·.1 == pat)).map (·.2)
  exec pat _ s := (exTable.find? fun e => e.1 == pat && e.2.1 == s).map (·.2.2)

def re (p : Bytes) : Regex := ⟨p, {}⟩

def tplOf (s : Bytes) : Tpl :=
  match parseTpl s false with
  | .ok (t, _) => t
  | .error _ => ⟨[], [], []⟩

-- dispatcher side: root ⊃ blog ⊃ users
def usersOpts : Opts := .leaf ⟨3, re exPat_profile, none, .hN [1, 2]⟩ .nil
def blogOpts : Opts := .leaf ⟨2, re exPat_post, none, .hN [1]⟩ (.mount (re exPat_um) 1 usersOpts .nil)
def rootOpts : Opts := .leaf ⟨1, re exPat_about, none, .h0⟩ (.mount (re exPat_blogm) 1 blogOpts .nil)

-- mapper side: keys "about" | "blog" ⊃ ("post" | "users" ⊃ "profile")
def kAbout : Bytes := [97, 98, 111, 117, 116]
def kBlog : Bytes := [98, 108, 111, 103]
def kPost : Bytes := [112, 111, 115, 116]
def kUsers : Bytes := [117, 115, 101, 114, 115]
def kProfile : Bytes := [112, 114, 111, 102, 105, 108, 101]
def usersM : MNode := .url kProfile 2 (tplOf [47, 112, 114, 111, 102, 105, 108, 101, 47, 123, 49, 125, 47, 123, 50, 125]) .nil
def blogM : MNode := .url kPost 1 (tplOf [47, 112, 111, 115, 116, 47, 123, 49, 125]) (.app kUsers (tplOf [47, 117, 123, 49, 125]) usersM .nil)
def rootM : MNode := .url kAbout 0 (tplOf [47, 97, 98, 111, 117, 116]) (.app kBlog (tplOf [47, 98, 108, 111, 103, 123, 49, 125]) blogM .nil)

/-- the `users` application's mapper, two levels below the root -/
def usersPos : MPos := ⟨usersM, [(blogM, kUsers), (rootM, kBlog)]⟩

def ctx : MCtx := { root := [47, 114, 111, 111, 116], helpers := [] }
def GET : Bytes := [71, 69, 84]
def bob : Bytes := [98, 111, 98]
def seven : Bytes := [55]
def profileUrl : Bytes := [47, 98, 108, 111, 103, 47, 117, 47, 112, 114, 111, 102, 105, 108, 101, 47, 98, 111, 98, 47, 55]
def aboutX : Bytes := [47, 97, 98, 111, 117, 116, 88]

end Cppcms.C20.Ex
