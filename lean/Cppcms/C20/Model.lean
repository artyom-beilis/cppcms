import Cppcms.Common
import Cppcms.C20.Basic
import Cppcms.C20.Gen
/-!
# C20 — executable model of cppcms URL routing

Follows the C++ statement by statement:

* `booster::regex::match` (both overloads) on top of the engine parameter `Rx`
  (`booster/lib/regex/src/pcre_regex.cpp`), `booster::cmatch` (`regex_match.h`);
* `option::matches`, the four `option` subclasses and `url_dispatcher::dispatch`
  (`src/url_dispatcher.cpp`), `application::main` (`src/application.cpp`);
* `mount_point::match` (`src/mount_point.cpp`) and the scan of `applications_pool`;
* `url_mapper::real_assign`, `get_mapper_for_key`, `real_map`, `data::map`, `data::write`
  (`src/url_mapper.cpp`).

The source facts on which "whole string" depends are taken from `Gen.lean` through `Quirks`; the method byte class, the
mapper syntax and the `stackbuf` expressions are read from `Gen` directly.
-/
namespace Cppcms.C20
open Cppcms

/-- The facts about the current source that the behaviour depends on (see `Gen.lean`). -/
structure Quirks where
  /-- `option::matches` passes `path.c_str()` (strlen-terminated) to the engine -/
  pathCStr : Bool
  /-- `mount_point::match(std::string…)` passes `c_str()`s -/
  mountStrCStr : Bool
  /-- `regex::match(begin,end,marks)`: exec succeeded but answer `false` when this holds of `ovec[0] ovec[1] end-begin` -/
  spanRejectMarks : Int → Int → Int → Bool
  /-- the same for `regex::match(begin,end)` -/
  spanRejectNoMarks : Int → Int → Int → Bool

/-- the quirks of the source tree the check is running on -/
def Gen.quirks : Quirks :=
  { pathCStr := Gen.pathCStr, mountStrCStr := Gen.mountStrCStr,
    spanRejectMarks := Gen.spanRejectMarks, spanRejectNoMarks := Gen.spanRejectNoMarks }

/-! ## booster::regex on top of the engine -/

/-- `mark_count()+1` -/
def patSize (rx : Rx) (r : Regex) : Nat := (rx.info r.pat r.flags).getD 0 + 1

/-- `regex::match(begin,end,marks,flags)` + `cmatch::assign`: `none` = `false`. -/
def rxMatchMarks (rx : Rx) (q : Quirks) (r : Regex) (s : Bytes) : Option CMatch :=
  match rx.exec r.pat r.flags s with
  | none => none
  | some (sp0, gs) =>
    if q.spanRejectMarks sp0.1 sp0.2 s.length then none
    else
      -- marks.resize(pat_size,(-1,-1)); for(i<pat_size && i<res) marks[i]=ovec[i]
      let got := (sp0 :: gs).take (patSize rx r)
      some ⟨s, got ++ List.replicate (patSize rx r - got.length) (-1, -1)⟩

/-- `regex::match(begin,end,flags)` -/
def rxMatch (rx : Rx) (q : Quirks) (r : Regex) (s : Bytes) : Bool :=
  match rx.exec r.pat r.flags s with
  | none => false
  | some (sp0, _) => !q.spanRejectNoMarks sp0.1 sp0.2 s.length

/-! ## url_dispatcher -/

/-- `option::option(expr,method)`: `match_method_ == 1` -/
def methodLiteral (m : Bytes) : Bool := m.all fun c => Gen.methodCharLiteral c.toNat

/-- the method part of `option::matches`. `req = none`: `method == 0` (application without context).
`req` is a `char const *`, i.e. NUL-free by type. -/
def methodOk (rx : Rx) (q : Quirks) (filter : Option Bytes) (req : Option Bytes) : Bool :=
  match filter with
  | none => true
  | some m =>
    match req with
    | none => false
    | some r => if methodLiteral m then m == r else rxMatch rx q ⟨m, {}⟩ r

/-- `option::matches` : on success `match_` is set -/
def optMatches (rx : Rx) (q : Quirks) (re : Regex) (filter : Option Bytes) (req : Option Bytes) (path : Bytes) :
    Option CMatch :=
  if methodOk rx q filter req then rxMatchMarks rx q re (if q.pathCStr then cstr path else path) else none

/-! ### typed handlers of `url_dispatcher::map()` : `std::istream >> value` on a captured group

`url_binder::operator()` runs, per parameter and in order, `validate_encoding` (external, `rx.valid`) and
`parse_url_parameter`: `std::string` takes the bytes as they are; any other type is read with
`parameter >> value` and must consume the whole group (`!parameter || !parameter.eof()` ⇒ `false`).
For the integer types that is libstdc++'s `num_get::_M_extract_int` in base 10 (no grouping in the request locale's
`numpunct`): the stream sentry skips leading white space, one optional sign, then the digit loop below with its
incremental overflow test. -/

/-- `std::isspace` of `ctype<char>`: blank, `\t \n \v \f \r` -/
def isSpace (c : UInt8) : Bool := c == 32 || (9 ≤ c.toNat && c.toNat ≤ 13)

def isDigit (c : UInt8) : Bool := 48 ≤ c.toNat && c.toNat ≤ 57

structure NumTy where
  signed : Bool
  bits : Nat
deriving DecidableEq, Repr

def PType.num : PType → Option NumTy
  | .str => none
  | .i32 => some ⟨true, 32⟩
  | .u32 => some ⟨false, 32⟩
  | .i64 => some ⟨true, 64⟩
  | .u64 => some ⟨false, 64⟩

/-- the digit loop of `_M_extract_int`: `result`, `testoverflow`, number of digits, and what is left unread.
`if (result > max/10) overflow = true; else { result *= 10; overflow |= result > max - digit; result += digit; }` -/
def scanDigits (max : Nat) : Bytes → Nat → Bool → Nat → Nat × Bool × Nat × Bytes
  | [], r, o, n => (r, o, n, [])
  | c :: cs, r, o, n =>
    if isDigit c then
      let d := c.toNat - 48
      if r > max / 10 then scanDigits max cs r true (n + 1)
      else scanDigits max cs (r * 10 + d) (o || decide (r * 10 > max - d)) (n + 1)
    else (r, o, n, c :: cs)

/-- largest magnitude `_M_extract_int` accepts: `-min` for a negative signed number, else `max` -/
def numMax (t : NumTy) (neg : Bool) : Nat :=
  if t.signed then (if neg then 2 ^ (t.bits - 1) else 2 ^ (t.bits - 1) - 1) else 2 ^ t.bits - 1

/-- `parameter >> value` followed by the `eof()` test; `none` = `parse_url_parameter` returns `false` -/
def parseNum (t : NumTy) (s : Bytes) : Option Int :=
  let s := s.dropWhile isSpace
  let neg := s.head? == some 45
  let s := if s.head? == some 45 || s.head? == some 43 then s.drop 1 else s
  match scanDigits (numMax t neg) s 0 false 0 with
  | (r, o, n, rest) =>
    if n == 0 || o || !rest.isEmpty then none
    else if neg then (if t.signed then some (-(r : Int)) else some (((2 ^ t.bits - r) % 2 ^ t.bits : Nat) : Int))
    else some (r : Int)

/-- decimal text of a value, as the harness prints what the member function received -/
def decInt (v : Int) : Bytes :=
  let ds := (Nat.toDigits 10 v.natAbs).map fun c => UInt8.ofNat c.toNat
  if v < 0 then 45 :: ds else ds

/-- `url_dispatcher::parse<T>` : `none` = the handler declines -/
def convertParam (rx : Rx) (t : PType) (s : Bytes) : Option Bytes :=
  if !rx.valid s then none
  else match t.num with
    | none => some s
    | some nt => (parseNum nt s).map decInt

/-- the `CPPCMS_DEFANDPARSE` chain: parameters are converted in order, the first failure returns `false` -/
def convertAll (rx : Rx) (m : CMatch) : List (Int × PType) → Option (List (Option Bytes))
  | [] => some []
  | (g, t) :: rest =>
    match convertParam rx t (m.str g) with
    | none => none
    | some v => match convertAll rx m rest with
      | none => none
      | some vs => some (some v :: vs)

/-- what one call of `option::dispatch` did -/
inductive Attempt where
  /-- returned `false` without running anything -/
  | skip
  /-- ran a generic handler which returned `false` -/
  | reject (ev : Event)
  /-- returned `true` after these events -/
  | fire (evs : List Event)
deriving DecidableEq, Repr

def genRejects (rej : Option (Int × Bytes)) (m : CMatch) : Bool :=
  match rej with
  | none => false
  | some (g, v) => m.str g == v

/-- `base_handler<H>::dispatch` / `generic_option::dispatch` -/
def leafAttempt (rx : Rx) (q : Quirks) (req : Option Bytes) (l : Leaf) (url : Bytes) : Attempt :=
  match l.kind with
  | .gen rej =>
    if req.isNone then .skip            -- `if(!app) return false;`
    else match optMatches rx q l.re l.meth req url with
      | none => .skip
      | some m => if genRejects rej m then .reject (.rejected l.id m.all) else .fire [.ran l.id m.all]
  | .typed ps =>
    if req.isNone then .skip            -- `map()` registers a `generic_option`
    else match optMatches rx q l.re l.meth req url with
      | none => .skip
      | some m => match convertAll rx m ps with
        | none => .skip                 -- a parameter did not validate/convert: member not called, scan continues
        | some vals => .fire [.ran l.id vals]
  | .h0 => match optMatches rx q l.re none req url with
      | none => .skip
      | some _ => .fire [.ran l.id []]
  | .hN sel => match optMatches rx q l.re none req url with
      | none => .skip
      | some m => .fire [.ran l.id (sel.map fun n => some (m.str n))]
  | .rh => match optMatches rx q l.re none req url with
      | none => .skip
      | some m => .fire [.ran l.id m.all]

/-- `url_dispatcher::dispatch` of the application whose option vector is the first argument:
the returned flag and what the handlers observed, in order.  `mounted::dispatch` calls the child's
`application::main`, which answers 404 (`notFound`) when the child's own `dispatch` returns `false`,
and returns `true` in either case. -/
def dispatch (rx : Rx) (q : Quirks) (req : Option Bytes) : Opts → Bytes → Bool × List Event
  | .nil, _ => (false, [])
  | .leaf l rest, url =>
    match leafAttempt rx q req l url with
    | .skip => dispatch rx q req rest url
    | .reject ev => let r := dispatch rx q req rest url; (r.1, ev :: r.2)
    | .fire evs => (true, evs)
  | .mount re sel child rest, url =>
    match optMatches rx q re none req url with
    | none => dispatch rx q req rest url
    | some m =>
      let r := dispatch rx q req child (m.str sel)
      (true, if r.1 then r.2 else r.2 ++ [.notFound])

/-- `application::main(url)` of the root application -/
def appMain (rx : Rx) (q : Quirks) (req : Option Bytes) (o : Opts) (url : Bytes) : List Event :=
  let r := dispatch rx q req o url
  if r.1 then r.2 else r.2 ++ [.notFound]

/-! ## mount_point and applications_pool -/

/-- `mount_point::match(char const *h,char const *s,char const *p)`; the arguments are C strings -/
def mpMatchC (rx : Rx) (q : Quirks) (mp : MountPoint) (h s p : Bytes) : Option Bytes :=
  if mp.host.any (fun r => !rxMatch rx q r h) then none
  else if mp.selPath then
    if mp.script.any (fun r => !rxMatch rx q r s) then none
    else match mp.path with
      | none => some p
      | some r =>
        if mp.group = 0 then (if rxMatch rx q r p then some p else none)
        else (rxMatchMarks rx q r p).map (·.str mp.group)
  else
    if mp.path.any (fun r => !rxMatch rx q r p) then none
    else match mp.script with
      | none => some s
      | some r =>
        if mp.group = 0 then (if rxMatch rx q r s then some s else none)
        else (rxMatchMarks rx q r s).map (·.str mp.group)

/-- the `char const *` overload called with pointers to these byte strings -/
def mpMatchPtr (rx : Rx) (q : Quirks) (mp : MountPoint) (h s p : Bytes) : Option Bytes :=
  mpMatchC rx q mp (cstr h) (cstr s) (cstr p)

/-- the `std::string` overload -/
def mpMatchStr (rx : Rx) (q : Quirks) (mp : MountPoint) (h s p : Bytes) : Option Bytes :=
  if q.mountStrCStr then mpMatchC rx q mp (cstr h) (cstr s) (cstr p) else mpMatchC rx q mp h s p

/-- `applications_pool::get_application_specific_pool` over the synchronous/`mount(pool,mp,flags)` list:
index (in mount order) of the pool returned and the `match` string. Arguments are `char const *`. -/
def poolFind (rx : Rx) (q : Quirks) (h s p : Bytes) : List MountPoint → Nat → Option (Nat × Bytes)
  | [], _ => none
  | mp :: rest, i =>
    match mpMatchPtr rx q mp h s p with
    | some m => some (i, m)
    | none => poolFind rx q h s p rest (i + 1)

/-- a request through the pool: `context::on_headers_ready` + `app->main(matched)` -/
def poolRoute (rx : Rx) (q : Quirks) (apps : List (MountPoint × Opts)) (meth h s p : Bytes) : Option (Nat × List Event) :=
  match poolFind rx q h s p (apps.map (·.1)) 0 with
  | none => none
  | some (i, m) => some (i, appMain rx q (some meth) ((apps[i]?.map (·.2)).getD .nil) m)

/-! ### both lists of `applications_pool`

`mount(pool,mp,flags)` / `mount(factory,mp)` append to `apps`; `mount(intrusive_ptr<application>,mp)` (the classic
asynchronous application) appends to `legacy_async_apps`.  `get_application_specific_pool` scans **all of `apps`
first**, then `legacy_async_apps`; the second loop always runs to the end because it also erases pools whose
application has died (`flags()==-1`), and keeps the first hit through its `else if(!result)` guard.
A mount is `(legacyAsync, mount point)`; indexes are positions in overall mount order. -/

/-- first loop: returns at the first match -/
def poolScanApps (rx : Rx) (q : Quirks) (h s p : Bytes) : List (Nat × MountPoint) → Option (Nat × Bytes)
  | [] => none
  | (i, mp) :: rest =>
    match mpMatchPtr rx q mp h s p with
    | some m => some (i, m)
    | none => poolScanApps rx q h s p rest

/-- second loop: `dead` pools are erased; a live one is examined only while there is no result yet -/
def poolScanLegacy (rx : Rx) (q : Quirks) (h s p : Bytes) (dead : List Nat) :
    List (Nat × MountPoint) → Option (Nat × Bytes) → Option (Nat × Bytes)
  | [], result => result
  | (i, mp) :: rest, result =>
    if dead.contains i then poolScanLegacy rx q h s p dead rest result
    else match result with
      | some r => poolScanLegacy rx q h s p dead rest (some r)
      | none =>
        match mpMatchPtr rx q mp h s p with
        | none => poolScanLegacy rx q h s p dead rest none
        | some m => poolScanLegacy rx q h s p dead rest (some (i, m))

def mountsOf (legacy : Bool) (ms : List (Bool × MountPoint)) : List (Nat × MountPoint) :=
  ms.zipIdx.filterMap fun (am, i) => if am.1 == legacy then some (i, am.2) else none

/-- `applications_pool::get_application_specific_pool` -/
def poolFindAll (rx : Rx) (q : Quirks) (h s p : Bytes) (ms : List (Bool × MountPoint)) (dead : List Nat) : Option (Nat × Bytes) :=
  match poolScanApps rx q h s p (mountsOf false ms) with
  | some r => some r
  | none => poolScanLegacy rx q h s p dead (mountsOf true ms) none

/-- `rounds` times: route the request and let the application that got it die if it is a classic asynchronous one
(its pool then has `flags()==-1` and is purged by the next scan); the set of dead mounts afterwards -/
def poolKill (rx : Rx) (q : Quirks) (h s p : Bytes) (ms : List (Bool × MountPoint)) : Nat → List Nat → List Nat
  | 0, dead => dead
  | r + 1, dead =>
    match poolFindAll rx q h s p ms dead with
    | some (i, _) => if (ms[i]?.map (·.1)).getD false then poolKill rx q h s p ms r (i :: dead) else dead
    | none => dead

def poolRouteAll (rx : Rx) (q : Quirks) (apps : List (Bool × MountPoint × Opts)) (rounds : Nat) (meth h s p : Bytes) :
    Option (Nat × Bytes × List Event) :=
  let ms := apps.map fun a => (a.1, a.2.1)
  match poolFindAll rx q h s p ms (poolKill rx q h s p ms rounds []) with
  | none => none
  | some (i, m) => some (i, m, appMain rx q (some meth) ((apps[i]?.map (·.2.2)).getD .nil) m)

/-! ## url_mapper -/

/-- `atoi` on a non-empty string of ASCII digits as glibc computes it: `strtol` saturating at
`LONG_MAX`, then the conversion `long → int` (low 32 bits, two's complement). -/
def atoiDigits (ds : Bytes) : Int :=
  let v : Nat := ds.foldl (fun acc c => acc * 10 + (c.toNat - 48)) 0
  let l : Nat := if v ≥ 2 ^ 63 then 2 ^ 63 - 1 else v
  let lo : Nat := l % 2 ^ 32
  if lo ≥ 2 ^ 31 then Int.ofNat lo - 2 ^ 32 else Int.ofNat lo

structure TplAcc where
  parts : List Bytes := []
  indexes : List Int := []
  keys : List Bytes := []
  maxIdx : Int := 0

/-- what `real_assign` does with the text between `{` and `}` -/
def tplPlaceholder (a : TplAcc) (hkey : Bytes) : Except TplErr TplAcc :=
  if hkey.isEmpty then .error .emptyIndex
  else if hkey.any (fun c => Gen.tplNotDigit c.toNat) then
    .ok { a with indexes := a.indexes ++ [0], keys := a.keys ++ [hkey] }
  else
    let index := atoiDigits hkey
    if index = 0 then .error .zeroIndex
    else .ok { a with indexes := a.indexes ++ [index], keys := a.keys ++ [[]], maxIdx := max index a.maxIdx }

/-- the scanner of `url_mapper::real_assign`; `cur` is the text since `prev` (reversed),
`inBrace` = inside the inner `while` looking for the closing brace. -/
def tplScan (inBrace : Bool) (cur : Bytes) (a : TplAcc) : Bytes → Except TplErr TplAcc
  | [] => if inBrace then .error .unclosed else .ok { a with parts := a.parts ++ [cur.reverse] }
  | c :: cs =>
    if inBrace then
      if c.toNat = Gen.tplClose then
        match tplPlaceholder a cur.reverse with
        | .error e => .error e
        | .ok a' => tplScan false [] a' cs
      else tplScan true (c :: cur) a cs
    else if c.toNat = Gen.tplOpen then tplScan true [] { a with parts := a.parts ++ [cur.reverse] } cs
    else if c.toNat = Gen.tplClose then .error .strayClose
    else tplScan false (c :: cur) a cs

/-- `url_mapper::real_assign(key,url,child)` up to the `by_key` update: the entry and `max_index` -/
def parseTpl (url : Bytes) (isApp : Bool) : Except TplErr (Tpl × Nat) :=
  match tplScan false [] {} url with
  | .error e => .error e
  | .ok a =>
    if isApp && a.maxIdx != 1 then .error .appArity
    else .ok (⟨a.parts, a.indexes, a.keys⟩, a.maxIdx.toNat)

/-- `url_mapper::assign(key,url)`: key validation -/
def keyValid (key : Bytes) : Bool :=
  !(key.isEmpty || key.any (fun c => Gen.keyForbiddenChars.contains c.toNat)
    || Gen.keyForbiddenWords.contains (key.map (·.toNat)))

def assignChecked (key url : Bytes) : Except TplErr (Tpl × Nat) :=
  if keyValid key then parseTpl url false else .error .badKey

/-- `by_key.find(key) != end` -/
def MNode.hasKey : MNode → Bytes → Bool
  | .nil, _ => false
  | .url k _ _ rest, key => k == key || rest.hasKey key
  | .app k _ _ rest, key => k == key || rest.hasKey key

/-- `by_key[key].find(arity)` -/
def MNode.find : MNode → Bytes → Nat → Option (Tpl × Option MNode)
  | .nil, _, _ => none
  | .url k a t rest, key, n => if k == key && a == n then some (t, none) else rest.find key n
  | .app k t c rest, key, n => if k == key && n == 1 then some (t, some c) else rest.find key n

/-- `data::get_entry` -/
def getEntry (n : MNode) (key : Bytes) (arity : Nat) : Except MapErr (Tpl × Option MNode) :=
  if !n.hasKey key then .error .keyNotFound
  else match n.find key arity with
    | none => .error .badArity
    | some e => .ok e

/-- `d->by_key[key][max_index] = e` for an ordinary entry: overwrite or append -/
def MNode.setUrl : MNode → Bytes → Nat → Tpl → MNode
  | .nil, key, n, t => .url key n t .nil
  | .url k a t' rest, key, n, t => if k == key && a == n then .url k a t rest else .url k a t' (rest.setUrl key n t)
  | .app k t' c rest, key, n, t => .app k t' c (rest.setUrl key n t)

def MNode.append : MNode → MNode → MNode
  | .nil, m => m
  | .url k a t rest, m => .url k a t (rest.append m)
  | .app k t c rest, m => .app k t c (rest.append m)

/-- the tail of `real_assign(key,url,0)`: an ordinary key may not share its name with a mounted application -/
def MNode.assignUrl (n : MNode) (key : Bytes) (arity : Nat) (t : Tpl) : Except TplErr MNode :=
  match n.find key 1 with
  | some (_, some _) => .error .sharedKey
  | _ => .ok (n.setUrl key arity t)

/-- the tail of `real_assign(name,url,child)`: the key must be new -/
def MNode.mountApp (n : MNode) (name : Bytes) (t : Tpl) (child : MNode) : Except TplErr MNode :=
  if n.hasKey name then .error .sharedKey else .ok (n.append (.app name t child .nil))

/-- the entry with the smallest arity for `key` (`kp->second.begin()`) : its arity and child -/
def MNode.first : MNode → Bytes → Option (Nat × Option MNode)
  | .nil, _ => none
  | .url k a _ rest, key =>
    if k == key then
      match rest.first key with
      | some (a', c) => if a' < a then some (a', c) else some (a, none)
      | none => some (a, none)
    else rest.first key
  | .app k _ c rest, key =>
    if k == key then
      match rest.first key with
      | some (a', c') => if a' < 1 then some (a', c') else some (1, some c)
      | none => some (1, some c)
    else rest.first key

/-- `data::is_app` -/
def isApp (n : MNode) (key : Bytes) : Option MNode :=
  match n.first key with
  | some (_, some c) => some c
  | _ => none

/-- a mapper inside its tree: its `by_key` and the chain of `(parent's by_key, this_name)` up to the topmost -/
structure MPos where
  cur : MNode
  up : List (MNode × Bytes) := []
deriving DecidableEq, Repr

def MPos.parent (p : MPos) : Except MapErr MPos :=
  match p.up with
  | [] => .error .noParent
  | (n, _) :: rest => .ok ⟨n, rest⟩

def MPos.topmost (p : MPos) : MPos :=
  match p.up.getLast? with
  | none => p
  | some (n, _) => ⟨n, []⟩

/-- `data::child(name)` -/
def MPos.child (p : MPos) (name : Bytes) : Except MapErr MPos :=
  match getEntry p.cur name 1 with
  | .error e => .error e
  | .ok (_, none) => .error .notChild
  | .ok (_, some c) => .ok ⟨c, (p.cur, name) :: p.up⟩

/-- split at every `sep` (`"a/b/"` → `["a","b",""]`) -/
def splitOn (sep : UInt8) : Bytes → List Bytes
  | [] => [[]]
  | c :: cs =>
    if c == sep then [] :: splitOn sep cs
    else match splitOn sep cs with
      | [] => [[c]]
      | h :: t => (c :: h) :: t

/-- navigation through the leading `a/b/../` segments of a key -/
def walk (p : MPos) : List Bytes → Except MapErr MPos
  | [] => .ok p
  | seg :: rest =>
    if seg == [46] then walk p rest
    else if seg == [46, 46] then
      match p.parent with
      | .error e => .error e
      | .ok p' => walk p' rest
    else
      match p.child seg with
      | .error e => .error e
      | .ok p' => walk p' rest

/-- `url_mapper::get_mapper_for_key`: target mapper, `real_key`, keywords -/
def mapperForKey (p : MPos) (key : Bytes) : Except MapErr (MPos × Bytes × List Bytes) :=
  if key.isEmpty then .ok (p, [], [])
  else
    let (start, rest) := if key.head? == some 47 then (p.topmost, key.drop 1) else (p, key)
    let segs := splitOn 47 rest
    let last := segs.getLast?.getD []
    match walk start segs.dropLast with
    | .error e => .error e
    | .ok m =>
      let realKey := last.takeWhile (· ≠ 59)
      let kws := if last.contains 59 then splitOn 44 ((last.dropWhile (· ≠ 59)).drop 1) else []
      let step : Except MapErr (MPos × Bytes) :=
        if realKey == [46] then .ok (m, [])
        else if realKey == [46, 46] then
          match m.parent with
          | .error e => .error e
          | .ok m' => .ok (m', [])
        else .ok (m, realKey)
      match step with
      | .error e => .error e
      | .ok (m, rk) =>
        match isApp m.cur rk with
        | some c => .ok (⟨c, (m.cur, rk) :: m.up⟩, [], kws)
        | none => .ok (m, rk, kws)

def lookupKV (kv : List (Bytes × Bytes)) (k : Bytes) : Option Bytes :=
  (kv.find? (·.1 == k)).map (·.2)

/-- `data::write`: `overrides` are the keyword parameters of this call, `helpers` the topmost mapper's values -/
def writeTpl (t : Tpl) (params : List Bytes) (helpers overrides : List (Bytes × Bytes)) : Except MapErr Bytes :=
  let rec go (parts : List Bytes) (idx : List Int) (keys : List Bytes) (acc : Bytes) : Except MapErr Bytes :=
    match parts with
    | [] => .ok acc
    | part :: parts' =>
      match idx with
      | [] => go parts' [] (keys.drop 1) (acc ++ part)
      | i :: idx' =>
        if i = 0 then
          let k := keys.headD []
          let v := match lookupKV overrides k with
            | some v => v
            | none => (lookupKV helpers k).getD []
          go parts' idx' (keys.drop 1) (acc ++ part ++ v)
        else if i < 0 then .error .indexRange
        else match params[i.toNat - 1]? with
          | none => .error .indexRange
          | some v => go parts' idx' (keys.drop 1) (acc ++ part ++ v)
  go t.parts t.indexes t.keys []

/-- the `get_entry` calls of `data::map` from the addressed mapper up to the topmost (they all
happen before anything is written) -/
def collectUp : List (MNode × Bytes) → Except MapErr (List Tpl)
  | [] => .ok []
  | (n, name) :: rest =>
    match getEntry n name 1 with
    | .error e => .error e
    | .ok (t, _) =>
      match collectUp rest with
      | .error e => .error e
      | .ok ts => .ok (t :: ts)

/-- the nested `write`s: the URL so far becomes the single parameter of the parent's entry -/
def wrapUp (helpers overrides : List (Bytes × Bytes)) : List Tpl → Bytes → Except MapErr Bytes
  | [], u => .ok u
  | t :: ts, u =>
    match writeTpl t [u] helpers overrides with
    | .error e => .error e
    | .ok u' => wrapUp helpers overrides ts u'

structure MCtx where
  /-- `root()` of the topmost mapper -/
  root : Bytes := []
  /-- `set_value` helpers (kept in the topmost mapper) -/
  helpers : List (Bytes × Bytes) := []

/-- the URL below `root` produced by `data::map` -/
def mapRel (ctx : MCtx) (p : MPos) (key : Bytes) (params : List Bytes) (overrides : List (Bytes × Bytes)) : Except MapErr Bytes :=
  match getEntry p.cur key params.length with
  | .error e => .error e
  | .ok (t, _) =>
    match collectUp p.up with
    | .error e => .error e
    | .ok ts =>
      match writeTpl t params ctx.helpers overrides with
      | .error e => .error e
      | .ok u => wrapUp ctx.helpers overrides ts u

/-- later keywords with the same name overwrite earlier ones (`mappings[direct[i]] = …`) -/
def mkOverrides (kws : List Bytes) (vals : List Bytes) : List (Bytes × Bytes) :=
  (kws.zip vals).reverse

/-- `url_mapper::map(out,key,p1…pn)` with `misc.invalid_url_throws = true`; the key is a C string -/
def mapUrl (ctx : MCtx) (p : MPos) (key : Bytes) (params : List Bytes) : Except MapErr Bytes :=
  match mapperForKey p (cstr key) with
  | .error e => .error e
  | .ok (m, rk, kws) =>
    if params.length < kws.length then .error .tooManyKeywords
    else
      match mapRel ctx m rk (params.drop kws.length) (mkOverrides kws (params.take kws.length)) with
      | .error e => .error e
      | .ok u => .ok (ctx.root ++ u)

/-! ### `util::stackbuf<N>` — the buffer `real_map` builds the URL in when `misc.invalid_url_throws` is false (the default)

`N` bytes on the stack, then the heap with doubling capacity.  `std::ostream <<` reaches it through `sputn`/`sputc`; the
library's `xsputn` copies what fits and calls `overflow(next byte)` when the put area is full — i.e. a sequence of `sputc`s. -/

structure SBuf where
  /-- size of the current put area (`epptr()-pbase()`) -/
  cap : Nat
  /-- `[pbase(), pptr())` -/
  data : Bytes
  /-- `pbase() == on_stack_` -/
  onStack : Bool
deriving DecidableEq, Repr

def SBuf.init (N : Nat) : SBuf := ⟨N, [], true⟩

/-- `stackbuf::overflow(c)` (expressions from `Gen.lean`): grow, keep `current_size` bytes (`memcpy`/`realloc` + `pbump`),
then store the pending byte -/
def SBuf.overflow (N : Nat) (b : SBuf) (c : UInt8) : SBuf :=
  let cur := if b.onStack then Gen.sbStackCur N else b.data.length
  let new := if b.onStack then Gen.sbStackNew N else Gen.sbHeapNew cur
  let kept := b.data.take cur
  if Gen.sbStoreBumps && decide (kept.length < new) then ⟨new, kept ++ [c], false⟩
  else ⟨new, kept, false⟩        -- byte written behind the put pointer (or no room): not part of `[pbase,pptr)`

def SBuf.sputc (N : Nat) (b : SBuf) (c : UInt8) : SBuf :=
  if b.data.length < b.cap then { b with data := b.data ++ [c] } else b.overflow N c

def SBuf.write (N : Nat) (b : SBuf) (s : Bytes) : SBuf := s.foldl (SBuf.sputc N) b

def invalidUrlText : Bytes :=
  [47, 116, 104, 105, 115, 95, 105, 115, 95, 97, 110, 95, 105, 110, 118, 97, 108, 105, 100, 95, 117, 114, 108, 95, 103, 101, 110,
   101, 114, 97, 116, 101, 100, 95, 98, 121, 95, 117, 114, 108, 95, 109, 97, 112, 112, 101, 114]

/-- `url_mapper::map(out,key,…)` with `misc.invalid_url_throws = false`: everything is written into a `steal_buffer<>`
(= `stackbuf<128>`) and then `output << temp_buf.c_str()` (a C string); on any error the fixed text is written instead -/
def mapUrlNT (ctx : MCtx) (p : MPos) (key : Bytes) (params : List Bytes) : Bytes :=
  match mapUrl ctx p key params with
  | .ok u => cstr (SBuf.write Gen.sbDefaultSize (SBuf.init Gen.sbDefaultSize) u).data
  | .error _ => invalidUrlText

end Cppcms.C20
