import Cppcms.C17.Model
/-! The thread pool: job conservation, and a fair schedule in which one live worker keeps cycling while
clients post and cancel other jobs. -/
namespace Cppcms.C17

def jcnt (id : Int) (l : List Job) : Nat := l.countP (fun j => j.id == id)
def ocnt (id : Int) (l : List (Option Job)) : Nat := l.countP (fun o => match o with | some j => j.id == id | none => false)
def icnt (id : Int) (l : List Int) : Nat := l.countP (· == id)

@[simp] theorem jcnt_nil (id : Int) : jcnt id [] = 0 := rfl
@[simp] theorem jcnt_append (id : Int) (a b : List Job) : jcnt id (a ++ b) = jcnt id a + jcnt id b := by
  simp [jcnt, List.countP_append]
theorem jcnt_cons (id : Int) (j : Job) (l : List Job) : jcnt id (j :: l) = (if j.id = id then 1 else 0) + jcnt id l := by
  simp [jcnt, List.countP_cons]; omega
@[simp] theorem icnt_append (id : Int) (a b : List Int) : icnt id (a ++ b) = icnt id a + icnt id b := by
  simp [icnt, List.countP_append]

/-- number of references to job id `id`: queued, held by a worker, started, or cancelled -/
def pc (id : Int) (p : Pool) : Nat := jcnt id p.queue + ocnt id p.workers + jcnt id p.ran + icnt id p.cancelled

theorem jcnt_eraseFirst (id k : Int) (l : List Job) (hk : l.any (·.id == k) = true) :
    jcnt id (eraseFirst k l) + icnt id [k] = jcnt id l := by
  induction l with
  | nil => cases hk
  | cons j js ih =>
    unfold eraseFirst
    rw [jcnt_cons]
    split
    · simp [icnt, *]; omega
    · rename_i hj
      rw [jcnt_cons, ← ih (by simpa [hj] using hk)]
      omega

theorem ocnt_set (id : Int) (l : List (Option Job)) (w : Nat) (v : Option Job) (hw : w < l.length) :
    ocnt id (l.set w v) + jcnt id (l.getD w none).toList = ocnt id l + jcnt id v.toList := by
  have h1 : ∀ o : Option Job, ocnt id [o] = jcnt id o.toList := fun o => by cases o <;> rfl
  induction l generalizing w with
  | nil => cases hw
  | cons x xs ih =>
    have h2 : ∀ (y : Option Job) ys, ocnt id (y :: ys) = ocnt id [y] + ocnt id ys := fun y ys =>
      List.countP_append (l₁ := [y])
    cases w with
    | zero =>
      rw [List.set_cons_zero, h2, h2 x xs, h1, h1]
      show _ + jcnt id x.toList = _
      omega
    | succ n =>
      have := ih n (Nat.lt_of_succ_lt_succ hw)
      rw [List.set_cons_succ, h2, h2 x xs]
      show _ + jcnt id (xs.getD n none).toList = _
      omega

/-- worker `w`'s next `workerTake` pops the head of the queue (or waits if there is none) -/
def Ready (w : Nat) (p : Pool) : Prop :=
  p.shutDown = false ∧ w < p.workers.length ∧ p.exited.getD w true = false ∧ p.workers.getD w none = none

/-- holds because `worker()` removes the job from the queue under the lock (`Gen.workerRemovesJobUnderLock`) -/
theorem poolStep_take {p : Pool} {w : Nat} {x : Job} {rest : List Job} (hr : Ready w p) (hq : p.queue = x :: rest) :
    poolStep p (.workerTake w) = { p with queue := rest, workers := p.workers.set w (some x) } := by
  simp only [poolStep]
  rw [if_pos hr.2]
  simp [hr.1, hq, Gen.workerRemovesJobUnderLock]

theorem poolStep_take_cases (p : Pool) (w : Nat) :
    poolStep p (.workerTake w) = p ∨ poolStep p (.workerTake w) = { p with exited := p.exited.set w true } ∨
    ∃ j rest, p.queue = j :: rest ∧ w < p.workers.length ∧ p.workers.getD w none = none ∧
      poolStep p (.workerTake w) = { p with queue := rest, workers := p.workers.set w (some j) } := by
  rw [poolStep]
  by_cases hc : w < p.workers.length ∧ p.exited.getD w true = false ∧ p.workers.getD w none = none
  · rw [if_pos hc]
    by_cases hs : p.shutDown = true
    · rw [if_pos hs]
      exact .inr (.inl rfl)
    · rw [if_neg hs]
      cases hq : p.queue with
      | nil => exact .inl rfl
      | cons j rest => exact .inr (.inr ⟨j, rest, rfl, hc.1, hc.2.2, rfl⟩)
  · rw [if_neg hc]
    exact .inl rfl

/-- holds because `worker()` catches every exception (`Gen.workerCatchesAll`) -/
theorem poolStep_run {p : Pool} {w : Nat} {j : Job} (h : p.workers.getD w none = some j) :
    poolStep p (.workerRun w) = { p with ran := p.ran ++ [j], workers := p.workers.set w none } := by
  simp only [poolStep]
  rw [h]
  simp [Gen.workerCatchesAll]

theorem poolStep_run_none {p : Pool} {w : Nat} (h : p.workers.getD w none = none) :
    poolStep p (.workerRun w) = p := by
  simp only [poolStep, h]

theorem poolRun_append (p : Pool) (a b : List PoolOp) : poolRun p (a ++ b) = poolRun (poolRun p a) b :=
  List.foldl_append ..

theorem poolRun_ghost (ops : List PoolOp) (p : Pool) :
    p.ran <+: (poolRun p ops).ran ∧ p.cancelled <+: (poolRun p ops).cancelled := by
  refine ops.foldlRecOn (motive := fun p' : Pool => p.ran <+: p'.ran ∧ p.cancelled <+: p'.cancelled) _
    ⟨List.prefix_refl _, List.prefix_refl _⟩ ?_
  intro p' ⟨h1, h2⟩ o _
  suffices p'.ran <+: (poolStep p' o).ran ∧ p'.cancelled <+: (poolStep p' o).cancelled from
    ⟨h1.trans this.1, h2.trans this.2⟩
  cases o with
  | cancel k =>
    rw [poolStep]
    split
    · exact ⟨List.prefix_refl _, List.prefix_append ..⟩
    · exact ⟨List.prefix_refl _, List.prefix_refl _⟩
  | workerTake w =>
    rcases poolStep_take_cases p' w with h | h | ⟨_, _, _, _, _, h⟩ <;> rw [h] <;>
      exact ⟨List.prefix_refl _, List.prefix_refl _⟩
  | workerRun w =>
    cases h : p'.workers.getD w none with
    | none => rw [poolStep_run_none h]; exact ⟨List.prefix_refl _, List.prefix_refl _⟩
    | some j => rw [poolStep_run h]; exact ⟨List.prefix_append .., List.prefix_refl _⟩
  | _ => exact ⟨List.prefix_refl _, List.prefix_refl _⟩

def PoolConserved (p : Pool) : Prop := ∀ id : Int, pc id p = if 0 ≤ id ∧ id < (p.jobId : Int) then 1 else 0

theorem pc_step (id : Int) (p : Pool) (o : PoolOp) (ho : ∀ th, o ≠ .post th) :
    (poolStep p o).jobId = p.jobId ∧ pc id (poolStep p o) = pc id p := by
  cases o with
  | post th => exact absurd rfl (ho th)
  | stop => exact ⟨rfl, rfl⟩
  | cancel k =>
    rw [poolStep]
    split
    · have := jcnt_eraseFirst id k p.queue ‹_›
      exact ⟨rfl, by simp only [pc, icnt_append]; omega⟩
    · exact ⟨rfl, rfl⟩
  | workerTake w =>
    rcases poolStep_take_cases p w with h | h | ⟨j, rest, hq, hw, hn, h⟩ <;> rw [h]
    · exact ⟨rfl, rfl⟩
    · exact ⟨rfl, rfl⟩
    · have := ocnt_set id p.workers w (some j) hw
      rw [hn] at this
      refine ⟨rfl, ?_⟩
      simp only [pc, hq, jcnt_cons, Option.toList, jcnt_nil] at this ⊢
      omega
  | workerRun w =>
    cases hj : p.workers.getD w none with
    | none => rw [poolStep_run_none hj]; exact ⟨rfl, rfl⟩
    | some j =>
      have hw : w < p.workers.length := by
        refine Classical.byContradiction fun hc => ?_
        simp [List.getD, List.getElem?_eq_none (Nat.le_of_not_lt hc)] at hj
      have := ocnt_set id p.workers w none hw
      rw [hj] at this
      rw [poolStep_run hj]
      refine ⟨rfl, ?_⟩
      simp only [pc, jcnt_append, Option.toList, jcnt_nil] at this ⊢
      omega

theorem ite_lt_succ_int (id : Int) (n : Nat) :
    (if 0 ≤ id ∧ id < (n : Int) then 1 else 0) + (if (n : Int) = id then 1 else 0)
      = if 0 ≤ id ∧ id < ((n + 1 : Nat) : Int) then 1 else 0 := by
  by_cases h1 : 0 ≤ id ∧ id < (n : Int)
  · rw [if_pos h1, if_neg (by omega), if_pos (by omega)]
  · by_cases h2 : (n : Int) = id
    · rw [if_neg h1, if_pos h2, if_pos (by omega)]
    · rw [if_neg h1, if_neg h2, if_neg (by omega)]

theorem poolConserved_run (n : Nat) (ops : List PoolOp) : PoolConserved (poolRun (poolInit n) ops) := by
  refine ops.foldlRecOn (motive := PoolConserved) _ (fun id => ?_) fun p h o _ id => ?_
  · rw [if_neg (by show ¬ (0 ≤ id ∧ id < ((0 : Nat) : Int)); omega)]
    simp [poolInit, pc, ocnt, icnt, List.countP_replicate]
  · by_cases ho : ∃ th, o = .post th
    · obtain ⟨th, rfl⟩ := ho
      have : pc id (poolStep p (.post th)) = pc id p + if (p.jobId : Int) = id then 1 else 0 := by
        simp only [poolStep, pc, jcnt_append, jcnt_cons, jcnt_nil]
        omega
      rw [this, h id]
      exact ite_lt_succ_int id p.jobId
    · obtain ⟨h1, h2⟩ := pc_step id p o fun th h => ho ⟨th, h⟩
      rw [h1, h2, h id]

/-- operations of client threads that neither stop the pool nor cancel job `id` -/
def ClientOp (id : Int) : PoolOp → Prop
  | .post _ => True
  | .cancel k => k ≠ id
  | _ => False

/-- `j` is queued with at most `i` jobs in front of it -/
def QueuedWithin (j : Job) (i : Nat) (p : Pool) : Prop :=
  ∃ pre post, p.queue = pre ++ j :: post ∧ pre.length ≤ i

theorem eraseFirst_keeps (k : Int) (j : Job) (hk : k ≠ j.id) (pre post : List Job) :
    ∃ pre' post', eraseFirst k (pre ++ j :: post) = pre' ++ j :: post' ∧ pre'.length ≤ pre.length := by
  induction pre with
  | nil => exact ⟨[], eraseFirst k post, by simp [eraseFirst, Ne.symm hk], Nat.le_refl _⟩
  | cons x xs ih =>
    by_cases hx : x.id = k
    · exact ⟨xs, post, by simp [eraseFirst, hx], by simp⟩
    · obtain ⟨pre', post', h1, h2⟩ := ih
      exact ⟨x :: pre', post', by simp [eraseFirst, hx, h1], by simpa using h2⟩

theorem clients_keep (j : Job) (i w : Nat) (ops : List PoolOp) (p : Pool) (ho : ∀ o ∈ ops, ClientOp j.id o)
    (hr : Ready w p) (hq : QueuedWithin j i p) :
    Ready w (poolRun p ops) ∧ QueuedWithin j i (poolRun p ops) := by
  refine ops.foldlRecOn (motive := fun p => Ready w p ∧ QueuedWithin j i p) _ ⟨hr, hq⟩ ?_
  intro p ⟨hr, pre, post, h1, h2⟩ o hm
  cases o with
  | post th => exact ⟨hr, pre, post ++ [⟨(p.jobId : Int), th⟩], by simp [poolStep, h1], h2⟩
  | cancel k =>
    simp only [poolStep]
    split
    · obtain ⟨pre', post', h3, h4⟩ := eraseFirst_keeps k j (ho _ hm) pre post
      exact ⟨hr, pre', post', by simp [h1, h3], Nat.le_trans h4 h2⟩
    · exact ⟨hr, pre, post, h1, h2⟩
  | _ => exact (ho _ hm).elim

theorem take_run_cycle (w : Nat) (p : Pool) (x : Job) (rest : List Job) (hr : Ready w p) (hq : p.queue = x :: rest) :
    let p' := poolStep (poolStep p (.workerTake w)) (.workerRun w)
    Ready w p' ∧ p'.queue = rest ∧ p'.ran = p.ran ++ [x] := by
  have hget : ∀ v, (p.workers.set w v).getD w none = v := by simp [List.getD, List.getElem?_set_self hr.2.1]
  intro p'
  have hp' : p' = { p with queue := rest, workers := (p.workers.set w (some x)).set w none, ran := p.ran ++ [x] } := by
    show poolStep (poolStep p (.workerTake w)) (.workerRun w) = _
    rw [poolStep_take hr hq, poolStep_run (hget _)]
  rw [hp']
  exact ⟨⟨hr.1, by simpa using hr.2.1, hr.2.2.1, by rw [List.set_set]; exact hget none⟩, rfl, rfl⟩

/-- the fair schedule: after each batch of client operations the worker does one take/run cycle -/
def fairRun (w : Nat) : Pool → List (List PoolOp) → Pool
  | p, [] => p
  | p, ext :: more => fairRun w (poolStep (poolStep (poolRun p ext) (.workerTake w)) (.workerRun w)) more

theorem fairRun_eq (w : Nat) (rounds : List (List PoolOp)) (p : Pool) :
    fairRun w p rounds = poolRun p (rounds.flatMap fun ext => ext ++ [.workerTake w, .workerRun w]) := by
  induction rounds generalizing p with
  | nil => rfl
  | cons ext more ih =>
    simp only [fairRun, ih, poolRun, List.flatMap_cons, List.foldl_append, List.foldl_cons, List.foldl_nil]

theorem ran_mono_fair (id : Int) (w : Nat) (rounds : List (List PoolOp)) (p : Pool) :
    jcnt id p.ran ≤ jcnt id (fairRun w p rounds).ran :=
  fairRun_eq .. ▸ (poolRun_ghost _ p).1.sublist.countP_le

theorem fair_progress (j : Job) (w : Nat) (i : Nat) (rounds : List (List PoolOp)) (p : Pool)
    (hr : Ready w p) (hq : QueuedWithin j i p) (hlen : i + 1 ≤ rounds.length)
    (ho : ∀ ext ∈ rounds, ∀ o ∈ ext, ClientOp j.id o) :
    1 ≤ jcnt j.id (fairRun w p rounds).ran := by
  induction rounds generalizing p i with
  | nil => cases hlen
  | cons ext more ih =>
    rw [fairRun]
    obtain ⟨hready, pre, post, hqueue, hpre⟩ := clients_keep j i w ext p (ho ext List.mem_cons_self) hr hq
    cases pre with
    | nil =>
      -- `j` is at the head: this cycle starts it
      obtain ⟨_, _, hran⟩ := take_run_cycle w (poolRun p ext) j post hready hqueue
      refine Nat.le_trans ?_ (ran_mono_fair j.id w more _)
      rw [hran, jcnt_append, jcnt_cons, if_pos rfl]
      omega
    | cons x xs =>
      -- the cycle runs `x`: one job fewer in front of `j`
      obtain ⟨hready', hqueue', _⟩ := take_run_cycle w (poolRun p ext) x (xs ++ j :: post) hready hqueue
      exact ih (i - 1) _ hready' ⟨xs, post, hqueue', by simp at hpre; omega⟩ (by simp at hlen hpre; omega)
        (fun e he => ho e (List.mem_cons_of_mem _ he))

end Cppcms.C17
