import Cppcms.C17.Progress
import Cppcms.C17.PoolLemmas
import Cppcms.C17.EpollLemmas
/-!
# C17 — property theorems

"Each handler given to the event loop is invoked exactly once, on the thread that runs the
loop … Each job posted to the worker pool runs at most once, exactly once if the pool keeps
running and the job was not successfully cancelled, and an exception escaping a job does not
stop the pool."

Statements with a history (`as : List Act`; `ops` for the pool and for the epoll cache) hold for every history — any
threads, any order, interleaved with the loop thread's own critical sections — from the initial state; the others are
about a step or a history from an arbitrary state, about the generated tables, or evaluate a witness history.  `Gen.lean` is
regenerated from the C++ on every run.
-/
namespace Cppcms.C17.Props
open Cppcms Cppcms.C17

/-- Every method of `event_loop_impl` and of its functors constructs the lock guard on `data_mutex_` as its first
statement, or mentions no member the mutex protects, or is `reset()` (not to be called while `run()` executes:
`Op.reset` is enabled only while it does not), or is a listed private helper; every caller of a helper constructs the guard first or
is a helper itself (that the guard is still held at the call — `run_one` releases it in between — is not in the
table).  Same first-statement test for `thread_pool`, `worker()` apart. -/
theorem lock_discipline :
    (∀ m ∈ Gen.loopLockTable, m.2.1 = true ∨ m.2.2 = false ∨ m.1 = "reset()" ∨
        Gen.unlockedHelpers.any (fun h => m.1.startsWith (h ++ "(") || m.1.endsWith ("::" ++ h ++ "()")) = true)
    ∧ (∀ e ∈ Gen.helperCallEdges,
        (Gen.loopLockTable.any fun m => m.1 == e.1 && m.2.1) = true ∨
        Gen.unlockedHelpers.any (fun h => e.1.startsWith (h ++ "(")) = true)
    ∧ (∀ m ∈ Gen.poolLockTable, m.2.1 = true ∨ m.2.2 = false ∨ m.1 = "worker()") := by
  decide +kernel

/-- The sites that take a stored callback out of the descriptor or timer table select the moving overload,
posts copy the caller's callback, and the source shapes the hand-written control flow relies on
were found by the extractor. -/
theorem generated_shapes :
    Gen.cancelerReadableMoves = true ∧ Gen.cancelerWriteableMoves = true ∧
    Gen.dispatchReadableMoves = true ∧ Gen.dispatchWriteableMoves = true ∧
    Gen.cancelTimerMoves = true ∧ Gen.expireTimerMoves = true ∧ Gen.setterErrorMoves = true ∧
    Gen.postCopies = true ∧ Gen.loopShapesChecked = true ∧ Gen.poolShapesChecked = true ∧
    Gen.workerRemovesJobUnderLock = true ∧ Gen.workerCatchesAll = true := by
  decide

/-- **Token conservation.** After any history every handler id issued so far is referenced exactly once in the whole
state — queued (possibly inside a queued setter), being executed, armed in the descriptor table or as a timer, logged,
destroyed by `reset()`, or destroyed by a slot overwrite (`lost`, see `no_loss_partial`) — and an id not yet issued
nowhere. -/
theorem token_conservation (as : List Act) (h : Nat) :
    tc h (run init as) = if h < (run init as).next then 1 else 0 :=
  (conserved_run as).1 h

def calls (h : Nat) (s : St) : Nat := cnt h (s.log.map (·.tok))

/-- **At most once**: no history makes the loop invoke a handler twice. -/
theorem at_most_once (as : List Act) (h : Nat) : calls h (run init as) ≤ 1 := by
  have : tc h (run init as) ≤ 1 := by rw [token_conservation]; split <;> decide
  unfold tc at this
  unfold calls
  omega

/-- An executed handler is neither queued nor armed nor being executed: it can never run again. -/
theorem executed_is_gone (as : List Act) (h : Nat) (hx : calls h (run init as) = 1) :
    cnt h (queueToks (run init as).queue) = 0 ∧ cnt h (mapToks (run init as).map) = 0 ∧
    cnt h ((run init as).timers.map (·.tok)) = 0 ∧ cnt h (runToks (run init as).running) = 0 := by
  have : tc h (run init as) ≤ 1 := by rw [token_conservation]; split <;> decide
  unfold tc at this
  unfold calls at hx
  omega

/-- **Handlers run only on the loop thread**: no operation of the public API, from any thread — also when `set_event`
runs the functor directly on the caller's thread — invokes a handler (`runs_on_loop_thread` is the other half). -/
theorem ops_never_invoke (s : St) (o : Op) : (opStep s o).log = s.log :=
  (opStep_trans s o).log.resolve_right fun ⟨_, _, _, _, ha, _⟩ => nomatch ha

/-- The loop thread invokes a handler only in the `executing` step of `run_one`'s drain loop, i.e.
with the mutex released, the popped `completion_handler` in its local variable. -/
theorem runs_on_loop_thread (s : St) (i : LoopInp) (hne : (loopStep s i).log ≠ s.log) :
    s.phase = .executing ∧ ∃ t c n, (s.running = some (.ev t c n) ∨ (s.running = some (.fn t) ∧ c = .ok ∧ n = 0)) ∧
      (loopStep s i).log = s.log ++ [⟨t, c, n, s.clock⟩] := by
  obtain ⟨_, t, c, n, _, hp, hr, hl⟩ := (loopStep_trans s i).log.resolve_left hne
  exact ⟨hp, t, c, n, hr, hl⟩

/-- two `on_readable` on descriptor 0 from another thread while the loop polls; then the descriptor is reported readable -/
def d12Witness : List Act :=
  let l : Act := .loop {}
  let lr : Act := .loop { events := [{ fd := 0, rd := true, wr := false, err := false }] }
  [l, l,                                   -- run_one: lock … unlock before poll
   .op (.setIo (some 0) .rd true .sysErr),  -- handler 0
   .op (.setIo (some 0) .rd true .sysErr),  -- handler 1, same slot
   l, l, l, l, l, l, l,                     -- next run_one: both queued setters executed, parked again
   lr, l, l, l, l]                          -- readable reported: dispatched, executed, parked again

/-- **Counter-example to the unrestricted "exactly once"** (known finding `aio-double-arm-drops-handler`): after the
witness history handler 0 has never been invoked and is neither armed nor queued — it was destroyed by
`map_[fd].readable = h` — while handler 1 ran once.  Replayed on the real loop on every run. -/
theorem double_arm_drops_first_counterexample :
    let s := run init d12Witness
    calls 0 s = 0 ∧ calls 1 s = 1 ∧ s.queue = [] ∧ s.running = none ∧ mapToks s.map = [] ∧ s.timers = []
      ∧ s.lost.map (·.id) = [0] ∧ s.stop = false ∧ s.phase = .polling := by
  decide +kernel

/-- while the loop polls another thread posts handler 0 and arms handler 1 on descriptor 0 (a queued functor); handler 0,
run by the loop thread (`polling_ = false`), calls `cancel_io_events(0)` and then closes the descriptor -/
def overtakeWitness : List Act :=
  let l : Act := .loop {}
  [l, l,
   .op .post,                                -- handler 0
   .op (.setIo (some 0) .rd true .sysErr),   -- handler 1: queued `io_event_setter`
   l, l, l,                                  -- poll returns, next run_one, handler 0 popped
   .op (.cancelIo (some 0)),                 -- issued by handler 0: the canceler body runs directly
   l, l, l, l]                               -- handler 0 logged; setter popped and run; parked again

/-- **Counter-example to "cancelled or closed first ⇒ completed with the cancel code"** for an arm that is still a
queued functor (known finding `aio-queued-arm-overtaken-by-cancel-close`): the cancel issued *after* the arm runs *before*
it and finds nothing; handler 1 ends up armed, never queued, never invoked, and once the descriptor is closed no event
will complete it.  Replayed on the real loop on every run. -/
theorem cancel_overtakes_queued_arm_counterexample :
    let s := run init overtakeWitness
    (ioGet s.map 0).rd = some ⟨1, .io⟩ ∧ calls 1 s = 0 ∧ calls 0 s = 1 ∧ s.queue = [] ∧ s.running = none
      ∧ s.lost = [] ∧ s.phase = .polling := by
  decide +kernel

/-- third witness: timer 0 (slot 5, deadline 0) is expired by `run_one` and queued; before it runs a second
timer is armed and the slot search returns the now free slot 5; the owner of the first timer calls cancel with
its (stale) event id -/
def staleIdWitness : List Act :=
  let l : Act := .loop {}
  [l, l, .op (.setTimer 0 5), l, l, l, .op (.setTimer 200 5), .op (.cancelTimer 5), l, l, l, l, l, l, l, l]

/-- **Counter-example to "with a cancellation code only if it was cancelled"** (known finding
`aio-stale-timer-id-cancels-other-timer`): timer handler 1 (deadline 200, never cancelled by anybody, clock
still 0) is invoked with `canceled`, because `cancel_timer_event` was given the id of timer 0, which had
already fired; handler 0 still runs once, with success. -/
theorem stale_timer_id_cancels_other_counterexample :
    let s := run init staleIdWitness
    s.log.map (fun e => (e.tok.id, e.code)) = [(0, .ok), (1, .canceled)] ∧ s.clock = 0 ∧ s.timers = [] := by
  decide +kernel

/-- a step arms a slot that already holds a handler -/
def DoubleArmAt (s : St) (a : Act) : Prop :=
  (∃ fd e ok er, a = .op (.setIo (some fd) e ok er) ∧ ¬ (s.polling || !s.reactorUp) = true ∧ ok = true ∧
      (match e with | .rd => (ioGet s.map fd).rd | .wr => (ioGet s.map fd).wr) ≠ none)
  ∨ (∃ i fd e t, a = .loop i ∧ s.phase = .executing ∧ s.running = some (.setter (some fd) e t) ∧ i.selOk = true ∧
      (match e with | .rd => (ioGet s.map fd).rd | .wr => (ioGet s.map fd).wr) ≠ none)

def NoDoubleArm : St → List Act → Prop
  | _, [] => True
  | s, a :: as => ¬ DoubleArmAt s a ∧ NoDoubleArm (step s a) as

/-- `DoubleArmAt` is `Overwrites` at the two steps that run the setter body: the direct call, and (`doubleArmAt_exec`) the
loop thread running a queued setter; `handlerAt` unfolds to the `match` in `DoubleArmAt` -/
theorem doubleArmAt_setIo {s : St} {fd : Option Nat} {e : Ev} {ok : Bool} (er : Code)
    (hdirect : ¬(s.polling || !s.reactorUp) = true) (h : Overwrites s fd e ok) :
    DoubleArmAt s (.op (.setIo fd e ok er)) := by
  obtain ⟨f, rfl, hok, hoccupied⟩ := h
  exact .inl ⟨f, e, ok, er, rfl, hdirect, hok, hoccupied⟩

theorem doubleArmAt_exec {s : St} {i : LoopInp} {fd : Option Nat} {e : Ev} {t : Tok} (hp : s.phase = .executing)
    (hr : s.running = some (.setter fd e t)) (h : Overwrites s fd e i.selOk) : DoubleArmAt s (.loop i) := by
  obtain ⟨f, rfl, hok, hoccupied⟩ := h
  exact .inr ⟨i, f, e, t, rfl, hp, hr, hok, hoccupied⟩

theorem lost_step (s : St) (a : Act) (hn : ¬ DoubleArmAt s a) : (step s a).lost = s.lost := by
  generalize hs : step s a = s'
  cases hs ▸ step_trans s a with
  | op _ _ _ _ _ hl =>
    exact hl.resolve_right fun ⟨_, _, _, er, ho, hdirect, hover⟩ => hn (ho ▸ doubleArmAt_setIo er hdirect hover)
  | exec i _ hp _ hl => exact hl.resolve_right fun ⟨_, _, _, hr, hover⟩ => hn (doubleArmAt_exec hp hr hover)
  | ctl _ _ _ _ _ _ _ hl => exact hl
  | _ => rfl

/-- **No handler is silently destroyed** — *partial*: needs the explicit hypothesis `NoDoubleArm`
(the caller never arms a readable/writeable slot that still holds a handler).  The full statement
`∀ as, (run init as).lost = []` is false of the code: `double_arm_drops_first_counterexample`. -/
theorem no_loss_partial (as : List Act) (s : St) (hs : s.lost = []) (hn : NoDoubleArm s as) :
    (run s as).lost = [] := by
  induction as generalizing s with
  | nil => exact hs
  | cons a as ih =>
    simp only [run, List.foldl_cons]
    exact ih (step s a) (by rw [lost_step s a hn.1]; exact hs) hn.2

/-- the full statement that `no_loss_partial` cannot reach (refuted by the counter-example) -/
def FullNoLoss : Prop := ∀ as : List Act, (run init as).lost = []
theorem fullNoLoss_false : ¬ FullNoLoss := fun h => by
  obtain ⟨_, _, _, _, _, _, hlost, _⟩ := double_arm_drops_first_counterexample
  rw [h d12Witness] at hlost
  cases hlost

/-- **Exactly once or still pending** — *partial* (`NoDoubleArm`): after a history without double arming in which no
`reset()` dropped a handler, every issued handler has been invoked exactly once or is still held by the loop exactly
once (queued / armed / timer / being executed).  Whether the pending ones do run is `exactly_once_if_running`. -/
theorem invoked_or_pending_partial (as : List Act) (h : Nat) (hn : NoDoubleArm init as)
    (hd : (run init as).dropped = []) (hi : h < (run init as).next) :
    calls h (run init as) + (cnt h (queueToks (run init as).queue) + cnt h (runToks (run init as).running)
      + cnt h (mapToks (run init as).map) + cnt h ((run init as).timers.map (·.tok))) = 1 := by
  have hc := token_conservation as h
  have hl := no_loss_partial as init rfl hn
  unfold tc at hc
  unfold calls
  rw [hl, hd, if_pos hi] at hc
  simp at hc
  omega

example : NoDoubleArm init [.op (.setIo (some 3) .rd true .sysErr), .loop {}, .loop {}, .loop {}, .op (.setIo (some 3) .wr true .sysErr)] := by
  refine ⟨?_, ?_, ?_, ?_, ?_, trivial⟩
  · -- the reactor does not exist yet: the arm is queued
    rintro (⟨_, _, _, _, _, h, _⟩ | ⟨_, _, _, _, h, _⟩)
    · exact h rfl
    · cases h
  · rintro (⟨_, _, _, _, h, _⟩ | ⟨_, _, _, _, _, h, _⟩) <;> cases h
  · rintro (⟨_, _, _, _, h, _⟩ | ⟨_, _, _, _, _, h, _⟩) <;> cases h
  · -- the queued setter runs: the readable slot of descriptor 3 is empty
    rintro (⟨_, _, _, _, h, _⟩ | ⟨_, _, _, _, _, _, h, _, hn⟩)
    · cases h
    · cases h; exact hn rfl
  · -- direct arm of the writeable slot, empty too
    rintro (⟨_, _, _, _, h, _, _, hn⟩ | ⟨_, _, _, _, h, _⟩)
    · cases h; exact hn rfl
    · cases h

/-- **A timer never fires early.** After any history, every log entry that records a timer handler
(deadline `d`) invoked with success carries a clock value ≥ `d`; `clock` is the largest `ptime::now()`
that `run_one` had read before the invocation (with a monotone clock: not before the deadline). -/
theorem timer_not_early (as : List Act) (e : LogEntry) (d : Nat)
    (he : e ∈ (run init as).log) (hk : e.tok.kind = .timer d) (hc : e.code = .ok) : d ≤ e.clock :=
  (TInv_run as).l e he d hk hc

/-- … and in every reachable state with `stop = false`, `run_one`'s expiry step queues **every** due timer (the table
is sorted, so the prefix it takes is all of them), each with success. -/
theorem due_timer_queued (as : List Act) (i : LoopInp) (t : Timer)
    (ht : t ∈ (run init as).timers) (hd : t.deadline ≤ i.now) (hs : (run init as).stop = false) :
    QItem.ev t.tok .ok 0 ∈ (loopStep.afterDrain (run init as) i).queue := by
  rw [afterDrain_go i hs]
  exact List.mem_append_right _ (List.mem_map.2 ⟨t, due_complete i.now _ (TInv_run as).sorted t ht hd, rfl⟩)

/-- **Cancelling an armed timer** (one critical section): exactly that handler is queued with `canceled`,
behind everything already queued, and the timer is disarmed (so `run_one` cannot also expire it). -/
theorem cancel_timer_completes_canceled (s : St) (slot : Nat) (t : Timer)
    (h : s.timers.find? (·.slot == slot) = some t) :
    (opStep s (.cancelTimer slot)).queue = s.queue ++ [.ev t.tok .canceled 0] ∧
    (opStep s (.cancelTimer slot)).timers = removeSlot slot s.timers := by
  simp [opStep, h]

/-- **Cancelling / closing a descriptor**: the canceler body queues both armed handlers with `canceled` and leaves both
slots empty and the registration cleared; when `cancel_io_events` skips it, neither slot holds a handler; otherwise the
body is run directly or queued as a functor, by `polling_ || !reactor_`. -/
theorem cancel_io_completes_canceled (s : St) (fd : Nat) :
    (cancelerBody s fd).queue = s.queue ++ optItem (ioGet s.map fd).rd .canceled ++ optItem (ioGet s.map fd).wr .canceled
    ∧ ioGet (cancelerBody s fd).map fd = {}
    ∧ (cancelNeeded s fd = false → (ioGet s.map fd).rd = none ∧ (ioGet s.map fd).wr = none)
    ∧ (cancelNeeded s fd = true → (s.polling || !s.reactorUp) = false → opStep s (.cancelIo (some fd)) = cancelerBody s fd)
    ∧ (cancelNeeded s fd = true → (s.polling || !s.reactorUp) = true → opStep s (.cancelIo (some fd)) = push s (.canceler fd)) := by
  refine ⟨rfl, ?_, ?_, ?_, ?_⟩
  · exact ioGet_ioSet ..
  · intro h
    unfold cancelNeeded at h
    split at h
    · cases h
    · simp at h
      exact ⟨h.1.2, h.2⟩
  · intro h1 h2; simp [opStep, h1, h2]
  · intro h1 h2; simp [opStep, h1, h2]

/-- **The code a completion was queued with is the code it is invoked with**: popping moves the head of the
queue unchanged into the loop thread's local, and the next step of the loop thread logs exactly it. -/
theorem queued_code_is_final (s : St) (i i' : LoopInp) (q : QItem) (rest : List QItem)
    (hq : s.queue = q :: rest) (hp : s.phase = .draining) (hs : s.stop = false) (hc : s.counter > 0) :
    (loopStep s i).running = some q ∧ (loopStep s i).queue = rest ∧
    (match q with
     | .ev t c n => (loopStep (loopStep s i) i').log = s.log ++ [⟨t, c, n, s.clock⟩]
     | .fn t => (loopStep (loopStep s i) i').log = s.log ++ [⟨t, .ok, 0, s.clock⟩]
     | _ => True) := by
  have h1 := loopStep_pop i hp hq hs hc
  refine ⟨by rw [h1], by rw [h1], ?_⟩
  cases q with
  | fn | ev => rw [h1, loopStep_exec i' rfl rfl]; rfl
  | _ => trivial

/-- **A reported event dispatches the armed handler**: if poll reports descriptor `fd` readable (or in error), a
readable handler is armed and the loop's re-`select` succeeds (`e.selOk`), it is queued — with success, or
`select_failed` for an error event — and the slot is emptied; same for writeable. -/
theorem ready_dispatches (s : St) (e : Event) (t : Tok) (hsel : e.selOk = true) :
    ((ioGet s.map e.fd).rd = some t → (e.rd = true ∨ e.err = true) →
        QItem.ev t (if e.err then .selectFailed else .ok) 0 ∈ (dispatchFd s e).queue ∧
        (ioGet (dispatchFd s e).map e.fd).rd = none) ∧
    ((ioGet s.map e.fd).wr = some t → (e.wr = true ∨ e.err = true) →
        QItem.ev t (if e.err then .selectFailed else .ok) 0 ∈ (dispatchFd s e).queue ∧
        (ioGet (dispatchFd s e).map e.fd).wr = none) := by
  constructor
  · intro hrd hev
    unfold dispatchFd
    simp only [ioGet_ioSet, hsel, hrd]
    -- the slot ends up empty because the overload selected there moves the callback (`Gen.dispatchReadableMoves`)
    rcases hev with hev | hev <;> simp [hev, optItem, afterTake, Gen.dispatchReadableMoves]
  · intro hwr hev
    unfold dispatchFd
    simp only [ioGet_ioSet, hsel, hwr]
    -- likewise by `Gen.dispatchWriteableMoves`
    rcases hev with hev | hev <;> simp [hev, optItem, afterTake, Gen.dispatchWriteableMoves]

/-- Table obligation (regenerated from reactor.cpp for epoll, poll and select): every kernel report over the bits IN, PRI,
OUT, ERR, HUP (select: membership in the read/write/except sets) that ends a wait for readability (`readDone`: IN, ERR or
HUP) becomes a reactor event carrying `in` or `err`, every one that ends a wait for writability one carrying `out` or
`err`; a bare hang-up is never the empty event. -/
theorem kernel_report_not_lost (b : Backend) (k : Fin 32) :
    (k.val &&& readDone b ≠ 0 → (kernelToEvent b 0 k.val).rd = true ∨ (kernelToEvent b 0 k.val).err = true) ∧
    (k.val &&& writeDone b ≠ 0 → (kernelToEvent b 0 k.val).wr = true ∨ (kernelToEvent b 0 k.val).err = true) := by
  cases b <;> (revert k; decide +kernel)

/-- … and a registration for `in` / `out` requests exactly the kernel's readable / writable bit. -/
theorem registration_requests_armed_bits (b : Backend) :
    applyTable (fromUserTable b) Gen.userIn = kernelIn b ∧ applyTable (fromUserTable b) Gen.userOut = kernelOut b ∧
    applyTable (fromUserTable b) (Gen.userIn ||| Gen.userOut) = kernelIn b ||| kernelOut b := by
  cases b <;> decide

/-- **Every kernel ready / hang-up / error report on an armed descriptor dispatches the armed handler**, on each
back-end: the generated translation table composed with `run_one`'s dispatch loop queues the readable handler (with
some code: `ready_dispatches`) and empties its slot; same for the writeable one. -/
theorem kernel_report_dispatches (b : Backend) (s : St) (fd k : Nat) (t : Tok) (hk : k < 32) :
    ((ioGet s.map fd).rd = some t → k &&& readDone b ≠ 0 →
        (∃ c, QItem.ev t c 0 ∈ (dispatchFd s (kernelToEvent b fd k)).queue) ∧
        (ioGet (dispatchFd s (kernelToEvent b fd k)).map fd).rd = none) ∧
    ((ioGet s.map fd).wr = some t → k &&& writeDone b ≠ 0 →
        (∃ c, QItem.ev t c 0 ∈ (dispatchFd s (kernelToEvent b fd k)).queue) ∧
        (ioGet (dispatchFd s (kernelToEvent b fd k)).map fd).wr = none) := by
  have hnl := kernel_report_not_lost b ⟨k, hk⟩
  have hrd := ready_dispatches s (kernelToEvent b fd k) t rfl
  exact ⟨fun harm hdone => (hrd.1 harm (hnl.1 hdone)).imp_left fun h => ⟨_, h⟩,
    fun harm hdone => (hrd.2 harm (hnl.2 hdone)).imp_left fun h => ⟨_, h⟩⟩

/-- **Invariant**: along every history of reactor requests, application closes and number re-use (after the cancel
was processed), the epoll cache equals the kernel's interest set on every open descriptor. -/
theorem epoll_cache_invariant (opened : Nat → Bool) (ops : List EpOp) : EpInv (epRun (epInit opened) ops) :=
  epInv_run (e := epInit opened) (fun _ => ⟨fun _ => rfl, fun _ => rfl, nofun⟩) ops

/-- **Re-used descriptor numbers**: from any `e` with `EpInv`, the application closes `fd` before the loop's
EPOLL_CTL_DEL; the cancel is processed; a new descriptor gets the same number and a wait `g`
is armed on it: `select` reports no error and the kernel holds exactly that interest set. -/
theorem epoll_reused_fd_is_registered (e : Epoll) (hi : EpInv e) (fd g : Nat) (hg : g ≠ 0) :
    let e' := epRun e [.closeFd fd, .sel fd 0, .reuse fd]
    e'.isOpen fd = true ∧ (epSelect e' fd g).2 = true ∧ kflags (epSelect e' fd g).1 fd = g := by
  intro e'
  have hopen : e'.isOpen fd = true := by
    -- the close leaves the number closed, `select(fd, 0)` leaves its cache entry 0: the number may be re-used
    have ho : (epSelect (epStep e (.closeFd fd)) fd 0).1.isOpen fd = false := by rw [epSelect_eq]; exact if_pos rfl
    have hc := epoll_select_records (epStep e (.closeFd fd)) fd 0
    show (epStep (epSelect (epStep e (.closeFd fd)) fd 0).1 (.reuse fd)).isOpen fd = true
    generalize (epSelect (epStep e (.closeFd fd)) fd 0).1 = e2 at hc ho
    rw [epStep, if_pos ⟨ho, hc⟩]
    exact if_pos rfl
  exact ⟨hopen, epoll_select_on_open_fd e' (epInv_run hi _) fd g hopen⟩

example : EpInv (epRun (epInit fun _ => true) [.sel 7 1, .closeFd 7, .sel 7 0, .reuse 7, .sel 7 1]) :=
  epoll_cache_invariant _ _

/-- **On error: post the handler once and return without arming.**  Generated from the source: both `dont_block`
overloads post the handler once on their error branch and return false; each of the six asynchronous entry points of
`stream_socket` and `acceptor` starts with `if(!dont_block(h)) return;`; every branch after that guard schedules the
handler exactly once: one posted completion, or one armed wait / continuation object. -/
theorem device_error_path_completes_once :
    Gen.dontBlockEvPostsOnError = 1 ∧ Gen.dontBlockEvReturnsOnError = false ∧
    Gen.dontBlockIoPostsOnError = 1 ∧ Gen.dontBlockIoReturnsOnError = false ∧
    (∀ e ∈ Gen.deviceEntries, e.2.2.1 = true ∧ ∀ br ∈ e.2.2.2, br.1 + br.2 = 1) ∧
    Gen.deviceEntries.length = 6 := by
  decide

/-- completions scheduled when an entry point is called on an unusable descriptor: the guard's posts, plus, if the guard
lets the call go on, what the continuing branch schedules -/
def completionsOnBadDescriptor (posts : Nat) (returns : Bool) (guard : Bool) (branch : Nat × Nat) : Nat :=
  if guard then (if returns then posts + branch.1 + branch.2 else posts) else branch.1 + branch.2

theorem bad_descriptor_completes_exactly_once :
    ∀ e ∈ Gen.deviceEntries, ∀ br ∈ e.2.2.2,
      completionsOnBadDescriptor (if e.2.1 = "ev" then Gen.dontBlockEvPostsOnError else Gen.dontBlockIoPostsOnError)
        (if e.2.1 = "ev" then Gen.dontBlockEvReturnsOnError else Gen.dontBlockIoReturnsOnError) e.2.2.1 br = 1 := by
  decide

/-- **Every path through a completion functor completes once**: regenerated from `stream_socket.cpp` / `acceptor.cpp`
(`reader_some`, `writer_some`, `async_connector`, `reader_all`/`writer_all` with their `run()`, `async_acceptor`): on
every path through the if/else tree with its early returns the user's handler is called (or posted) exactly once and
nothing is re-armed, or exactly one wait is re-armed / the continuation restarted and the handler is not called. -/
theorem completion_functor_paths_complete_once :
    (∀ f ∈ Gen.functorPaths, f.2 ≠ [] ∧ ∀ p ∈ f.2, (p.1 = 1 ∧ p.2 = 0) ∨ (p.1 = 0 ∧ p.2 = 1)) ∧
    Gen.functorPaths.length = 8 ∧
    -- which branch is which: an error passed in completes; after the read/write, "nothing transferred and the error is
    -- would-block" re-arms, anything else (success, data, another error) completes; the "all" loops complete when the
    -- buffer is done or on an error other than would-block; a would-block accept restarts the accept
    Gen.functorConds =
      [("reader_some", ["e", "n==0&&err&&basic_io_device::would_block(err)"]),
       ("writer_some", ["e", "n==0&&err&&basic_io_device::would_block(err)"]),
       ("reader_all", ["e", "buf.empty()||(err&&!basic_io_device::would_block(err))"]),
       ("writer_all", ["e", "buf.empty()||(err&&!basic_io_device::would_block(err))"]),
       ("async_acceptor", ["e", "basic_io_device::would_block(reserr)"])] ∧
    Gen.closeCancelsBeforeOwnerTest = true :=
  ⟨by decide, rfl, rfl, rfl⟩

/-- **Exactly once under fairness.**  In a reachable state with the loop not stopped and `run()` not left (`hlive`) let a completion `q` (a
posted handler, or an event handler with its code) sit in the dispatch queue with `k` items in front of it.  If nobody
calls `stop()`/`reset()` and the loop thread takes a step after every finite batch of other threads' operations
(`fairActs`), at least `2k+6` times, then `q` has been invoked with exactly the arguments it was queued with — by
`at_most_once`, exactly once. -/
theorem exactly_once_if_running (as : List Act) (q : QItem) (k : Nat) (rounds : List (List Op × LoopInp))
    (hq : ∃ pre post, (run init as).queue = pre ++ q :: post ∧ pre.length = k)
    (hlive : (run init as).stop = false ∧ (run init as).phase ≠ .stopped ∧ (run init as).phase ≠ .failed)
    (hlen : 2 * k + 6 ≤ rounds.length)
    (ho : ∀ r ∈ rounds, ∀ o ∈ r.1, KeepsRunning o) :
    logged q (run init (as ++ fairActs rounds)) ∧
    (∀ t c n, q = .ev t c n → calls t.id (run init (as ++ fairActs rounds)) = 1) ∧
    (∀ t, q = .fn t → calls t.id (run init (as ++ fairActs rounds)) = 1) := by
  have hlog : logged q (run init (as ++ fairActs rounds)) :=
    run_append .. ▸ fair_progress_loop q rounds _ (some k) hq hlive
      (Nat.lt_of_lt_of_le (Nat.lt_succ_of_le (need_le _ k)) hlen) ho
  -- a logged entry counts at least once, and by `at_most_once` at most once
  have hone : ∀ e : LogEntry, e ∈ (run init (as ++ fairActs rounds)).log →
      calls e.tok.id (run init (as ++ fairActs rounds)) = 1 := fun e he =>
    Nat.le_antisymm (at_most_once ..)
      (List.countP_pos_iff.2 ⟨e.tok, List.mem_map.2 ⟨e, he, rfl⟩, beq_self_eq_true _⟩)
  refine ⟨hlog, ?_, ?_⟩
  · rintro t c n rfl
    exact hlog.elim fun _ => hone _
  · rintro t rfl
    exact hlog.elim fun _ => hone _

example : ∃ pre post, (run init [.op .post, .op .post]).queue = pre ++ QItem.fn ⟨1, .plain⟩ :: post ∧ pre.length = 1 :=
  ⟨[.fn ⟨0, .plain⟩], [], rfl, rfl⟩

/-- **Job conservation**: after any history of posts, cancels, stops and worker steps (any number of workers, any
interleaving) every job id issued so far is in exactly one place: queued, held by the worker that popped it, started
(`ran`), or cancelled-with-`true`. -/
theorem job_conservation (n : Nat) (ops : List PoolOp) (id : Int) :
    pc id (poolRun (poolInit n) ops) = if 0 ≤ id ∧ id < ((poolRun (poolInit n) ops).jobId : Int) then 1 else 0 :=
  poolConserved_run n ops id

theorem job_at_most_once (n : Nat) (ops : List PoolOp) (id : Int) :
    jcnt id (poolRun (poolInit n) ops).ran ≤ 1 := by
  have := job_conservation n ops id
  unfold pc at this
  split at this <;> omega

/-- **A job for which `cancel` returned true never runs** — neither before the cancel (it was still queued)
nor in any continuation of the history. -/
theorem cancel_true_never_runs (n : Nat) (ops more : List PoolOp) (id : Int)
    (htrue : (poolRun (poolInit n) ops).queue.any (·.id == id) = true) :
    jcnt id (poolRun (poolInit n) (ops ++ [.cancel id] ++ more)).ran = 0 := by
  have h1 := job_conservation n (ops ++ [.cancel id] ++ more) id
  rw [poolRun_append, poolRun_append] at h1 ⊢
  -- the cancel records `id` as cancelled, the record stays, and conservation leaves no reference for `ran`
  have h2 : 1 ≤ icnt id (poolRun (poolRun (poolRun (poolInit n) ops) [.cancel id]) more).cancelled := by
    refine Nat.le_trans ?_ (poolRun_ghost more _).2.sublist.countP_le
    show 1 ≤ icnt id (poolStep (poolRun (poolInit n) ops) (.cancel id)).cancelled
    rw [poolStep, if_pos htrue]
    simp [icnt]
  unfold pc at h1
  split at h1 <;> omega

/-- **An exception escaping a job does not stop the pool**: whatever the job does, the step leaves `exited` and the
shutdown flag untouched and the worker idle again (its next step is the normal shutdown-test/pop). -/
theorem exception_does_not_stop_pool (p : Pool) (w : Nat) (j : Job) (h : p.workers.getD w none = some j) :
    (poolStep p (.workerRun w)).exited = p.exited ∧ (poolStep p (.workerRun w)).workers = p.workers.set w none
    ∧ (poolStep p (.workerRun w)).shutDown = p.shutDown ∧ (poolStep p (.workerRun w)).ran = p.ran ++ [j]
    ∧ (poolStep p (.workerRun w)).queue = p.queue := by
  rw [poolStep_run h]
  exact ⟨rfl, rfl, rfl, rfl, rfl⟩

/-- **Exactly once if the pool keeps running and the job is not cancelled** (fairness): a job queued with at most `i`
jobs in front of it has run exactly once after `i+1` take/run cycles of a live idle worker `w`, whatever clients post
and whichever *other* jobs they cancel in between (also when jobs in front of it throw). -/
theorem exactly_once_if_running_and_not_cancelled (n : Nat) (ops : List PoolOp) (j : Job) (w i : Nat)
    (rounds : List (List PoolOp))
    (hr : Ready w (poolRun (poolInit n) ops)) (hq : QueuedWithin j i (poolRun (poolInit n) ops))
    (hlen : i + 1 ≤ rounds.length) (ho : ∀ ext ∈ rounds, ∀ o ∈ ext, ClientOp j.id o) :
    jcnt j.id (fairRun w (poolRun (poolInit n) ops) rounds).ran = 1 := by
  refine Nat.le_antisymm ?_ (fair_progress j w i rounds _ hr hq hlen ho)
  rw [fairRun_eq, ← poolRun_append]
  exact job_at_most_once ..

example : Ready 0 (poolRun (poolInit 1) [.post true, .post false]) ∧
    QueuedWithin ⟨1, false⟩ 1 (poolRun (poolInit 1) [.post true, .post false]) := by
  refine ⟨⟨rfl, by decide, rfl, rfl⟩, ⟨[⟨0, true⟩], [], rfl, by decide⟩⟩

end Cppcms.C17.Props
