import Cppcms.Common
import Cppcms.C17.Model
import Cppcms.C17.Spec
/-!
Line-protocol driver for C17.

`L <ns>+<np>+<nc>+<na> <ntimer> P0=<ops> P1=<ops> … S <script ops>` : one event-loop scenario (sockets, pipes,
connectors, acceptors).  The script is the history: ops issued by the driving thread while the loop thread is parked at its poll point
(`polling_ = true`), `step[:f]` = let the loop thread run one full `run_one` iteration reporting only
socket `f`'s readiness; a handler with program `Pi` issues `Pi`'s ops from inside its invocation
(loop thread, `polling_ = false`).  Everything is executed with `Model.opStep` / `Model.loopStep`.

`K <threads> <ops>` : one thread-pool scenario.
`J …` / `JK …` : the property predicates of `Spec.lean` evaluated on observations of the real code.
-/
open Cppcms Cppcms.C17

inductive SOp
  | post (p : Nat)
  | pev (p : Nat) (c : Code)
  | tm (k dl p : Nat)
  | tc (k : Nat)
  | arm (f : Option Nat) (e : Ev) (p : Nat)
  | ca (f : Nat)
  | cl (f : Nat)
  | pw (f : Nat)
  | dr (f : Nat)
  | stop
  | setNow (n : Nat)
  | start
  | step (f : Option Nat)
  | reset
  | dev (f : Option Nat) (p : Nat)   -- async_connect / async_accept / async_read_some / async_write_some on a device
  | conn (f : Nat) (good : Bool) (p : Nat)   -- open() + async_connect: to a listener that drops SYNs (pending) / accepts
  | acc (f : Nat) (p : Nat)                  -- acceptor::async_accept
  | readAll (f n p : Nat)                    -- stream_socket::async_read of n bytes
  | writeBig (f p : Nat)                     -- stream_socket::async_write of far more than the socket buffer takes
  | readSome (f p : Nat)                     -- stream_socket::async_read_some (1 byte buffer) on an open socket
  | nonOwnerClose (f : Nat)                  -- release(); close(): cancels the waits, the descriptor stays open
  | rawClose (f : Nat)               -- ::close(fd) by the application, then cancel_io_events(fd)
  | reopen (f : Nat)                 -- a new socket pair whose descriptor gets the number device f had
  | bad
  deriving Inhabited

structure Sock where
  isOpen : Bool := true
  pending : Nat := 0
  reopenable : Bool := false  -- closed while run() was executing and no reset() since: its number is still free
  gen : Nat := 0         -- incremented whenever the descriptor behind the device changes (closed, re-opened)
  kind : Nat := 0        -- 0 socket of a socketpair, 1 read end of a pipe, 2 write end of a pipe, 3 TCP connector, 5 acceptor
  conn : Nat := 0        -- connector: 1 connect in progress (SYNs dropped), 2 connected
  nonowner : Bool := false  -- release()d: close() cancels but neither closes nor forgets the descriptor
  wfull : Bool := false  -- the peer never reads and the send buffer is full: not writable any more
  peer : Nat := 0        -- device index of the other end (pipes)
  deriving Inhabited

structure TObj where
  deadline : Nat := 0
  eventId : Option Nat := none
  deriving Inhabited

structure D where
  st : St := {}
  progs : List (List SOp) := []
  hprog : List Nat := []
  htimer : List (Option Nat) := []
  hgen : List Nat := []       -- handler id -> generation of the device at the time the wait was issued
  -- completion functors of stream_socket/acceptor re-arm themselves: every re-arm is a fresh model token that stands
  -- for the same user handler (`huid`); only the invocation that calls the user's handler is shown in the log
  huid : List Nat := []       -- model token id -> user handler id (what the harness counts)
  ukind : List String := []   -- user handler id -> kind as printed
  hcont : List Nat := []      -- model token id -> 0 plain, 1 async_connector, 2 async_acceptor, 3 reader_all
  hrem : List Nat := []       -- reader_all: bytes still missing
  hfd : List Nat := []        -- device of the continuation
  logVis : List Bool := []    -- per model log entry: did it call the user's handler
  socks : List Sock := []
  tobjs : List TObj := []
  now : Nat := 0
  nextSlot : Nat := 0
  execAt : List Nat := []
  started : Bool := false
  resetHappened : Bool := false
  bad : Bool := false
  backend : String := "poll"  -- epoll: reactor::select is a system call (EBADF on a closed descriptor); select: select() fails with EBADF while a closed descriptor is registered
  stale : Nat := 0            -- number of setter functors that ran after their descriptor had been closed
  staleTc : Nat := 0          -- deadline_timer::cancel() with an event id that has already fired, while other timers are armed
  due : List Nat := []        -- spec-level expectation: handlers whose awaited condition the kernel reported while armed
  mustCancel : List Nat := [] -- spec-level expectation: waits cancelled by their owner before their deadline was reached
  outstanding : List (Option Nat) := []  -- per timer object: the wait that has not been invoked yet
  tainted : List Bool := []              -- per timer object: async_wait was issued while another wait was outstanding

def codeOf : String → Option Code
  | "ok" => some .ok | "canceled" => some .canceled | "selfail" => some .selectFailed
  | "badf" => some .badf | "syserr" => some .sysErr | _ => none

def codeStr : Code → String
  | .ok => "ok" | .canceled => "canceled" | .selectFailed => "selfail" | .badf => "badf" | .sysErr => "syserr"

def parseSOp (w : String) : SOp :=
  match w.splitOn ":" with
  | ["post", p] => match p.toNat? with | some p => .post p | none => .bad
  | ["pev", p, c] => match p.toNat?, codeOf c with | some p, some c => .pev p c | _, _ => .bad
  | ["tm", k, dl, p] => match k.toNat?, dl.toNat?, p.toNat? with | some k, some dl, some p => .tm k dl p | _, _, _ => .bad
  | ["tc", k] => match k.toNat? with | some k => .tc k | none => .bad
  | ["ar", f, p] => match p.toNat? with
    | some p => if f == "x" then .arm none .rd p else (match f.toNat? with | some f => .arm (some f) .rd p | none => .bad)
    | none => .bad
  | ["aw", f, p] => match p.toNat? with
    | some p => if f == "x" then .arm none .wr p else (match f.toNat? with | some f => .arm (some f) .wr p | none => .bad)
    | none => .bad
  | ["ca", f] => match f.toNat? with | some f => .ca f | none => .bad
  | ["cl", f] => match f.toNat? with | some f => .cl f | none => .bad
  | ["pw", f] => match f.toNat? with | some f => .pw f | none => .bad
  | ["dr", f] => match f.toNat? with | some f => .dr f | none => .bad
  | ["st"] => .stop
  | ["T", n] => match n.toNat? with | some n => .setNow n | none => .bad
  | ["start"] => .start
  | ["step"] => .step none
  | ["step", f] => match f.toNat? with | some f => .step (some f) | none => .bad
  | ["rs"] => .reset
  | ["xp", f, p] => match f.toNat?, p.toNat? with | some f, some p => .conn f false p | _, _ => .bad
  | ["xg", f, p] => match f.toNat?, p.toNat? with | some f, some p => .conn f true p | _, _ => .bad
  | ["xs", f, p] => match f.toNat?, p.toNat? with | some f, some p => .readSome f p | _, _ => .bad
  | ["xq", f, p] => match f.toNat?, p.toNat? with | some f, some p => .acc f p | _, _ => .bad
  | ["xW", f, p] => match f.toNat?, p.toNat? with | some f, some p => .writeBig f p | _, _ => .bad
  | [op, f, p] =>
    if op == "xc" || op == "xa" || op == "xr" || op == "xw" then
      match p.toNat? with
      | some p => if f == "x" || f == "y" then .dev none p else (match f.toNat? with | some f => .dev (some f) p | none => .bad)
      | none => .bad
    else .bad
  | ["xR", f, n, p] => match f.toNat?, n.toNat?, p.toNat? with | some f, some n, some p => .readAll f n p | _, _, _ => .bad
  | ["nc", f] => match f.toNat? with | some f => .nonOwnerClose f | none => .bad
  | ["rx", f] => match f.toNat? with | some f => .rawClose f | none => .bad
  | ["ro", f] => match f.toNat? with | some f => .reopen f | none => .bad
  | _ => .bad

def sockFd (d : D) (f : Option Nat) : Option Nat :=
  match f with
  | none => none
  | some f => if (d.socks.getD f {}).isOpen && f < d.socks.length then some f else none

def closedSock (sk : Sock) (started : Bool) : Sock :=
  { sk with isOpen := false, pending := 0, gen := sk.gen + 1, reopenable := started }

def kindStr : Kind → String
  | .plain => "p" | .timer d => s!"t:{d}" | .io => "i"

/-- bookkeeping after an op that may have issued a token -/
def noteIssue (d : D) (before : Nat) (p : Nat) (k : Option Nat) (g : Nat := 0)
    (uid : Option Nat := none) (kind : Option String := none) (cont : Nat := 0) (rem : Nat := 0) (fd : Nat := 0) : D :=
  if d.st.next > before then
    let u := uid.getD d.ukind.length
    let tokKind : String :=
      match (queueToks d.st.queue ++ mapToks d.st.map ++ d.st.timers.map (·.tok)).find? (·.id == before) with
      | some t => kindStr t.kind
      | none => "?"
    { d with hprog := d.hprog ++ [p], htimer := d.htimer ++ [k], hgen := d.hgen ++ [g], huid := d.huid ++ [u],
             hcont := d.hcont ++ [cont], hrem := d.hrem ++ [rem], hfd := d.hfd ++ [fd],
             ukind := if uid.isSome then d.ukind else d.ukind ++ [kind.getD tokKind] }
  else d

def uidOf (d : D) (id : Nat) : Nat := d.huid.getD id id

/-- ops that may be issued from anywhere (driving thread or inside a handler) -/
def doOp (d : D) : SOp → D
  | .post p => noteIssue { d with st := opStep d.st .post } d.st.next p none
  | .pev p c => noteIssue { d with st := opStep d.st (.postEv c 0) } d.st.next p none
  | .tm k dl p =>
    -- deadline_timer::expires_at(dl); async_wait(h): event_id_ = set_timer_event(deadline_, waiter{h})
    let slot := d.nextSlot
    let d' := { d with st := opStep d.st (.setTimer dl slot), nextSlot := slot + 1,
                       tobjs := d.tobjs.set k { deadline := dl, eventId := some slot },
                       tainted := if (d.outstanding.getD k none).isSome then d.tainted.set k true else d.tainted,
                       outstanding := d.outstanding.set k (some d.st.next) }
    noteIssue d' d.st.next p (some k)
  | .tc k =>
    -- deadline_timer::cancel(): only if event_id_ != -1
    -- API-level expectation, independent of deadline_timer's bookkeeping: the only outstanding wait of this
    -- object, still armed (deadline not yet reached by run_one), must complete with `canceled`
    let d := match d.outstanding.getD k none with
      | some h => if !(d.tainted.getD k false) && d.st.timers.any (fun t => t.tok.id == h)
                  then { d with mustCancel := d.mustCancel ++ [uidOf d h] } else d
      | none => d
    match (d.tobjs.getD k {}).eventId with
    | some slot => { d with staleTc := d.staleTc + (if !slotBusy d.st.timers slot && !d.st.timers.isEmpty then 1 else 0),
                            st := opStep d.st (.cancelTimer slot),
                            tobjs := d.tobjs.set k { (d.tobjs.getD k {}) with eventId := none } }
    | none => d
  | .arm f e p =>
    let g := match f with | some f => (d.socks.getD f {}).gen | none => 0
    -- run directly (not polling) while the table still holds waits of the previous descriptor with this number, whose
    -- canceler is still queued: the arm overtakes the cancel (mirror image of the overtaking finding); not judged
    let d := match sockFd d f with
      | some fd =>
        let io := ioGet d.st.map fd
        if !(d.st.polling || !d.st.reactorUp) && (io.rd.toList ++ io.wr.toList).any (fun t => d.hgen.getD t.id 0 != g)
        then { d with stale := d.stale + 1 } else d
      | none => d
    noteIssue { d with st := opStep d.st (.setIo (sockFd d f) e true .sysErr) } d.st.next p none g
  | .dev f p =>
    -- device wrappers on an unusable descriptor (never opened / closed): dont_block fails with EBADF, posts the
    -- handler once and the entry point returns (Props.bad_descriptor_completes_exactly_once); on a usable
    -- descriptor these operations do real I/O, which the scenarios do not use
    match sockFd d f with
    | none => noteIssue { d with st := opStep d.st (.postEv .badf 0) } d.st.next p none
    | some _ => { d with bad := true }
  | .rawClose f =>
    match sockFd d (some f) with
    | some fd => { d with socks := d.socks.set f (closedSock (d.socks.getD f {}) d.started),
                          st := opStep d.st (.cancelIo (some fd)) }
    | none => d
  | .reopen f =>
    let sk := d.socks.getD f {}
    -- only a number that was freed while the reactor already existed (and has not been re-created since) is known to
    -- be still free: otherwise epoll_create / the interrupter pipe may have taken it
    if f < d.socks.length && !sk.isOpen && sk.kind == 0 && sk.reopenable then
      { d with socks := d.socks.set f { sk with isOpen := true, pending := 0, gen := sk.gen + 1, reopenable := false } }
    else d
  | .ca f => { d with st := opStep d.st (.cancelIo (sockFd d (some f))) }
  | .cl f =>
    -- basic_io_device::close(): cancel(), then (if it owns it) close the descriptor, fd_ = invalid_socket
    if (d.socks.getD f {}).nonowner then
      (match sockFd d (some f) with
       | some fd => { d with st := opStep d.st (.cancelIo (some fd)) }
       | none => d)
    else
    match sockFd d (some f) with
    | some fd => { d with st := opStep d.st (.cancelIo (some fd)),
                          socks := d.socks.set f (closedSock (d.socks.getD f {}) d.started) }
    | none => d
  | .pw f =>
    let sk := d.socks.getD f {}
    -- socket: the peer (never closed) writes a byte; pipe read end: a byte is written into the write end if it is
    -- still open; on a write end the op means nothing
    if sk.kind == 0 || (sk.kind == 1 && (d.socks.getD sk.peer {}).isOpen) || (sk.kind == 5 && sk.isOpen) then
      { d with socks := d.socks.set f { sk with pending := sk.pending + 1 } }
    else d
  | .dr f => if (d.socks.getD f {}).isOpen then { d with socks := d.socks.set f { (d.socks.getD f {}) with pending := 0 } } else d
  | .stop => { d with st := opStep d.st .stop }
  | .conn f good p =>
    -- stream_socket::open(pf_inet); async_connect: dont_block succeeds, connect() returns EINPROGRESS, the connector
    -- functor is armed for writability
    let sk := d.socks.getD f {}
    if f < d.socks.length && sk.kind == 3 && !sk.isOpen then
      let d := { d with socks := d.socks.set f { sk with isOpen := true, gen := sk.gen + 1, conn := (if good then 2 else 1), reopenable := false } }
      noteIssue { d with st := opStep d.st (.setIo (some f) .wr true .sysErr) } d.st.next p none (sk.gen + 1) none (some "i") 1 0 f
    else { d with bad := true }
  | .acc f p =>
    let sk := d.socks.getD f {}
    if f < d.socks.length && sk.kind == 5 then
      match sockFd d (some f) with
      | none => noteIssue { d with st := opStep d.st (.postEv .badf 0) } d.st.next p none 0 none (some "i")   -- dont_block fails: posted
      | some fd => noteIssue { d with st := opStep d.st (.setIo (some fd) .rd true .sysErr) } d.st.next p none sk.gen none (some "i") 2 0 f
    else { d with bad := true }
  | .readAll f n p =>
    let sk := d.socks.getD f {}
    if f < d.socks.length && sk.kind == 0 then
      match sockFd d (some f) with
      | none => noteIssue { d with st := opStep d.st (.postEv .badf 0) } d.st.next p none 0 none (some "i")
      | some fd =>
        -- reader_all::run(): read what is there; complete -> post, else wait for readability
        let take := min sk.pending n
        let d := { d with socks := d.socks.set f { sk with pending := sk.pending - take } }
        if take == n then noteIssue { d with st := opStep d.st (.postEv .ok n) } d.st.next p none 0 none (some "i")
        else noteIssue { d with st := opStep d.st (.setIo (some fd) .rd true .sysErr) } d.st.next p none sk.gen none (some "i") 3 (n - take) f
    else { d with bad := true }
  | .nonOwnerClose f =>
    -- basic_io_device::close() on a device that does not own its descriptor: `if(has_io_service()) cancel();` and
    -- then `if(!owner_) return;` - the waits are cancelled, nothing is closed, fd_ keeps its value
    match sockFd d (some f) with
    | some fd => { d with st := opStep d.st (.cancelIo (some fd)), socks := d.socks.set f { (d.socks.getD f {}) with nonowner := true } }
    | none => d
  | .readSome f p =>
    let sk := d.socks.getD f {}
    if f < d.socks.length && sk.kind == 0 then
      match sockFd d (some f) with
      | none => noteIssue { d with st := opStep d.st (.postEv .badf 0) } d.st.next p none 0 none (some "i")
      | some fd =>
        if sk.pending > 0 then
          noteIssue { d with socks := d.socks.set f { sk with pending := sk.pending - 1 }, st := opStep d.st (.postEv .ok 1) } d.st.next p none 0 none (some "i")
        else noteIssue { d with st := opStep d.st (.setIo (some fd) .rd true .sysErr) } d.st.next p none sk.gen none (some "i") 4 0 f
    else { d with bad := true }
  | .writeBig f p =>
    let sk := d.socks.getD f {}
    if f < d.socks.length && sk.kind == 0 then
      match sockFd d (some f) with
      | none => noteIssue { d with st := opStep d.st (.postEv .badf 0) } d.st.next p none 0 none (some "i")
      | some fd =>
        -- the first write_some fills the socket buffer, the second one would block: writer_all waits for writability,
        -- which never comes (nobody reads the other side)
        let d := { d with socks := d.socks.set f { sk with wfull := true } }
        noteIssue { d with st := opStep d.st (.setIo (some fd) .wr true .sysErr) } d.st.next p none sk.gen none (some "i")
    else { d with bad := true }
  | _ => d

/-- let the loop thread run until it parks in poll or leaves run() -/
def settle : Nat → D → D
  | 0, d => { d with bad := true }
  | fuel+1, d =>
    match d.st.phase with
    | .idle | .draining => settle fuel { d with st := loopStep d.st { now := d.now } }
    | .executing =>
      let item := d.st.running
      -- environment: a queued setter whose descriptor was closed meanwhile: epoll_ctl fails with EBADF,
      -- the poll/select reactors only update their tables
      -- stale: the setter runs although the descriptor it was issued for has been closed meanwhile (also when the
      -- number has been handed out again: then it arms the wrong descriptor)
      let staleNow := match item with
        | some (.setter (some fd) _ t) => !(d.socks.getD fd {}).isOpen || d.hgen.getD t.id 0 != (d.socks.getD fd {}).gen
        | _ => false
      let closedNow := match item with
        | some (.setter (some fd) _ _) => !(d.socks.getD fd {}).isOpen
        | _ => false
      let selOk := !(closedNow && d.backend == "epoll")
      let d := if staleNow then { d with stale := d.stale + 1 } else d
      let d := { d with st := loopStep d.st { now := d.now, selOk := selOk, selErr := .badf } }
      match item with
      | some (.fn t) | some (.ev t _ _) =>
        let code : Code := match item with | some (.ev _ c _) => c | _ => .ok
        let fd := d.hfd.getD t.id 0
        let sk := d.socks.getD fd {}
        -- completion functors: does this invocation call the user's handler, or consume and re-arm?
        let (vis, d) : Bool × D :=
          match d.hcont.getD t.id 0 with
          | 2 =>   -- async_acceptor: error -> h(e); accept() ok -> h(ok); would block -> async_accept again
            if code != .ok then (true, d)
            else if sk.pending > 0 then (true, { d with socks := d.socks.set fd { sk with pending := sk.pending - 1 } })
            else
              let before := d.st.next
              let d := { d with st := opStep d.st (.setIo (sockFd d (some fd)) .rd true .sysErr) }
              (false, noteIssue d before (d.hprog.getD t.id 0) none sk.gen (some (uidOf d t.id)) none 2 0 fd)
          | 3 =>   -- reader_all: error -> h(e,count); read; complete -> h(ok,count); else on_readable again
            if code != .ok then (true, d)
            else
              let rem := d.hrem.getD t.id 0
              let take := min sk.pending rem
              let d := { d with socks := d.socks.set fd { sk with pending := sk.pending - take } }
              if take == rem then (true, d)
              else
                let before := d.st.next
                let d := { d with st := opStep d.st (.setIo (sockFd d (some fd)) .rd true .sysErr) }
                (false, noteIssue d before (d.hprog.getD t.id 0) none sk.gen (some (uidOf d t.id)) none 3 (rem - take) fd)
          | 4 =>   -- reader_some: error -> h(e,0); read_some; nothing there and would-block (spurious readiness: somebody
                   -- else consumed the data) -> on_readable again; else h(err,n)
            if code != .ok then (true, d)
            else if sk.pending > 0 then (true, { d with socks := d.socks.set fd { sk with pending := sk.pending - 1 } })
            else
              let before := d.st.next
              let d := { d with st := opStep d.st (.setIo (sockFd d (some fd)) .rd true .sysErr) }
              (false, noteIssue d before (d.hprog.getD t.id 0) none sk.gen (some (uidOf d t.id)) none 4 0 fd)
          | _ => (true, d)     -- plain handlers; async_connector: every path calls h exactly once
        let d := { d with execAt := d.execAt ++ [d.now], logVis := d.logVis ++ [vis] }
        if !vis then settle fuel d else
        -- deadline_timer::waiter::operator(): self->event_id_ = -1, then the user's handler
        let d := match d.htimer.getD t.id none with
          | some k => { d with tobjs := d.tobjs.set k { (d.tobjs.getD k {}) with eventId := none },
                               outstanding := if d.outstanding.getD k none == some t.id then d.outstanding.set k none else d.outstanding }
          | none => d
        let d := (d.progs.getD (d.hprog.getD t.id 0) []).foldl doOp d
        settle fuel d
      | _ => settle fuel d
    | _ => d

def backendOf (d : D) : Backend :=
  if d.backend == "epoll" then .epoll else if d.backend == "select" then .select else .poll

/-- Environment: what the Linux kernel reports for a registered descriptor (measured: pipe read end whose writer
closed: POLLHUP alone, or POLLIN|POLLHUP with buffered data; write end whose reader closed: POLLOUT|POLLERR;
select(): EOF = readable, EPIPE = writable, never exceptional).  poll/epoll bits IN=1 OUT=4 ERR=8 HUP=16,
select bits r=1 w=2. -/
def kernelReport (d : D) (fd : Nat) : Nat :=
  let io := ioGet d.st.map fd
  let sk := d.socks.getD fd {}
  let peerOpen := (d.socks.getD sk.peer {}).isOpen
  -- a registration made for a descriptor that has been closed since (its canceler is still queued) while the number
  -- has been handed out again: epoll's interest list is per open file, the entry vanished with the close, nothing is
  -- reported; poll()/select() work on numbers and report the state of the new descriptor to the old wait
  let oldReg := (io.rd.toList ++ io.wr.toList).any fun t => d.hgen.getD t.id 0 != sk.gen
  if !(io.curIn || io.curOut) then 0 else
  if oldReg && d.backend == "epoll" then 0 else
  match backendOf d with
  | .select =>
    let r := io.curIn && (sk.pending > 0 || (sk.kind == 1 && !peerOpen))
    let w := io.curOut && ((sk.kind == 0 && !sk.wfull) || sk.kind == 2 || (sk.kind == 3 && sk.conn == 2))
    (if r then 1 else 0) ||| (if w then 2 else 0)
  | _ =>
    let i := if io.curIn && sk.pending > 0 then 1 else 0
    let o := if io.curOut && ((sk.kind == 0 && !sk.wfull) || sk.kind == 2 || (sk.kind == 3 && sk.conn == 2)) then 4 else 0
    let h := if sk.kind == 1 && !peerOpen then 16 else 0
    let e := if sk.kind == 2 && !peerOpen then 8 else 0
    i ||| o ||| h ||| e

def readyEvents (d : D) (f : Option Nat) : List Event :=
  match sockFd d f with
  | none => []
  | some fd =>
    let k := kernelReport d fd
    if k == 0 then [] else [kernelToEvent (backendOf d) fd k]

/-- spec-level expectation for this step: armed handlers whose awaited condition is in the kernel's report -/
def dueNow (d : D) (f : Option Nat) : List Nat :=
  match sockFd d f with
  | none => []
  | some fd =>
    let k := kernelReport d fd
    let io := ioGet d.st.map fd
    -- (continuations excepted: whether a report completes a multi-step read/accept depends on how much arrived)
    let plain := fun (t : Tok) => d.hcont.getD t.id 0 == 0 || d.hcont.getD t.id 0 == 1
    ((if k &&& readDone (backendOf d) ≠ 0 then (io.rd.toList.filter plain).map (·.id) else [])
      ++ (if k &&& writeDone (backendOf d) ≠ 0 then (io.wr.toList.filter plain).map (·.id) else [])).map (uidOf d)

/-- select(): a registered descriptor that has been closed makes the call fail with EBADF -/
def selectFails (d : D) : Bool :=
  d.backend == "select" &&
    (List.range d.socks.length).any fun fd =>
      !(d.socks.getD fd {}).isOpen && ((ioGet d.st.map fd).curIn || (ioGet d.st.map fd).curOut)

def topOp (d : D) : SOp → D
  | .setNow n => { d with now := n }
  | .start =>
    if d.started then d
    else settle 100000 { d with started := true }
  | .step f =>
    if d.started && d.st.phase == .polling then
      let perr := selectFails d
      settle 100000 { d with due := d.due ++ (if perr then [] else dueNow d f),
                             st := loopStep d.st { now := d.now, events := readyEvents d f, pollErr := perr } }
    else d
  | .reset =>
    if d.st.phase == .stopped || d.st.phase == .failed || !d.started then
      { d with st := opStep d.st .reset, started := false, resetHappened := true,
               socks := d.socks.map fun sk => { sk with reopenable := false } }
    else d
  | .bad => { d with bad := true }
  | o => doOp d o

instance : BEq Phase := ⟨fun a b => decide (a = b)⟩

def aliveToks (s : St) : List Nat :=
  (queueToks s.queue ++ (match s.running with | some q => queueToks [q] | none => []) ++ mapToks s.map
    ++ s.timers.map (·.tok)).map (·.id)

def insertSorted (x : Nat) : List Nat → List Nat
  | [] => [x]
  | y :: ys => if x ≤ y then x :: y :: ys else y :: insertSorted x ys
def sortNat (l : List Nat) : List Nat := l.foldr insertSorted []

def phaseStr : Phase → String
  | .idle => "idle" | .draining => "draining" | .executing => "executing" | .polling => "polling"
  | .stopped => "stopped" | .failed => "failed"

def allToks (s : St) : List Tok :=
  queueToks s.queue ++ (match s.running with | some q => queueToks [q] | none => []) ++ mapToks s.map
    ++ s.timers.map (·.tok) ++ s.log.map (·.tok) ++ s.dropped ++ s.lost

def dedup (l : List Nat) : List Nat :=
  l.foldl (fun acc x => if acc.contains x then acc else acc ++ [x]) []

def render (d : D) : String :=
  if d.bad then "bad-op" else
  let entries := (d.st.log.zip (d.execAt.zip d.logVis)).filter fun (_, _, v) => v
  let logs := entries.map fun (e, a, _) => s!"{uidOf d e.tok.id}:{codeStr e.code}:{a}:L"
  let kinds := (List.range d.ukind.length).map fun i => s!"{i}:{d.ukind.getD i "?"}"
  let alive := sortNat (dedup ((aliveToks d.st).map (uidOf d)))
  let ph := if !d.started then "notrunning" else phaseStr d.st.phase
  s!"log {" ".intercalate logs} | alive {" ".intercalate (alive.map toString)} | kinds {" ".intercalate kinds} | phase {ph} | lost {d.st.lost.length} | stale {d.stale + d.staleTc} | due {" ".intercalate (d.due.map toString)} | mc {" ".intercalate (d.mustCancel.map toString)}"

def runLoopCase (backend : String) (ws : List String) : String :=
  match ws with
  | nsp :: nt :: rest =>
    let parts := nsp.splitOn "+"
    let nsS := parts.getD 0 "0"
    let npS := parts.getD 1 "0"
    let ncS := parts.getD 2 "0"
    let naS := parts.getD 3 "0"
    match nsS.toNat?, nt.toNat?, npS.toNat?, ncS.toNat?, naS.toNat? with
    | some ns, some nt, some np, some nc, some na =>
      let progWords := rest.takeWhile (· ≠ "S")
      let script := (rest.dropWhile (· ≠ "S")).drop 1
      let progs := progWords.map fun w =>
        match w.splitOn "=" with
        | [_, body] => if body == "-" then [] else (body.splitOn ",").map parseSOp
        | _ => [SOp.bad]
      let pipes : List Sock := (List.range np).flatMap fun j =>
        [{ kind := 1, peer := ns + 2 * j + 1 }, { kind := 2, peer := ns + 2 * j }]
      let conns : List Sock := List.replicate nc { kind := 3, isOpen := false }
      let accs : List Sock := List.replicate na { kind := 5 }
      let d : D := { backend := backend, progs := progs, socks := List.replicate ns {} ++ pipes ++ conns ++ accs, tobjs := List.replicate nt {},
                     outstanding := List.replicate nt none, tainted := List.replicate nt false }
      render ((script.map parseSOp).foldl topOp d)
    | _, _, _, _, _ => "bad-op"
  | _ => "bad-op"

/-! ### thread pool -/

def poolDrain : Nat → Pool → Pool
  | 0, p => p
  | fuel+1, p =>
    if p.queue.isEmpty || p.shutDown then poolStep p (.workerTake 0)
    else poolDrain fuel (poolStep (poolStep p (.workerTake 0)) (.workerRun 0))

def runPoolCase (ws : List String) : String :=
  match ws with
  | n :: ops =>
    match n.toNat? with
    | some n =>
      if n == 0 then "bad-op" else
      let p0 := poolInit n
      -- the gate jobs: one per worker, each worker takes one and blocks in it
      let p1 := (List.range n).foldl (fun p _ => poolStep p (.post false)) p0
      let p2 := (List.range n).foldl (fun p w => poolStep p (.workerTake w)) p1
      let (p, cres, released) := ops.foldl (fun (acc : Pool × List String × Bool) w =>
        let (p, cres, released) := acc
        let settle (p : Pool) : Pool := if released then poolDrain (p.queue.length + 2) p else p
        match w.splitOn ":" with
        | ["p"] => (settle (poolStep p (.post false)), cres, released)
        | ["px"] => (settle (poolStep p (.post true)), cres, released)
        | ["c", id] =>
          match id.toInt? with
          | some id =>
            let p' := poolStep p (.cancel id)
            (p', cres ++ [s!"{id}:{if p'.cancelled.length > p.cancelled.length then 1 else 0}"], released)
          | none => (p, cres ++ ["bad"], released)
        | ["stop"] => (poolStep p .stop, cres, released)
        | ["rel"] =>
          if released then (p, cres, released) else
          -- gates return; every worker goes back to the top of its loop; the queue is drained
          let p := (List.range n).foldl (fun p w => poolStep p (.workerRun w)) p
          (poolDrain (p.queue.length + 2) p, cres, true)
        | _ => (p, cres ++ ["bad"], released)) (p2, [], false)
      let p := if released then p else
        poolDrain (p.queue.length + 2) ((List.range n).foldl (fun p w => poolStep p (.workerRun w)) p)
      let ran := (List.range p.jobId).map fun i => s!"{i}:{(p.ran.filter (fun j => j.id == Int.ofNat i)).length}"
      s!"ran {" ".intercalate ran} | cancel {" ".intercalate cres}"
    | none => "bad-op"
  | _ => "bad-op"

/-! ### stale timer id (known finding aio-stale-timer-id-cancels-other-timer) -/

/-- timer A (deadline now) expires and is queued; before its waiter runs, another timer B is armed and the
slot search returns A's old slot (it is free); `A.cancel()` then passes the stale id -/
def staleTimerCase : String :=
  let l : Act := .loop {}
  let s := run init [l, l, .op (.setTimer 0 5), l, l, l,        -- A armed, expired by the next run_one, queued
                     .op (.setTimer 200 5),                     -- B gets the same slot
                     .op (.cancelTimer 5),                      -- A.cancel(): stale id
                     l, l, l, l, l, l, l, l]
  let a := (s.log.filter (fun e => e.tok.id == 0)).map (fun e => codeStr e.code)
  let b := (s.log.filter (fun e => e.tok.id == 1 && e.code == .canceled)).length
  s!"A {a.length}:{" ".intercalate a} B-canceled {b}"

/-! ### judges -/

def parseObs (w : String) : Option Spec.Obs :=
  -- id:kind:dl:calls:code:at:onloop:alive:due:mustCancel
  match w.splitOn ":" with
  | [_, k, dl, calls, code, at_, onl, alive, due, mc] =>
    match dl.toNat?, calls.toNat?, code.toNat?, at_.toNat? with
    | some dl, some calls, some code, some at_ =>
      let kind := if k == "t" then Spec.HKind.timer dl else if k == "i" then .io else .plain
      some { kind := kind, calls := calls, code := code, clock := at_, onLoop := onl == "1", alive := alive == "1",
             due := due == "1", mustCancel := mc == "1" }
    | _, _, _, _ => none
  | _ => none

def judgeLoop (ws : List String) : String :=
  match ws with
  | rst :: fin :: obs =>
    let os := obs.map parseObs
    if os.any (·.isNone) then "bad-op" else
    let os := os.filterMap id
    let ok1 := os.all (Spec.handlerOK (rst == "1"))
    let ok2 := fin != "1" || os.all Spec.handlerDone
    boolStr (ok1 && ok2)
  | _ => "bad-op"

def judgePool (ws : List String) : String :=
  match ws with
  | kept :: obs =>
    let os := obs.map fun w =>
      match w.splitOn ":" with
      | [_, runs, ct] => match runs.toNat? with
        | some r => some ({ runs := r, cancelTrue := ct == "1" } : Spec.JobObs)
        | none => none
      | _ => none
    if os.any (·.isNone) then "bad-op" else
    boolStr ((os.filterMap id).all (Spec.jobOK (kept == "1")))
  | _ => "bad-op"

def stepLine (backend : String) (_ : Unit) (line : String) : Unit × String :=
  let r := match words line with
    | "L" :: rest => runLoopCase backend rest
    | "K" :: rest => runPoolCase rest
    | "J" :: rest => judgeLoop rest
    | "JK" :: rest => judgePool rest
    | "C" :: _ => "ok"   -- free-running concurrency case: judged on the implementation only
    | "X" :: _ => staleTimerCase
    | _ => "bad-op"
  ((), r)

def main (args : List String) : IO Unit := lineLoop () (stepLine (args.headD "poll"))
