import Cppcms.C17.Model
/-! The epoll back-end's per-descriptor cache against the kernel's interest list: `select` as one decision (`kregAfter`),
the invariant `EpInv` checked at the one number a step touches (`EpInv.at`).  `EpInv` is the predicate of
`Props.epoll_cache_invariant`, whence the namespace; the check also asks for `epoll_select_records` and
`epoll_select_on_open_fd` by name. -/
namespace Cppcms.C17.Props
open Cppcms Cppcms.C17

/-- cache = kernel's interest set for every open descriptor; closed numbers are not registered; a registered set is
never empty -/
def EpInv (e : Epoll) : Prop :=
  ∀ fd, (e.isOpen fd = true → e.cache fd = kflags e fd) ∧ (e.isOpen fd = false → e.kreg fd = none) ∧
        (∀ f, e.kreg fd = some f → f ≠ 0)

/-- `select` always records the requested interest set, also when `epoll_ctl` failed (DEL on a descriptor the
application closed already) — so a number whose cancel has been processed is clean again. -/
theorem epoll_select_records (e : Epoll) (fd flags : Nat) : (epSelect e fd flags).1.cache fd = flags := by
  simp [epSelect, Gen.epollRecordsOnError, upd]

/-- `select` as one decision: no call if the cache holds `flags`; else one `epoll_ctl`, which succeeds iff the
descriptor is open and is registered exactly when the cache says so -/
def kregAfter (e : Epoll) (fd flags : Nat) : (Nat → Option Nat) × Bool :=
  if e.cache fd = flags then (e.kreg, true)
  else if e.isOpen fd = true ∧ ((e.kreg fd).isSome ↔ e.cache fd ≠ 0) then
    (upd e.kreg fd (if flags = 0 then none else some flags), true)
  else (e.kreg, false)

theorem epSelect_eq (e : Epoll) (fd flags : Nat) :
    epSelect e fd flags
      = ({ e with kreg := (kregAfter e fd flags).1, cache := upd e.cache fd flags }, (kregAfter e fd flags).2) := by
  have : (if e.cache fd ≠ 0 ∧ flags = 0 then ctlDel e fd
      else if e.cache fd = 0 ∧ flags ≠ 0 then ctlAdd e fd flags
      else if e.cache fd ≠ flags then ctlMod e fd flags else (e.kreg, true)) = kregAfter e fd flags := by
    unfold kregAfter ctlDel ctlAdd ctlMod
    by_cases h1 : e.cache fd = flags
    · by_cases h2 : flags = 0 <;> simp [h1, h2]
    · by_cases h2 : flags = 0
      · simp [h2, show e.cache fd ≠ 0 from h2 ▸ h1]
      · by_cases h3 : e.cache fd = 0
        · simp [h2, h3, Ne.symm h2]
        · simp [h1, h2, h3]
  simp only [epSelect, this, Gen.epollRecordsOnError, Bool.or_true, if_true]

/-- a kernel entry is unchanged, or it is `fd`'s, `fd` is open and it holds the requested set -/
theorem kregAfter_spec (e : Epoll) (fd flags g : Nat) :
    (kregAfter e fd flags).1 g = e.kreg g ∨
    g = fd ∧ e.isOpen fd = true ∧ (kregAfter e fd flags).1 g = if flags = 0 then none else some flags := by
  unfold kregAfter
  by_cases h1 : e.cache fd = flags
  · rw [if_pos h1]; exact .inl rfl
  · rw [if_neg h1]
    by_cases h2 : e.isOpen fd = true ∧ ((e.kreg fd).isSome ↔ e.cache fd ≠ 0)
    · rw [if_pos h2]
      by_cases hg : g = fd
      · exact .inr ⟨hg, h2.1, if_pos hg⟩
      · exact .inl (if_neg hg)
    · rw [if_neg h2]; exact .inl rfl

/-- On an open descriptor, under the invariant, the decision DEL/ADD/MOD is the right one: the call succeeds and the
kernel ends up with exactly the requested interest set (so an armed wait really is registered). -/
theorem epoll_select_on_open_fd (e : Epoll) (hi : EpInv e) (fd flags : Nat) (ho : e.isOpen fd = true) :
    (epSelect e fd flags).2 = true ∧ kflags (epSelect e fd flags).1 fd = flags := by
  obtain ⟨h1, _, h3⟩ := hi fd
  have hc : e.cache fd = (e.kreg fd).getD 0 := h1 ho
  have hreg : (e.kreg fd).isSome ↔ e.cache fd ≠ 0 := by
    rw [hc]
    cases hk : e.kreg fd with
    | none => simp
    | some f => simpa using h3 f hk
  rw [epSelect_eq, kregAfter]
  by_cases h : e.cache fd = flags
  · rw [if_pos h]
    exact ⟨rfl, by rw [← h, hc]; rfl⟩
  · rw [if_neg h, if_pos ⟨ho, hreg⟩]
    by_cases hf : flags = 0 <;> simp [kflags, upd, hf]

theorem EpInv.at {e e' : Epoll} (hi : EpInv e) (fd : Nat)
    (hframe : ∀ g, g ≠ fd → e'.isOpen g = e.isOpen g ∧ e'.cache g = e.cache g ∧ e'.kreg g = e.kreg g)
    (hfd : (e'.isOpen fd = true → e'.cache fd = kflags e' fd) ∧ (e'.isOpen fd = false → e'.kreg fd = none) ∧
      ∀ f, e'.kreg fd = some f → f ≠ 0) : EpInv e' := by
  intro g
  by_cases hg : g = fd
  · exact hg ▸ hfd
  · obtain ⟨h1, h2, h3⟩ := hframe g hg
    rw [kflags, h1, h2, h3]
    exact hi g

theorem epInv_step (e : Epoll) (o : EpOp) (hi : EpInv e) : EpInv (epStep e o) := by
  cases o with
  | sel fd fl =>
    obtain ⟨_, hclosed, hnonzero⟩ := hi fd
    rw [epStep]
    have hk := kregAfter_spec e fd fl fd
    refine hi.at fd (fun g hg => ?_) ⟨fun ho => ?_, fun hc => ?_, fun f hf => ?_⟩
    · -- the other numbers are untouched
      rw [epSelect_eq]
      exact ⟨rfl, if_neg hg, (kregAfter_spec e fd fl g).resolve_right fun h => hg h.1⟩
    · -- open ⇒ cache = kernel's set: both hold `fl`
      rw [epoll_select_records, (epoll_select_on_open_fd e hi fd fl (by rwa [epSelect_eq] at ho)).2]
    · -- closed ⇒ unregistered: on a closed descriptor every `epoll_ctl` fails
      rw [epSelect_eq] at hc ⊢
      rcases hk with h | ⟨_, ho, _⟩
      · exact h.trans (hclosed hc)
      · exact absurd (ho.symm.trans hc) nofun
    · -- registered ⇒ non-empty: the requested set is registered only if it is not 0
      rw [epSelect_eq] at hf
      rcases hk with h | ⟨_, _, h⟩
      · exact hnonzero f (h.symm.trans hf)
      · have hf' : (if fl = 0 then none else some fl) = some f := h.symm.trans hf
        split at hf'
        · cases hf'
        · exact Option.some.inj hf' ▸ ‹_›
  | closeFd fd =>
    exact hi.at fd (fun g hg => ⟨if_neg hg, rfl, if_neg hg⟩)
      ⟨fun h => by simp [epStep, upd] at h, fun _ => if_pos rfl, fun f hf => by simp [epStep, upd] at hf⟩
  | reuse fd =>
    rw [epStep]
    split
    · rename_i hc
      obtain ⟨_, h2, h3⟩ := hi fd
      exact hi.at fd (fun g hg => ⟨if_neg hg, rfl, rfl⟩)
        ⟨fun _ => by rw [kflags, show e.kreg fd = none from h2 hc.1]; exact hc.2, fun h => by simp [upd] at h, h3⟩
    · exact hi

theorem epInv_run {e : Epoll} (hi : EpInv e) (ops : List EpOp) : EpInv (epRun e ops) :=
  ops.foldlRecOn (motive := EpInv) _ hi fun e h o _ => epInv_step e o h

end Cppcms.C17.Props
