import Cppcms.C17.Lemmas
/-! Progress of the loop thread (fairness argument behind `exactly_once_if_running`): a potential `need` that other
threads' operations leave alone and every step of the loop thread lowers, until the completion is run. -/
namespace Cppcms.C17

/-- operations other threads (or handlers) may issue while the loop "keeps running" -/
def KeepsRunning : Op → Prop
  | .stop => False
  | .reset => False
  | _ => True

/-- the completion has been invoked, with exactly the arguments it was queued with -/
def logged (q : QItem) (s : St) : Prop :=
  match q with
  | .fn t => ∃ clk, (⟨t, .ok, 0, clk⟩ : LogEntry) ∈ s.log
  | .ev t c n => ∃ clk, (⟨t, c, n, clk⟩ : LogEntry) ∈ s.log
  | _ => True

/-- where the completion is: `some k` = in the queue with `k` items in front, `none` = popped, being run -/
def Located (q : QItem) (s : St) : Option Nat → Prop
  | some k => ∃ pre post, s.queue = pre ++ q :: post ∧ pre.length = k
  | none => s.phase = .executing ∧ s.running = some q

/-- A bound on the steps the loop thread takes, after its next one, before it invokes the completion.  With `k` items
in front it takes `k` pops and `k` runs, then its own pop: `2k+1` more steps when the drain loop is about to pop and
this round still reaches the item (`counter`, the number of pops left in this round of `run_one`, exceeds `k`); if
the round ends first, end of drain → poll → entry cost 3 more.  `executing` is one step before `draining` with
`counter - 1`, `idle` one step before `draining` with `counter` = queue length, `polling` one before `idle`.
While the completion is queued and the loop `Live`, every step of the loop thread lowers it by at least one
(`loop_progress`); other threads only append to the queue. -/
def need (s : St) : Option Nat → Nat
  | none => 0
  | some k =>
    match s.phase with
    | .idle => 2 * k + 2
    | .draining => if s.counter > k then 2 * k + 1 else 2 * k + 4
    | .executing => if s.counter - 1 > k then 2 * k + 2 else 2 * k + 5
    | .polling => 2 * k + 3
    | _ => 0

def Live (s : St) : Prop := s.stop = false ∧ s.phase ≠ .stopped ∧ s.phase ≠ .failed

theorem need_le (s : St) (k : Nat) : need s (some k) ≤ 2 * k + 5 := by
  unfold need
  cases s.phase with
  | stopped | failed => exact Nat.zero_le _
  | idle | polling => exact Nat.add_le_add_left (by decide) _
  | draining | executing => dsimp only; split <;> exact Nat.add_le_add_left (by decide) _

theorem Located.append {q : QItem} {s s' : St} {k : Nat} (extra : List QItem) (hl : Located q s (some k))
    (hq : s'.queue = s.queue ++ extra) : Located q s' (some k) := by
  obtain ⟨pre, post, h1, h2⟩ := hl
  exact ⟨pre, post ++ extra, by rw [hq, h1, List.append_assoc, List.cons_append], h2⟩

theorem Trans.opShape {s s' : St} {o : Op} (ht : Trans s (.op o) s') (ho : KeepsRunning o) :
    ∃ extra m ts l n, s' = { s with queue := s.queue ++ extra, map := m, timers := ts, lost := l, next := n } := by
  cases ht with
  | op _ _ _ _ he =>
    obtain ⟨extra, m, ts, l, h⟩ := he.shape
    exact ⟨extra, m, ts, l, _, h⟩
  | stop | reset => exact ho.elim

theorem ops_keep (q : QItem) (ops : List Op) (s : St) (ho : ∀ o ∈ ops, KeepsRunning o) (loc : Option Nat)
    (hl : Located q s loc) (hlive : Live s) :
    Located q (ops.foldl opStep s) loc ∧ Live (ops.foldl opStep s) ∧ need (ops.foldl opStep s) loc = need s loc := by
  refine ops.foldlRecOn (motive := fun s' => Located q s' loc ∧ Live s' ∧ need s' loc = need s loc) _ ⟨hl, hlive, rfl⟩ ?_
  intro s' ⟨h1, h2, h3⟩ o hm
  obtain ⟨extra, m, ts, l, n, h⟩ := (opStep_trans s' o).opShape (ho o hm)
  rw [h]
  refine ⟨?_, h2, h3⟩
  cases loc with
  | none => exact h1
  | some k => exact h1.append extra rfl

theorem logged_mono_run (q : QItem) (as : List Act) (s : St) (h : logged q s) : logged q (run s as) := by
  refine as.foldlRecOn (motive := logged q) _ h fun s h a _ => ?_
  have hm : ∀ e, e ∈ s.log → e ∈ (step s a).log := by
    intro e he
    rcases (step_trans s a).log with h | ⟨_, _, _, _, _, _, _, h⟩ <;> rw [h]
    · exact he
    · exact List.mem_append_left _ he
  cases q with
  | fn t => exact h.imp fun _ => hm _
  | ev t c n => exact h.imp fun _ => hm _
  | _ => trivial

theorem exec_frame {s : St} (i : LoopInp) (hp : s.phase = .executing) :
    ∃ extra, (loopStep s i).queue = s.queue ++ extra ∧ (loopStep s i).stop = s.stop
      ∧ (loopStep s i).phase = .draining ∧ (loopStep s i).counter = s.counter - 1 := by
  generalize hs : loopStep s i = s'
  cases hs ▸ loopStep_trans s i with
  | ctl _ _ _ hp' => exact absurd hp hp'
  | pop _ _ _ hp' => exact absurd (hp.symm.trans hp') nofun
  | invoke => exact ⟨[], (List.append_nil _).symm, rfl, rfl, rfl⟩
  | exec _ _ _ he =>
    obtain ⟨extra, _, _, _, rfl⟩ := he.shape
    exact ⟨extra, rfl, rfl, rfl, rfl⟩

theorem loop_progress (q : QItem) (s : St) (i : LoopInp) (loc : Option Nat)
    (hl : Located q s loc) (hlive : Live s) :
    logged q (loopStep s i) ∨
    ∃ loc', Located q (loopStep s i) loc' ∧ Live (loopStep s i) ∧ need (loopStep s i) loc' + 1 ≤ need s loc := by
  obtain ⟨hstop, hns, hnf⟩ := hlive
  cases loc with
  | none =>
    rw [loopStep_exec i hl.1 hl.2]
    cases q with
    | fn t => exact .inl ⟨s.clock, List.mem_append_right _ List.mem_cons_self⟩
    | ev t c n => exact .inl ⟨s.clock, List.mem_append_right _ List.mem_cons_self⟩
    | _ => exact .inl trivial
  | some k =>
    right
    have hlen : k < s.queue.length := by
      obtain ⟨pre, post, hq, hk⟩ := hl
      simp only [hq, List.length_append, List.length_cons]
      omega
    cases hp : s.phase with
    | idle =>
      rw [loopStep_idle i hp]
      -- entry sets `counter` to the queue length, which exceeds `k`: `2k+1` after `2k+2`
      exact ⟨some k, hl, ⟨hstop, nofun, nofun⟩, by simp only [need, hp, if_pos hlen]; omega⟩
    | draining =>
      by_cases hc : 0 < s.counter
      · -- the head of the queue is popped: the completion itself, or the item in front of it
        obtain ⟨pre, post, hq, hk⟩ := hl
        cases pre with
        | nil =>
          rw [loopStep_pop i hp hq hstop hc]
          -- popped itself: `0` after `2·0+1` (`counter > 0`)
          exact ⟨none, ⟨rfl, rfl⟩, ⟨hstop, nofun, nofun⟩, by simp only [need, hp]; split <;> omega⟩
        | cons x xs =>
          rw [loopStep_pop i hp hq hstop hc]
          refine ⟨some xs.length, ⟨xs, post, rfl, rfl⟩, ⟨hstop, nofun, nofun⟩, ?_⟩
          -- one item fewer in front, `counter - 1` pops left after this one: both sides split on whether the round
          -- still reaches the item (`counter - 1 > xs.length ↔ counter > xs.length + 1`), and lose exactly one
          simp only [need, hp, ← hk, List.length_cons]
          split <;> split <;> omega
      · -- `counter` items of this round are done: expire timers, go to poll
        rw [loopStep_drained i hp (.inr (.inr (by omega))), afterDrain_go i hstop]
        refine ⟨some k, hl.append _ rfl, ⟨hstop, nofun, nofun⟩, ?_⟩
        -- `counter = 0 ≤ k`: `2k+3` (polling) after `2k+4`
        simp only [need, hp]
        split <;> omega
    | executing =>
      obtain ⟨extra, h1, h2, h3, h4⟩ := exec_frame i hp
      refine ⟨some k, hl.append extra h1, ⟨h2 ▸ hstop, by rw [h3]; nofun, by rw [h3]; nofun⟩, ?_⟩
      -- back to `draining` with `counter - 1`: the same case of both sides, one less
      simp only [need, h3, h4, hp]
      split <;> omega
    | polling =>
      rw [loopStep_polling i hp (.inr (by cases hs : s.queue with | nil => rw [hs] at hlen; cases hlen | cons => rfl))]
      obtain ⟨extra, _, _, _, h⟩ := (polled_eff (if i.pollErr then [] else i.events) s).shape
      rw [h]
      exact ⟨some k, hl.append extra rfl, ⟨hstop, nofun, nofun⟩, by simp only [need, hp]; omega⟩
    | stopped => exact absurd hp hns
    | failed => exact absurd hp hnf

/-- a fair history: after every finite batch of other threads' operations the loop thread takes a step -/
def fairActs : List (List Op × LoopInp) → List Act
  | [] => []
  | (ops, i) :: more => ops.map Act.op ++ [Act.loop i] ++ fairActs more

theorem run_ops (ops : List Op) (s : St) : run s (ops.map Act.op) = ops.foldl opStep s :=
  List.foldl_map ..

theorem run_append (a b : List Act) (s : St) : run s (a ++ b) = run (run s a) b :=
  List.foldl_append ..

theorem fair_progress_loop (q : QItem) (rounds : List (List Op × LoopInp)) (s : St) (loc : Option Nat)
    (hl : Located q s loc) (hlive : Live s) (hn : need s loc < rounds.length)
    (ho : ∀ r ∈ rounds, ∀ o ∈ r.1, KeepsRunning o) :
    logged q (run s (fairActs rounds)) := by
  induction rounds generalizing s loc with
  | nil => cases hn
  | cons r more ih =>
    obtain ⟨ops, i⟩ := r
    rw [fairActs, run_append, run_append, run_ops]
    change logged q (run (loopStep (ops.foldl opStep s) i) _)
    obtain ⟨h1, h2, h3⟩ := ops_keep q ops s (ho _ List.mem_cons_self) loc hl hlive
    rcases loop_progress q (ops.foldl opStep s) i loc h1 h2 with hdone | ⟨loc', h4, h5, h6⟩
    · exact logged_mono_run q _ _ hdone
    · exact ih _ loc' h4 h5 (by rw [List.length_cons] at hn; omega) (fun r hr => ho r (List.mem_cons_of_mem _ hr))

end Cppcms.C17
