import Cppcms.C07.Lemmas
/-! # C08 — the loop of `check_limits` under `Inv` and the victim choice; `lru` is the recency order (over C07's model) -/
namespace Cppcms.C08
open Cppcms Cppcms.C07
attribute [local instance] keyLawfulBEq

theorem size_deleteNode_le (s : State) (k : Key) : (deleteNode s k).size ≤ s.size := by
  unfold deleteNode
  cases alookup k s.primary with
  | none => exact Nat.le_refl _
  | some c => exact Nat.sub_le _ _

theorem size_deleteNode_of_mem {s : State} {k : Key} {c : Container} (h : alookup k s.primary = some c) :
    (deleteNode s k).size = s.size - 1 := by
  unfold deleteNode; rw [h]

theorem size_foldl_deleteNode_le (s : State) (ks : List Key) : (ks.foldl deleteNode s).size ≤ s.size :=
  foldl_deleteNode_ind (P := fun s' => s'.size ≤ s.size) (fun s' k h => Nat.le_trans (size_deleteNode_le s' k) h)
    (Nat.le_refl _) ks

theorem size_checkLimitsLoop_le (fuel : Nat) (s : State) (now : Time) (mem : List Bool) :
    (checkLimitsLoop fuel s now mem).size ≤ s.size := by
  obtain ⟨ks, e⟩ := checkLimitsLoop_eq_foldl fuel s now mem
  rw [e]; exact size_foldl_deleteNode_le s ks

theorem keys_perm {s : State} (h : Inv s) : (s.primary.map Prod.fst).Perm s.lru :=
  (List.perm_ext_iff_of_nodup h.keys h.lruNodup).mpr fun k => (h.lruMem k).symm

theorem victim_eq (s : State) (now : Time) :
    victim s now = match s.timeout with
      | (d, k) :: _ => if d < now then some k else s.lru.getLast?
      | [] => s.lru.getLast? := by
  unfold victim
  cases s.timeout with
  | nil => rfl
  | cons p r => simp [Gen.evictExpired]

theorem victim_isSome {s : State} (h : Inv s) (now : Time) (hpos : 0 < s.size) :
    ∃ k c, victim s now = some k ∧ alookup k s.primary = some c := by
  -- the LRU tail exists (`lru` is as long as `primary`) and is an entry
  have hne : s.lru ≠ [] := List.ne_nil_of_length_pos (by
    rw [← (keys_perm h).length_eq, List.length_map, ← h.sizeEq]; exact hpos)
  obtain ⟨kl, hkl⟩ := Option.isSome_iff_exists.mp (List.getLast?_isSome.mpr hne)
  obtain ⟨cl, hcl⟩ := Option.isSome_iff_exists.mp
    (alookup_isSome_iff.mpr ((h.lruMem kl).mp (List.mem_of_getLast? hkl)))
  rw [victim_eq]
  cases hto : s.timeout with
  | nil => exact ⟨kl, cl, hkl, hcl⟩
  | cons p r =>
    obtain ⟨d, k⟩ := p
    dsimp only
    split
    · obtain ⟨c, hc, _⟩ := (h.toMem d k).mp (hto ▸ .head _)
      exact ⟨k, c, rfl, hc⟩
    · exact ⟨kl, cl, hkl, hcl⟩

theorem size_pos_of_cond {size limit : Nat} {nem : Bool} (hc : Gen.limitsLoopCond size limit nem = true) : 0 < size := by
  simp [Gen.limitsLoopCond] at hc; exact hc.1

theorem checkLimitsLoop_evict {s : State} (h : Inv s) {now : Time} {mem : List Bool}
    (hc : Gen.limitsLoopCond s.size s.limit (mem.headD false) = true) (n : Nat) :
    ∃ k c, victim s now = some k ∧ alookup k s.primary = some c ∧
      checkLimitsLoop (n + 1) s now mem = checkLimitsLoop n (deleteNode s k) now mem.tail := by
  obtain ⟨k, c, hv, hk⟩ := victim_isSome h now (size_pos_of_cond hc)
  refine ⟨k, c, hv, hk, ?_⟩
  rw [checkLimitsLoop, if_pos hc, hv]

/-- fewer than `limit` entries remain: room for the one about to be inserted -/
theorem checkLimitsLoop_size {s : State} (h : Inv s) (fuel : Nat) (now : Time) (mem : List Bool)
    (hf : s.size ≤ fuel) (hl : 0 < s.limit) : (checkLimitsLoop fuel s now mem).size < s.limit := by
  induction fuel generalizing s mem with
  | zero => exact Nat.lt_of_le_of_lt hf hl
  | succ n ih =>
    cases hc : Gen.limitsLoopCond s.size s.limit (mem.headD false) with
    | true =>
      obtain ⟨k, c, _, hk, e⟩ := checkLimitsLoop_evict h (now := now) hc n
      have hsz := size_deleteNode_of_mem hk
      have hpos := size_pos_of_cond hc
      rw [e, ← (config_deleteNode s k).1]
      exact ih (inv_deleteNode h k) mem.tail (by omega) ((config_deleteNode s k).1 ▸ hl)
    | false =>
      rw [checkLimitsLoop_stop hc]
      simp [Gen.limitsLoopCond] at hc
      omega

/-- any fuel ≥ `size` gives the same result (so `checkLimits`' choice `fuel = size` loses nothing) -/
theorem checkLimitsLoop_fuel {s : State} (h : Inv s) (f1 f2 : Nat) (now : Time) (mem : List Bool)
    (h1 : s.size ≤ f1) (h2 : s.size ≤ f2) : checkLimitsLoop f1 s now mem = checkLimitsLoop f2 s now mem := by
  induction f1 generalizing s mem f2 with
  | zero =>
    have hc : Gen.limitsLoopCond s.size s.limit (mem.headD false) = false := by
      rw [Nat.le_zero.mp h1]; rfl
    rw [checkLimitsLoop_stop hc, checkLimitsLoop_stop hc]
  | succ n ih =>
    cases hc : Gen.limitsLoopCond s.size s.limit (mem.headD false) with
    | false => rw [checkLimitsLoop_stop hc, checkLimitsLoop_stop hc]
    | true =>
      have hpos := size_pos_of_cond hc
      obtain ⟨m, rfl⟩ : ∃ m, f2 = m + 1 := ⟨f2 - 1, by omega⟩
      obtain ⟨k, c, hv, hk, e⟩ := checkLimitsLoop_evict h (now := now) hc n
      obtain ⟨k', _, hv', _, e'⟩ := checkLimitsLoop_evict h (now := now) hc m
      cases hv.symm.trans hv'
      have hsz := size_deleteNode_of_mem hk
      rw [e, e']
      exact ih (inv_deleteNode h k) m mem.tail (by omega) (by omega)

theorem sizeOk_step {s : State} (h : Inv s) (hs : 0 < s.limit → s.size ≤ s.limit) (op : Op) :
    0 < (step s op).1.limit → (step s op).1.size ≤ (step s op).1.limit := by
  rw [(config_step s op).1]
  intro hl
  have hs := hs hl
  cases op with
  | fetch now k => rcases fetch_cases s now k with e | ⟨c, _, e⟩ <;> rw [step, e] <;> exact hs
  | store now k v trigs d gen env =>
    cases store_cases s now k v trigs d gen env with rw [step, eq]
    | dropped _ _ eq => exact Nat.le_trans (size_deleteNode_le s k) hs
    | failed _ _ _ b _ eq => exact Nat.zero_le _
    | performed _ _ _ _ eq =>
      have := checkLimitsLoop_size (inv_deleteNode h k) _ now env.lowMem (Nat.le_refl _)
        ((config_deleteNode s k).1 ▸ hl)
      rw [(config_deleteNode s k).1] at this
      exact this
  | rise t => exact Nat.le_trans (size_foldl_deleteNode_le s _) hs
  | remove k => exact Nat.le_trans (size_deleteNode_le s k) hs
  | clear => exact Nat.zero_le _
  | stats => exact hs

theorem timeout_head_min {s : State} (h : Inv s) {d : Time} {k : Key} {r : List (Time × Key)}
    (hto : s.timeout = (d, k) :: r) {k' : Key} {c' : Container} (hc : alookup k' s.primary = some c') :
    d ≤ c'.deadline := by
  have hm : (c'.deadline, k') ∈ s.timeout := (h.toMem _ _).mpr ⟨c', hc, rfl⟩
  have hs := h.toSorted
  rw [hto] at hm hs
  rcases List.mem_cons.mp hm with e | e
  · cases e; exact Int.le_refl _
  · exact (List.pairwise_cons.mp hs).1 _ e

theorem lru_deleteNode_sublist (s : State) (k : Key) : (deleteNode s k).lru.Sublist s.lru := by
  unfold deleteNode
  cases alookup k s.primary with
  | none => exact .refl _
  | some c => exact List.erase_sublist

theorem lru_foldl_deleteNode_sublist (s : State) (ks : List Key) : (ks.foldl deleteNode s).lru.Sublist s.lru :=
  foldl_deleteNode_ind (P := fun s' => s'.lru.Sublist s.lru) (fun s' k h => (lru_deleteNode_sublist s' k).trans h)
    (.refl _) ks

/-- the key `op` moves to the LRU front of `s`: a fetch that hits, a store that is performed -/
def touched (s : State) : Op → List Key
  | .fetch now k => match (fetch s now k).2 with | .hit _ _ _ _ => [k] | _ => []
  | .store now k v trigs d gen env => if (stamp s (.store now k v trigs d gen env)).isSome then [k] else []
  | _ => []

/-- `op` names `k` as its key, whether or not it hits; what is `touched` is used (`lru_step`) -/
def uses (k : Key) : Op → Bool
  | .fetch _ k' => k' == k
  | .store _ k' _ _ _ _ _ => k' == k
  | _ => false

theorem lru_step (s : State) (op : Op) :
    ∃ rest, (step s op).1.lru = touched s op ++ rest ∧ rest.Sublist s.lru ∧
      (touched s op = [] ∨ ∃ x, touched s op = [x] ∧ uses x op = true) := by
  cases op with
  | fetch now k =>
    rcases fetch_cases s now k with e | ⟨c, _, e⟩ <;> rw [step, touched, e]
    · exact ⟨_, rfl, .refl _, .inl rfl⟩
    · exact ⟨_, rfl, List.erase_sublist, .inr ⟨k, rfl, beq_self_eq_true k⟩⟩
  | store now k v trigs d gen env =>
    cases store_cases s now k v trigs d gen env with rw [step, touched, stamped, eq]
    | dropped stamped _ eq => exact ⟨_, rfl, lru_deleteNode_sublist s k, .inl rfl⟩
    | failed stamped _ _ b _ eq => exact ⟨[], rfl, List.nil_sublist _, .inl rfl⟩
    | performed stamped _ _ _ eq =>
      obtain ⟨ks, e⟩ := checkLimits_deleteNode_eq s k now env.lowMem
      exact ⟨_, rfl, e ▸ lru_foldl_deleteNode_sublist s _, .inr ⟨k, rfl, beq_self_eq_true k⟩⟩
  | rise t => exact ⟨_, rfl, lru_foldl_deleteNode_sublist s _, .inl rfl⟩
  | remove k => exact ⟨_, rfl, lru_deleteNode_sublist s k, .inl rfl⟩
  | clear => exact ⟨[], rfl, List.nil_sublist _, .inl rfl⟩
  | stats => exact ⟨_, rfl, .refl _, .inl rfl⟩

theorem pair_sublist_or {a b : Key} {l : List Key} (ha : a ∈ l) (hb : b ∈ l) (hab : a ≠ b) :
    [a, b].Sublist l ∨ [b, a].Sublist l := by
  obtain ⟨l1, l2, rfl⟩ := List.append_of_mem ha
  rcases List.mem_append.mp hb with hb | hb
  · exact .inr ((List.singleton_sublist.mpr hb).append (List.Sublist.cons_cons a (List.nil_sublist _)))
  · rcases List.mem_cons.mp hb with e | hb
    · exact absurd e.symm hab
    · exact .inl ((List.Sublist.cons_cons a (List.singleton_sublist.mpr hb)).trans (List.sublist_append_right ..))

/-- "`b` does not stand before `a`" is kept by every operation that does not use `b` -/
theorem lru_not_before_step (s : State) (op : Op) {a b : Key} (hb : uses b op = false)
    (J : ¬ [b, a].Sublist s.lru) : ¬ [b, a].Sublist (step s op).1.lru := by
  obtain ⟨rest, e, hsub, ht⟩ := lru_step s op
  rw [e]
  rcases ht with ht | ⟨x, ht, hx⟩ <;> rw [ht] <;> intro h
  · exact J (h.trans hsub)
  · rcases List.sublist_cons_iff.mp h with h | ⟨r, e', _⟩
    · exact J (h.trans hsub)
    · cases e'; rw [hx] at hb; cases hb

/-- stated for reachable states as `Props.lru_is_recency_order` -/
theorem lru_recency {s : State} (h : Inv s) {a b : Key} (hab : a ≠ b) (opA : Op) (hA : touched s opA = [a])
    (post : List Op) (hpost : ∀ o ∈ post, uses b o = false) :
    a ∈ (run (step s opA).1 post).lru → b ∈ (run (step s opA).1 post).lru →
      [a, b].Sublist (run (step s opA).1 post).lru := by
  -- right after `opA`, `a` is at the front and nowhere else; so `b` does not stand before it, and this is kept
  have J : ¬ [b, a].Sublist (step s opA).1.lru := by
    obtain ⟨rest, e, _⟩ := lru_step s opA
    have hn := (inv_step h opA).lruNodup
    rw [e, hA] at hn ⊢
    intro hs
    rcases List.sublist_cons_iff.mp hs with hs | ⟨r, e', _⟩
    · exact (List.nodup_cons.mp hn).1 (hs.subset (.tail _ (.head _)))
    · cases e'; exact hab rfl
  exact fun ha hb => (pair_sublist_or ha hb hab).resolve_right
    (run_ind (P := fun s => ¬ [b, a].Sublist s.lru) (fun s o ho => lru_not_before_step s o (hpost o ho)) J)

end Cppcms.C08
