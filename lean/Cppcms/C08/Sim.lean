import Cppcms.C08.Lemmas
import Cppcms.C08.Spec
/-!
# C08 — the concrete model of `mem_cache` simulates the reference cache of `Spec.lean`

`Sim s r`: the reference `r` (entries in recency order with store sequence numbers) and the concrete state `s` describe the
same cache.  Every operation the size cap does not refuse keeps `Sim` and answers alike on both sides (`sim_step`).
-/
namespace Cppcms.C08
open Cppcms Cppcms.C07
attribute [local instance] keyLawfulBEq

def contOf (e : REntry) : Container := ⟨e.val, e.trigs, e.deadline, e.gen⟩

/-- order of the timeout index in terms of the reference: nodes stand as `Ref.before` orders the entries
with their keys (earlier deadline first, earlier store first among equals) -/
def TOrd (r : Ref) (a b : Time × Key) : Prop :=
  ∀ ea ∈ r.entries, ∀ eb ∈ r.entries, ea.key = a.2 → eb.key = b.2 → Ref.before ea eb = true

structure Sim (s : State) (r : Ref) : Prop where
  inv : Inv s
  order : r.entries.map (·.key) = s.lru
  /-- The converse (every container is a reference entry) follows from `order` and `inv.lruMem`. -/
  data : ∀ e ∈ r.entries, alookup e.key s.primary = some (contOf e)
  tord : s.timeout.Pairwise (TOrd r)
  /-- so a new entry, which gets `nextSeq`, comes last among equal deadlines -/
  fresh : ∀ e ∈ r.entries, e.seq < r.nextSeq
  lim : r.limit = s.limit
  gen : r.generation = s.generation

variable {s : State} {r : Ref}

theorem TOrd.mono {r r' : Ref} (h : ∀ e ∈ r'.entries, e ∈ r.entries) {a b : Time × Key} (hab : TOrd r a b) : TOrd r' a b :=
  fun ea hea eb heb => hab ea (h ea hea) eb (h eb heb)

theorem Sim.keysNodup (h : Sim s r) : (r.entries.map (·.key)).Nodup := by
  rw [h.order]; exact h.inv.lruNodup

theorem find_of_mem {l : List REntry} (hn : (l.map (·.key)).Nodup) {e : REntry} (he : e ∈ l) :
    l.find? (·.key == e.key) = some e := by
  induction l with
  | nil => cases he
  | cons a l ih =>
    rw [List.map_cons, List.nodup_cons] at hn
    rcases List.mem_cons.mp he with rfl | h
    · exact List.find?_cons_of_pos (beq_self_eq_true _)
    · have : ¬ a.key = e.key := fun e' => hn.1 (e' ▸ List.mem_map_of_mem h)
      rw [List.find?_cons_of_neg (by simpa using this)]
      exact ih hn.2 h

theorem find_none_of_not_mem {l : List REntry} {k : Key} (h : k ∉ l.map (·.key)) : l.find? (·.key == k) = none := by
  rw [List.find?_eq_none]
  intro x hx hk
  exact h (List.mem_map.mpr ⟨x, hx, by simpa using hk⟩)

theorem Sim.key_inj (h : Sim s r) {e e' : REntry} (he : e ∈ r.entries) (he' : e' ∈ r.entries)
    (hk : e.key = e'.key) : e = e' :=
  Option.some.inj ((find_of_mem h.keysNodup he).symm.trans (hk ▸ find_of_mem h.keysNodup he'))

theorem Sim.find_some (h : Sim s r) {k : Key} {e : REntry} (he : r.find k = some e) :
    alookup k s.primary = some (contOf e) ∧ e.key = k ∧ e ∈ r.entries := by
  have hm := List.mem_of_find?_eq_some he
  have hk : e.key = k := by simpa using List.find?_some he
  exact ⟨hk ▸ h.data e hm, hk, hm⟩

theorem Sim.find_none (h : Sim s r) {k : Key} (hn : r.find k = none) : alookup k s.primary = none := by
  rw [alookup_none_iff, ← h.inv.lruMem, ← h.order]
  intro hm
  obtain ⟨e, he, rfl⟩ := List.mem_map.mp hm
  cases (find_of_mem h.keysNodup he).symm.trans hn

theorem Sim.timeout_entry (h : Sim s r) {d : Time} {k : Key} (hm : (d, k) ∈ s.timeout) :
    ∃ e ∈ r.entries, e.key = k ∧ e.deadline = d := by
  obtain ⟨c, hc, hd⟩ := (h.inv.toMem d k).mp hm
  have hk : k ∈ r.entries.map (·.key) := by
    rw [h.order, h.inv.lruMem, ← alookup_isSome_iff, hc]; rfl
  obtain ⟨e, he, rfl⟩ := List.mem_map.mp hk
  cases (h.data e he).symm.trans hc
  exact ⟨e, he, rfl, hd⟩

theorem sim_drop (h : Sim s r) (k : Key) : Sim (deleteNode s k) (r.drop k) := by
  have hsub : ∀ e ∈ (r.drop k).entries, e ∈ r.entries := fun e he => (List.mem_filter.mp he).1
  have hlru : (deleteNode s k).lru = s.lru.erase k := by
    unfold deleteNode
    cases hc : alookup k s.primary with
    | none => exact (List.erase_of_not_mem fun hm => alookup_none_iff.mp hc ((h.inv.lruMem k).mp hm)).symm
    | some c => rfl
  have hto : (deleteNode s k).timeout.Sublist s.timeout := by
    unfold deleteNode
    cases alookup k s.primary with
    | none => exact .refl _
    | some c => exact List.erase_sublist
  refine ⟨inv_deleteNode h.inv k, ?_, fun e he => ?_, (h.tord.sublist hto).imp (TOrd.mono hsub),
    fun e he => h.fresh e (hsub e he), h.lim.trans (config_deleteNode s k).1.symm,
    h.gen.trans (generation_deleteNode s k).symm⟩
  · rw [hlru, h.inv.lruNodup.erase_eq_filter, ← h.order, Ref.drop, List.filter_map]; rfl
  · rw [alookup_deleteNode h.inv, if_neg (by simpa [Ref.drop] using (List.mem_filter.mp he).2)]
    exact h.data e (hsub e he)

theorem before_asymm {a b : REntry} (h : Ref.before a b = true) : Ref.before b a = false := by
  simp only [Ref.before, Bool.or_eq_true, decide_eq_true_eq, Bool.and_eq_true, beq_iff_eq] at h
  simp only [Ref.before, Bool.or_eq_false_iff, decide_eq_false_iff_not, Bool.and_eq_false_iff, beq_eq_false_iff_ne, ne_eq]
  rcases h with h | ⟨h1, h2⟩
  · exact ⟨Int.lt_asymm h, Or.inl (Int.ne_of_lt h).symm⟩
  · exact ⟨by rw [h1]; exact Int.lt_irrefl _, Or.inr (Nat.lt_asymm h2)⟩

theorem minBy_mem {l : List REntry} {e : REntry} (h : Ref.minBy l = some e) : e ∈ l := by
  fun_induction Ref.minBy l with
  | case1 => cases h
  | case2 a l _ _ => cases h; exact .head _
  | case3 a l b _ _ _ => cases h; exact .head _
  | case4 a l b hb _ ih => cases h; exact .tail _ (ih hb)

theorem minBy_least {l : List REntry} {e0 : REntry} (hm : e0 ∈ l)
    (hl : ∀ x ∈ l, x ≠ e0 → Ref.before e0 x = true) : Ref.minBy l = some e0 := by
  induction l with
  | nil => cases hm
  | cons a l ih =>
    unfold Ref.minBy
    by_cases ha : a = e0
    · subst ha
      cases hb : Ref.minBy l with
      | none => rfl
      | some b =>
        dsimp only
        by_cases hba : b = a
        · subst hba; split <;> rfl
        · rw [if_pos (hl b (.tail _ (minBy_mem hb)) hba)]
    · have hm' : e0 ∈ l := (List.mem_cons.mp hm).resolve_left fun h => ha h.symm
      rw [ih hm' (fun x hx => hl x (.tail _ hx))]
      dsimp only
      rw [if_neg (by rw [before_asymm (hl a (.head _) ha)]; exact Bool.false_ne_true)]

theorem sim_victim (h : Sim s r) (now : Time) : victim s now = r.victim now := by
  -- By `tord` the head of the timeout index is `before` every other entry: expired, it is `minBy` of the expired ones;
  -- not expired, none is, and both sides take the LRU tail.
  rw [victim_eq, Ref.victim]
  have hlast : s.lru.getLast? = r.entries.getLast?.map (·.key) := by
    rw [← h.order, List.getLast?_map]
  cases hto : s.timeout with
  | nil =>
    have hl : r.entries = [] := by
      cases he : r.entries with
      | nil => rfl
      | cons e es =>
        have hm := (h.inv.toMem e.deadline e.key).mpr ⟨_, h.data e (he ▸ .head _), rfl⟩
        rw [hto] at hm; cases hm
    rw [hl, hlast, hl]; rfl
  | cons p rest =>
    obtain ⟨d, k⟩ := p
    obtain ⟨e0, he0, rfl, rfl⟩ := h.timeout_entry (hto ▸ .head _ : (d, k) ∈ s.timeout)
    have hpw := h.tord
    rw [hto, List.pairwise_cons] at hpw
    have hmin : ∀ x ∈ r.entries, x ≠ e0 → Ref.before e0 x = true := by
      intro x hx hne
      have hxm : (x.deadline, x.key) ∈ s.timeout := (h.inv.toMem _ _).mpr ⟨_, h.data x hx, rfl⟩
      rw [hto] at hxm
      rcases List.mem_cons.mp hxm with e | e
      · exact absurd (h.key_inj hx he0 (congrArg Prod.snd e)) hne
      · exact hpw.1 _ e e0 he0 x hx rfl rfl
    by_cases hd : e0.deadline < now
    · have hf : e0 ∈ r.entries.filter (fun e => decide (e.deadline < now)) :=
        List.mem_filter.mpr ⟨he0, decide_eq_true hd⟩
      have := minBy_least hf (fun x hx hne => hmin x (List.mem_filter.mp hx).1 hne)
      dsimp only
      rw [if_pos hd, this]
    · have hf : r.entries.filter (fun e => decide (e.deadline < now)) = [] := by
        rw [List.filter_eq_nil_iff]
        intro x hx
        rw [decide_eq_true_eq]
        by_cases hxe : x = e0
        · exact hxe ▸ hd
        · have := hmin x hx hxe
          simp only [Ref.before, Bool.or_eq_true, decide_eq_true_eq, Bool.and_eq_true, beq_iff_eq] at this
          rcases this with h1 | ⟨h1, _⟩
          · exact Int.not_lt.mpr (Int.le_trans (Int.not_lt.mp hd) (Int.le_of_lt h1))
          · exact h1 ▸ hd
      dsimp only
      rw [if_neg hd, hf, hlast]; rfl

theorem Sim.size_eq (h : Sim s r) : s.size = r.entries.length := by
  rw [h.inv.sizeEq, ← List.length_map (f := Prod.fst), (keys_perm h.inv).length_eq, ← h.order, List.length_map]

theorem Sim.count_eq (h : Sim s r) : s.trigCount = (r.entries.map (·.trigs.length)).sum := by
  let g : Key → Nat := fun k => ((alookup k s.primary).map (·.trigs.length)).getD 0
  have e1 : s.primary.map (fun p => p.2.trigs.length) = (s.primary.map Prod.fst).map g := by
    rw [List.map_map]
    refine List.map_congr_left fun p hp => ?_
    simp [g, mem_alookup h.inv.keys hp]
  have e2 : r.entries.map (·.trigs.length) = s.lru.map g := by
    rw [← h.order, List.map_map]
    refine List.map_congr_left fun e he => ?_
    simp [g, h.data e he, contOf]
  rw [h.inv.countEq, e1, e2]
  exact ((keys_perm h.inv).map g).sum_nat

theorem checkLimitsLoop_allFalse (fuel : Nat) (s : State) (now : Time) (mem : List Bool) (hm : ∀ b ∈ mem, b = false) :
    checkLimitsLoop fuel s now mem = checkLimitsLoop fuel s now [] := by
  induction fuel generalizing s mem with
  | zero => rfl
  | succ n ih =>
    have h0 : mem.headD false = false := by
      cases mem with
      | nil => rfl
      | cons b t => exact hm b (.head _)
    have h1 : ([] : List Bool).headD false = false := rfl
    unfold checkLimitsLoop
    rw [h0, h1]
    split
    · split
      · rw [ih _ _ fun b hb => hm b (List.mem_of_mem_tail hb)]; rfl
      · rfl
    · rfl

theorem sim_makeRoom (h : Sim s r) (fuel : Nat) (now : Time) (mem : List Bool) :
    Sim (checkLimitsLoop fuel s now mem) (Ref.makeRoom fuel r now mem) := by
  induction fuel generalizing s r mem with
  | zero => exact h
  | succ n ih =>
    unfold checkLimitsLoop Ref.makeRoom
    have hc : (Gen.limitsLoopCond s.size s.limit (mem.headD false) = true) ↔
        (r.entries.length > 0 ∧ (mem.headD false = true ∨ (r.limit > 0 ∧ r.entries.length ≥ r.limit))) := by
      simp only [Gen.limitsLoopCond, Bool.and_eq_true, Bool.or_eq_true, decide_eq_true_eq, h.size_eq, h.lim,
        and_comm (a := s.limit > 0)]
    rw [sim_victim h now]
    by_cases hcond : r.entries.length > 0 ∧ (mem.headD false = true ∨ (r.limit > 0 ∧ r.entries.length ≥ r.limit))
    · rw [if_pos (hc.mpr hcond), if_pos hcond]
      cases r.victim now with
      | none => exact h
      | some k => exact ih (sim_drop h k) mem.tail
    · rw [if_neg (mt hc.mp hcond), if_neg hcond]
      exact h

theorem sim_insert (h : Sim s r) {k : Key} (hk : alookup k s.primary = none)
    (v : Val) (trigs : List Key) (d : Time) (gen : Option Gen) :
    Sim (insertEntry s k v trigs d gen) (r.insertEntry k v trigs d gen) := by
  have hkn : ∀ e ∈ r.entries, e.key ≠ k := fun e he hek => by
    cases (h.data e he).symm.trans (hek ▸ hk)
  -- The new node is put behind the nodes with deadline ≤ `d`: its entry has the fresh sequence number `nextSeq`,
  -- larger than every old one, so the old entries with deadline ≤ `d` are `before` it and it is `before` the rest.
  -- By key: the new entry is the one for `k`, the old entries are those for the keys in the timeout index.
  have hnew : ∀ e ∈ (r.insertEntry k v trigs d gen).entries, e.key = k → e.deadline = d ∧ e.seq = r.nextSeq :=
    fun e he hek => by
      rcases List.mem_cons.mp he with rfl | he
      · exact ⟨rfl, rfl⟩
      · exact absurd hek (hkn e he)
  have hold : ∀ x ∈ s.timeout, ∀ e ∈ (r.insertEntry k v trigs d gen).entries, e.key = x.2 →
      e ∈ r.entries ∧ e.deadline = x.1 := fun x hx e he hek => by
    obtain ⟨e', he', hek', hd'⟩ := h.timeout_entry (show (x.1, x.2) ∈ s.timeout from hx)
    rcases List.mem_cons.mp he with rfl | he
    · exact absurd (hek.trans hek'.symm) (hkn e' he').symm
    · exact ⟨he, h.key_inj he he' (hek.trans hek'.symm) ▸ hd'⟩
  refine ⟨inv_insertEntry h.inv hk v trigs d gen, congrArg (k :: ·) h.order, fun e he => ?_, ?_, fun e he => ?_,
    h.lim, ?_⟩
  · rcases List.mem_cons.mp he with rfl | he
    · simp [insertEntry, contOf, containerTrigs_eq, h.gen]
    · show alookup e.key ((k, _) :: s.primary) = _
      rw [alookup_cons, if_neg (hkn e he).symm]
      exact h.data e he
  · refine tinsert_pairwise h.inv.toSorted (h.tord.imp_of_mem fun {a b} ha hb hab ea hea eb heb heka hekb =>
      hab ea (hold a ha ea hea heka).1 eb (hold b hb eb heb hekb).1 heka hekb) ?_ ?_
    all_goals
      intro x hx hxd ea hea eb heb heka hekb
      simp only [Ref.before, Bool.or_eq_true, decide_eq_true_eq, Bool.and_eq_true, beq_iff_eq]
    · obtain ⟨hea, hda⟩ := hold x hx ea hea heka
      obtain ⟨hdb, hsb⟩ := hnew eb heb hekb
      rw [hda, hdb, hsb]
      exact (Int.lt_or_eq_of_le hxd).imp_right (⟨·, h.fresh ea hea⟩)
    · rw [(hnew ea hea heka).1, (hold x hx eb heb hekb).2]
      exact .inl hxd
  · rcases List.mem_cons.mp he with rfl | he
    · exact Nat.lt_succ_self _
    · exact Nat.lt_succ_of_lt (h.fresh e he)
  · show (if gen.isNone then r.generation + 1 else r.generation) = (if gen.isNone then s.generation + 1 else s.generation)
    rw [h.gen]

theorem sim_touch (h : Sim s r) {k : Key} {e : REntry} (he : r.find k = some e) :
    Sim { s with lru := k :: s.lru.erase k } { (r.drop k) with entries := e :: (r.drop k).entries } := by
  obtain ⟨hc, rfl, hem⟩ := h.find_some he
  have hsub : ∀ e' ∈ e :: (r.drop e.key).entries, e' ∈ r.entries := fun e' he' =>
    (List.mem_cons.mp he').elim (· ▸ hem) fun he' => (List.mem_filter.mp he').1
  refine ⟨inv_touch h.inv (alookup_isSome_iff.mp (hc ▸ rfl)), ?_, fun e' he' => h.data e' (hsub e' he'),
    h.tord.imp (TOrd.mono hsub), fun e' he' => h.fresh e' (hsub e' he'), h.lim, h.gen⟩
  show e.key :: (r.drop e.key).entries.map (·.key) = e.key :: s.lru.erase e.key
  rw [h.inv.lruNodup.erase_eq_filter, ← h.order, Ref.drop, List.filter_map]; rfl

theorem foldl_drop_eq (r : Ref) (K : List Key) :
    K.foldl Ref.drop r = { r with entries := r.entries.filter (fun e => !K.contains e.key) } := by
  induction K generalizing r with
  | nil => exact congrArg (fun l => { r with entries := l }) (List.filter_eq_self.mpr fun _ _ => rfl).symm
  | cons k K ih =>
    rw [List.foldl_cons, ih]
    simp only [Ref.drop, List.filter_filter]
    congr 1
    refine List.filter_congr fun e _ => ?_
    by_cases h1 : e.key = k <;> simp [h1]

theorem sim_foldl_drop (h : Sim s r) (K : List Key) :
    Sim (K.foldl deleteNode s) (K.foldl Ref.drop r) := by
  induction K generalizing s r with
  | nil => exact h
  | cons k K ih => exact ih (sim_drop h k)

theorem sim_rise (h : Sim s r) (t : Key) :
    Sim (rise s t) { r with entries := r.entries.filter (fun e => !e.trigs.contains t) } := by
  have := sim_foldl_drop h (trigList t s.triggers)
  rw [foldl_drop_eq] at this
  -- the keys hanging off trigger `t` are those of the entries that have `t` among their triggers
  have e : r.entries.filter (fun e => !(trigList t s.triggers).contains e.key) =
      r.entries.filter (fun e => !e.trigs.contains t) := List.filter_congr fun e he => by
    congr 1
    rw [Bool.eq_iff_iff, List.contains_iff_mem, List.contains_iff_mem, h.inv.trMem, h.data e he]
    exact ⟨fun ⟨_, hc, ht⟩ => by cases hc; exact ht, fun ht => ⟨_, rfl, ht⟩⟩
  rwa [e] at this

/-- `C07.refused_of_none` -/
theorem refused_of_none' {s : State} (h : s.sizeLimit = none) : refused s = false := refused_of_none h

/-- the size cap (`size > size_limit()`, process-shared back-end) would refuse this store -/
def refusedIn (s : State) : Op → Bool
  | .store _ k _ _ _ _ _ => refused (deleteNode s k)
  | _ => false

theorem sim_step (h : Sim s r) (op : Op) (hnr : refusedIn s op = false) :
    Sim (step s op).1 (r.step op).1 ∧ (step s op).2 = (r.step op).2 := by
  have hempty : ∀ (s' : State) (g g' : Gen), s'.limit = s.limit → g' = g →
      Sim (nlClear { s' with generation := g }) { r with entries := [], generation := g' } := fun _ _ _ hl hg =>
    { inv := inv_nlClear _, order := rfl, data := (fun _ h => nomatch h), tord := .nil, fresh := (fun _ h => nomatch h),
      lim := h.lim.trans hl.symm, gen := hg }
  cases op with
  | fetch now k =>
    simp only [step, fetch, Ref.step]
    cases hf : r.find k with
    | none => simp only [h.find_none hf]; exact ⟨h, trivial⟩
    | some e =>
      simp only [(h.find_some hf).1, Gen.fetchExpired, contOf]
      by_cases hd : e.deadline < now
      · simp only [hd, decide_true, if_true]; exact ⟨h, trivial⟩
      · simp only [hd, decide_false, Bool.false_eq_true, if_false]; exact ⟨sim_touch h hf, trivial⟩
  | store now k v trigs d gen env =>
    have hr : refused (deleteNode s k) = false := hnr
    have h1 := sim_drop h k
    cases store_cases s now k v trigs d gen env with simp only [step, eq, Ref.step]
    | dropped _ why eq =>
      -- the value copy failed (the size cap is excluded by `hnr`)
      rcases why with copyFails | ⟨_, hrefused⟩
      · rw [if_pos copyFails]; exact ⟨h1, rfl⟩
      · cases hr.symm.trans hrefused
    | failed _ copied _ b late eq =>
      simp only [copied, late, Bool.false_eq_true, if_false]
      exact ⟨hempty _ _ _ (config_deleteNode s k).1 (by rw [h.gen, generation_deleteNode]), trivial⟩
    | performed _ copied _ late eq =>
      simp only [copied, late, Bool.false_eq_true, if_false]
      rw [← h1.size_eq]
      have h2 := sim_makeRoom h1 (deleteNode s k).size now env.lowMem
      obtain ⟨ks, e⟩ := checkLimits_deleteNode_eq s k now env.lowMem
      exact ⟨sim_insert h2 (by rw [show checkLimitsLoop _ _ _ _ = _ from e, alookup_foldl_deleteNode h.inv,
        if_pos (.head _)]) v trigs d gen, trivial⟩
  | rise t => exact ⟨sim_rise h t, rfl⟩
  | remove k => exact ⟨sim_drop h k, rfl⟩
  | clear => exact ⟨hempty s _ _ rfl h.gen, rfl⟩
  | stats => exact ⟨h, by simp only [step, Ref.step]; rw [h.size_eq, h.count_eq]⟩

def refRun (r : Ref) (ops : List Op) : Ref := ops.foldl (fun r op => (r.step op).1) r

theorem sim_init (limit : Nat) (sl : Option Nat) : Sim (State.init limit sl) { limit := limit } :=
  { inv := C07.inv_init limit sl, order := rfl, data := (fun _ h => nomatch h), tord := .nil, fresh := (fun _ h => nomatch h),
    lim := rfl, gen := rfl }

theorem sim_run (h : Sim s r) (ops : List Op)
    (hnr : ∀ a op b, ops = a ++ op :: b → refusedIn (run s a) op = false) : Sim (run s ops) (refRun r ops) := by
  induction ops generalizing s r with
  | nil => exact h
  | cons op ops ih =>
    exact ih (sim_step h op (hnr [] op ops rfl)).1 fun a o b e => hnr (op :: a) o b (e ▸ rfl)

theorem refusedIn_of_none {s : State} (h : s.sizeLimit = none) (op : Op) : refusedIn s op = false := by
  cases op with
  | store now k v trigs d gen env => exact refused_of_none ((config_deleteNode s k).2.trans h)
  | _ => rfl

end Cppcms.C08
