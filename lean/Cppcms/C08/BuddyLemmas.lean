import Cppcms.C08.Buddy
/-! # C08 — the buddy allocator: `allocAt`/`freeAt` on trees and arena (used blocks, normal form); then, independent of
the trees, arithmetic of the generated expressions (`get_buddy`'s xor, `malloc`'s order, the memory-pressure test) -/
namespace Cppcms.C08.Buddy
open Cppcms

theorem normal_mk {l r : T} (hl : Normal l) (hr : Normal r) : Normal (mk l r) := by
  unfold mk
  split
  · trivial
  · next h => exact ⟨hl, hr, h⟩

theorem hasUsed_mk (l r : T) : hasUsed (mk l r) = (hasUsed l || hasUsed r) := by
  unfold mk
  split
  · next h => rw [h.1, h.2]; rfl
  · rfl

theorem usedBlocks_mk (n base : Nat) (l r : T) :
    usedBlocks n base (mk l r) = usedBlocks (n - 1) base l ++ usedBlocks (n - 1) (base + 2 ^ (n - 1)) r := by
  unfold mk
  split
  · next h => rw [h.1, h.2]; rfl
  · rfl

theorem hasUsed_false_iff (n base : Nat) (t : T) : hasUsed t = false ↔ usedBlocks n base t = [] := by
  induction t generalizing n base with
  | free => exact ⟨fun _ => rfl, fun _ => rfl⟩
  | used => exact ⟨nofun, nofun⟩
  | node l r ihl ihr =>
    rw [hasUsed, Bool.or_eq_false_iff, usedBlocks, List.append_eq_nil_iff, ihl (n - 1) base, ihr (n - 1) (base + 2 ^ (n - 1))]

theorem ne_free_of_perm {n base : Nat} {t : T} {b : Nat × Nat} {l : List (Nat × Nat)}
    (h : (usedBlocks n base t).Perm (b :: l)) : t ≠ .free := by
  rintro rfl; cases h.nil_eq

theorem allocAt_spec {n : Nat} {t : T} {k off : Nat} {t' : T} (h : allocAt n t k off = some t') (base : Nat) :
    (usedBlocks n base t').Perm ((base + off, k) :: usedBlocks n base t) ∧ (Normal t → Normal t') := by
  fun_induction allocAt n t k off generalizing t' base with
  | case1 t k off hc =>  -- order 0
    obtain ⟨rfl, rfl, rfl⟩ := hc; cases h; exact ⟨.refl _, fun _ => trivial⟩
  | case3 n t off hc =>  -- the block of this order
    obtain ⟨rfl, rfl⟩ := hc; cases h; exact ⟨.refl _, fun _ => trivial⟩
  | case2 | case4 | case5 => cases h  -- not a free region
  | case6 n k off _ _ ih =>  -- split a free block, go left
    obtain ⟨l, hl, rfl⟩ := Option.map_eq_some_iff.mp h
    obtain ⟨hp, hn⟩ := ih hl base
    exact ⟨hp.append_right [], fun _ => ⟨hn trivial, trivial, fun hh => ne_free_of_perm hp hh.1⟩⟩
  | case7 n k off _ hlt ih =>  -- split a free block, go right
    obtain ⟨r, hr, rfl⟩ := Option.map_eq_some_iff.mp h
    obtain ⟨hp, hn⟩ := ih hr (base + 2 ^ n)
    rw [show base + 2 ^ n + (off - 2 ^ n) = base + off by omega] at hp
    exact ⟨hp, fun _ => ⟨trivial, hn trivial, fun hh => ne_free_of_perm hp hh.2⟩⟩
  | case8 n k off _ l r _ ih =>  -- node, go left
    obtain ⟨l', hl, rfl⟩ := Option.map_eq_some_iff.mp h
    obtain ⟨hp, hn⟩ := ih hl base
    exact ⟨hp.append_right _, fun ⟨nl, nr, _⟩ => ⟨hn nl, nr, fun hh => ne_free_of_perm hp hh.1⟩⟩
  | case9 n k off _ l r hlt ih =>  -- node, go right
    obtain ⟨r', hr, rfl⟩ := Option.map_eq_some_iff.mp h
    obtain ⟨hp, hn⟩ := ih hr (base + 2 ^ n)
    rw [show base + 2 ^ n + (off - 2 ^ n) = base + off by omega] at hp
    exact ⟨(hp.append_left _).trans List.perm_middle, fun ⟨nl, nr, _⟩ => ⟨nl, hn nr, fun hh => ne_free_of_perm hp hh.2⟩⟩

theorem freeAt_spec {n : Nat} {t : T} {off : Nat} {t' : T} {k : Nat} (h : freeAt n t off = some (t', k)) (base : Nat) :
    (usedBlocks n base t).Perm ((base + off, k) :: usedBlocks n base t') ∧ (Normal t → Normal t') := by
  fun_induction freeAt n t off generalizing t' k base with
  | case1 n => cases h; exact ⟨.refl _, fun _ => trivial⟩
  | case2 | case3 => cases h
  | case4 n l r off _ ih =>  -- left
    obtain ⟨p, hp, e⟩ := Option.map_eq_some_iff.mp h
    cases e
    obtain ⟨hp, hn⟩ := ih (t' := p.1) (k := p.2) hp base
    rw [usedBlocks_mk]
    exact ⟨hp.append_right _, fun ⟨nl, nr, _⟩ => normal_mk (hn nl) nr⟩
  | case5 n l r off hlt ih =>  -- right
    obtain ⟨p, hp, e⟩ := Option.map_eq_some_iff.mp h
    cases e
    obtain ⟨hp, hn⟩ := ih (t' := p.1) (k := p.2) hp (base + 2 ^ (n - 1))
    rw [show base + 2 ^ (n - 1) + (off - 2 ^ (n - 1)) = base + off by omega] at hp
    rw [usedBlocks_mk]
    exact ⟨(hp.append_left _).trans List.perm_middle, fun ⟨nl, nr, _⟩ => normal_mk nl (hn nr)⟩

/-- **uniqueness of the coalesced form**: a tree in normal form with no block in use is one free block -/
theorem normal_noUsed_eq_free {t : T} (hn : Normal t) (hu : hasUsed t = false) : t = .free := by
  induction t with
  | free => rfl
  | used => cases hu
  | node l r ihl ihr =>
    rw [hasUsed, Bool.or_eq_false_iff] at hu
    exact absurd ⟨ihl hn.1 hu.1, ihr hn.2.1 hu.2⟩ hn.2.2

theorem Arena.normal_cons {c : Chunk} {cs : Arena} : Arena.Normal (c :: cs) ↔ Buddy.Normal c.tree ∧ Arena.Normal cs :=
  List.forall_mem_cons

theorem Arena.allocAt_spec {a a' : Arena} {k off : Nat} (h : a.allocAt k off = some a') :
    a'.skeleton = a.skeleton ∧ (a.Normal → a'.Normal) ∧ a'.usedBlocks.Perm ((off, k) :: a.usedBlocks) := by
  induction a generalizing a' with
  | nil => cases h
  | cons c cs ih =>
    unfold Arena.allocAt at h
    split at h
    · next hin =>
      obtain ⟨t, ht, rfl⟩ := Option.map_eq_some_iff.mp h
      obtain ⟨hp, hn⟩ := Buddy.allocAt_spec ht c.base
      rw [show c.base + (off - c.base) = off by omega] at hp
      exact ⟨rfl, fun hc => Arena.normal_cons.mpr ⟨hn (Arena.normal_cons.mp hc).1, (Arena.normal_cons.mp hc).2⟩,
        hp.append_right _⟩
    · obtain ⟨cs', hcs, rfl⟩ := Option.map_eq_some_iff.mp h
      obtain ⟨h1, h2, h3⟩ := ih hcs
      exact ⟨congrArg (_ :: ·) h1, fun hc => Arena.normal_cons.mpr ⟨(Arena.normal_cons.mp hc).1, h2 (Arena.normal_cons.mp hc).2⟩,
        (h3.append_left _).trans List.perm_middle⟩

theorem Arena.freeAt_spec {a a' : Arena} {off k : Nat} (h : a.freeAt off = some (a', k)) :
    a'.skeleton = a.skeleton ∧ (a.Normal → a'.Normal) ∧ a.usedBlocks.Perm ((off, k) :: a'.usedBlocks) := by
  induction a generalizing a' with
  | nil => cases h
  | cons c cs ih =>
    unfold Arena.freeAt at h
    split at h
    · next hin =>
      obtain ⟨p, hp, e⟩ := Option.map_eq_some_iff.mp h
      cases e
      obtain ⟨hp, hn⟩ := Buddy.freeAt_spec (t' := p.1) (k := p.2) hp c.base
      rw [show c.base + (off - c.base) = off by omega] at hp
      exact ⟨rfl, fun hc => Arena.normal_cons.mpr ⟨hn (Arena.normal_cons.mp hc).1, (Arena.normal_cons.mp hc).2⟩,
        hp.append_right _⟩
    · obtain ⟨p, hp, e⟩ := Option.map_eq_some_iff.mp h
      cases e
      obtain ⟨h1, h2, h3⟩ := ih (a' := p.1) hp
      exact ⟨congrArg (_ :: ·) h1, fun hc => Arena.normal_cons.mpr ⟨(Arena.normal_cons.mp hc).1, h2 (Arena.normal_cons.mp hc).2⟩,
        (h3.append_left _).trans List.perm_middle⟩

theorem Arena.step_spec {a a' : Arena} {op : BOp} (h : a.step op = some a') :
    a'.skeleton = a.skeleton ∧ (a.Normal → a'.Normal) := by
  cases op with
  | alloc k off => exact ⟨(Arena.allocAt_spec h).1, (Arena.allocAt_spec h).2.1⟩
  | free off =>
    obtain ⟨p, hp, rfl⟩ := Option.map_eq_some_iff.mp h
    exact ⟨(Arena.freeAt_spec (a' := p.1) hp).1, (Arena.freeAt_spec (a' := p.1) hp).2.1⟩

theorem Arena.run_spec {a a' : Arena} {ops : List BOp} (h : a.run ops = some a') :
    a'.skeleton = a.skeleton ∧ (a.Normal → a'.Normal) := by
  induction ops generalizing a with
  | nil => cases h; exact ⟨rfl, id⟩
  | cons op ops ih =>
    unfold Arena.run at h
    cases hs : a.step op with
    | none => rw [hs] at h; cases h
    | some a1 =>
      rw [hs] at h
      obtain ⟨s1, n1⟩ := Arena.step_spec hs
      obtain ⟨s2, n2⟩ := ih h
      exact ⟨s2.trans s1, n2 ∘ n1⟩

theorem Arena.allFree_of_noUsed {a : Arena} (hn : a.Normal) (hu : a.usedBlocks = []) : a.AllFree := fun c hc =>
  normal_noUsed_eq_free (hn c hc) ((hasUsed_false_iff c.order c.base c.tree).mpr (List.flatMap_eq_nil_iff.mp hu c hc))

theorem Arena.eq_of_skeleton_allFree {a b : Arena} (hs : a.skeleton = b.skeleton) (ha : a.AllFree) (hb : b.AllFree) :
    a = b := by
  induction a generalizing b with
  | nil => cases b with
    | nil => rfl
    | cons c cs => cases hs
  | cons c cs ih =>
    cases b with
    | nil => cases hs
    | cons d ds =>
      obtain ⟨h1, h2⟩ := List.cons.inj hs
      obtain ⟨o, p, t⟩ := c
      obtain ⟨o', p', t'⟩ := d
      cases h1
      cases ha _ (.head _)
      cases hb _ (.head _)
      rw [ih h2 (fun x hx => ha x (.tail _ hx)) (fun x hx => hb x (.tail _ hx))]

theorem initChunks_allFree (fuel pos rem : Nat) : Arena.AllFree (initChunks fuel pos rem) := by
  induction fuel generalizing pos rem with
  | zero => exact nofun
  | succ n ih =>
    unfold initChunks
    dsimp only
    split
    · exact nofun
    · exact List.forall_mem_cons.mpr ⟨rfl, ih _ _⟩

theorem init_normal (usable : Nat) : (init usable).Normal := fun c hc => by
  rw [initChunks_allFree 64 0 usable c hc]; trivial

/-! arithmetic of the generated expressions -/

theorem one_xor (q : Nat) : 1 ^^^ (2 * q) = 2 * q + 1 ∧ 1 ^^^ (2 * q + 1) = 2 * q := by
  have h : (2 * q + 1) / 2 = q := by omega
  constructor <;> apply Nat.eq_of_testBit_eq <;> intro i <;> cases i <;>
    simp [Nat.testBit_zero, Nat.testBit_succ, Nat.xor_div_two, h]

/-- `get_buddy`'s `p_len xor p_ptr` on a block of order `k` with index `m` flips the lowest bit of the index -/
theorem buddyOf_mul (m k : Nat) : Gen.buddyOf (2 ^ k) (m * 2 ^ k) = (1 ^^^ m) * 2 ^ k := by
  show 2 ^ k ^^^ m * 2 ^ k = _
  rw [← Nat.shiftLeft_eq, ← Nat.shiftLeft_eq, ← Nat.one_shiftLeft, ← Nat.shiftLeft_xor_distrib]

theorem foldl_max_spec (l : List Nat) (init : Nat) :
    init ≤ l.foldl max init ∧ (∀ x ∈ l, x ≤ l.foldl max init) ∧ (l.foldl max init = init ∨ l.foldl max init ∈ l) := by
  induction l generalizing init with
  | nil => exact ⟨Nat.le_refl _, nofun, .inl rfl⟩
  | cons a l ih =>
    obtain ⟨h1, h2, h3⟩ := ih (max init a)
    refine ⟨Nat.le_trans (Nat.le_max_left ..) h1, fun x hx => ?_, ?_⟩
    · rcases List.mem_cons.mp hx with rfl | hx
      · exact Nat.le_trans (Nat.le_max_right ..) h1
      · exact h2 x hx
    · rcases h3 with h | h
      · rw [List.foldl_cons, h]
        rcases Nat.le_total init a with h' | h'
        · exact .inr (by rw [Nat.max_eq_right h']; exact .head _)
        · exact .inl (Nat.max_eq_left h')
      · exact .inr (.tail _ h)

theorem not_low_of_free_block {a : Arena} {segment off b : Nat} (hm : (off, b) ∈ a.freeBlocks)
    (hpos : 0 < segment / 10) (hb : segment / 10 ≤ 2 ^ b - Gen.alignment) : a.notEnoughMemory segment = false := by
  unfold Arena.notEnoughMemory Cppcms.C07.Gen.processNotEnoughMemory Arena.maxFreeChunk
  obtain ⟨_, hge, hmem⟩ := foldl_max_spec (a.freeBlocks.map (·.2)) 0
  have hge := hge b (List.mem_map_of_mem hm)
  have hb1 : 1 ≤ b := by
    rcases Nat.eq_zero_or_pos b with rfl | e
    · simp [Gen.alignment, Gen.alignmentBits] at hb; omega
    · exact e
  generalize (a.freeBlocks.map (·.2)).foldl max 0 = M at hge hmem
  -- the largest free order `M` is at least `b`, and some free block has it
  obtain ⟨x, hx, rfl⟩ := List.mem_map.mp (hmem.resolve_left (by omega))
  have hlen : 1 ≤ (a.freeBlocks.filter (·.2 == x.2)).length :=
    List.length_pos_of_mem (List.mem_filter.mpr ⟨hx, beq_self_eq_true _⟩)
  have hpow : 2 ^ b ≤ 2 ^ x.2 := Nat.pow_le_pow_right (by decide) hge
  cases hM : x.2 with
  | zero => omega
  | succ M' =>
    rw [hM] at hlen hpow
    simp only [decide_eq_false_iff_not, Nat.not_lt]
    calc segment / 10 ≤ 2 ^ b - Gen.alignment := hb
      _ ≤ 2 ^ (M' + 1) - Gen.alignment := Nat.sub_le_sub_right hpow _
      _ = 1 * (2 ^ (M' + 1) - Gen.alignment) := (Nat.one_mul _).symm
      _ ≤ (a.freeBlocks.filter (·.2 == M' + 1)).length * (2 ^ (M' + 1) - Gen.alignment) := Nat.mul_le_mul_right _ hlen

/-- by the clamp in `malloc` the padded request is at least 32, so `get_bits` is in its `log2` branch -/
theorem orderOf_eq (required : Nat) :
    32 ≤ Gen.blockSize required ∧ orderOf required = Nat.log2 (Gen.blockSize required - 1) + 1 := by
  have h32 : 32 ≤ Gen.blockSize required := by
    unfold Gen.blockSize
    split
    · decide
    · next h => exact Nat.not_lt.mp h
  refine ⟨h32, ?_⟩
  unfold orderOf orderOfSize
  rw [if_pos (show Gen.getBitsInclusive = true from rfl), if_neg (by omega)]

end Cppcms.C08.Buddy
