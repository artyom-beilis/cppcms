import Cppcms.C08.BuddyLemmas
import Cppcms.C08.Sim
/-!
# C08 — property theorems

"The cache stays within its limit; evicts expired, then least-recently-used."

Same concrete model as C07 (`Cppcms.C07.Model`, conditions regenerated from
`src/cache_storage.cpp`).  Statements are over every history, both back-ends and every allocation
outcome (`StoreEnv`, `lowMem`); the bounds need `0 < limit`, `matches_reference` that the size cap never fires.

The last section is about the buddy allocator behind the process-shared variant (`Buddy.lean`; the allocator's
*choice* of block is an oracle, see there).  `timeout_insert_after_equal`, `buddy_init_normal`,
`pressure_off_when_chunk_free` are `C07.tinsert_eq`, `Buddy.init_normal`, `Buddy.not_low_of_free_block`.
-/
namespace Cppcms.C08.Props
open Cppcms Cppcms.C07 Cppcms.C08

abbrev reach (limit : Nat) (sl : Option Nat) (ops : List Op) : State := run (State.init limit sl) ops

/-- with a limit of `n > 0` entries the cache never holds more than `n`, after any history -/
theorem size_le_limit (limit : Nat) (hl : 0 < limit) (sl : Option Nat) (ops : List Op) :
    (reach limit sl ops).primary.length ≤ limit ∧ (reach limit sl ops).size ≤ limit := by
  obtain ⟨hinv, hle⟩ := run_ind (P := fun s => Inv s ∧ (0 < s.limit → s.size ≤ s.limit))
    (fun s op _ h => ⟨inv_step h.1 op, sizeOk_step h.1 h.2 op⟩) ⟨C07.inv_init limit sl, fun _ => Nat.zero_le _⟩
  have hcfg : (reach limit sl ops).limit = limit := (config_run _ ops).1
  rw [hcfg] at hle
  exact ⟨hinv.sizeEq ▸ hle hl, hle hl⟩

/-- what `stats` reports as key count respects the limit -/
theorem stats_keys_le_limit (limit : Nat) (hl : 0 < limit) (sl : Option Nat) (ops : List Op) (n m : Nat)
    (h : (step (reach limit sl ops) .stats).2 = .stats n m) : n ≤ limit := by
  simp only [step] at h
  cases h
  exact (size_le_limit limit hl sl ops).2

/-- `check_limits` leaves room for the entry about to be inserted (also under memory pressure) -/
theorem check_limits_makes_room {s : State} (h : Inv s) (now : Time) (mem : List Bool) (hl : 0 < s.limit) :
    (checkLimits s now mem).size < s.limit :=
  checkLimitsLoop_size h _ now mem (Nat.le_refl _) hl

/-- One iteration of `check_limits`: while the guard holds (entries at/over the limit, or the
allocator reports low memory) the entry deleted is `victim`, then the loop continues. -/
theorem check_limits_evicts_victim {s : State} (h : Inv s) (now : Time) (mem : List Bool)
    (hc : Gen.limitsLoopCond s.size s.limit (mem.headD false) = true) :
    ∃ k c, victim s now = some k ∧ alookup k s.primary = some c ∧
      checkLimits s now mem = checkLimits (deleteNode s k) now mem.tail := by
  obtain ⟨k, c, hv, hk, e⟩ := checkLimitsLoop_evict h (now := now) hc (s.size - 1)
  refine ⟨k, c, hv, hk, ?_⟩
  have hpos := size_pos_of_cond hc
  rw [checkLimits, checkLimits, size_deleteNode_of_mem hk, ← e, Nat.sub_add_cancel hpos]

/-- when the guard of `check_limits` does not hold nothing is evicted -/
theorem check_limits_stops {s : State} (now : Time) (mem : List Bool)
    (hc : Gen.limitsLoopCond s.size s.limit (mem.headD false) = false) : checkLimits s now mem = s :=
  checkLimitsLoop_stop hc _

/-- **expired first**: if some entry's deadline has passed, the victim is an entry whose deadline
has passed and is the earliest of all deadlines in the cache -/
theorem victim_expired_first {s : State} (h : Inv s) (now : Time) {k₀ : Key} {c₀ : Container}
    (h0 : alookup k₀ s.primary = some c₀) (hexp : c₀.deadline < now) :
    ∃ k c, victim s now = some k ∧ alookup k s.primary = some c ∧ c.deadline < now ∧
      ∀ k' c', alookup k' s.primary = some c' → c.deadline ≤ c'.deadline := by
  have hm : (c₀.deadline, k₀) ∈ s.timeout := (h.toMem _ _).mpr ⟨c₀, h0, rfl⟩
  cases hto : s.timeout with
  | nil => rw [hto] at hm; cases hm
  | cons p r =>
    obtain ⟨d, k⟩ := p
    have hmin := fun k' c' (hc' : alookup k' s.primary = some c') => timeout_head_min h hto hc'
    have hd : d < now := Int.lt_of_le_of_lt (hmin k₀ c₀ h0) hexp
    obtain ⟨c, hc, hcd⟩ := (h.toMem d k).mp (hto ▸ .head _)
    refine ⟨k, c, ?_, hc, hcd ▸ hd, fun k' c' hc' => hcd ▸ hmin k' c' hc'⟩
    rw [victim_eq, hto]; exact if_pos hd

/-- **else LRU tail**: if no entry has expired, the victim is the last element of `lru` -/
theorem victim_lru_tail {s : State} (h : Inv s) (now : Time)
    (hlive : ∀ k c, alookup k s.primary = some c → ¬ c.deadline < now) :
    victim s now = s.lru.getLast? := by
  rw [victim_eq]
  cases hto : s.timeout with
  | nil => rfl
  | cons p r =>
    obtain ⟨d, k⟩ := p
    obtain ⟨c, hc, hcd⟩ := (h.toMem d k).mp (hto ▸ .head _)
    exact if_neg (hcd ▸ hlive k c hc)

/-- `std::multimap::insert`: the node goes before the first node with a larger key (in a sorted index: after
all nodes with the same deadline) -/
theorem timeout_insert_after_equal (d : Time) (k : Key) (l : List (Time × Key)) :
    tinsert d k l = l.takeWhile (fun p => decide (p.1 ≤ d)) ++ (d, k) :: l.dropWhile (fun p => decide (p.1 ≤ d)) :=
  tinsert_eq d k l

/-- every operation moves the entry it touches (`touched`: none, for a miss) to the front of `lru`; the rest keep their order -/
theorem lru_move_to_front (s : State) (op : Op) :
    ∃ rest, (step s op).1.lru = touched s op ++ rest ∧ rest.Sublist s.lru :=
  (lru_step s op).imp fun _ h => ⟨h.1, h.2.1⟩

/-- **`lru` is the recency order.**  If an operation touched `a` (a fetch that hit, a store that was performed) and afterwards
`b` was neither stored nor fetched, then whenever both are still in the cache `a` stands before `b` in `lru`. -/
theorem lru_is_recency_order (limit : Nat) (sl : Option Nat) (pre post : List Op) (opA : Op) {a b : Key}
    (hab : a ≠ b) (hA : touched (reach limit sl pre) opA = [a]) (hpost : ∀ o ∈ post, uses b o = false) :
    let s := reach limit sl (pre ++ opA :: post)
    a ∈ s.lru → b ∈ s.lru → [a, b].Sublist s.lru := by
  intro s
  have : s = run (step (reach limit sl pre) opA).1 post := by
    simp only [s, reach, run_append, run_cons]
  rw [this]
  exact lru_recency (inv_run (C07.inv_init limit sl) pre) hab opA hA post hpost

/-- The reported counts are those of the entries actually held: `keys` = number of keys `k` for
which the cache holds an entry (`abs s k ≠ none`), `triggers` = total number of (entry, trigger)
links — in the state after any history.  (That these entries are the ones the eviction
rule leaves is `matches_reference`, not this theorem.) -/
theorem stats_match_history (limit : Nat) (sl : Option Nat) (ops : List Op) :
    let s := reach limit sl ops
    (step s .stats).2 = .stats (s.primary.map Prod.fst).length ((s.primary.map fun p => p.2.trigs.length).sum) ∧
    (s.primary.map Prod.fst).Nodup ∧
    (∀ k, k ∈ s.primary.map Prod.fst ↔ abs s k ≠ none) ∧
    (∀ k c, alookup k s.primary = some c → abs s k = some ⟨c.data, c.trigs, c.deadline, c.gen⟩) := by
  intro s
  have h := inv_run (C07.inv_init limit sl) ops
  refine ⟨?_, h.keys, ?_, ?_⟩
  · simp only [step]
    rw [h.sizeEq, h.countEq]; simp [s, reach]
  · intro k
    rw [← alookup_isSome_iff]
    simp only [abs]
    cases alookup k s.primary <;> simp
  · intro k c hc; simp [abs, hc, toEntry]

/-- **Answers and counts are those implied by the history under the eviction rule.**
`Ref` (`Spec.lean`) is the reference cache written from the property text: entries in recency order;
before a store, while entries are held and (`limit > 0` and `limit` or more are held, or the allocator
reports low memory) drop the expired entry with the smallest (deadline, store sequence number), else the least
recently used one; a value that cannot be copied leaves the key absent; an allocation failure while
inserting empties the cache.  For **every** history and **every** allocation outcome (`StoreEnv`:
any `not_enough_memory()` answers, failing copies, `bad_alloc` inside) the concrete model of
`mem_cache` gives the same answer as the reference to every operation — every fetch result and
the `stats` counts — provided the entry-count cap `size > size_limit()` never fires (`refusedIn`;
it cannot with the thread back-end, see `matches_reference_thread`). -/
theorem matches_reference (limit : Nat) (sl : Option Nat) (ops : List Op) (op : Op)
    (hnr : ∀ a o b, ops ++ [op] = a ++ o :: b → refusedIn (reach limit sl a) o = false) :
    (step (reach limit sl ops) op).2 = ((refRun { limit := limit } ops).step op).2 := by
  have h := sim_run (sim_init limit sl) ops (fun a o b e => hnr a o (b ++ [op]) (by rw [e]; simp))
  exact (sim_step h op (hnr ops op [] rfl)).2

theorem matches_reference_thread (limit : Nat) (ops : List Op) (op : Op) :
    (step (reach limit none ops) op).2 = ((refRun { limit := limit } ops).step op).2 :=
  matches_reference limit none ops op (fun a o _ _ => refusedIn_of_none (config_run _ a).2 o)

private def ka : Key := [97]
private def kb : Key := [98]
private def kc : Key := [99]

-- limit 2: third store evicts the least recently used (`ka` was fetched, so `kb` goes)
private def h₂ : List Op :=
  [.store 1000 ka [1] [] 1100, .store 1000 kb [2] [] 1100, .fetch 1000 ka, .store 1000 kc [3] [] 1100]
example : (step (reach 2 none h₂) (.fetch 1000 kb)).2 = .miss ∧
    (step (reach 2 none h₂) (.fetch 1000 ka)).2 = .hit [1] [ka] 1100 0 ∧
    (step (reach 2 none h₂) .stats).2 = .stats 2 2 := by decide +kernel
-- expired first: `ka` is the most recently used but its deadline has passed at the time of the third store
private def h₃ : List Op :=
  [.store 1000 kb [2] [] 1100, .store 1000 ka [1] [] 1001, .fetch 1000 ka, .store 1002 kc [3] [] 1100]
example : (reach 2 none h₃).lru = [kc, kb] := by decide +kernel
example : victim (reach 2 none (h₃.take 3)) 1002 = some ka ∧ victim (reach 2 none (h₃.take 3)) 1000 = some kb := by decide +kernel
-- memory pressure evicts even without a limit
example : (reach 0 (some 100) [.store 1000 ka [1] [] 1100, .store 1000 kb [2] [] 1100 none { lowMem := [true] }]).lru = [kb] := by
  decide +kernel
example : touched (reach 2 none (h₂.take 2)) (.fetch 1000 ka) = [ka] := by decide +kernel
-- the reference cache on the same histories (independent definitions): same victims, same counts
example : ((refRun { limit := 2 } h₂).step .stats).2 = .stats 2 2 ∧
    ((refRun { limit := 2 } h₂).step (.fetch 1000 kb)).2 = .miss ∧
    (refRun { limit := 2 } h₃).entries.map (·.key) = [kc, kb] := by decide +kernel
-- under memory pressure too: the allocator reports low memory once, the LRU entry goes, on both sides
example :
    let h := [Op.store 1000 ka [1] [] 1100, .store 1000 kb [2] [] 1100, .store 1000 kc [3] [] 1100 none { lowMem := [true, false] }]
    (refRun { limit := 0 } h).entries.map (·.key) = [kc, kb] ∧ (reach 0 (some 100) h).lru = [kc, kb] := by decide +kernel

/-! ## buddy allocator: memory of freed blocks is released

`Buddy.Arena` = the chunks the constructor creates, each a binary tree of blocks; `allocAt k off`
marks the block of order `k` at `off` used (splitting), `freeAt off` frees and coalesces.
`Normal` = no two free buddies side by side (all possible coalescing done). -/

open Buddy in
theorem buddy_init_normal (usable : Nat) : (init usable).Normal := init_normal usable

open Buddy in
/-- the coalesced normal form (`Arena.Normal`) is preserved by every malloc and free, whichever block is chosen -/
theorem buddy_step_normal {a a' : Arena} {op : BOp} (h : a.step op = some a') (hn : a.Normal) : a'.Normal :=
  (Arena.step_spec h).2 hn

open Buddy in
/-- malloc adds exactly its block to the blocks in use -/
theorem buddy_used_after_alloc {a a' : Arena} {k off : Nat} (h : a.allocAt k off = some a') :
    a'.usedBlocks.Perm ((off, k) :: a.usedBlocks) := (Arena.allocAt_spec h).2.2

open Buddy in
/-- free removes exactly the freed block from the blocks in use -/
theorem buddy_used_after_free {a a' : Arena} {off k : Nat} (h : a.freeAt off = some (a', k)) :
    a.usedBlocks.Perm ((off, k) :: a'.usedBlocks) := (Arena.freeAt_spec h).2.2

open Buddy in
/-- **fill, empty, refill indefinitely**: after any sequence of mallocs and frees, if no block is in
use any more the arena is exactly the freshly constructed one (every chunk one free block again) -/
theorem free_all_restores (usable : Nat) (ops : List BOp) (a : Arena)
    (hrun : (init usable).run ops = some a) (hnone : a.usedBlocks = []) : a = init usable := by
  obtain ⟨hs, hn⟩ := Arena.run_spec hrun
  exact Arena.eq_of_skeleton_allFree hs (Arena.allFree_of_noUsed (hn (init_normal usable)) hnone)
    (initChunks_allFree 64 0 usable)

/-- the segment of the process-shared cache and its locks are shared between processes: every `mmap` of
`mmap_anonymous` (generated flag lists) is `MAP_SHARED` and never `MAP_PRIVATE`, the mutex and the rwlock
are created `PTHREAD_PROCESS_SHARED`, inside such pages -/
theorem segment_and_locks_are_process_shared :
    (Gen.mmapFlags.all fun f => f.contains "MAP_SHARED" && !f.contains "MAP_PRIVATE") = true ∧
    Gen.mmapFlags.length = 3 ∧
    Gen.mutexPshared = "PTHREAD_PROCESS_SHARED" ∧ Gen.rwlockPshared = "PTHREAD_PROCESS_SHARED" ∧
    Gen.locksInSharedPages = true := by decide +kernel

/-- the cache's memory-pressure test looks at the allocator's largest free chunk (shape of
`shmem_control::max_available()` read by the translator), not at the total free memory -/
theorem max_available_is_max_free_chunk : Gen.maxAvailableIsMaxFreeChunk = true := rfl

/-- once a free block of at least 10 % (nonzero) of the segment, plus header unit, exists, `not_enough_memory()` — modelled over
the buddy arena with the generated fraction — is false.  (The arena is not linked to the `lowMem` answers of the cache model.) -/
theorem pressure_off_when_chunk_free {a : Buddy.Arena} {segment off b : Nat} (hm : (off, b) ∈ a.freeBlocks)
    (hpos : 0 < segment / 10) (hb : segment / 10 ≤ 2 ^ b - Gen.alignment) : a.notEnoughMemory segment = false :=
  Buddy.not_low_of_free_block hm hpos hb

/-- the address `get_buddy` computes (`p_len ^ p_ptr`, generated expression) for a block of order `k`
with even index is its right neighbour of the same order, for one with odd index its left neighbour:
the two halves of the enclosing block of order `k+1`.  (Arithmetic only; the tree model is not mentioned.) -/
theorem buddy_address_is_sibling (q k : Nat) :
    Gen.buddyOf (2 ^ k) ((2 * q) * 2 ^ k) = (2 * q + 1) * 2 ^ k ∧
    Gen.buddyOf (2 ^ k) ((2 * q + 1) * 2 ^ k) = (2 * q) * 2 ^ k :=
  ⟨by rw [Buddy.buddyOf_mul, (Buddy.one_xor q).1], by rw [Buddy.buddyOf_mul, (Buddy.one_xor q).2]⟩

/-- every block `malloc` hands out is at least of the smallest order the allocator manages
(`2^minBits = 2·alignment ≥ sizeof(struct page)`): its header and free-list node fit inside it.
Depends on the clamp in `malloc` (generated `Gen.blockSize`); false without the clamp (`malloc_zero_counterexample`). -/
theorem malloc_order_ge_min (required : Nat) : Gen.minBits ≤ Buddy.orderOf required := by
  obtain ⟨h32, e⟩ := Buddy.orderOf_eq required
  have h2 : 4 ≤ Nat.log2 (Gen.blockSize required - 1) := (Nat.le_log2 (by omega)).mpr (by omega)
  rw [e]
  exact Nat.succ_le_succ h2

/-- **a request gets the smallest block that holds it**: the block of order `orderOf n` holds the padded
request (`blockSize n` = request + header unit, rounded to the alignment) and the next smaller one
would not.  Depends on the comparison in `get_bits` (`Gen.getBitsInclusive`). -/
theorem malloc_order_is_smallest (required : Nat) :
    Gen.blockSize required ≤ 2 ^ Buddy.orderOf required ∧ 2 ^ (Buddy.orderOf required - 1) < Gen.blockSize required := by
  obtain ⟨h32, e⟩ := Buddy.orderOf_eq required
  rw [e, Nat.add_sub_cancel]
  have hne : Gen.blockSize required - 1 ≠ 0 := by omega
  have h1 : Gen.blockSize required - 1 < 2 ^ (Nat.log2 (Gen.blockSize required - 1) + 1) :=
    (Nat.log2_lt hne).mp (Nat.lt_succ_self _)
  have h2 : 2 ^ Nat.log2 (Gen.blockSize required - 1) ≤ Gen.blockSize required - 1 := Nat.log2_self_le hne
  omega

/-- without the clamp a request of 0 bytes gets a block of order 4 (16 bytes),
smaller than the 24-byte `struct page` the allocator writes into it -/
theorem malloc_zero_counterexample : Buddy.orderOfSize (Gen.blockSizeRaw 0) = 4 ∧ 4 < Gen.minBits := by decide +kernel

-- non-vacuity: 1000 usable bytes = chunks of 512, 256, 128, 64, 32; three blocks allocated in the 512 chunk and freed in the same order
example : (Buddy.init 1000).skeleton = [(9, 0), (8, 512), (7, 768), (6, 896), (5, 960)] := by decide +kernel
example :
    let ops := [Buddy.BOp.alloc 6 0, .alloc 7 128, .alloc 5 64, .free 0, .free 128, .free 64]
    ((Buddy.init 1000).run ops).map (·.usedBlocks) = some [] ∧
    ((Buddy.init 1000).run (ops.take 4)).map (·.freeBlocks) =
      some [(0, 6), (96, 5), (256, 8), (512, 8), (768, 7), (896, 6), (960, 5)] := by decide +kernel
-- fragmentation: 176 bytes are free in total (> 10 % of a 1544-byte segment) but the largest chunk is 112: memory is low
example :
    let a := (Buddy.init 1000).run [.alloc 9 0, .alloc 8 512]
    a.map (·.notEnoughMemory 1544) = some true ∧ a.map (·.totalFree) = some 176 ∧ a.map (·.maxFreeChunk) = some 112 := by decide +kernel
example : (960, 5) ∈ (Buddy.init 1000).freeBlocks ∧ 0 < 100 / 10 ∧ 100 / 10 ≤ 2 ^ 5 - Gen.alignment := by decide +kernel
example : Buddy.orderOf 1 = 5 ∧ Buddy.orderOf 16 = 5 ∧ Buddy.orderOf 17 = 6 ∧ Buddy.orderOf 2001 = 11 := by decide +kernel

end Cppcms.C08.Props
