import Cppcms.C18.Model
/-!
# C18 — definitions used in the property statements and by the judge

`Spec` does not restate the model; it names the *outcomes* the property allows and the
shapes of the ones it cannot exclude (torn values that pass the CRC test: `TornNew`, `TornOld`).
-/
namespace Cppcms.C18.Spec
open Cppcms Cppcms.C18

/-- `v` is a *different* string of the *same length* with the *same CRC-32* as `a` -/
def Collision (a v : Bytes) : Prop := v.length = a.length ∧ crc32 v = crc32 a ∧ v ≠ a

/-- `r` has the new deadline and `r.2`, the `|d|` bytes of `c` behind the header, is not the new data and yet
passes its check: a torn value under the new header (that `c` carries that header is not a conjunct) -/
def TornNew (t : Int) (d c : Bytes) (r : Int × Bytes) : Prop :=
  r.1 = t ∧ r.2 = dataArea c d.length ∧ Collision d r.2

/-- the crash state `c` still carries the header `h` of the earlier file, the `h.size` bytes
behind it pass the check against `h.crc`, but the earlier file would not have loaded as `r` -/
def TornOld (now : Int) (old c : Bytes) (r : Int × Bytes) : Prop :=
  ∃ h, parseHeader old = some h ∧ parseHeader c = some h ∧ r.1 = h.timeout ∧ Gen.expired h.timeout now = false ∧
    r.2 = dataArea c h.size ∧ r.2.length = h.size ∧ crc32 r.2 = h.crc ∧ readFromFile now old ≠ some r

/-- no crash state of this save over `old` is a torn value that passes the CRC test -/
def CollisionFree (S : Nat) (now : Int) (old : Bytes) (t : Int) (d : Bytes) : Prop :=
  ∀ c r, Crash S old t d c → ¬ TornNew t d c r ∧ ¬ TornOld now old c r

/-- the earlier file state is one a directory can hold after `open(O_CREAT)`/saves/crashes:
empty (just created) or at least a whole header -/
def WellFormedOld (old : Bytes) : Prop := old = [] ∨ 16 ≤ old.length

/-- the session id an operation is called with (gc and clock moves have none) -/
def opTarget : Op → Option Bytes
  | .save s _ _ => some s
  | .crashSave _ s _ _ _ _ _ => some s
  | .load s => some s
  | .remove s => some s
  | _ => none

/-- the values handed to a (complete or crashed) save of `sid` along a history -/
def savedValues (sid : Bytes) : List Op → List (Int × Bytes)
  | [] => []
  | .save s t d :: r => if s = sid then (t, d) :: savedValues sid r else savedValues sid r
  | .crashSave _ s t d _ _ _ :: r => if s = sid then (t, d) :: savedValues sid r else savedValues sid r
  | _ :: r => savedValues sid r

/-- side conditions of one step: clocks are positive, deadlines fit `time_t`, payloads fit `int`,
sectors hold the header, the header write is atomic, and — the idealising hypothesis — the crashed
save is `CollisionFree` over the file it hits -/
def OpOk (w : World) : Op → Prop
  | .setClock n => 0 < n
  | .save _ t d => InI64 t ∧ d.length < 2^31
  | .crashSave S sid t d k j _ =>
      16 ≤ S ∧ InI64 t ∧ d.length < 2^31 ∧ (k = 0 → j = 0) ∧
      ∀ now, CollisionFree S now ((w.dir sid).getD []) t d
  | _ => True

def Admissible (w : World) : List Op → Prop
  | [] => True
  | op :: r => OpOk w op ∧ Admissible (step w op) r

/-- Judge (executable): what a load after a crashed save may return, given what a load of
the earlier state returned at the same clock. -/
def allowedOutcome (res : Option (Int × Bytes)) (new : Int × Bytes) (oldLoad : Option (Int × Bytes)) : Bool :=
  match res with
  | none => true
  | some r => r == new || oldLoad == some r

/-- Judge (executable): the conclusion of `Props.load_sound` — a load at clock `now` of a file with
content `f` that answered `r` must have answered the header's deadline (not past), exactly `size`
bytes, namely the data area, whose CRC-32 is the header's. -/
def loadSoundOk (now : Int) (f : Bytes) (r : Int × Bytes) : Bool :=
  match parseHeader f with
  | none => false
  | some h => r.1 == h.timeout && decide (now ≤ r.1) && r.2.length == h.size && crc32 r.2 == h.crc &&
      r.2 == dataArea f h.size

/-- Judge (executable): gc outcome on one directory entry at clock `now`.  `live`: a load of the
entry succeeded just before gc (observed on the implementation); `kept`: present afterwards. -/
def gcEntryOk (now : Int) (name content : Bytes) (live kept : Bool) : Bool :=
  -- never removes a live session or a foreign name
  (if live || !sidName name then kept else true) &&
  -- what is left under a session name has a readable deadline that is not past
  (if sidName name && kept then (match stamp? content with | some s => decide (now ≤ s) | none => false) else true)

end Cppcms.C18.Spec
