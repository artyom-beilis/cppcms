import Cppcms.C18.Spec
/-! Lemmas for C18, file level (the directory and history lemmas stand in `Props`): the equation of `readFromFile`, crash
states byte by byte (header atomicity), CRC-32 as an affine map over GF(2) (why a torn mixture can pass; one-byte
injectivity; the adversarial `advOld`), the table-driven fall-back loop. -/
namespace Cppcms.C18
open Cppcms

theorem leBytes_length (k n : Nat) : (leBytes k n).length = k := by
  induction k generalizing n with
  | zero => rfl
  | succ k ih => simp [leBytes, ih]

theorem leVal_leBytes (k n : Nat) : leVal (leBytes k n) = n % 256 ^ k := by
  induction k generalizing n with
  | zero => simp [leBytes, leVal, Nat.mod_one]
  | succ k ih =>
    rw [leBytes, leVal, ih, UInt8.toNat_ofNat', Nat.pow_succ' (n := k), Nat.mod_mul]
    omega

theorem leVal_lt (b : Bytes) : leVal b < 256 ^ b.length := by
  induction b with
  | nil => simp [leVal]
  | cons x r ih =>
    simp only [leVal, List.length_cons, Nat.pow_succ]
    have := x.toNat_lt
    omega

theorem toI64_ofI64 (t : Int) (h : InI64 t) : toI64 (ofI64 t) = t := by
  unfold InI64 at h
  unfold toI64 ofI64
  rw [Int.toNat_of_nonneg (Int.emod_nonneg _ (by decide))]
  split <;> omega

theorem ofI64_lt (t : Int) : ofI64 t < 2^64 := by
  unfold ofI64
  omega

theorem crcBit_lt {x : Nat} (h : x < 2^32) : crcBit x < 2^32 := by
  unfold crcBit
  split
  · exact Nat.xor_lt_two_pow (by omega) (by decide)
  · omega

theorem crcUpdate_lt {c : Nat} (b : UInt8) (h : c < 2^32) : crcUpdate c b < 2^32 := by
  unfold crcUpdate crcByte
  exact crcBit_lt (crcBit_lt (crcBit_lt (crcBit_lt (crcBit_lt (crcBit_lt (crcBit_lt (crcBit_lt
    (Nat.xor_lt_two_pow h (by have := b.toNat_lt; omega)))))))))

theorem crcRaw_lt {c : Nat} (d : Bytes) (h : c < 2^32) : crcRaw c d < 2^32 := by
  induction d generalizing c with
  | nil => simpa [crcRaw] using h
  | cons b r ih => simpa [crcRaw] using ih (crcUpdate_lt b h)

theorem crc32_lt (d : Bytes) : crc32 d < 2^32 := by
  unfold crc32
  exact Nat.xor_lt_two_pow (crcRaw_lt d (by decide)) (by decide)

theorem encodeHeader_length (t : Int) (d : Bytes) : (encodeHeader t d).length = 16 := by
  simp [encodeHeader, leBytes_length]

theorem parseHeader_append (a b c rest : Bytes) (ha : a.length = 8) (hb : b.length = 4) (hc : c.length = 4) :
    parseHeader (a ++ b ++ c ++ rest) = some ⟨toI64 (leVal a), leVal b, leVal c⟩ := by
  have h12 : a.drop 12 = [] := List.drop_eq_nil_of_le (by omega)
  simp [parseHeader, List.drop_append, ha, hb, hc, h12]
  omega

theorem parseHeader_encode (t : Int) (d rest : Bytes) (ht : InI64 t) (hd : d.length < 2^32) :
    parseHeader (encodeHeader t d ++ rest) = some ⟨t, crc32 d, d.length⟩ := by
  rw [encodeHeader, parseHeader_append _ _ _ rest (leBytes_length ..) (leBytes_length ..) (leBytes_length ..),
    leVal_leBytes, leVal_leBytes, leVal_leBytes, Nat.mod_eq_of_lt (ofI64_lt t), toI64_ofI64 t ht,
    Nat.mod_eq_of_lt (crc32_lt d), Nat.mod_eq_of_lt hd, Nat.mod_eq_of_lt (show d.length < 256 ^ 4 from hd)]

theorem parseHeader_of_take {f : Bytes} {t : Int} {d : Bytes} (h : f.take 16 = encodeHeader t d) (ht : InI64 t)
    (hd : d.length < 2^32) : parseHeader f = some ⟨t, crc32 d, d.length⟩ := by
  rw [← List.take_append_drop 16 f, h, parseHeader_encode t d _ ht hd]

theorem parseHeader_eq_none {f : Bytes} : parseHeader f = none ↔ f.length < 16 := by
  simp [parseHeader]

theorem stamp?_of_parseHeader {f : Bytes} {h : Header} (hp : parseHeader f = some h) :
    stamp? f = some h.timeout := by
  unfold parseHeader at hp
  split at hp
  · cases hp
  · cases hp
    rw [stamp?, if_neg (by simp only [Gen.stampLen]; omega)]

theorem parseHeader_take {f : Bytes} (hf : 16 ≤ f.length) : parseHeader (f.take 16) = parseHeader f := by
  simp [parseHeader, List.take_take, List.drop_take, Nat.min_eq_left hf]
  omega

theorem readFromFile_eq {f : Bytes} {h : Header} (hp : parseHeader f = some h) (now : Int) :
    readFromFile now f =
      if Gen.expired h.timeout now then none
      else if f.length < 16 + h.size then none
      else if Gen.crcMismatch h.crc (crc32 (dataArea f h.size)) then none
      else some (h.timeout, dataArea f h.size) := by
  simp only [readFromFile, stamp?_of_parseHeader hp, hp]

theorem readFromFile_short {f : Bytes} (hf : f.length < 16) (now : Int) : readFromFile now f = none := by
  rw [readFromFile, parseHeader_eq_none.2 hf]
  cases stamp? f <;> simp

theorem readFromFile_some {now : Int} {f : Bytes} {r : Int × Bytes} (hr : readFromFile now f = some r) :
    ∃ h, parseHeader f = some h ∧ Gen.expired h.timeout now = false ∧ 16 + h.size ≤ f.length ∧
      crc32 (dataArea f h.size) = h.crc ∧ r = (h.timeout, dataArea f h.size) := by
  cases hp : parseHeader f with
  | none => rw [readFromFile_short (parseHeader_eq_none.1 hp)] at hr; cases hr
  | some h =>
    obtain ⟨hexp, hlen, hcrc, hval⟩ : Gen.expired h.timeout now = false ∧ 16 + h.size ≤ f.length ∧
        h.crc = crc32 (dataArea f h.size) ∧ (h.timeout, dataArea f h.size) = r := by
      simpa [readFromFile_eq hp, Gen.crcMismatch] using hr
    exact ⟨h, rfl, hexp, hlen, hcrc.symm, hval.symm⟩

theorem readFromFile_of {now : Int} {f : Bytes} {h : Header} (hp : parseHeader f = some h)
    (hexp : Gen.expired h.timeout now = false) (hlen : 16 + h.size ≤ f.length)
    (hcrc : crc32 (dataArea f h.size) = h.crc) :
    readFromFile now f = some (h.timeout, dataArea f h.size) := by
  simp [readFromFile_eq hp, hexp, hcrc, Gen.crcMismatch, Nat.not_lt.2 hlen]

theorem dataArea_length {f : Bytes} {n : Nat} (h : 16 + n ≤ f.length) : (dataArea f n).length = n := by
  rw [dataArea, List.length_take, List.length_drop]; omega

theorem dataArea_encode (t : Int) (d m rest : Bytes) :
    dataArea (encodeHeader t d ++ (m ++ rest)) m.length = m := by
  rw [dataArea, List.drop_left' (encodeHeader_length t d), List.take_left' rfl]

theorem readFromFile_record (now t : Int) (d rest : Bytes) (ht : InI64 t) (hd : d.length < 2^32) :
    readFromFile now (encodeHeader t d ++ (d ++ rest)) = if Gen.expired t now then none else some (t, d) := by
  rw [readFromFile_eq (parseHeader_encode t d _ ht hd), dataArea_encode]
  simp [encodeHeader_length, Gen.crcMismatch, Nat.not_lt.2 (Nat.le_add_right ..)]

theorem saveWrites_eq (t : Int) (d : Bytes) :
    saveWrites t d = encodeHeader t d :: if d = [] then [] else [d] := by
  cases d <;> simp [saveWrites, Gen.writeOrder]

theorem written_header (old : Bytes) (t : Int) (d x : Bytes) :
    written old (encodeHeader t d ++ x) = encodeHeader t d ++ (x ++ old.drop (16 + x.length)) := by
  simp [written, encodeHeader_length]

theorem saveComplete_eq (old : Bytes) (t : Int) (d : Bytes) :
    saveComplete old t d = encodeHeader t d ++ (d ++ old.drop (16 + d.length)) := by
  rw [saveComplete, saveWrites_eq, ← written_header]
  cases d <;> simp

theorem readFromFile_saveComplete (now : Int) (old : Bytes) (t : Int) (d : Bytes) (ht : InI64 t) (hd : d.length < 2^32) :
    readFromFile now (saveComplete old t d) = if Gen.expired t now then none else some (t, d) := by
  rw [saveComplete_eq, readFromFile_record now t d _ ht hd]

theorem logical_zero (old : Bytes) (ws : List Bytes) : logical old ws 0 0 = old := by
  simp [logical, written]

/-- after the header write: `k = 0`, `j` bytes of the data; `k ≥ 1`, all of it (there are only two writes) -/
theorem logical_succ (old : Bytes) (t : Int) (d : Bytes) (k j : Nat) :
    logical old (saveWrites t d) (k + 1) j =
      encodeHeader t d ++ ((d.take (if k = 0 then j else d.length)) ++
        old.drop (16 + (d.take (if k = 0 then j else d.length)).length)) := by
  rw [← written_header, logical, saveWrites_eq]
  cases d <;> cases k <;> simp

theorem written_getElem? (old img full : Bytes) (h : img <+: full) (q : Nat) :
    (written old img)[q]? = (written old full)[q]? ∨ (written old img)[q]? = old[q]? := by
  obtain ⟨r, rfl⟩ := h
  unfold written
  by_cases hq : q < img.length
  · left
    rw [List.getElem?_append_left hq, List.getElem?_append_left (by simp; omega), List.getElem?_append_left hq]
  · right
    rw [List.getElem?_append_right (by omega), List.getElem?_drop, Nat.add_sub_cancel' (by omega)]

theorem mixAux_length (S : Nat) (T : Nat → Bool) (p : Nat) (o l : Bytes) :
    (mixAux S T p o l).length = max o.length l.length := by
  induction l generalizing p o with
  | nil => simp [mixAux]
  | cons x xs ih => cases o <;> simp [mixAux, ih]

theorem mixAux_self (S : Nat) (T : Nat → Bool) (p : Nat) (o : Bytes) : mixAux S T p o o = o := by
  induction o generalizing p with
  | nil => rfl
  | cons y ys ih => simp [mixAux, ih]

theorem mixAux_getElem? (S : Nat) (T : Nat → Bool) (p : Nat) (o l : Bytes) (q : Nat) :
    (mixAux S T p o l)[q]? =
      if q < l.length then (if T ((p + q) / S) then l[q]? else some (o.getD q 0)) else o[q]? := by
  induction l generalizing p o q with
  | nil => simp [mixAux]
  | cons x xs ih =>
    cases q with
    | zero =>
      cases o <;> cases h : T (p / S) <;> simp [mixAux, h]
    | succ q =>
      have e : p + (q + 1) = p + 1 + q := by omega
      cases o <;> simp [mixAux, ih, e]

/-- at most `n`; behind every byte of a sector on disk; if positive, its last byte lies in a sector on disk -/
theorem pend_spec (S : Nat) (T : Nat → Bool) (n : Nat) :
    pend S T n ≤ n ∧ (∀ i, i < n → T (i / S) = true → i + 1 ≤ pend S T n) ∧
      (0 < pend S T n → T ((pend S T n - 1) / S) = true) := by
  induction n with
  | zero => simp [pend]
  | succ n ih =>
    obtain ⟨h1, h2, h3⟩ := ih
    unfold pend
    split
    · rename_i hn
      exact ⟨Nat.le_refl _, fun i hi _ => by omega, fun _ => by simpa using hn⟩
    · rename_i hn
      refine ⟨by omega, fun i hi hT => h2 i ?_ hT, h3⟩
      have : i ≠ n := fun e => hn (e ▸ hT)
      omega

theorem sectorMix_length (S : Nat) (T : Nat → Bool) (old L : Bytes) :
    (sectorMix S T old L).length = max old.length (pend S T L.length) := by
  obtain ⟨hle, _, _⟩ := pend_spec S T L.length
  rw [sectorMix, List.length_take, mixAux_length]
  omega

theorem sectorMix_take_sector0 (S : Nat) (T : Nat → Bool) (old L : Bytes) (n : Nat) (hS : n ≤ S)
    (hL : n ≤ L.length) (hn : n ≤ (sectorMix S T old L).length) :
    (sectorMix S T old L).take n = if T 0 then L.take n else (old ++ List.replicate n 0).take n := by
  rw [sectorMix_length] at hn
  rw [sectorMix, List.take_take, Nat.min_eq_left hn]
  apply List.ext_getElem?
  intro q
  by_cases hq : q < n
  · rw [List.getElem?_take_of_lt hq, mixAux_getElem?, if_pos (by omega), Nat.zero_add,
      Nat.div_eq_of_lt (by omega)]
    cases T 0
    · by_cases ho : q < old.length
      · simp [List.getElem?_take_of_lt hq, List.getElem?_append, ho]
      · simp [List.getElem?_take_of_lt hq, List.getElem?_append, ho, List.getElem?_replicate]
        omega
    · simp [List.getElem?_take_of_lt hq]
  · cases T 0 <;> simp [List.getElem?_take, hq]

theorem sectorMix_self (S : Nat) (T : Nat → Bool) (old : Bytes) : sectorMix S T old old = old := by
  rw [sectorMix, mixAux_self]
  exact List.take_of_length_le (Nat.le_max_left ..)

theorem sectorMix_all (S : Nat) (old L : Bytes) (h : old.length ≤ L.length) :
    sectorMix S (fun _ => true) old L = L := by
  have hm : mixAux S (fun _ => true) 0 old L = L := by
    apply List.ext_getElem?
    intro q
    rw [mixAux_getElem?]
    split
    · rfl
    · rw [List.getElem?_eq_none (by omega), List.getElem?_eq_none (by omega)]
  have hp : pend S (fun _ => true) L.length = L.length := by cases L.length <;> simp [pend]
  rw [sectorMix, hm, hp]
  exact List.take_of_length_le (Nat.le_max_right ..)

/-- Exactly the bytes below `b` are on disk. -/
theorem sectorMix_prefix (S : Nat) (T : Nat → Bool) (old L : Bytes) (b : Nat) (hlen : old.length = L.length)
    (hb : b ≤ L.length) (h1 : ∀ q, q < b → T (q / S) = true) (h2 : ∀ q, b ≤ q → T (q / S) = false) :
    sectorMix S T old L = L.take b ++ old.drop b := by
  have hm : mixAux S T 0 old L = L.take b ++ old.drop b := by
    apply List.ext_getElem?
    intro q
    rw [mixAux_getElem?, Nat.zero_add, List.getElem?_append, List.length_take, Nat.min_eq_left hb]
    by_cases hq : q < b
    · rw [if_pos (by omega), h1 q hq, if_pos rfl, if_pos hq, List.getElem?_take_of_lt hq]
    · rw [h2 q (by omega), if_neg hq, List.getElem?_drop, Nat.add_sub_cancel' (by omega)]
      split
      · rename_i hq'; rw [← hlen] at hq'; simp [hq']
      · rfl
  rw [sectorMix, hm]
  exact List.take_of_length_le (by simp; omega)

/-- **Header atomicity**: a crash state is empty or begins with the whole new header, the whole
earlier header, or 16 zero bytes (a hole: the data reached the disk, sector 0 did not). -/
theorem crash_header (S : Nat) (old : Bytes) (t : Int) (d c : Bytes) (hS : 16 ≤ S)
    (hwf : Spec.WellFormedOld old) (hc : Crash S old t d c) :
    c = [] ∨ (16 ≤ c.length ∧ c.take 16 = encodeHeader t d) ∨
    (16 ≤ c.length ∧ 16 ≤ old.length ∧ c.take 16 = old.take 16) ∨
    (16 ≤ c.length ∧ c.take 16 = List.replicate 16 0) := by
  obtain ⟨k, j, T, hk, rfl⟩ := hc
  cases k with
  | zero =>
    rw [crashState, hk rfl, logical_zero, sectorMix_self]
    rcases hwf with rfl | h16
    · exact .inl rfl
    · exact .inr (.inr (.inl ⟨h16, h16, rfl⟩))
  | succ k =>
    rw [crashState, logical_succ]
    generalize hL : encodeHeader t d ++ _ = L
    have hL16 : 16 ≤ L.length := by simp [← hL, encodeHeader_length]
    have hlen := sectorMix_length S T old L
    obtain ⟨_, hge, hpos⟩ := pend_spec S T L.length
    have key := sectorMix_take_sector0 S T old L 16 hS hL16
    rw [← hL, List.take_left' (encodeHeader_length t d), hL] at key  -- `L.take 16`: the new header
    cases hT : T 0 with
    | true =>  -- sector 0 on disk: so is byte 15, the header's last (`16 ≤ S`), and the file reaches 16
      have := hge 15 (by omega) (by rwa [Nat.div_eq_of_lt (by omega)])
      exact .inr (.inl ⟨by omega, by rw [key (by omega), hT, if_pos rfl]⟩)
    | false =>  -- sector 0 not on disk: the first 16 bytes are the earlier ones
      rw [hT] at key
      rcases hwf with rfl | h16
      · -- file just created
        by_cases hp : pend S T L.length = 0
        · exact .inl (List.eq_nil_of_length_eq_zero (by rw [hlen, hp]; rfl))
        · -- the last sector on disk is not sector 0, so the file extends beyond sector 0
          have hS' : S ≤ pend S T L.length - 1 :=
            Nat.le_of_not_lt fun hlt => by simpa [Nat.div_eq_of_lt hlt, hT] using hpos (by omega)
          have h16 : 16 ≤ (sectorMix S T [] L).length := by rw [hlen]; simp; omega
          exact .inr (.inr (.inr ⟨h16, by rw [key h16]; simp⟩))
      · -- earlier file: its header stays
        have h16' : 16 ≤ (sectorMix S T old L).length := by omega
        exact .inr (.inr (.inl ⟨h16', h16, by rw [key h16']; simp [List.take_append_of_le_length h16]⟩))

theorem crashState_write_tear (S : Nat) (t0 t : Int) (d o : Bytes) (j : Nat) (hl : o.length = d.length)
    (hj : j ≤ d.length) :
    crashState S (saveComplete [] t0 o) t d 1 j (fun _ => true) = encodeHeader t d ++ (d.take j ++ o.drop j) := by
  have hL : logical (saveComplete [] t0 o) (saveWrites t d) 1 j = encodeHeader t d ++ (d.take j ++ o.drop j) := by
    simp [logical_succ, saveComplete_eq, List.drop_append, encodeHeader_length, Nat.min_eq_left hj]
  rw [crashState, hL, sectorMix_all]
  simp [saveComplete_eq, encodeHeader_length]
  omega

theorem crashState_sector_tear (S : Nat) (t0 t : Int) (d o : Bytes) (hS : 16 ≤ S) (hl : o.length = d.length)
    (hd : S - 16 ≤ d.length) :
    crashState S (saveComplete [] t0 o) t d 2 0 (fun i => i == 0) =
      encodeHeader t d ++ (d.take (S - 16) ++ o.drop (S - 16)) := by
  have hold : saveComplete [] t0 o = encodeHeader t0 o ++ o := by simp [saveComplete_eq]
  have hL : logical (saveComplete [] t0 o) (saveWrites t d) 2 0 = encodeHeader t d ++ d := by
    simp [logical_succ, hold, List.drop_append, encodeHeader_length, hl]
  rw [crashState, hL, hold, sectorMix_prefix (b := S)]
  · have ht := encodeHeader_length t d
    have ht0 := encodeHeader_length t0 o
    rw [List.take_append, List.drop_append, List.take_of_length_le (by omega), List.drop_eq_nil_of_le (by omega),
      ht, ht0, List.nil_append, List.append_assoc]
  · simp [encodeHeader_length, hl]  -- equal lengths
  · simp [encodeHeader_length]; omega  -- `S` inside the file
  · intro q hq; simp [Nat.div_eq_of_lt hq]  -- below `S`: sector 0, on disk
  · intro q hq; simpa using Nat.ne_of_gt (Nat.div_pos hq (by omega))  -- from `S` on: not on disk

theorem xor_cancel4 (a b p : Nat) : (a ^^^ p) ^^^ (b ^^^ p) = a ^^^ b := by
  rw [Nat.xor_assoc, Nat.xor_comm b, ← Nat.xor_assoc p, Nat.xor_self, Nat.zero_xor]

theorem eq_of_xor_eq_zero {a b : Nat} (h : a ^^^ b = 0) : a = b := by
  rw [← Nat.xor_zero a, ← h, ← Nat.xor_assoc, Nat.xor_self, Nat.zero_xor]

theorem crcBit_xor (x y : Nat) : crcBit (x ^^^ y) = crcBit x ^^^ crcBit y := by
  -- the low bit of `x ^^^ y` is the xor of the low bits: the polynomial comes in on the same side(s)
  simp only [crcBit, Nat.xor_div_two, Nat.xor_mod_two_eq_one]
  by_cases hx : x % 2 = 1
  · by_cases hy : y % 2 = 1
    · -- both odd: on the right it is xor-ed in twice and cancels
      simp [hx, hy, xor_cancel4]
    · simp [hx, hy]
      ac_rfl
  · by_cases hy : y % 2 = 1
    · simp [hx, hy]
      ac_rfl
    · simp [hx, hy]

theorem crcByte_xor (x y : Nat) : crcByte (x ^^^ y) = crcByte x ^^^ crcByte y := by
  simp only [crcByte, crcBit_xor]

/-- bytewise xor, cut to the shorter string -/
def xorB (a b : Bytes) : Bytes := List.zipWith (· ^^^ ·) a b

theorem xorB_length (a b : Bytes) : (xorB a b).length = min a.length b.length := by simp [xorB]

theorem crcUpdate_xor (c1 c2 : Nat) (b1 b2 : UInt8) :
    crcUpdate (c1 ^^^ c2) (b1 ^^^ b2) = crcUpdate c1 b1 ^^^ crcUpdate c2 b2 := by
  rw [crcUpdate, crcUpdate, crcUpdate, ← crcByte_xor, UInt8.toNat_xor]
  congr 1
  ac_rfl

theorem crcRaw_xor (a b : Bytes) (c1 c2 : Nat) (h : a.length = b.length) :
    crcRaw (c1 ^^^ c2) (xorB a b) = crcRaw c1 a ^^^ crcRaw c2 b := by
  induction a generalizing b c1 c2 with
  | nil => cases b <;> simp_all [crcRaw, xorB]
  | cons x xs ih =>
    cases b with
    | nil => cases h
    | cons y ys =>
      simpa [crcRaw, xorB, crcUpdate_xor] using ih ys (crcUpdate c1 x) (crcUpdate c2 y) (by simpa using h)

theorem crcRaw_zeros (n : Nat) : crcRaw 0 (List.replicate n 0) = 0 := by
  induction n with
  | zero => rfl
  | succ n ih =>
    have : crcUpdate 0 0 = 0 := by decide
    simp only [crcRaw, List.replicate_succ, List.foldl_cons, this] at ih ⊢
    exact ih

theorem crcRaw_append (c : Nat) (a b : Bytes) : crcRaw c (a ++ b) = crcRaw (crcRaw c a) b := by
  simp [crcRaw, List.foldl_append]

theorem xorB_zeros (a : Bytes) : xorB a (List.replicate a.length 0) = a := by
  induction a with
  | nil => rfl
  | cons x xs ih =>
    simp only [xorB, List.length_cons, List.replicate_succ, List.zipWith_cons_cons] at ih ⊢
    rw [ih]; simp

/-- What is used of affinity: equal-length strings that leave register 0 alike leave every register alike
(the start value contributes `crcRaw c (zeros)`, which depends on the length only). -/
theorem crcRaw_congr {a b : Bytes} (hl : a.length = b.length) (h : crcRaw 0 a = crcRaw 0 b) (c : Nat) :
    crcRaw c a = crcRaw c b := by
  have key : ∀ x : Bytes, crcRaw c x = crcRaw 0 x ^^^ crcRaw c (List.replicate x.length 0) := by
    intro x
    have := crcRaw_xor x (List.replicate x.length 0) 0 c (by simp)
    rwa [Nat.zero_xor, xorB_zeros] at this
  rw [key a, key b, h, hl]

/-- a multiple of the generator polynomial: `01` followed by `crcTable[1]` little-endian -/
def genMultiple : Bytes := [1, 0x96, 0x30, 0x07, 0x77]

theorem crcRaw_genMultiple : crcRaw 0 genMultiple = 0 := by decide

theorem xorB_one_ne {a : Bytes} (ys : Bytes) (ha : a ≠ []) : xorB a (1 :: ys) ≠ a := by
  have h1 : ∀ x : UInt8, x ^^^ 1 ≠ x := fun x h => by
    have : x ^^^ (x ^^^ 1) = x ^^^ x := congrArg (x ^^^ ·) h
    simp [← UInt8.xor_assoc] at this
  cases a with
  | nil => exact absurd rfl ha
  | cons x xs => simp [xorB, h1]

theorem crcBit_eq_zero {x : Nat} (hx : x < 2^32) (h : crcBit x = 0) : x = 0 := by
  unfold crcBit at h
  split at h
  · -- `x / 2 < 2³¹`, but bit 31 of the polynomial is set
    have := eq_of_xor_eq_zero h
    unfold crcPoly at this
    omega
  · omega

theorem crcByte_eq_zero {x : Nat} (hx : x < 2^32) (h : crcByte x = 0) : x = 0 := by
  unfold crcByte at h
  have l1 := crcBit_lt hx
  have l2 := crcBit_lt l1
  have l3 := crcBit_lt l2
  have l4 := crcBit_lt l3
  have l5 := crcBit_lt l4
  have l6 := crcBit_lt l5
  have l7 := crcBit_lt l6
  exact crcBit_eq_zero hx (crcBit_eq_zero l1 (crcBit_eq_zero l2 (crcBit_eq_zero l3 (crcBit_eq_zero l4
    (crcBit_eq_zero l5 (crcBit_eq_zero l6 (crcBit_eq_zero l7 h)))))))

/-- `crcByte` vanishes only at 0 below 2³², so by linearity CRC-32 separates single bytes. -/
theorem crc32_single_inj {x y : UInt8} (h : crc32 [x] = crc32 [y]) : x = y := by
  simp only [crc32, crcRaw, List.foldl_cons, List.foldl_nil, crcUpdate] at h
  have h1 : crcByte (x.toNat ^^^ y.toNat) = 0 := by
    rw [← xor_cancel4 x.toNat y.toNat 0xFFFFFFFF, crcByte_xor, Nat.xor_comm x.toNat, Nat.xor_comm y.toNat,
      ← xor_cancel4 (crcByte _) (crcByte _) 0xFFFFFFFF, h, Nat.xor_self]
  have hlt : x.toNat ^^^ y.toNat < 2^32 :=
    Nat.xor_lt_two_pow (by have := x.toNat_lt; omega) (by have := y.toNat_lt; omega)
  exact UInt8.toNat_inj.1 (eq_of_xor_eq_zero (crcByte_eq_zero hlt h1))

theorem eq_single_of_crc32 {x : UInt8} {v : Bytes} (hl : v.length = 1) (hc : crc32 v = crc32 [x]) : v = [x] := by
  obtain ⟨y, rfl⟩ := List.length_eq_one_iff.1 hl
  rw [crc32_single_inj hc]

theorem crc32_mix (d o : Bytes) (j : Nat) (hl : o.length = d.length)
    (h : crcRaw 0 (o.drop j) = crcRaw 0 (d.drop j)) : crc32 (d.take j ++ o.drop j) = crc32 d := by
  conv => rhs; rw [← List.take_append_drop j d]
  rw [crc32, crc32, crcRaw_append, crcRaw_append, crcRaw_congr (by simp [hl]) h]

theorem mix_ne_new {d o : Bytes} {j : Nat} (h : o.drop j ≠ d.drop j) : d.take j ++ o.drop j ≠ d :=
  fun e => h (List.append_cancel_left (e.trans (List.take_append_drop j d).symm))

theorem mix_ne_old {d o : Bytes} {j : Nat} (h : d.take j ≠ o.take j) : d.take j ++ o.drop j ≠ o :=
  fun e => h (List.append_cancel_right (e.trans (List.take_append_drop j o).symm))

/-- what `advOld` xors in behind the tear; its raw CRC is 0 -/
def tailDelta (n j : Nat) : Bytes := genMultiple ++ List.replicate (n - j - 5) 0

/-- the adversarial earlier value for payload `d` torn after `j` bytes: `d ⊕ (01 00… ‖ 01 96 30 07 77 00…)`,
the second block starting at the tear -/
def advOld (d : Bytes) (j : Nat) : Bytes :=
  xorB (d.take j) (1 :: List.replicate (j - 1) 0) ++ xorB (d.drop j) (tailDelta d.length j)

theorem tailDelta_length (n j : Nat) (h : j + 5 ≤ n) : (tailDelta n j).length = n - j := by
  simp [tailDelta, genMultiple]; omega

theorem crcRaw_tailDelta (n j : Nat) : crcRaw 0 (tailDelta n j) = 0 := by
  rw [tailDelta, crcRaw_append, crcRaw_genMultiple, crcRaw_zeros]

theorem advOld_spec (d : Bytes) (j : Nat) (hj : 1 ≤ j) (h : j + 5 ≤ d.length) :
    (advOld d j).length = d.length ∧ crcRaw 0 ((advOld d j).drop j) = crcRaw 0 (d.drop j) ∧
      (advOld d j).drop j ≠ d.drop j ∧ d.take j ≠ (advOld d j).take j := by
  have hj' : (xorB (d.take j) (1 :: List.replicate (j - 1) 0)).length = j := by simp [xorB_length]; omega
  have hdrop : (advOld d j).drop j = xorB (d.drop j) (tailDelta d.length j) := List.drop_left' hj'
  have hcrc := crcRaw_xor (d.drop j) (tailDelta d.length j) 0 0 (by rw [tailDelta_length _ _ h]; simp)
  rw [Nat.zero_xor, crcRaw_tailDelta, Nat.xor_zero, ← hdrop] at hcrc
  refine ⟨?_, hcrc, ?_, ?_⟩
  · simp [advOld, xorB_length, tailDelta_length _ _ h]
    omega
  · rw [hdrop]
    exact xorB_one_ne _ (List.ne_nil_of_length_pos (by simp; omega))
  · rw [advOld, List.take_left' hj']
    exact (xorB_one_ne _ (List.ne_nil_of_length_pos (by simp; omega))).symm

theorem crcByte_shift (hi : Nat) : crcByte (256 * hi) = hi := by
  have hb : ∀ m, crcBit (2 * m) = m := fun m => by rw [crcBit, if_neg (by omega)]; omega
  rw [show 256 * hi = 2 * (2 * (2 * (2 * (2 * (2 * (2 * (2 * hi))))))) by omega]
  simp only [crcByte, hb]

theorem split_low_byte (x : Nat) : x = (256 * (x / 256)) ^^^ (x % 256) := by
  apply Nat.eq_of_testBit_eq
  intro i
  rw [Nat.testBit_xor, show (256 : Nat) = 2 ^ 8 from rfl, Nat.testBit_two_pow_mul, Nat.testBit_mod_two_pow,
    Nat.testBit_div_two_pow]
  by_cases h : i < 8
  · simp [h, Nat.not_le.2 h]
  · simp [h, Nat.le_of_not_lt h, Nat.sub_add_cancel (Nat.le_of_not_lt h)]

/-- one list equation: evaluating `getD` index by index would walk the list anew for each of the
256 entries -/
theorem crcTable_eq : Gen.crcTable = (List.range 256).map crcByte := by decide +kernel

theorem table_get (i : Nat) (h : i < 256) : Gen.crcTable.getD i 0 = crcByte i := by
  simp [crcTable_eq, List.getD_eq_getElem?_getD, h]

theorem tableStep_eq (c : Nat) (b : UInt8) : tableStep c b = crcUpdate c b := by
  have hdiv : c >>> 8 = (c ^^^ b.toNat) / 2 ^ 8 := by
    rw [← Nat.shiftRight_eq_div_pow, Nat.shiftRight_xor_distrib, Nat.shiftRight_eq_div_pow b.toNat,
      Nat.div_eq_of_lt b.toNat_lt, Nat.xor_zero]
  rw [tableStep, crcUpdate, hdiv, show (0xFF : Nat) = 2 ^ 8 - 1 from rfl, Nat.and_two_pow_sub_one_eq_mod,
    table_get _ (Nat.mod_lt _ (by decide))]
  conv => rhs; rw [split_low_byte (c ^^^ b.toNat), crcByte_xor, crcByte_shift]

theorem tableCrc_eq (c : Nat) (d : Bytes) : tableCrc c d = crcRaw (c ^^^ 0xFFFFFFFF) d ^^^ 0xFFFFFFFF := by
  have hf : tableStep = crcUpdate := funext fun c => funext (tableStep_eq c)
  rw [tableCrc, hf, Gen.crcXorIn, Gen.crcXorOut]
  rfl

/-- `Crc32_ComputeBuf` called again with its own result as `inCrc32` continues the checksum -/
theorem tableCrc_chain (a b : Bytes) : tableCrc (tableCrc 0 a) b = crc32 (a ++ b) := by
  rw [tableCrc_eq, tableCrc_eq, crc32, crcRaw_append, Nat.zero_xor, Nat.xor_assoc, Nat.xor_self, Nat.xor_zero]

end Cppcms.C18
