import Cppcms.C18.Lemmas
import Cppcms.C18.Witness
/-!
# C18 — "A crash while saving a file-backed session never yields a corrupted session."

`S` is the sector size (the property's 512; the theorems need `S ≥ 16`: the header lies inside the
first sector), `now` the clock, `old` the earlier file content (`[]` = absent), `(t, d)` the value saved.
The full-strength statement `TornLoadFull` is **false** of the code
(`torn_counterexample`, known finding `crc32-torn-mixture`); proved are `torn_load_partial` and,
under the explicit hypothesis `CollisionFree`, `torn_load`.

"load" in the names up to `mixture_loads` is `read_from_file` on one file's content (`readFromFile`); the
directory-level `load` (open, read, unlink on failure) is the subject from `load_fst` on.
-/
namespace Cppcms.C18.Props
open Cppcms Cppcms.C18 Cppcms.C18.Spec

/-- The layout (write and read side), write order and `open` flags generated from the source are these
literals; no `O_TRUNC`/`O_APPEND`.  `encodeHeader`/`parseHeader` are written for this layout; the statement
does not mention them. -/
theorem layout_tie :
    Gen.writeLayout = [("timeout", 8, true), ("crc", 4, false), ("size", 4, false)] ∧
    Gen.readLayout = Gen.writeLayout ∧ Gen.stampLen = 8 ∧ Gen.stampSigned = true ∧
    Gen.sizeFieldBits = 32 ∧ Gen.writeOrder = ["header", "data"] ∧
    Gen.openCreateFlags = ["O_CREAT", "O_RDWR"] ∧ Gen.openFlags = ["O_RDWR"] := by decide

/-- The fall-back table of `private/crc32.h` (used when built without zlib) is the table of the
bitwise CRC-32 of the model, with the same pre/post inversion; `crc32_calc` starts at the
checksum of the empty string. -/
theorem crc_table_tie :
    (∀ i : Fin 256, Gen.crcTable.getD i.val 0 = crcByte i.val) ∧ Gen.crcTable.length = 256 ∧
    Gen.crcXorIn = 0xFFFFFFFF ∧ Gen.crcXorOut = 0xFFFFFFFF ∧ Gen.crcCalcInit = crc32 [] :=
  ⟨fun i => table_get i.val i.isLt, by simp [crcTable_eq], rfl, rfl, by decide⟩

/-- **The fall-back implementation of `private/crc32.h` (table-driven loop, used when cppcms is
built without zlib) computes exactly the model's CRC-32**, for every input (from any start value:
`tableCrc_eq`; chained calls: `tableCrc_chain`). -/
theorem crc_fallback_eq (d : Bytes) : tableCrc 0 d = crc32 d := by
  rw [tableCrc_eq, Nat.zero_xor, crc32]

/-- `read_from_file` never returns a value of the wrong length or with a foreign deadline:
whatever it returns is exactly `size` bytes long, carries the header's deadline, which is not
past, and has the header's CRC.  (Totality is by construction: `readFromFile` is a total function.) -/
theorem load_sound (now : Int) (f : Bytes) (r : Int × Bytes) (h : readFromFile now f = some r) :
    ∃ hd, parseHeader f = some hd ∧ r.1 = hd.timeout ∧ now ≤ r.1 ∧ r.2.length = hd.size ∧
      crc32 r.2 = hd.crc ∧ r.2 = dataArea f hd.size := by
  obtain ⟨hd, hp, hexp, hlen, hcrc, rfl⟩ := readFromFile_some h
  refine ⟨hd, hp, rfl, ?_, dataArea_length hlen, hcrc, rfl⟩
  simpa [Gen.expired] using hexp

/-- No crash: after a complete save (`t` an int64, `|d| < 2^31`) over **any** earlier content (absent, shorter,
equal, longer, garbage) a load before the deadline returns exactly the saved value. -/
theorem no_crash_load_new (now : Int) (old : Bytes) (t : Int) (d : Bytes)
    (ht : InI64 t) (hd : d.length < 2^31) (hnow : now ≤ t) :
    readFromFile now (saveComplete old t d) = some (t, d) := by
  rw [readFromFile_saveComplete now old t d ht (by omega), if_neg]
  simp [Gen.expired]
  omega

/-- After such a save over any earlier content a load after the deadline reports "no session". -/
theorem no_crash_load_expired (now : Int) (old : Bytes) (t : Int) (d : Bytes)
    (ht : InI64 t) (hd : d.length < 2^31) (hnow : t < now) :
    readFromFile now (saveComplete old t d) = none := by
  rw [readFromFile_saveComplete now old t d ht (by omega), if_pos]
  simp [Gen.expired]
  omega

/-- **Main theorem (partial: see `TornLoadFull`).**  With `now > 0`, `WellFormedOld old`,
`t` an int64 and `|d| < 2^31`: for every crash state `c` of a save of `(t, d)` over `old` — every
prefix of the `write()`s, every byte prefix of the data write, every subset of sectors on disk — if a later load returns `r`, then
* `r` is the new value, or
* `r` is what a load of the earlier file returned (same clock), or
* `r` has the new deadline and `r.2`, the `|d|` bytes of `c` behind the header, is a different string of the same
  length and the same CRC-32 as `d` (`TornNew`; it has no conjunct on `c`'s header), or
* `c` carries the intact **earlier** header and `r.2` passes against its CRC and length
  although the earlier file would not have loaded as `r` (`TornOld`). -/
theorem torn_load_partial (S : Nat) (now : Int) (old : Bytes) (t : Int) (d c : Bytes) (r : Int × Bytes)
    (hS : 16 ≤ S) (hnow : 0 < now) (hwf : WellFormedOld old) (ht : InI64 t) (hd : d.length < 2^31)
    (hc : Crash S old t d c) (hr : readFromFile now c = some r) :
    r = (t, d) ∨ readFromFile now old = some r ∨ TornNew t d c r ∨ TornOld now old c r := by
  obtain ⟨h, hp, hexp, hlen, hcrc, rfl⟩ := readFromFile_some hr
  rcases crash_header S old t d c hS hwf hc with rfl | ⟨_, hnew⟩ | ⟨h16, ho16, hold⟩ | ⟨_, hzero⟩
  · -- empty crash state
    cases hp
  · -- new header intact: the data area is `d`, or a collision of `d`
    rw [parseHeader_of_take hnew ht (by omega)] at hp
    cases hp
    by_cases heq : dataArea c d.length = d
    · exact .inl (by rw [heq])
    · -- `TornNew`: deadline, data area; `Collision`: length, CRC, not `d`
      exact .inr (.inr (.inl ⟨rfl, rfl, dataArea_length hlen, hcrc, heq⟩))
  · -- earlier header intact
    by_cases hro : readFromFile now old = some (h.timeout, dataArea c h.size)
    · exact .inr (.inl hro)
    · have hpo : parseHeader old = some h := by rwa [← parseHeader_take ho16, ← hold, parseHeader_take h16]
      exact .inr (.inr (.inr ⟨h, hpo, hp,      -- `h` heads `old` and `c`
        rfl, hexp,                             -- its deadline, not past
        rfl, dataArea_length hlen, hcrc,       -- the data area, of `h`'s length and CRC
        hro⟩))                                 -- not what `old` loads as
  · -- a hole of zeros is the header of the empty value with deadline 0, which is past
    have hz : List.replicate 16 (0 : UInt8) = encodeHeader 0 [] := by decide
    rw [parseHeader_of_take (hzero.trans hz) (by decide) (by decide)] at hp
    cases hp
    simp [Gen.expired] at hexp
    omega

/-- The full-strength reading of the property for one crashed save: a later load reports no
session, the new value, or exactly what the earlier file held. -/
def TornLoadFull : Prop :=
  ∀ (S : Nat) (now : Int) (old : Bytes) (t : Int) (d c : Bytes),
    16 ≤ S → 0 < now → WellFormedOld old → InI64 t → d.length < 2^31 → Crash S old t d c →
    readFromFile now c = none ∨ readFromFile now c = some (t, d) ∨ readFromFile now c = readFromFile now old

/-- Under the explicit hypothesis `CollisionFree` (no crash state of this save is `TornNew` or `TornOld`)
the full statement holds. -/
theorem torn_load (S : Nat) (now : Int) (old : Bytes) (t : Int) (d c : Bytes)
    (hS : 16 ≤ S) (hnow : 0 < now) (hwf : WellFormedOld old) (ht : InI64 t) (hd : d.length < 2^31)
    (hfree : CollisionFree S now old t d) (hc : Crash S old t d c) :
    readFromFile now c = none ∨ readFromFile now c = some (t, d) ∨ readFromFile now c = readFromFile now old := by
  cases hr : readFromFile now c with
  | none => exact .inl rfl
  | some r =>
    rcases torn_load_partial S now old t d c r hS hnow hwf ht hd hc hr with h | h | h | h
    · exact .inr (.inl (by rw [h]))
    · exact .inr (.inr h.symm)
    · exact absurd h (hfree c r hc).1
    · exact absurd h (hfree c r hc).2

/-- The `TornNew` shape loads (`now ≤ t`, `|o| = |d| < 2^31`, `t` an int64) as soon as the tails of `o` and `d` behind the tear
differ and leave the CRC register 0 alike (`crcRaw_congr`). -/
theorem mixture_loads (now t : Int) (d o : Bytes) (j : Nat) (ht : InI64 t) (hd : d.length < 2^31)
    (hnow : now ≤ t) (hl : o.length = d.length) (hcrc : crcRaw 0 (o.drop j) = crcRaw 0 (d.drop j))
    (hne : o.drop j ≠ d.drop j) :
    readFromFile now (encodeHeader t d ++ (d.take j ++ o.drop j)) = some (t, d.take j ++ o.drop j) ∧
    TornNew t d (encodeHeader t d ++ (d.take j ++ o.drop j)) (t, d.take j ++ o.drop j) := by
  -- the mixture is a `Collision` of `d`
  have hmne := mix_ne_new hne
  have hmcrc := crc32_mix d o j hl hcrc
  have hmlen : (d.take j ++ o.drop j).length = d.length := by simp; omega
  -- only these three facts count from here; as a variable the mixture stays out of the rewrites
  generalize d.take j ++ o.drop j = m at *
  have henc : encodeHeader t d = encodeHeader t m := by rw [encodeHeader, encodeHeader, hmlen, hmcrc]
  have hdata := dataArea_encode t d m []
  have hread := readFromFile_record now t m [] ht (by omega)
  rw [List.append_nil, ← henc] at hread
  rw [List.append_nil, hmlen] at hdata
  refine ⟨?_, rfl, hdata.symm, hmlen, hmcrc, hmne⟩
  rw [hread, if_neg]
  simp [Gen.expired]
  omega

/-- what exactly witness 1 loads as (this is what the check replays on the real code) -/
theorem torn_counterexample_values :
    readFromFile Witness.now1 Witness.crash1 = some (Witness.newT1, Witness.mix1) ∧
    readFromFile Witness.now1 Witness.oldFile1 = some (Witness.oldT1, Witness.old1) ∧
    Witness.mix1 ≠ Witness.new1 ∧ Witness.mix1 ≠ Witness.old1 ∧
    TornNew Witness.newT1 Witness.new1 Witness.crash1 (Witness.newT1, Witness.mix1) := by
  have hl : Witness.old1.length = Witness.new1.length := by decide
  have hc : Witness.crash1 = _ :=
    crashState_write_tear 512 Witness.oldT1 Witness.newT1 Witness.new1 Witness.old1 Witness.tear1 hl (by decide)
  have htail : Witness.old1.drop Witness.tear1 ≠ Witness.new1.drop Witness.tear1 := by decide
  obtain ⟨hr, ht⟩ := mixture_loads Witness.now1 Witness.newT1 Witness.new1 Witness.old1 Witness.tear1
    (by decide) (by decide) (by decide) hl (by decide +kernel) htail
  rw [← hc] at hr ht
  exact ⟨hr, no_crash_load_new _ [] _ _ (by decide) (by decide) (by decide), mix_ne_new htail,
    mix_ne_old (by decide), ht⟩

/-- **Known finding `crc32-torn-mixture` (D8).**  The full statement is false of the code:
witness 1 (40-byte payloads, the process stops 20 bytes into the data `write()`, S = 512) loads
as a value that is neither the new nor the old one. -/
theorem torn_counterexample : ¬ TornLoadFull := by
  intro h
  obtain ⟨hcrash, hold, hne_new, hne_old, _⟩ := torn_counterexample_values
  have := h 512 Witness.now1 Witness.oldFile1 Witness.newT1 Witness.new1 Witness.crash1
    (by decide) (by decide) (.inr (by decide)) (by decide) (by decide)
    ⟨1, Witness.tear1, fun _ => true, by decide, rfl⟩
  rw [hcrash, hold] at this
  rcases this with e | e | e
  · cases e
  · exact hne_new (Prod.mk.inj (Option.some.inj e)).2
  · exact hne_old (Prod.mk.inj (Option.some.inj e)).2

/-- witness 2: a pure **sector** tear at the real sector size 512 (600-byte payloads, the save
completed, only sector 0 reached the disk) -/
theorem torn_counterexample_sector :
    Crash 512 Witness.oldFile2 Witness.newT1 Witness.new2 Witness.crash2 ∧
    readFromFile Witness.now1 Witness.crash2 = some (Witness.newT1, Witness.mix2) ∧
    readFromFile Witness.now1 Witness.oldFile2 = some (Witness.oldT1, Witness.old2) ∧
    Witness.mix2 ≠ Witness.new2 ∧ Witness.mix2 ≠ Witness.old2 := by
  have hn : Witness.new2.length = 600 := by decide +kernel
  have ho : Witness.old2.length = 600 := by decide +kernel
  have hc : Witness.crash2 = encodeHeader Witness.newT1 Witness.new2 ++ (Witness.new2.take 496 ++ Witness.old2.drop 496) :=
    crashState_sector_tear 512 Witness.oldT1 Witness.newT1 Witness.new2 Witness.old2 (by decide) (ho.trans hn.symm)
      (by rw [hn]; decide)
  have htail : Witness.old2.drop 496 ≠ Witness.new2.drop 496 := by decide +kernel
  obtain ⟨hr, _⟩ := mixture_loads Witness.now1 Witness.newT1 Witness.new2 Witness.old2 496
    (by decide) (by rw [hn]; decide) (by decide) (ho.trans hn.symm) (by decide +kernel) htail
  rw [← hc] at hr
  exact ⟨⟨2, 0, fun i => i == 0, by decide, rfl⟩, hr,
    no_crash_load_new _ [] _ _ (by decide) (by rw [ho]; decide) (by decide), mix_ne_new htail,
    mix_ne_old (by decide +kernel)⟩

/-- **Scope of the finding.**  For *every* payload `d`
of 6 to `2^31 − 1` bytes (`t` an int64) and *every* tear position `1 ≤ j ≤ |d| − 5` there is an earlier value `o` of
the same length (`o = d ⊕ (01 00… ‖ 01 96 30 07 77 00…)`, `advOld`) such that, when the process
stops `j` bytes into the data `write()` of saving `d` over the saved `o` (every sector on disk),
the file loads — before the new deadline — as `d[0..j) ++ o[j..)`, which is neither `d` nor `o`:
the tails differ by a multiple of the generator polynomial (`crcRaw_tailDelta`). -/
theorem torn_mixture_for_every_payload (S : Nat) (now t0 t : Int) (d : Bytes) (j : Nat)
    (hj : 1 ≤ j) (hlen : j + 5 ≤ d.length) (hd : d.length < 2^31) (ht : InI64 t) (hnow : now ≤ t) :
    ∃ o : Bytes, o.length = d.length ∧
      Crash S (saveComplete [] t0 o) t d (crashState S (saveComplete [] t0 o) t d 1 j (fun _ => true)) ∧
      readFromFile now (crashState S (saveComplete [] t0 o) t d 1 j (fun _ => true)) = some (t, d.take j ++ o.drop j) ∧
      d.take j ++ o.drop j ≠ d ∧ d.take j ++ o.drop j ≠ o := by
  obtain ⟨hl, hcrc, hne, hne'⟩ := advOld_spec d j hj hlen
  refine ⟨advOld d j, hl, ⟨1, j, _, by simp, rfl⟩, ?_, mix_ne_new hne, mix_ne_old hne'⟩
  rw [crashState_write_tear S t0 t d _ j hl (by omega)]
  exact (mixture_loads now t d _ j ht hd hnow hl hcrc hne).1

/-- the hypotheses of `torn_mixture_for_every_payload` are satisfiable (smallest case) -/
example : ∃ o : Bytes, o.length = 6 ∧ [104, 101].take 1 ++ o.drop 1 ≠ o :=
  let ⟨o, h1, _, _, _, h5⟩ := torn_mixture_for_every_payload 512 1000 2000 3000 [104, 101, 108, 108, 111, 33] 1
    (by decide) (by decide) (by decide) (by decide) (by decide)
  ⟨o, h1, by simpa using h5⟩

/-- `crash_bytewise` at every index: behind the end of a crash state the earlier file has ended too. -/
theorem crash_getElem? (S : Nat) (old : Bytes) (t : Int) (d c : Bytes) (hc : Crash S old t d c) (q : Nat) :
    c[q]? = (saveComplete old t d)[q]? ∨ c[q]? = old[q]? ∨ c[q]? = some 0 := by
  obtain ⟨k, j, T, hk, rfl⟩ := hc
  rw [crashState, sectorMix, List.getElem?_take]
  split
  · rw [mixAux_getElem?]
    split
    · split
      · -- a byte of the logical file: what has been written is a prefix of the complete image
        cases k with
        | zero => rw [hk rfl, logical_zero]; exact .inr (.inl rfl)
        | succ k =>
          rw [logical_succ, ← written_header, saveComplete_eq, ← written_header]
          exact (written_getElem? old _ _ ((List.prefix_append_right_inj _).2 (List.take_prefix _ d)) q).elim
            .inl (.inr ∘ .inl)
      · -- sector not on disk: the earlier byte, or a zero behind the earlier file's end (a hole)
        by_cases ho : q < old.length
        · exact .inr (.inl (by simp [ho]))
        · exact .inr (.inr (by simp [ho]))
    · exact .inr (.inl rfl)  -- behind the logical file: the earlier file
  · exact .inr (.inl (by rw [List.getElem?_eq_none (by omega)]))  -- behind the crash state

/-- **A crash state is a byte-wise mixture**: every byte of it is the byte the completed save
would have put there, the byte the earlier file had there, or a zero (hole); so the torn values of
`TornNew`/`TornOld` are made of old bytes, new bytes and zeros. -/
theorem crash_bytewise (S : Nat) (old : Bytes) (t : Int) (d c : Bytes) (hc : Crash S old t d c)
    (q : Nat) (hq : q < c.length) :
    c[q]? = (saveComplete old t d)[q]? ∨ c[q]? = old[q]? ∨ c[q]? = some 0 :=
  crash_getElem? S old t d c hc q

/-- Crash states (and complete saves) are again files a later save can start from, so the
theorems above compose along histories of saves and crashes. -/
theorem crash_wellformed (S : Nat) (old : Bytes) (t : Int) (d c : Bytes) (hS : 16 ≤ S)
    (hwf : WellFormedOld old) (hc : Crash S old t d c) : WellFormedOld c := by
  -- empty | new header | earlier header | zeros
  rcases crash_header S old t d c hS hwf hc with h | ⟨h, _⟩ | ⟨h, _⟩ | ⟨h, _⟩
  · exact .inl h
  all_goals exact .inr h

theorem saveComplete_wellformed (old : Bytes) (t : Int) (d : Bytes) : WellFormedOld (saveComplete old t d) := by
  right; rw [saveComplete_eq]; simp [encodeHeader_length]

theorem saveComplete_is_crash (S : Nat) (old : Bytes) (t : Int) (d : Bytes) :
    Crash S old t d (saveComplete old t d) := by
  refine ⟨2, 0, fun _ => true, by simp, ?_⟩
  rw [crashState, logical_succ, if_neg (by decide), List.take_length, ← saveComplete_eq, sectorMix_all]
  rw [saveComplete_eq]
  simp [encodeHeader_length]
  omega

theorem old_is_crash (S : Nat) (old : Bytes) (t : Int) (d : Bytes) : Crash S old t d old :=
  ⟨0, 0, fun _ => true, by simp, by rw [crashState, logical_zero, sectorMix_self]⟩

theorem load_fst (now : Int) (sid : Bytes) (dir : Dir) :
    (load now sid dir).1 = (dir sid).bind (readFromFile now) := by
  unfold load
  cases dir sid with
  | none => rfl
  | some f => cases h : readFromFile now f <;> simp [h]

theorem load_snd (now : Int) (sid : Bytes) (dir : Dir) (n : Bytes) :
    (load now sid dir).2 n = if n = sid ∧ (load now sid dir).1 = none then none else dir n := by
  unfold load
  cases hd : dir sid with
  | none => by_cases hn : n = sid <;> simp [hn, hd]
  | some f => cases h : readFromFile now f <;> simp [h, Dir.erase]

/-- `load` unlinks every file it cannot read. -/
theorem load_removes_bad_files (now : Int) (sid : Bytes) (dir : Dir)
    (h : (load now sid dir).1 = none) : (load now sid dir).2 sid = none := by
  simp [load_snd, h]

/-- `load` changes nothing when it succeeds, and never touches a file under another name. -/
theorem load_keeps_good_files (now : Int) (sid : Bytes) (dir : Dir) :
    ((load now sid dir).1 ≠ none → (load now sid dir).2 = dir) ∧
    (∀ n, n ≠ sid → (load now sid dir).2 n = dir n) :=
  ⟨fun h => funext fun n => by simp [load_snd, h], fun n hn => by simp [load_snd, hn]⟩

theorem readTimestamp_iff (now : Int) (f : Bytes) :
    readTimestamp now f = true ↔ ∃ s, stamp? f = some s ∧ now ≤ s := by
  unfold readTimestamp
  cases stamp? f <;> simp [Gen.stampExpired]

theorem gc_eq_some (now : Int) (dir : Dir) (n f : Bytes) :
    gc now dir n = some f ↔ dir n = some f ∧ (sidName n = true → readTimestamp now f = true) := by
  unfold gc
  cases dir n with
  | none => simp
  | some g =>
    cases hs : sidName n with
    | false => simp
    | true =>
      simp
      constructor
      · rintro ⟨h, rfl⟩; exact ⟨rfl, h⟩
      · rintro ⟨rfl, h⟩; exact ⟨h, rfl⟩

/-- gc never removes a live session: a file that `load` would accept now is still there,
unchanged. -/
theorem gc_never_removes_live (now : Int) (dir : Dir) (n f : Bytes) (he : dir n = some f)
    (r : Int × Bytes) (hlive : readFromFile now f = some r) : gc now dir n = some f := by
  obtain ⟨h, hp, hexp, _⟩ := readFromFile_some hlive
  exact (gc_eq_some now dir n f).2 ⟨he, fun _ => (readTimestamp_iff now f).2
    ⟨h.timeout, stamp?_of_parseHeader hp, by simpa [Gen.expired] using hexp⟩⟩

/-- gc removes every session file whose timestamp is unreadable (shorter than 8 bytes) or past:
after gc every entry with a 32-hex-digit name has a readable deadline that is not past. -/
theorem gc_removes_unreadable_and_expired (now : Int) (dir : Dir) (n f : Bytes)
    (he : gc now dir n = some f) (hn : sidName n = true) :
    ∃ s, stamp? f = some s ∧ now ≤ s :=
  (readTimestamp_iff now f).1 (((gc_eq_some now dir n f).1 he).2 hn)

/-- gc touches only files whose name is exactly 32 hex digits, and never creates or alters a file. -/
theorem gc_touches_only_sid_names (now : Int) (dir : Dir) :
    (∀ n, sidName n = false → gc now dir n = dir n) ∧ (∀ n f, gc now dir n = some f → dir n = some f) := by
  constructor
  · intro n hn
    unfold gc
    cases dir n <;> simp [hn]
  · exact fun n f h => ((gc_eq_some now dir n f).1 h).1

/-- gc at any point: a load after a gc (possibly at another clock) reports no session or exactly
what it would have returned without the gc. -/
theorem gc_then_load (now now' : Int) (sid : Bytes) (dir : Dir) :
    (load now' sid (gc now dir)).1 = none ∨ (load now' sid (gc now dir)).1 = (load now' sid dir).1 := by
  rw [load_fst, load_fst]
  cases hg : gc now dir sid with
  | none => exact .inl rfl
  | some f => exact .inr (by rw [(gc_touches_only_sid_names now dir).2 sid f hg])

theorem save_then_load (now : Int) (sid : Bytes) (t : Int) (d : Bytes) (dir : Dir)
    (ht : InI64 t) (hd : d.length < 2^31) (hnow : now ≤ t) :
    load now sid (save sid t d dir) = (some (t, d), save sid t d dir) := by
  have : save sid t d dir sid = some (saveComplete ((dir sid).getD []) t d) := by simp [save, Dir.put]
  simp only [load, this, no_crash_load_new now _ t d ht hd hnow]

/-- An operation called with session id `s` touches no file but `s`'s; gc touches only files whose
name is exactly 32 hex digits.  (That a malformed sid never reaches the storage is C06's business.) -/
theorem only_sid_named_files_touched (w : World) (op : Op) (n : Bytes) :
    (∀ s, opTarget op = some s → n ≠ s → (step w op).dir n = w.dir n) ∧
    (opTarget op = none → sidName n = false → (step w op).dir n = w.dir n) := by
  constructor
  · intro s hs hn
    cases op <;> simp only [opTarget, Option.some.injEq, reduceCtorEq] at hs <;> subst hs
    case save => simp [step, save, Dir.put, hn]
    case crashSave => simp [step, crashSave, Dir.put, hn]
    case load => simp [step, load_snd, hn]
    case remove => simp [step, remove, Dir.erase, hn]
  · intro ht hn
    cases op <;> simp only [opTarget, reduceCtorEq] at ht
    case setClock => rfl
    case gc => exact (gc_touches_only_sid_names w.now w.dir).1 n hn

/-- invariant of histories: every file is well-formed, and whatever it could load as (at any
positive clock) is a pair some save of that sid was called with -/
def HistInv (dir : Dir) (V : Bytes → List (Int × Bytes)) : Prop :=
  ∀ sid f, dir sid = some f → WellFormedOld f ∧ ∀ now r, 0 < now → readFromFile now f = some r → r ∈ V sid

theorem savedValues_cons (sid : Bytes) (op : Op) (r : List Op) :
    savedValues sid (op :: r) = savedValues sid [op] ++ savedValues sid r := by
  cases op <;> simp [savedValues] <;> split <;> simp

theorem HistInv_sub {dir dir' : Dir} {V V' : Bytes → List (Int × Bytes)} (h : HistInv dir V)
    (hd : ∀ sid f, dir' sid = some f → dir sid = some f) (hv : ∀ sid r, r ∈ V sid → r ∈ V' sid) : HistInv dir' V' := by
  intro sid f hf
  obtain ⟨h1, h2⟩ := h sid f (hd sid f hf)
  exact ⟨h1, fun now r hn hr => hv sid r (h2 now r hn hr)⟩

theorem HistInv_getD {dir : Dir} {V : Bytes → List (Int × Bytes)} (h : HistInv dir V) (s : Bytes) :
    WellFormedOld ((dir s).getD []) ∧
      ∀ now r, 0 < now → readFromFile now ((dir s).getD []) = some r → r ∈ V s := by
  cases hd : dir s with
  | none => exact ⟨.inl rfl, fun now r _ hr => by rw [Option.getD_none, readFromFile_short (by decide)] at hr; cases hr⟩
  | some g => exact h s g hd

theorem HistInv_put {dir : Dir} {V V' : Bytes → List (Int × Bytes)} (h : HistInv dir V) (s f : Bytes)
    (hv : ∀ sid r, r ∈ V sid → r ∈ V' sid) (hwf : WellFormedOld f)
    (hr : ∀ now r, 0 < now → readFromFile now f = some r → r ∈ V' s) : HistInv (Dir.put dir s f) V' := by
  intro sid g hg
  unfold Dir.put at hg
  split at hg
  · rename_i hs
    cases hg
    exact ⟨hwf, hs ▸ hr⟩
  · obtain ⟨h1, h2⟩ := h sid g hg
    exact ⟨h1, fun now r hn hr => hv sid r (h2 now r hn hr)⟩

theorem step_inv (w : World) (V : Bytes → List (Int × Bytes)) (op : Op)
    (hpos : 0 < w.now) (hinv : HistInv w.dir V) (hok : OpOk w op) :
    0 < (step w op).now ∧ HistInv (step w op).dir (fun sid => V sid ++ savedValues sid [op]) := by
  have hmono : ∀ sid r, r ∈ V sid → r ∈ V sid ++ savedValues sid [op] := fun _ _ h => List.mem_append_left _ h
  have hclock : 0 < (step w op).now := by
    cases op with
    | setClock n => exact hok
    | _ => exact hpos
  refine ⟨hclock, ?_⟩
  cases op with
  | setClock n => exact HistInv_sub hinv (fun _ _ h => h) hmono
  | load s =>
    refine HistInv_sub hinv (fun sid f (hf : (load w.now s w.dir).2 sid = some f) => ?_) hmono
    rw [load_snd] at hf
    exact (Option.ite_none_left_eq_some.1 hf).2
  | remove s =>
    exact HistInv_sub hinv (fun sid f (hf : (if sid = s then none else w.dir sid) = some f) =>
      (Option.ite_none_left_eq_some.1 hf).2) hmono
  | gc => exact HistInv_sub hinv (gc_touches_only_sid_names w.now w.dir).2 hmono
  | save s t d =>
    obtain ⟨ht, hd⟩ := hok
    refine HistInv_put hinv s _ hmono (saveComplete_wellformed _ t d) (fun now r _ hr => ?_)
    rw [readFromFile_saveComplete now _ t d ht (by omega)] at hr
    split at hr
    · cases hr
    · cases hr
      simp [savedValues]
  | crashSave S s t d k j T =>
    obtain ⟨hS, ht, hd, hk, hfree⟩ := hok
    obtain ⟨hwf, hold⟩ := HistInv_getD hinv s
    have hc : Crash S ((w.dir s).getD []) t d _ := ⟨k, j, T, hk, rfl⟩
    refine HistInv_put hinv s _ hmono (crash_wellformed S _ t d _ hS hwf hc) (fun now r hn hr => ?_)
    rcases torn_load S now _ t d _ hS hn hwf ht hd (hfree now) hc with h | h | h <;> rw [h] at hr
    · cases hr
    · cases hr
      simp [savedValues]
    · exact hmono s r (hold now r hn hr)

theorem run_inv (ops : List Op) (w : World) (V : Bytes → List (Int × Bytes))
    (hpos : 0 < w.now) (hinv : HistInv w.dir V) (hadm : Admissible w ops) :
    0 < (run w ops).now ∧ HistInv (run w ops).dir (fun sid => V sid ++ savedValues sid ops) := by
  induction ops generalizing w V with
  | nil => simpa [run, savedValues] using And.intro hpos hinv
  | cons op r ih =>
    obtain ⟨hok, hrest⟩ := hadm
    obtain ⟨hpos', hinv'⟩ := step_inv w V op hpos hinv hok
    have := ih (step w op) _ hpos' hinv' hrest
    simp only [List.append_assoc, ← savedValues_cons] at this
    exact this

/-- **Histories (partial: `Admissible` contains `CollisionFree` for every crashed save).**
Start from an empty directory at a positive clock and run any sequence of complete saves,
crashed saves (any crash point, any sector subset), loads, removes, garbage collections and
clock moves.  Whatever a load then returns for `sid` is a pair `(deadline, data)` that some save
of `sid` in the history was called with — deadline and data of the *same* save, never a mixture,
never a wrong length — and its deadline is not past. -/
theorem history_load_partial (now0 : Int) (ops : List Op) (h0 : 0 < now0)
    (hadm : Admissible ⟨now0, Dir.empty⟩ ops) (sid : Bytes) (r : Int × Bytes)
    (hl : (load (run ⟨now0, Dir.empty⟩ ops).now sid (run ⟨now0, Dir.empty⟩ ops).dir).1 = some r) :
    r ∈ savedValues sid ops ∧ (run ⟨now0, Dir.empty⟩ ops).now ≤ r.1 := by
  obtain ⟨hpos, hinv⟩ := run_inv ops ⟨now0, Dir.empty⟩ (fun _ => []) h0 (fun _ _ hf => nomatch hf) hadm
  generalize run ⟨now0, Dir.empty⟩ ops = w at *
  obtain ⟨f, hd, hr⟩ := Option.bind_eq_some_iff.1 (load_fst _ _ _ ▸ hl)
  obtain ⟨_, _, _, hle, _⟩ := load_sound w.now f r hr  -- the deadline is not past
  exact ⟨by simpa using (hinv sid f hd).2 w.now r hpos hr, hle⟩

/-- the hypotheses of `torn_load_partial` are met together (by the completed save, the end point of `Crash`) -/
example : ∃ c r, Crash 512 Witness.oldFile1 3000 [65, 66, 67] c ∧ WellFormedOld Witness.oldFile1 ∧
    readFromFile 1000 c = some r :=
  ⟨_, _, saveComplete_is_crash 512 _ 3000 [65, 66, 67], saveComplete_wellformed _ _ _,
    no_crash_load_new 1000 _ 3000 [65, 66, 67] (by decide) (by decide) (by decide)⟩

/-- CRC-32 separates single bytes, so no torn value can stand in for a one-byte value -/
theorem not_tornNew_single {t : Int} {x : UInt8} {c : Bytes} {r : Int × Bytes} : ¬ TornNew t [x] c r := by
  rintro ⟨_, _, hlen, hcrc, hne⟩  -- `Collision`: length, CRC, not `[x]`
  exact hne (eq_single_of_crc32 hlen hcrc)

/-- `CollisionFree` (hypothesis of `torn_load`) holds, for every sector size, clock and deadline, for a
one-byte value saved where no file existed, whatever the byte: it is not vacuous. -/
theorem collisionFree_single (S : Nat) (now t : Int) (x : UInt8) : CollisionFree S now [] t [x] := by
  intro c r _
  refine ⟨not_tornNew_single, ?_⟩
  -- `TornOld` needs a header in the earlier file, and there is none
  rintro ⟨h, hp, _⟩
  cases hp

theorem collisionFree_single_fresh (S : Nat) (now t : Int) : CollisionFree S now [] t [65] :=
  collisionFree_single S now t 65

/-- `CollisionFree` for `[65]` saved over the saved `[66]`: not vacuous there either. -/
theorem collisionFree_single_over (S : Nat) (now : Int) : CollisionFree S now (saveComplete [] 2000 [66]) 3000 [65] := by
  intro c r _
  refine ⟨not_tornNew_single, ?_⟩
  -- `TornOld` makes `r` the earlier value (its deadline, length, CRC), which is what the earlier file loads as
  rintro ⟨h, hpold, _, hdeadline, hexp, _, hlen, hcrc, hnoload⟩
  rw [saveComplete_eq, parseHeader_encode 2000 [66] _ (by decide) (by decide)] at hpold
  cases hpold
  have hr : r = (2000, [66]) := Prod.ext hdeadline (eq_single_of_crc32 hlen hcrc)
  rw [hr] at hnoload
  exact hnoload (no_crash_load_new now [] 2000 [66] (by decide) (by decide) (by simpa [Gen.expired] using hexp))

example : readFromFile 1000 (saveComplete [1, 2, 3] 2000 [104, 105]) = some (2000, [104, 105]) :=
  no_crash_load_new 1000 _ 2000 _ (by decide) (by decide) (by decide)
example : readFromFile 2001 (saveComplete [] 2000 [104, 105]) = none :=
  no_crash_load_expired 2001 _ 2000 _ (by decide) (by decide) (by decide)
example : gc 1000 (Dir.put Dir.empty (List.replicate 32 48) [0, 0, 0]) (List.replicate 32 48) = none := by decide +kernel

/-- `Admissible` (hypothesis of `history_load_partial`) is met by a history with a real crashed save -/
example : Admissible ⟨1000, Dir.empty⟩
    [.save [48, 49, 50, 51] 2000 [66], .crashSave 512 [48, 49, 50, 51] 3000 [65] 1 0 (fun _ => true), .gc,
     .setClock 1500, .load [48, 49, 50, 51]] := by
  refine ⟨⟨by decide, by decide⟩, ⟨by decide, by decide, by decide, by decide, ?_⟩, trivial, (by show (0:Int) < 1500; decide), trivial, trivial⟩
  intro now
  have : ((step ⟨1000, Dir.empty⟩ (.save [48, 49, 50, 51] 2000 [66])).dir [48, 49, 50, 51]).getD [] = saveComplete [] 2000 [66] := by
    simp [step, save, Dir.put, Dir.empty]
  rw [this]
  exact collisionFree_single_over 512 now

end Cppcms.C18.Props
