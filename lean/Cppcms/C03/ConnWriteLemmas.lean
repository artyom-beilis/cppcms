import Cppcms.C03.ConnWrite
/-! The connection write path: what each of `nonblocking_write`, `async_write`, the handler step and the blocking `write` does to the
connection, as one equation each, and the invariant `wire ++ backlog = handed` over event lists. -/
namespace Cppcms.C03
open Cppcms

/-- the write-path invariant: nothing lost, duplicated or reordered -/
def Conn.Inv (c : Conn) : Prop := c.wire ++ c.backlog = c.handed

theorem Ans.taken_le (out : Bytes) (a : Ans) : a.taken out ≤ out.length := by
  cases a <;> simp [Ans.taken]
  exact Nat.min_le_right _ _

theorem Ans.err_taken (out : Bytes) (a : Ans) (h : a.err = true) : a.taken out = 0 := by
  cases a <;> simp_all [Ans.taken, Ans.err]

theorem take_of_drop_eq_nil {l : Bytes} {n : Nat} (h : l.drop n = []) : l.take n = l := by
  have := List.take_append_drop n l
  rwa [h, List.append_nil] at this

/- One equation per operation, covering all its branches. -/

theorem nbWrite_eq (c : Conn) (d : Bytes) (a : Ans) {out : Bytes} (ho : c.pending ++ d = out) {n : Nat} (hn : a.taken out = n) :
    nbWrite c d a =
      ({ c with handed := c.handed ++ d, wire := c.wire ++ out.take n, pending := out.drop n },
       if out.drop n = [] then .done else if a.hardErr then .failed else .blocked) := by
  have hle := a.taken_le out
  rw [hn] at hle
  unfold nbWrite
  dsimp only
  rw [ho, hn]
  by_cases he : out = []
  · obtain ⟨hp, hd⟩ := List.append_eq_nil_iff.1 (ho.trans he)
    simp [he, hp]
  · rw [if_neg (by simpa using he)]
    by_cases hl : n = out.length
    · simp [hl]
    · have hd : out.drop n ≠ [] := by simp; omega
      by_cases h0 : n = 0
      · subst h0; simp [hl, he]
      · simp [hl, h0, hd]

theorem nbWrite_inv (c : Conn) (d : Bytes) (a : Ans) (hi : c.inflight = none) (h : c.Inv) :
    (nbWrite c d a).1.Inv ∧ (nbWrite c d a).1.inflight = none ∧ (nbWrite c d a).1.broken = c.broken := by
  rw [nbWrite_eq c d a rfl rfl]
  refine ⟨?_, hi, rfl⟩
  unfold Conn.Inv Conn.backlog at *
  rw [hi] at h ⊢
  dsimp only [Option.getD_none, List.nil_append] at h ⊢
  rw [List.append_assoc, List.take_append_drop, ← h, List.append_assoc]

theorem nbWrite_handed (c : Conn) (d : Bytes) (a : Ans) : (nbWrite c d a).1.handed = c.handed ++ d := by
  rw [nbWrite_eq c d a rfl rfl]

theorem nbWrite_not_failed (c : Conn) (d : Bytes) (a : Ans) (hh : a.hardErr = false) : (nbWrite c d a).2 ≠ .failed := by
  rw [nbWrite_eq c d a rfl rfl, hh]
  dsimp only
  split <;> simp

theorem asyncWrite_eq (c : Conn) (d : Bytes) (a : Ans) :
    asyncWrite c d a =
      if (nbWrite c d a).2 = .blocked then ({ (nbWrite c d a).1 with inflight := some (nbWrite c d a).1.pending, pending := [] }, .blocked)
      else nbWrite c d a := by
  unfold asyncWrite
  dsimp only
  split <;> simp [*]

theorem asyncWrite_inv (c : Conn) (d : Bytes) (a : Ans) (hi : c.inflight = none) (h : c.Inv) :
    (asyncWrite c d a).1.Inv ∧ (asyncWrite c d a).1.broken = c.broken := by
  have ⟨h1, h2, h3⟩ := nbWrite_inv c d a hi h
  rw [asyncWrite_eq]
  split
  · refine ⟨?_, h3⟩
    unfold Conn.Inv Conn.backlog at h1 ⊢
    rw [h2] at h1
    simpa using h1
  · exact ⟨h1, h3⟩

theorem asyncWrite_handed (c : Conn) (d : Bytes) (a : Ans) : (asyncWrite c d a).1.handed = c.handed ++ d := by
  rw [asyncWrite_eq]
  split <;> exact nbWrite_handed c d a

theorem asyncWrite_pending (c : Conn) (d : Bytes) (a : Ans) (hh : a.hardErr = false) : (asyncWrite c d a).1.pending = [] := by
  rw [asyncWrite_eq, nbWrite_eq c d a rfl rfl]
  by_cases hr : (c.pending ++ d).drop (a.taken (c.pending ++ d)) = [] <;> simp [hr, hh]

theorem asyncStep_fst (c : Conn) (a : Ans) {out : Bytes} (ho : c.inflight.getD [] = out) {n : Nat} (hn : a.taken out = n) :
    (asyncStep c a).1 =
      { c with wire := c.wire ++ out.take n,
               inflight := if out.drop n = [] ∨ a.hardErr = true then none else some (out.drop n),
               broken := c.broken || (!(out.drop n).isEmpty && a.hardErr) } := by
  subst ho hn
  unfold asyncStep
  cases hi : c.inflight with
  | none => cases c; simp_all
  | some out =>
    dsimp only [Option.getD_some]
    by_cases he : out = []
    · cases c; simp_all
    · rw [if_neg (by simpa using he)]
      by_cases hr : out.drop (a.taken out) = []
      · cases c; simp_all
      · cases a.hardErr <;> simp [hr]

theorem asyncStep_handed (c : Conn) (a : Ans) : (asyncStep c a).1.handed = c.handed := by
  rw [asyncStep_fst c a rfl rfl]

theorem asyncStep_inv (c : Conn) (a : Ans) (h : c.Inv) : (asyncStep c a).1.broken = false → (asyncStep c a).1.Inv := by
  unfold Conn.Inv Conn.backlog at *
  rw [asyncStep_fst c a rfl rfl]
  dsimp only
  generalize c.inflight.getD [] = out at *
  intro hb
  rw [← h]
  by_cases hr : out.drop (a.taken out) = []
  · simp [hr, take_of_drop_eq_nil hr]
  · have hh : a.hardErr = false := by
      cases hx : a.hardErr
      · rfl
      · simp [hx, hr] at hb
    simp only [hr, hh, false_or, Bool.false_eq_true, if_false, Option.getD_some]
    rw [List.append_assoc, ← List.append_assoc (out.take _), List.take_append_drop]

theorem writeAll_prefix : ∀ (fuel : Nat) (out : Bytes) (s : List Ans),
    (writeAll fuel out s).1 <+: out ∧ ((writeAll fuel out s).2.1 = true → (writeAll fuel out s).1 = out) := by
  intro fuel
  induction fuel with
  | zero => intro out s; simp [writeAll]
  | succ fuel ih =>
    intro out s
    unfold writeAll
    by_cases he : out = []
    · simp [he]
    · rw [if_neg (by simpa using he)]
      dsimp only
      split
      · exact ⟨List.take_prefix _ out, by simp⟩
      · have ⟨⟨t, ht⟩, p2⟩ := ih (out.drop ((s.headD (Ans.accept out.length)).taken out)) s.tail
        refine ⟨⟨t, ?_⟩, fun hok => ?_⟩
        · rw [List.append_assoc, ht, List.take_append_drop]
        · rw [p2 hok, List.take_append_drop]

theorem writeAll_accepts : ∀ (fuel : Nat) (out : Bytes) (s : List Ans), out.length < fuel →
    (out ≠ [] → ∀ a ∈ s, a.err = false) → (writeAll fuel out s).2.1 = true := by
  intro fuel
  induction fuel with
  | zero => exact fun _ _ h _ => absurd h (Nat.not_lt_zero _)
  | succ fuel ih =>
    intro out s hlen hs
    unfold writeAll
    by_cases he : out = []
    · simp [he]
    · rw [if_neg (by simpa using he)]
      have hpos := List.length_pos_iff.2 he
      have herr : (s.headD (Ans.accept out.length)).err = false := by
        cases s with
        | nil => simp [Ans.err]; omega
        | cons a t => exact hs he a (by simp)
      have htk : 1 ≤ (s.headD (Ans.accept out.length)).taken out := by
        revert herr
        cases s.headD (Ans.accept out.length) <;> simp [Ans.err, Ans.taken]
        omega
      simp only [herr, Bool.false_eq_true, if_false]
      exact ih _ _ (by simp only [List.length_drop]; omega) fun _ a ha => hs he a (List.mem_of_mem_tail ha)

theorem blockingWrite_eq (c : Conn) (d : Bytes) (s : List Ans) {r : Bytes × Bool × List Ans}
    (hr : writeAll ((c.pending ++ d).length + 1) (c.pending ++ d) s = r) :
    blockingWrite c d s =
      ({ c with handed := c.handed ++ d, wire := c.wire ++ r.1, pending := [], broken := c.broken || !r.2.1 }, r.2) := by
  subst hr
  unfold blockingWrite
  dsimp only
  split
  -- nothing pending and nothing to write: `writeAll` on `[]` sends nothing and succeeds
  · next he =>
    obtain ⟨hp, hd⟩ := List.append_eq_nil_iff.1 (List.isEmpty_iff.1 he)
    cases c; simp_all [writeAll]
  · rfl

theorem blockingWrite_handed (c : Conn) (d : Bytes) (s : List Ans) : (blockingWrite c d s).1.handed = c.handed ++ d := by
  rw [blockingWrite_eq c d s rfl]

theorem blockingWrite_inv (c : Conn) (d : Bytes) (s : List Ans) (hi : c.inflight = none) (h : c.Inv) :
    (blockingWrite c d s).1.inflight = none ∧
    ((blockingWrite c d s).1.broken = false → (blockingWrite c d s).1.Inv) := by
  have hok := (writeAll_prefix ((c.pending ++ d).length + 1) (c.pending ++ d) s).2
  unfold Conn.Inv Conn.backlog at *
  rw [blockingWrite_eq c d s rfl]
  generalize writeAll ((c.pending ++ d).length + 1) (c.pending ++ d) s = r at *
  refine ⟨hi, fun hb => ?_⟩
  rw [hi] at h
  dsimp only [Option.getD_none] at h hb ⊢
  rw [hi, hok (by simpa using (Bool.or_eq_false_iff.1 hb).2), ← h]
  simp

theorem blockingWrite_ok (c : Conn) (d : Bytes) (s : List Ans) (hi : c.inflight = none) (h : c.Inv) (hb : c.broken = false)
    (hs : c.pending ++ d ≠ [] → ∀ a ∈ s, a.err = false) :
    (blockingWrite c d s).2.1 = true ∧ (blockingWrite c d s).1.Inv ∧ (blockingWrite c d s).1.broken = false ∧
    (blockingWrite c d s).1.inflight = none ∧ (blockingWrite c d s).1.pending = [] := by
  have ⟨hfl, hinv⟩ := blockingWrite_inv c d s hi h
  have hok := writeAll_accepts _ (c.pending ++ d) s (Nat.lt_succ_self _) hs
  rw [blockingWrite_eq c d s rfl] at hinv hfl ⊢
  have hb' : (c.broken || !(writeAll ((c.pending ++ d).length + 1) (c.pending ++ d) s).2.1) = false := by rw [hb, hok]; rfl
  exact ⟨hok, hinv hb', hb', hfl, rfl⟩

/-- the wire is a prefix of what was handed over, and the backlog is the matching next part -/
def Conn.PInv (c : Conn) : Prop := ∃ t, c.wire ++ c.backlog ++ t = c.handed

theorem Conn.Inv.pinv {c : Conn} (h : c.Inv) : c.PInv := ⟨[], by simpa [Conn.Inv] using h⟩

def Ev.data : Ev → Bytes
  | .nb d _ => d
  | .async d _ => d
  | .writable _ => []
  | .blocking d _ => d

theorem stepEv_handed (c : Conn) (e : Ev) : (stepEv c e).handed = c.handed ++ e.data := by
  cases e <;> simp [stepEv, Ev.data, nbWrite_handed, asyncWrite_handed, asyncStep_handed, blockingWrite_handed]

theorem runEvs_handed (evs : List Ev) : ∀ (c : Conn), (runEvs c evs).handed = c.handed ++ (evs.map Ev.data).flatten := by
  induction evs with
  | nil => intro c; simp [runEvs]
  | cons e es ih =>
    intro c
    have := ih (stepEv c e)
    simp only [runEvs, List.foldl_cons, List.map_cons, List.flatten_cons] at this ⊢
    rw [this, stepEv_handed, List.append_assoc]

theorem stepEv_broken_mono (c : Conn) (e : Ev) (h : c.broken = true) : (stepEv c e).broken = true := by
  cases e with
  | nb d a => rw [stepEv, nbWrite_eq c d a rfl rfl]; exact h
  | async d a => rw [stepEv, asyncWrite_eq]; split <;> (rw [nbWrite_eq c d a rfl rfl]; exact h)
  | writable a => rw [stepEv, asyncStep_fst c a rfl rfl]; simp [h]
  | blocking d s => rw [stepEv, blockingWrite_eq c d s rfl]; simp [h]

theorem runEvs_broken_mono : ∀ (evs : List Ev) (c : Conn), c.broken = true → (runEvs c evs).broken = true
  | [], _, h => h
  | e :: es, c, h => runEvs_broken_mono es _ (stepEv_broken_mono c e h)

theorem stepEv_inv (c : Conn) (e : Ev) (h : c.Inv) (hd : evOk c e = true) (hb : (stepEv c e).broken = false) :
    (stepEv c e).Inv := by
  cases e with
  | nb d a => exact (nbWrite_inv c d a (by simpa [evOk] using hd) h).1
  | async d a => exact (asyncWrite_inv c d a (by simpa [evOk] using hd) h).1
  | writable a => exact asyncStep_inv c a h hb
  | blocking d s => exact (blockingWrite_inv c d s (by simpa [evOk] using hd) h).2 hb

theorem disciplined_snoc (es : List Ev) (e : Ev) : ∀ c, disciplined c (es ++ [e]) = (disciplined c es && evOk (runEvs c es) e) := by
  induction es with
  | nil => intro c; simp [disciplined, runEvs]
  | cons x xs ih => intro c; simp only [List.cons_append, disciplined, ih, Bool.and_assoc, runEvs, List.foldl_cons]

theorem runEvs_inv : ∀ (evs : List Ev) (c : Conn), c.Inv → disciplined c evs = true →
    (runEvs c evs).broken = false → (runEvs c evs).Inv := by
  intro evs
  induction evs with
  | nil => exact fun _ h _ _ => h
  | cons e es ih =>
    intro c h hd hb
    simp only [disciplined, Bool.and_eq_true] at hd
    have hb1 : (stepEv c e).broken = false := by
      cases hx : (stepEv c e).broken with
      | false => rfl
      | true => exact absurd (runEvs_broken_mono es _ hx) (by rw [show runEvs (stepEv c e) es = runEvs c (e :: es) from rfl, hb]; simp)
    exact ih _ (stepEv_inv c e h hd.1 hb1) hd.2 hb

theorem stepEv_wire_prefix (c : Conn) (e : Ev) (h : c.Inv) (hd : evOk c e = true) :
    (stepEv c e).wire <+: (stepEv c e).handed := by
  cases e with
  | nb d a => exact ⟨_, (nbWrite_inv c d a (by simpa [evOk] using hd) h).1⟩
  | async d a => exact ⟨_, (asyncWrite_inv c d a (by simpa [evOk] using hd) h).1⟩
  | writable a =>
    refine ⟨(c.inflight.getD []).drop (a.taken (c.inflight.getD [])) ++ c.pending, ?_⟩
    rw [stepEv, asyncStep_fst c a rfl rfl, ← h, Conn.backlog]
    dsimp only
    rw [List.append_assoc, ← List.append_assoc (List.take _ _), List.take_append_drop]
  | blocking d s =>
    have ⟨t, ht⟩ := (writeAll_prefix ((c.pending ++ d).length + 1) (c.pending ++ d) s).1
    refine ⟨t, ?_⟩
    rw [stepEv, blockingWrite_eq c d s rfl, ← h, Conn.backlog, show c.inflight = none by simpa [evOk] using hd]
    simp only [Option.getD_none, List.nil_append, List.append_assoc, ht]

/-- one handler invocation per element of the list, the one for `k` answered with `accept (k + 1)` -/
def drainSteps (c : Conn) : List Nat → Conn
  | [] => c
  | k :: ks => drainSteps (asyncStep c (.accept (k + 1))).1 ks

theorem drainSteps_idle (ks : List Nat) (c : Conn) (h : c.inflight = none) : drainSteps c ks = c := by
  induction ks with
  | nil => rfl
  | cons k ks ih =>
    have : (asyncStep c (.accept (k + 1))).1 = c := by simp [asyncStep, h]
    rw [drainSteps, this, ih]

theorem drain_complete : ∀ (ks : List Nat) (c : Conn) (out : Bytes), c.inflight = some out → out ≠ [] → out.length ≤ ks.length →
    drainSteps c ks = { c with wire := c.wire ++ out, inflight := none } := by
  intro ks
  induction ks with
  | nil => exact fun c out _ hne hl => absurd (List.length_eq_zero_iff.1 (Nat.le_zero.1 hl)) hne
  | cons k ks ih =>
    intro c out hi hne hl
    rw [drainSteps, asyncStep_fst c _ rfl rfl, hi]
    have hk : (k + 1 == 0) = false := rfl
    simp only [Option.getD_some, Ans.taken, Ans.hardErr, hk, Bool.false_eq_true, or_false, Bool.and_false, Bool.or_false]
    by_cases hr : out.drop (min (k + 1) out.length) = []
    · rw [if_pos hr, drainSteps_idle ks _ rfl, take_of_drop_eq_nil hr]
    · rw [if_neg hr, ih _ _ rfl hr (by simp only [List.length_drop, List.length_cons] at hl ⊢; omega)]
      simp

end Cppcms.C03
