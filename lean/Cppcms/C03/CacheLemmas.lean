import Cppcms.C03.ScriptLemmas
import Cppcms.C03.HeadersLemmas
/-! The decisions `out()` takes once — gzip or not, `Content-Encoding`, tee to the cache — and the
page-cache path (`cache_interface::fetch_page` / `store_page`). -/
namespace Cppcms.C03
open Cppcms

variable {D : Deflater}

/-- the part of a response that no `Op` but `fetch_page` changes once `out()` has run (`pcu` = `pageCompressionUsed`).  Unlike `Frame` it is kept by `write` and
`finalize` too, and records whether the filter buffers exist. -/
structure Static where
  requested : Bool
  gzSome : Bool
  copySome : Bool
  sent : Option Headers
  mode : Mode
  cfg : Config
  accept : Bool
  copyToCache : Bool
  pcu : Bool

def Resp.static (r : Resp D) : Static :=
  ⟨r.ostreamRequested, r.gz.isSome, r.copy.isSome, r.sentHeaders, r.mode, r.cfg, r.acceptGzip, r.copyToCache, r.pageCompressionUsed⟩

theorem static_gz (r : Resp D) (g g' : Gz D) (h : r.gz = some g) : ({ r with gz := some g' } : Resp D).static = r.static := by
  rw [Resp.static, Resp.static, h]; rfl

theorem static_copy (r : Resp D) (k k' : Copy) (h : r.copy = some k) : ({ r with copy := some k' } : Resp D).static = r.static := by
  rw [Resp.static, Resp.static, h]; rfl

theorem Resp.belowGz_static : ∀ (acts : List Act) (r : Resp D), (r.belowGz acts).static = r.static
  | [], _ => rfl
  | a :: rest, r => by
    rw [Resp.belowGz]
    split
    · exact Resp.belowGz_static rest _
    · next k hk => exact (Resp.belowGz_static rest _).trans (static_copy r k _ hk)

theorem Resp.onTop_static (r : Resp D) (fg : Gz D → Gz D × List Act) (fk : Copy → Copy × List Act) (fd : Dev → Trace → Dev × Trace) :
    (r.onTop fg fk fd).static = r.static := by
  unfold Resp.onTop
  split
  · next g hg => exact (Resp.belowGz_static _ _).trans (static_gz r g _ hg)
  · split
    · next k hk => exact static_copy r k _ hk
    · rfl

theorem Resp.write_static (r : Resp D) (s : Bytes) : (r.write s).static = r.requestStream.static :=
  (Resp.push_eq r.requestStream s ▸ Resp.onTop_static r.requestStream _ _ _ : (r.requestStream.push s).static = _)

theorem Resp.putc_static (r : Resp D) (c : UInt8) : (r.putc c).static = r.requestStream.static :=
  (Resp.pushc_eq r.requestStream c ▸ Resp.onTop_static r.requestStream _ _ _ : (r.requestStream.pushc c).static = _)

theorem Resp.sync_static (r : Resp D) : r.sync.static = r.requestStream.static :=
  r.sync_eq ▸ Resp.onTop_static r.requestStream _ _ _

theorem Resp.setbuf_static (r : Resp D) (n : Int) : (r.setbuf n).static = r.static :=
  ite_of (P := fun r' : Resp D => r'.static = r.static) (fun _ => rfl) (fun _ => rfl)

theorem Resp.setFullBuffering_static (r : Resp D) (v : Bool) : (r.setFullBuffering v).static = r.static :=
  ite_of (P := fun r' : Resp D => r'.static = r.static) (fun _ => rfl) (fun _ => rfl)

theorem Resp.asyncFlush_static (r : Resp D) : r.asyncFlush.static = r.static :=
  ite_of (P := fun r' : Resp D => r'.static = r.static) (fun _ => rfl) (fun _ => rfl)

theorem Resp.closeGz_static (r : Resp D) : r.closeGz.static = r.static := by
  unfold Resp.closeGz
  split
  · next g hg => exact (Resp.belowGz_static _ _).trans (static_gz r g _ hg)
  · rfl

theorem Resp.closeCopy_static (r : Resp D) : r.closeCopy.static = r.static := by
  unfold Resp.closeCopy
  split
  · next k hk => exact static_copy r k _ hk
  · rfl

theorem Resp.finalize_static (r : Resp D) : r.finalize.static = (if r.finalized then r.static else r.requestStream.static) := by
  unfold Resp.finalize
  split
  · rfl
  · exact (Resp.closeCopy_static _).trans (Resp.closeGz_static _)

theorem Resp.complete_static (r : Resp D) : r.complete.static = r.finalize.static :=
  ite_of (P := fun r' : Resp D => r'.static = r.finalize.static) (fun _ => rfl) (fun _ => rfl)

theorem putAll_static : ∀ (bs : Bytes) (r : Resp D), r.ostreamRequested = true → (putAll r bs).static = r.static
  | [], _, _ => rfl
  | c :: cs, r, h => by
    have h1 : (r.putc c).static = r.static := by rw [Resp.putc_static, Resp.requestStream_of_requested r h]
    exact (putAll_static cs (r.putc c) ((congrArg Static.requested h1).trans h)).trans h1

theorem eq_none_of_isSome_false {α : Type} {o : Option α} (h : o.isSome = false) : o = none := by
  cases o
  · rfl
  · cases h

/-- `need_gzip()` minus the look at the headers -/
def Resp.eligible (r : Resp D) : Bool := r.mode == .normal && r.cfg.gzipEnable && r.acceptGzip

/-- `need_gzip()` evaluated on header set `H` -/
def Resp.needGzipOn (r : Resp D) (H : Headers) : Bool :=
  r.eligible && (H.get sContentEncoding).isEmpty && (H.get sContentType).take 5 == sTextSlash

theorem Resp.needGzip_eq (r : Resp D) : r.needGzip = r.needGzipOn r.headers := rfl

/-- **the gzip decision and the headers agree.**  Before `out()` there are no filter buffers and nothing has
been handed over.  After it: if there is a `gzip_buf`, the response was eligible (`normal` mode, gzip enabled,
client accepts it), the header set the connection got is a set `H0` for which `need_gzip()` held, with
`Content-Encoding: gzip` added; if there is none, outside the raw modes, the connection got a set for which `need_gzip()` does not hold
(not eligible, not `text/…`, or a Content-Encoding of its own, as `fetch_page` sets for a stored gzip page); in the raw modes none, and no set. -/
structure Enc (r : Resp D) : Prop where
  pre : r.ostreamRequested = false → r.gz = none ∧ r.copy = none ∧ r.sentHeaders = none
  gzOn : r.ostreamRequested = true → r.gz.isSome = true →
    r.eligible = true ∧ ∃ H0, r.sentHeaders = some (H0.set sContentEncoding sGzip) ∧ r.needGzipOn H0 = true
  gzOff : r.ostreamRequested = true → r.gz.isSome = false → r.mode.isRaw = false →
    ∃ H, r.sentHeaders = some H ∧ r.needGzipOn H = false
  raw : r.ostreamRequested = true → r.mode.isRaw = true → r.gz.isSome = false ∧ r.sentHeaders = none

/-- `Enc` reads only the fields named in `h1`–`h7` -/
theorem Enc.congr {r r' : Resp D} (e : Enc r) (h1 : r'.ostreamRequested = r.ostreamRequested) (h2 : r'.gz.isSome = r.gz.isSome)
    (h3 : r'.copy.isSome = r.copy.isSome) (h4 : r'.sentHeaders = r.sentHeaders) (h5 : r'.mode = r.mode) (h6 : r'.cfg = r.cfg)
    (h7 : r'.acceptGzip = r.acceptGzip) : Enc r' := by
  have he : r'.eligible = r.eligible := by rw [Resp.eligible, Resp.eligible, h5, h6, h7]
  have hn : ∀ H, r'.needGzipOn H = r.needGzipOn H := fun H => by rw [Resp.needGzipOn, Resp.needGzipOn, he]
  obtain ⟨e1, e2, e3, e4⟩ := e
  rw [← h1, ← h2, ← he, ← h4] at e2
  rw [← h1, ← h2, ← h5, ← h4] at e3
  rw [← h1, ← h5, ← h2, ← h4] at e4
  refine ⟨fun hq => ?_, by simpa only [hn] using e2, by simpa only [hn] using e3, e4⟩
  obtain ⟨a, c, d⟩ := e1 (h1 ▸ hq)
  rw [a] at h2; rw [c] at h3
  exact ⟨eq_none_of_isSome_false h2, eq_none_of_isSome_false h3, h4.trans d⟩

theorem Enc.of_static {r r' : Resp D} (e : Enc r) (h : r'.static = r.static) : Enc r' :=
  e.congr (congrArg Static.requested h) (congrArg Static.gzSome h) (congrArg Static.copySome h) (congrArg Static.sent h)
    (congrArg Static.mode h) (congrArg Static.cfg h) (congrArg Static.accept h)

theorem Enc.of_pre {r r' : Resp D} (e : Enc r) (hq : r.ostreamRequested = false) (h1 : r'.ostreamRequested = false)
    (h2 : r'.gz = r.gz) (h3 : r'.copy = r.copy) (h4 : r'.sentHeaders = r.sentHeaders) : Enc r' := by
  obtain ⟨a, c, d⟩ := e.pre hq
  refine ⟨fun _ => ⟨h2.trans a, h3.trans c, h4.trans d⟩, fun hq' => ?_, fun hq' => ?_, fun hq' => ?_⟩
  all_goals (rw [h1] at hq'; cases hq')

theorem Enc.request {r : Resp D} (e : Enc r) : Enc r.requestStream := by
  by_cases hq : r.ostreamRequested = true
  · rw [Resp.requestStream_of_requested r hq]; exact e
  · have hq : r.ostreamRequested = false := by simpa using hq
    obtain ⟨a, _, d⟩ := e.pre hq
    rw [Resp.requestStream_first r hq]
    refine ⟨(fun h => by cases h), fun _ hg => ?_, fun _ hg hm => ?_, fun _ hm => ?_⟩
    all_goals simp only [a, d] at *
    · -- a `gzip_buf` was installed: `need_gzip()` held, so the mode is not raw and the headers got the encoding
      have hz : r.needGzip = true := by cases hz : r.needGzip <;> simp [hz] at hg ⊢
      have hnr : r.mode.isRaw = false := by
        cases hm : r.mode.isRaw
        · rfl
        · rw [Resp.needGzip_raw r hm] at hz; cases hz
      refine ⟨?_, r.headers, by simp [hnr, Resp.outHeaders, hz], hz⟩
      have he : (r.eligible && _ && _) = true := r.needGzip_eq ▸ hz
      simp only [Bool.and_eq_true] at he
      exact he.1.1
    · have hz : r.needGzip = false := by cases hz : r.needGzip <;> simp [hz] at hg ⊢
      have hm : r.mode.isRaw = false := hm
      exact ⟨r.headers, by simp [hm, Resp.outHeaders, hz], hz⟩
    · have hm : r.mode.isRaw = true := hm
      exact ⟨by rw [Resp.needGzip_raw r hm]; rfl, by simp [hm]⟩

theorem Enc.write {r : Resp D} (e : Enc r) (s : Bytes) : Enc (r.write s) := e.request.of_static (Resp.write_static r s)

theorem Enc.finalize {r : Resp D} (e : Enc r) : Enc r.finalize := by
  have h := Resp.finalize_static r
  split at h
  · exact e.of_static h
  · exact e.request.of_static h

theorem Enc.complete {r : Resp D} (e : Enc r) : Enc r.complete := e.finalize.of_static (Resp.complete_static r)

theorem Enc.fresh {r : Resp D} (f : Fresh r) : Enc r :=
  ⟨fun _ => ⟨f.gz, f.copy, f.sent⟩, (fun h => by rw [f.req] at h; cases h), (fun h => by rw [f.req] at h; cases h),
   (fun h => by rw [f.req] at h; cases h)⟩

theorem Enc.fetchPage (x : Run D) (key : String) (e : Enc x.resp) : Enc (x.fetchPage key).resp := by
  simp only [Run.fetchPage]
  split
  -- a hit changes `pageCompressionUsed` and `headers` before it writes; a miss changes `pageCompressionUsed` and `copyToCache`
  · exact Enc.write (by split <;> exact e.congr rfl rfl rfl rfl rfl rfl rfl) _
  · exact e.congr rfl rfl rfl rfl rfl rfl rfl

theorem Enc.storePage (x : Run D) (key : String) (e : Enc x.resp) : Enc (x.storePage key).resp := by
  simp only [Run.storePage]
  split
  · next k hk =>
    split
    · exact e.finalize
    · exact e.finalize.of_static (static_copy _ k _ hk)
  · exact e.finalize

theorem Enc.step (x : Run D) (op : Op) (e : Enc x.resp) : Enc (x.step op).resp := by
  by_cases hs : x.stopped = true
  · rw [Run.step, if_pos hs]; exact e
  · rw [Run.step, if_neg hs]
    cases op with
    | write n seed | lit bs => exact e.write _
    | putc n seed => exact e.request.of_static (putAll_static _ _ (Resp.requestStream_requested _))
    | out => exact e.request
    | finalize => exact e.finalize
    | flush =>
      show Enc (if _ then _ else _)
      split
      · exact e.of_static (Resp.asyncFlush_static _)
      · exact e.request.of_static (Resp.sync_static _)
    | setbuf n => exact e.of_static (Resp.setbuf_static _ _)
    | fullBuf v => exact e.of_static (Resp.setFullBuffering_static _ _)
    | setHeader n v | addHeader n v | cookie n v | contentLength n | status n => exact e.of_static rfl
    | fetchPage key => exact Enc.fetchPage x key e
    | storePage key => exact Enc.storePage x key e

theorem Enc.fold : ∀ (ops : List Op) (x : Run D), Enc x.resp → Enc (ops.foldl Run.step x).resp
  | [], _, e => e
  | op :: ops, x, e => Enc.fold ops _ (Enc.step x op e)

/-- the response is being recorded for the cache: `fetch_page` missed, so `copy_to_cache` is on and
`page_compression_used_` says whether the response is (going to be) compressed -/
structure Armed (r : Resp D) : Prop where
  on : r.copyToCache = true
  tee : r.ostreamRequested = true → r.copy.isSome = true
  pcuPre : r.ostreamRequested = false → r.pageCompressionUsed = r.needGzip
  pcuPost : r.ostreamRequested = true → r.pageCompressionUsed = r.gz.isSome

theorem Armed.keep {r r' : Resp D} (a : Armed r) (h : r'.static = r.static)
    (hn : r.ostreamRequested = false → r'.needGzip = r.needGzip) : Armed r' := by
  have h1 : r'.ostreamRequested = r.ostreamRequested := congrArg Static.requested h
  have hpcu : r'.pageCompressionUsed = r.pageCompressionUsed := congrArg Static.pcu h
  exact ⟨(congrArg Static.copyToCache h).trans a.on, fun hq => (congrArg Static.copySome h).trans (a.tee (h1 ▸ hq)),
    fun hq => by rw [hpcu, hn (h1 ▸ hq)]; exact a.pcuPre (h1 ▸ hq),
    fun hq => by rw [hpcu, show r'.gz.isSome = r.gz.isSome from congrArg Static.gzSome h]; exact a.pcuPost (h1 ▸ hq)⟩

theorem Armed.of_static {r r' : Resp D} (a : Armed r) (hq : r.ostreamRequested = true) (h : r'.static = r.static) : Armed r' :=
  a.keep h (fun h' => by rw [hq] at h'; cases h')

/-- `out()`: the tee is installed, and the compression decision is the one `fetch_page` recorded -/
theorem Armed.request {r : Resp D} (a : Armed r) (e : Enc r) : Armed r.requestStream := by
  by_cases hq : r.ostreamRequested = true
  · rw [Resp.requestStream_of_requested r hq]; exact a
  · have hq : r.ostreamRequested = false := by simpa using hq
    rw [Resp.requestStream_first r hq]
    refine ⟨a.on, fun _ => ?_, (fun h => by cases h), fun _ => ?_⟩
    · show Option.isSome (if _ then _ else _) = true
      rw [if_pos a.on]; rfl
    · show r.pageCompressionUsed = Option.isSome (if _ then _ else _)
      rw [a.pcuPre hq, (e.pre hq).1]
      cases r.needGzip <;> rfl

theorem Armed.finalize {r : Resp D} (a : Armed r) (e : Enc r) : Armed r.finalize := by
  have h := Resp.finalize_static r
  by_cases hf : r.finalized = true
  · rw [Resp.finalize_of_finalized r hf]; exact a
  · rw [if_neg hf] at h
    exact (a.request e).of_static (Resp.requestStream_requested r) h

theorem Resp.needGzip_congr {r r' : Resp D} (h1 : r'.mode = r.mode) (h2 : r'.cfg = r.cfg) (h3 : r'.acceptGzip = r.acceptGzip)
    (h4 : r'.headers.get sContentEncoding = r.headers.get sContentEncoding)
    (h5 : r'.headers.get sContentType = r.headers.get sContentType) : r'.needGzip = r.needGzip := by
  unfold Resp.needGzip; rw [h1, h2, h3, h4, h5]

theorem Frame.needGzip {r r' : Resp D} (f : Frame r r') : r'.needGzip = r.needGzip :=
  Resp.needGzip_congr f.mode f.cfg f.accept (by rw [f.headers]) (by rw [f.headers])

/-- does the action leave `need_gzip()` alone (it does not touch Content-Encoding / Content-Type) and is it not a second `fetch_page`? -/
def Op.keepsEncoding : Op → Bool
  | .setHeader n _ => !(ieq n sContentEncoding || ieq n sContentType)
  | .addHeader n _ => !(ieq n sContentEncoding || ieq n sContentType)
  | .fetchPage _ => false
  | _ => true

theorem Armed.step (x : Run D) (op : Op) (a : Armed x.resp) (e : Enc x.resp) (hop : op.keepsEncoding = true) :
    Armed (x.step op).resp := by
  by_cases hs : x.stopped = true
  · rw [Run.step, if_pos hs]; exact a
  · rw [Run.step, if_neg hs]
    have hreq := Resp.requestStream_requested x.resp
    -- header setters that leave Content-Encoding and Content-Type alone
    have hset : ∀ n v, (ieq n sContentEncoding || ieq n sContentType) = false →
        Armed ({ x.resp with headers := x.resp.headers.set n v } : Resp D) := fun n v hn => by
      rw [Bool.or_eq_false_iff] at hn
      exact a.keep rfl (fun _ => Resp.needGzip_congr rfl rfl rfl (Headers.get_set_other _ _ _ _ hn.1) (Headers.get_set_other _ _ _ _ hn.2))
    cases op with
    | write n seed | lit bs => exact (a.request e).of_static hreq (Resp.write_static _ _)
    | putc n seed => exact (a.request e).of_static hreq (putAll_static _ _ hreq)
    | out => exact a.request e
    | finalize => exact a.finalize e
    | flush =>
      show Armed (if _ then _ else _)
      split
      · exact a.keep (Resp.asyncFlush_static _) (fun hq => by rw [Resp.asyncFlush, if_neg (by simp [hq])])
      · exact (a.request e).of_static hreq (Resp.sync_static _)
    | setbuf n => exact a.keep (Resp.setbuf_static _ _) (fun _ => (Resp.setbuf_frame _ _).needGzip)
    | fullBuf v => exact a.keep (Resp.setFullBuffering_static _ _) (fun _ => (Resp.setFullBuffering_frame _ _).needGzip)
    | setHeader n v => exact hset n v (by simpa [Op.keepsEncoding] using hop)
    | addHeader n v =>
      simp only [Op.keepsEncoding, Bool.not_eq_true', Bool.or_eq_false_iff] at hop
      exact a.keep rfl (fun _ => Resp.needGzip_congr rfl rfl rfl (Headers.get_add_other _ _ _ _ hop.1) (Headers.get_add_other _ _ _ _ hop.2))
    | cookie n v => exact a.keep rfl (fun _ => rfl)
    | contentLength n | status n => exact hset _ _ (by decide)
    | fetchPage key => cases hop
    | storePage key =>
      show Armed (x.storePage key).resp
      simp only [Run.storePage]
      split
      · next k hk =>
        split
        · exact a.finalize e
        · exact (a.finalize e).keep (static_copy _ k _ hk) (fun _ => rfl)
      · exact a.finalize e

theorem Armed.fold : ∀ (ops : List Op) (x : Run D), Armed x.resp → Enc x.resp → (∀ op ∈ ops, op.keepsEncoding = true) →
    Armed (ops.foldl Run.step x).resp := by
  intro ops
  induction ops with
  | nil => exact fun _ a _ _ => a
  | cons op ops ih =>
    exact fun x a e h => ih _ (Armed.step x op a e (h op List.mem_cons_self)) (Enc.step x op e) (fun o ho => h o (List.mem_cons_of_mem _ ho))

theorem Run.fetchPage_miss (x : Run D) (key : String) (hq : x.resp.ostreamRequested = false)
    (hmiss : x.cache.fetch (pageKey x.resp.needGzip key) = none) :
    Armed (x.fetchPage key).resp ∧ (x.fetchPage key).stopped = x.stopped ∧ (x.fetchPage key).cache = x.cache ∧
    (x.fetchPage key).resp.headers = x.resp.headers := by
  simp only [Run.fetchPage, hmiss]
  exact ⟨⟨rfl, (fun h => by rw [show _ = x.resp.ostreamRequested from rfl, hq] at h; cases h), fun _ => rfl,
    (fun h => by rw [show _ = x.resp.ostreamRequested from rfl, hq] at h; cases h)⟩, trivial, trivial, trivial⟩

theorem PageCache.fetch_store (c : PageCache) (key : String) (v : Bytes) : (c.store key v).fetch key = some v := by
  simp [PageCache.fetch, PageCache.store]

theorem Run.fetchPage_hit_eq (x : Run D) (key : String) (page : Bytes)
    (hit : x.cache.fetch (pageKey x.resp.needGzip key) = some page) :
    x.fetchPage key = { x with
      resp := (if x.resp.needGzip then
          ({ x.resp with pageCompressionUsed := true, headers := x.resp.headers.set sContentEncoding sGzip } : Resp D)
        else ({ x.resp with pageCompressionUsed := false } : Resp D)).write page,
      stopped := true } := by
  simp only [Run.fetchPage, hit]
  cases x.resp.needGzip <;> rfl

/-- a hit on a fresh response with `copy_to_cache` off: the application is told to stop, the stream is opened without `gzip_buf` and `copy_buf` and holds exactly
the stored bytes; whole scripts: `Props.cached_hit_serves_stored_bytes_once` -/
theorem Run.fetchPage_hit (x : Run D) (key : String) (page : Bytes) (f : Fresh x.resp) (hc : x.resp.copyToCache = false)
    (hit : x.cache.fetch (pageKey x.resp.needGzip key) = some page) :
    (x.fetchPage key).stopped = true ∧ (x.fetchPage key).cache = x.cache ∧
    Open (x.fetchPage key).resp page ∧ (x.fetchPage key).resp.written = page ∧
    (x.fetchPage key).resp.gz = none ∧ (x.fetchPage key).resp.copy = none ∧ (x.fetchPage key).resp.mode = x.resp.mode ∧
    (x.resp.mode.isRaw = false → (x.fetchPage key).resp.sentHeaders =
      some (if x.resp.needGzip then x.resp.headers.set sContentEncoding sGzip else x.resp.headers)) := by
  rw [Run.fetchPage_hit_eq x key page hit]
  generalize hr0 : (if x.resp.needGzip then
          ({ x.resp with pageCompressionUsed := true, headers := x.resp.headers.set sContentEncoding sGzip } : Resp D)
        else ({ x.resp with pageCompressionUsed := false } : Resp D)) = r0
  have hf0 : Fresh r0 := by rw [← hr0]; split <;> exact f.update _ _ _ _ _
  have hm0 : r0.mode = x.resp.mode := by rw [← hr0]; split <;> rfl
  have hc0 : r0.copyToCache = false := by rw [← hr0]; split <;> exact hc
  have hh0 : r0.headers = (if x.resp.needGzip then x.resp.headers.set sContentEncoding sGzip else x.resp.headers) := by
    rw [← hr0]; split <;> rfl
  -- with the encoding declared, `need_gzip()` no longer holds: the stored page is not compressed again
  have hn0 : r0.needGzip = false := by
    cases hg : x.resp.needGzip with
    | false => rw [← hr0, if_neg (by simp [hg])]; exact hg
    | true =>
      have hce : r0.headers.get sContentEncoding = sGzip := by
        rw [hh0, if_pos hg]; exact Headers.get_set_nonempty _ _ _ _ (by decide) (ieq_refl _)
      rw [Resp.needGzip, hce]; simp [sGzip, b]
  obtain ⟨hopen, w1, gzSome1, copySome1, -, mode1, sent1, -⟩ := hf0.request
  obtain ⟨o2, w2, m2⟩ := Open.write (w1 ▸ hopen) page
  have hst := Resp.write_static r0.requestStream page
  rw [Resp.requestStream_idem] at hst
  rw [w1, List.nil_append] at w2
  rw [Resp.write_request]
  generalize r0.requestStream.write page = rr at *
  refine ⟨rfl, rfl, w2 ▸ o2, w2, eq_none_of_isSome_false ?_, eq_none_of_isSome_false ?_, m2.trans (mode1.trans hm0), fun hm => ?_⟩
  · exact (congrArg Static.gzSome hst).trans (gzSome1.trans hn0)
  · exact (congrArg Static.copySome hst).trans (copySome1.trans hc0)
  · rw [show rr.sentHeaders = r0.requestStream.sentHeaders from congrArg Static.sent hst, sent1 (hm0 ▸ hm), Resp.outHeaders, hn0, hh0]; rfl

/-- what an application may do before `fetch_page` without opening the stream -/
def Op.isPrelude : Op → Bool
  | .setHeader _ _ | .addHeader _ _ | .cookie _ _ | .contentLength _ | .status _ | .setbuf _ | .fullBuf _ => true
  | _ => false

theorem Run.step_prelude (x : Run D) (op : Op) (hop : op.isPrelude = true) (f : Fresh x.resp) :
    ∃ r', x.step op = { x with resp := r' } ∧ Fresh r' ∧ r'.copyToCache = x.resp.copyToCache ∧ r'.mode = x.resp.mode := by
  by_cases hs : x.stopped = true
  · rw [Run.step, if_pos hs]; exact ⟨_, rfl, f, rfl, rfl⟩
  · rw [Run.step, if_neg hs]
    cases op with
    | setHeader n v | addHeader n v | cookie n v | contentLength n | status n =>
      exact ⟨_, rfl, f.update _ _ _ _ _, rfl, rfl⟩
    | setbuf n =>
      refine ⟨x.resp.setbuf n, rfl, ?_⟩
      simp only [Resp.setbuf]
      rw [if_neg (by simp [f.req])]
      exact ⟨f.update _ _ _ _ _, rfl, rfl⟩
    | fullBuf v =>
      refine ⟨x.resp.setFullBuffering v, rfl, ?_⟩
      rw [Resp.setFullBuffering, if_neg (by simp [f.req])]
      exact ⟨f.update _ _ _ _ _, rfl, rfl⟩
    | write _ _ | lit _ | putc _ _ | out | finalize | flush | fetchPage _ | storePage _ => cases hop

theorem Fresh.fold : ∀ (ops : List Op) (x : Run D), (∀ op ∈ ops, op.isPrelude = true) → Fresh x.resp →
    Fresh (ops.foldl Run.step x).resp ∧ (ops.foldl Run.step x).stopped = x.stopped ∧ (ops.foldl Run.step x).cache = x.cache ∧
    (ops.foldl Run.step x).resp.copyToCache = x.resp.copyToCache ∧ (ops.foldl Run.step x).resp.mode = x.resp.mode
  | [], _, _, f => ⟨f, rfl, rfl, rfl, rfl⟩
  | op :: ops, x, h, f => by
    obtain ⟨r', e, f1, k1, m1⟩ := x.step_prelude op (h op List.mem_cons_self) f
    obtain ⟨f2, s2, c2, k2, m2⟩ := Fresh.fold ops { x with resp := r' } (fun o ho => h o (List.mem_cons_of_mem _ ho)) f1
    rw [List.foldl_cons, e]
    exact ⟨f2, s2, c2, k2.trans k1, m2.trans m1⟩

theorem Open.complete_plain {r : Resp D} (o : Open r r.written) (hgz : r.gz = none) :
    Done r.complete r.written r.written ∧ r.complete.written = r.written ∧ r.complete.mode = r.mode ∧
    r.complete.static = r.static := by
  obtain ⟨⟨Z, d⟩, hm, hw⟩ := Phase.complete (.inr (.inl o))
  have hst : r.complete.static = r.static := by
    rw [Resp.complete_static, Resp.finalize_static, if_neg (by simp [o.notFin]), Resp.requestStream_of_requested r o.req]
  have hg : r.complete.gz = none := eq_none_of_isSome_false ((congrArg Static.gzSome hst).trans (congrArg Option.isSome hgz))
  have hZ := (GzDone.none hg).1 d.gz
  rw [hZ, hw] at d
  exact ⟨d, hw, hm, hst⟩

theorem Run.step_fetchPage (x : Run D) (key : String) (hs : x.stopped = false) : x.step (.fetchPage key) = x.fetchPage key := by
  rw [Run.step, if_neg (by simp [hs])]

theorem Run.step_storePage (x : Run D) (key : String) (hs : x.stopped = false) : x.step (.storePage key) = x.storePage key := by
  rw [Run.step, if_neg (by simp [hs])]

def Op.isStore : Op → Bool
  | .storePage _ => true
  | _ => false

/-- between a `fetch_page` miss and `store_page`: what neither finalizes nor touches the encoding keeps phase, gzip decision and recording -/
theorem Run.fold_recording : ∀ (ops : List Op) (x : Run D), Phase x.resp → Enc x.resp → Armed x.resp → x.stopped = false →
    x.resp.finalized = false → (∀ op ∈ ops, op.keepsEncoding = true ∧ op.finalizes = false) →
    Phase (ops.foldl Run.step x).resp ∧ Enc (ops.foldl Run.step x).resp ∧ Armed (ops.foldl Run.step x).resp ∧
    (ops.foldl Run.step x).stopped = false ∧ (ops.foldl Run.step x).resp.finalized = false ∧
    (ops.foldl Run.step x).cache = x.cache ∧ (ops.foldl Run.step x).resp.mode = x.resp.mode
  | [], x, p, e, a, s, f, _ => ⟨p, e, a, s, f, rfl, rfl⟩
  | op :: ops, x, p, e, a, s, f, h => by
    obtain ⟨hk, hnf⟩ := h op List.mem_cons_self
    have e1 := Enc.step x op e
    have a1 := Armed.step x op a e hk
    obtain ⟨y, hy, p1, m1, f1, hplain⟩ := x.step_spec op p s (fun hf => by rw [f] at hf; cases hf)
    -- neither `fetch_page` nor `store_page`: only the response changes
    have hy' := hplain fun key => ⟨(fun h => by rw [h] at hk; cases hk), (fun h => by rw [h] at hnf; cases hnf)⟩
    rw [hy] at e1 a1
    rw [List.foldl_cons, hy]
    have s1 : y.stopped = false := by rw [hy']; exact s
    obtain ⟨i1, i2, i3, i4, i5, i6, i7⟩ := Run.fold_recording ops y p1 e1 a1 s1 (by rw [f1 s1, f, hnf]; rfl)
      (fun o ho => h o (List.mem_cons_of_mem _ ho))
    exact ⟨i1, i2, i3, i4, i5, i6.trans (by rw [hy']), i7.trans m1⟩

theorem Run.step_done (x : Run D) (op : Op) {W Z : Bytes} (d : Done x.resp W Z)
    (hok : op.afterFinalOk x.resp.mode = true) (hns : op.isStore = false) :
    ∃ r', x.step op = { x with resp := r' } ∧ Done r' W Z ∧ r'.static = x.resp.static ∧ r'.written = x.resp.written := by
  by_cases hs : x.stopped = true
  · rw [Run.step, if_pos hs]; exact ⟨_, rfl, d, rfl, rfl⟩
  · rw [Run.step, if_neg hs]
    cases op with
    | write _ _ | lit _ | putc _ _ | fetchPage _ => cases hok
    | storePage _ => cases hns
    | out => exact ⟨x.resp.requestStream, rfl, by rw [Resp.requestStream_of_requested x.resp d.req]; exact ⟨d, rfl, rfl⟩⟩
    | finalize => exact ⟨x.resp.finalize, rfl, by rw [Resp.finalize_of_finalized x.resp d.fin]; exact ⟨d, rfl, rfl⟩⟩
    | flush =>
      have ha : x.resp.mode.isAsync = true := hok
      exact ⟨if x.resp.mode.isAsync then x.resp.asyncFlush else x.resp.sync, rfl,
        by rw [if_pos ha, Resp.asyncFlush, if_pos d.req]; exact ⟨d.asyncWriteResponse, rfl, rfl⟩⟩
    | setbuf n => exact ⟨_, rfl, (d.setbuf n).1, Resp.setbuf_static _ _, (Resp.setbuf_frame _ _).written⟩
    | fullBuf v => exact ⟨_, rfl, d.setFullBuffering v, Resp.setFullBuffering_static _ _, (Resp.setFullBuffering_frame _ _).written⟩
    | setHeader n v | addHeader n v | cookie n v | contentLength n | status n =>
      -- these five change `headers` only
      exact ⟨_, rfl, d.update _ _ _ _ _ _ _, rfl, rfl⟩

theorem Done.fold : ∀ (ops : List Op) (x : Run D) {W Z : Bytes}, Done x.resp W Z →
    (∀ op ∈ ops, op.afterFinalOk x.resp.mode = true ∧ op.isStore = false) →
    Done (ops.foldl Run.step x).resp W Z ∧ (ops.foldl Run.step x).cache = x.cache ∧
    (ops.foldl Run.step x).cacheCopy = x.cacheCopy ∧ (ops.foldl Run.step x).resp.static = x.resp.static ∧
    (ops.foldl Run.step x).resp.written = x.resp.written
  | [], _, _, _, d, _ => ⟨d, rfl, rfl, rfl, rfl⟩
  | op :: ops, x, _, _, d, h => by
    obtain ⟨h1, h2⟩ := h op List.mem_cons_self
    obtain ⟨r', e, d1, s1, w1⟩ := x.step_done op d h1 h2
    have hm : r'.mode = x.resp.mode := congrArg Static.mode s1
    obtain ⟨d2, c2, k2, s2, w2⟩ := Done.fold ops { x with resp := r' } d1 (fun o ho => hm ▸ h o (List.mem_cons_of_mem _ ho))
    rw [List.foldl_cons, e]
    exact ⟨d2, c2, k2, s2.trans s1, w2.trans w1⟩

end Cppcms.C03
