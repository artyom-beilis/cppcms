import Cppcms.Common
import Cppcms.C03.Response
import Cppcms.C03.WireModel
/-!
# C03 model, part 4: one response end to end

Stage 1 (`Response.lean`): the application's script runs on the response object and yields the trace
of what the response does to its connection.  Stage 2 (`WireModel.lean`): the trace is replayed on
the connection under the socket schedule.  `runCase` is what the check compares, byte for byte, with
the real server, and what `Props.response_wire_eq_scgi`, `_fcgi`, `_http` are about.
-/
namespace Cppcms.C03
open Cppcms

structure CaseResult (D : Deflater) where
  run : Run D
  wire : Wire

/-- one request: the run of the script and the connection afterwards -/
def runCaseWith (D : Deflater) (cfg : Config) (cache : PageCache) (cs : Case) : CaseResult D :=
  let run := runScript D cfg cache cs.mode cs.gz cs.script
  { run, wire := (Wire.init cs.proto cs.sched).replay (!cs.mode.isAsync) run.resp.trace }

/-- with the stand-in deflater of the harness -/
def runCase (cfg : Config) (cache : PageCache) (cs : Case) : CaseResult stubDeflater := runCaseWith stubDeflater cfg cache cs

end Cppcms.C03
