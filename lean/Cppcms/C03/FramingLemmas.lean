import Cppcms.C03.Framing
import Cppcms.C03.Spec
/-! Round-trip lemmas between the framing model and the independent de-framers of `Spec.lean`. -/
namespace Cppcms.C03
open Cppcms

/- The `lit_*` lemmas read generated literals of `Gen.lean` back as the bytes and constants the grammars of `Spec.lean` expect; they fail to
type-check when the source changes a literal. -/

theorem lit_chunkSizeEnd : b Gen.chunkSizeEnd = [13, 10] := by decide +kernel
theorem lit_chunkEnd : b Gen.chunkEnd = [13, 10] := by decide +kernel
theorem lit_chunkedLast : b Gen.chunkedLast = [48, 13, 10, 13, 10] := by decide +kernel
theorem lit_chunkEndLast : b Gen.chunkEndLast = [13, 10, 48, 13, 10, 13, 10] := by decide +kernel

theorem digitChar_hex (d : Nat) (h : d < 16) : Spec.hexVal (digitChar d) = some d := by
  have : ∀ d : Fin 16, Spec.hexVal (digitChar d.val) = some d.val := by decide +kernel
  exact this ⟨d, h⟩

theorem digitChar_ne_cr (d : Nat) (h : d < 16) : digitChar d ≠ 13 := by
  have : ∀ d : Fin 16, digitChar d.val ≠ 13 := by decide +kernel
  exact this ⟨d, h⟩

theorem digitChar_dec (d : Nat) (h : d < 10) : 48 ≤ digitChar d ∧ digitChar d ≤ 57 ∧ (digitChar d).toNat - 48 = d := by
  have : ∀ d : Fin 10, 48 ≤ digitChar d.val ∧ digitChar d.val ≤ 57 ∧ (digitChar d.val).toNat - 48 = d.val := by decide +kernel
  exact this ⟨d, h⟩

theorem digits_ne_nil (base : Nat) (hb : 2 ≤ base) (n : Nat) : digits base hb n ≠ [] := by
  unfold digits
  split <;> simp

theorem mem_digits {base : Nat} {hb : 2 ≤ base} {c : UInt8} : ∀ {n : Nat}, c ∈ digits base hb n → ∃ d, d < base ∧ c = digitChar d := by
  intro n
  induction n using digits.induct base hb with
  -- `case1`: `n < base`, one digit; `case2`: the digits of `n / base`, then the digit `n % base`
  | case1 n h => rw [digits, dif_pos h]; exact fun hc => ⟨n, h, List.mem_singleton.1 hc⟩
  | case2 n h ih =>
    rw [digits, dif_neg h]
    intro hc
    rcases List.mem_append.1 hc with hc | hc
    · exact ih hc
    · exact ⟨n % base, Nat.mod_lt _ (by omega), List.mem_singleton.1 hc⟩

theorem parse_digits {base : Nat} (hb : 2 ≤ base) (parse : Bytes → Nat → Option Nat)
    (happ : ∀ xs ys acc, parse (xs ++ ys) acc = (parse xs acc).bind (parse ys))
    (hone : ∀ d, d < base → ∀ acc, parse [digitChar d] acc = some (acc * base + d)) (n : Nat) :
    parse (digits base hb n) 0 = some n := by
  induction n using digits.induct base hb with
  | case1 n h => rw [digits, dif_pos h, hone n h, Nat.zero_mul, Nat.zero_add]
  | case2 n h ih =>
    rw [digits, dif_neg h, happ, ih, Option.bind_some, hone _ (Nat.mod_lt _ (by omega)), Nat.div_add_mod']

theorem parseHexAcc_append (xs ys : Bytes) (acc : Nat) :
    Spec.parseHexAcc (xs ++ ys) acc = (Spec.parseHexAcc xs acc).bind (Spec.parseHexAcc ys) := by
  induction xs generalizing acc with
  | nil => rfl
  | cons x xs ih =>
    simp only [List.cons_append, Spec.parseHexAcc]
    cases Spec.hexVal x with
    | none => rfl
    | some v => exact ih _

theorem parseHexNum_hexDigits (n : Nat) : Spec.parseHexNum (hexDigits n) = some n := by
  rw [Spec.parseHexNum, if_neg (by simpa [hexDigits] using digits_ne_nil 16 _ n)]
  exact parse_digits _ _ parseHexAcc_append (fun d h acc => by simp [Spec.parseHexAcc, digitChar_hex d h]) n

theorem hexDigits_no_cr (n : Nat) : ∀ c ∈ hexDigits n, c ≠ 13 := by
  intro c hc
  obtain ⟨d, hd, rfl⟩ := mem_digits hc
  exact digitChar_ne_cr d hd

theorem parseDecAcc_append (xs ys : Bytes) (acc : Nat) :
    Spec.parseDecAcc (xs ++ ys) acc = (Spec.parseDecAcc xs acc).bind (Spec.parseDecAcc ys) := by
  induction xs generalizing acc with
  | nil => rfl
  | cons x xs ih =>
    simp only [List.cons_append, Spec.parseDecAcc]
    split
    · exact ih _
    · rfl

theorem parseDecNum_decDigits (n : Nat) : Spec.parseDecNum (decDigits n) = some n := by
  rw [Spec.parseDecNum, if_neg (by simpa [decDigits] using digits_ne_nil 10 _ n)]
  refine parse_digits _ _ parseDecAcc_append (fun d h acc => ?_) n
  have ⟨h1, h2, h3⟩ := digitChar_dec d h
  simp [Spec.parseDecAcc, h1, h2, h3]

theorem decDigits_all (n : Nat) : ∀ c ∈ decDigits n, 48 ≤ c ∧ c ≤ 57 := by
  intro c hc
  obtain ⟨d, hd, rfl⟩ := mem_digits hc
  exact ⟨(digitChar_dec d hd).1, (digitChar_dec d hd).2.1⟩

theorem splitLineAux_append (xs : Bytes) (hx : ∀ c ∈ xs, c ≠ 13) (rest : Bytes) (acc : List UInt8) :
    Spec.splitLineAux (xs ++ 13 :: 10 :: rest) acc = some (acc.reverse ++ xs, rest) := by
  induction xs generalizing acc with
  | nil => rw [List.nil_append, Spec.splitLineAux, if_pos ⟨rfl, rfl⟩, List.append_nil]
  | cons x xs ih =>
    obtain ⟨y, t, ht⟩ : ∃ y t, xs ++ 13 :: 10 :: rest = y :: t := by cases xs <;> exact ⟨_, _, rfl⟩
    rw [List.cons_append, ht, Spec.splitLineAux, if_neg (fun h => hx x List.mem_cons_self h.1), ← ht,
      ih (fun c hc => hx c (List.mem_cons_of_mem _ hc)), List.reverse_cons, List.append_assoc]
    rfl

theorem splitLine_append (xs : Bytes) (hx : ∀ c ∈ xs, c ≠ 13) (rest : Bytes) :
    Spec.splitLine (xs ++ 13 :: 10 :: rest) = some (xs, rest) := by
  rw [Spec.splitLine, splitLineAux_append xs hx rest []]
  rfl

/-- one data chunk as `make_chunked_wrapper` writes it -/
def chunkOf (w : Bytes) : Bytes := hexDigits w.length ++ [13, 10] ++ w ++ [13, 10]

theorem chunkWrap_false (w : Bytes) : chunkWrap w false = if w = [] then [] else chunkOf w := by
  unfold chunkWrap chunkOf
  by_cases h : w = [] <;> simp [h, lit_chunkSizeEnd, lit_chunkEnd]

theorem chunkWrap_true (w : Bytes) : chunkWrap w true = chunkWrap w false ++ [48, 13, 10, 13, 10] := by
  unfold chunkWrap
  by_cases h : w = [] <;> simp [h, lit_chunkedLast, lit_chunkEnd, lit_chunkEndLast]

theorem deChunkedAux_chunk (fuel : Nat) (w : Bytes) (hw : w ≠ []) (tail : Bytes) (acc : List Bytes) :
    Spec.deChunkedAux (fuel + 1) (chunkOf w ++ tail) acc = Spec.deChunkedAux fuel tail (w :: acc) := by
  obtain ⟨n, hn⟩ : ∃ n, w.length = n + 1 := ⟨w.length - 1, by have := List.length_pos_iff.2 hw; omega⟩
  have h1 : chunkOf w ++ tail = hexDigits w.length ++ 13 :: 10 :: (w ++ 13 :: 10 :: tail) := by simp [chunkOf]
  rw [Spec.deChunkedAux, h1, splitLine_append _ (hexDigits_no_cr _)]
  simp only [parseHexNum_hexDigits, hn]
  simp [List.take_left' hn, List.drop_left' hn, hn]

theorem deChunkedAux_last (fuel : Nat) (rest : Bytes) (acc : List Bytes) :
    Spec.deChunkedAux (fuel + 1) ([48, 13, 10, 13, 10] ++ rest) acc = some (acc.reverse.flatten, rest) := by
  rw [Spec.deChunkedAux, show [48, 13, 10, 13, 10] ++ rest = [48] ++ 13 :: 10 :: (13 :: 10 :: rest) from rfl,
    splitLine_append [48] (by simp)]
  rfl

/-- data chunks (an empty input writes nothing) followed by the last-chunk -/
theorem deChunkedAux_chunks (xs : List Bytes) (rest : Bytes) : ∀ (acc : List Bytes) (fuel : Nat),
    (xs.map (chunkWrap · false)).flatten.length < fuel →
    Spec.deChunkedAux fuel ((xs.map (chunkWrap · false)).flatten ++ [48, 13, 10, 13, 10] ++ rest) acc =
      some ((acc.reverse ++ xs).flatten, rest) := by
  induction xs with
  | nil =>
    intro acc fuel hf
    cases fuel with
    | zero => cases hf
    | succ f => rw [List.map_nil, List.flatten_nil, List.nil_append, deChunkedAux_last, List.append_nil]
  | cons w xs ih =>
    intro acc fuel hf
    rw [List.map_cons, List.flatten_cons, chunkWrap_false] at hf ⊢
    by_cases hw : w = []
    · rw [if_pos hw, List.nil_append] at hf ⊢
      rw [ih acc fuel hf, hw, List.flatten_append, List.flatten_append, List.flatten_cons, List.nil_append]
    · rw [if_neg hw, List.length_append] at hf
      cases fuel with
      | zero => cases hf
      | succ f =>
        have : 0 < (chunkOf w).length := by rw [chunkOf, List.length_append, List.length_append]; exact Nat.succ_pos _
        rw [if_neg hw, List.append_assoc, List.append_assoc, deChunkedAux_chunk f w hw, ← List.append_assoc,
          ih (w :: acc) f (by omega), List.reverse_cons, List.append_assoc, List.singleton_append]

theorem deChunked_body (ws : List Bytes) (last rest : Bytes) :
    Spec.deChunked ((ws.map fun w => chunkWrap w false).flatten ++ chunkWrap last true ++ rest) = some (ws.flatten ++ last, rest) := by
  have := deChunkedAux_chunks (ws ++ [last]) rest [] ((ws.map fun w => chunkWrap w false).flatten ++ chunkWrap last true ++ rest).length.succ
  simp only [List.map_append, List.flatten_append, List.map_cons, List.map_nil, List.flatten_cons, List.flatten_nil, List.append_nil,
    List.reverse_nil, List.nil_append, ← chunkWrap_true, List.append_assoc] at this
  rw [Spec.deChunked, List.append_assoc]
  exact this (by simp only [List.length_append, chunkWrap_true]; omega)

/- `lit_fcgiStdout`, `lit_maxPacketLen`, `lit_fullPad` are used by no proof: they pin the record type and length limit of the FastCGI
specification and the padding of a full record as read from the source (proofs unfold `Gen.maxPacketLen`). -/
theorem lit_fcgiVersion : UInt8.ofNat Gen.fcgiVersion = 1 := by decide
theorem lit_fcgiStdout : Gen.fcgiStdout = Spec.FCGI_STDOUT := by decide
theorem lit_eof : Gen.eofFirstType = Spec.FCGI_STDOUT ∧ Gen.eofSecondType = Spec.FCGI_END_REQUEST ∧ Gen.eofSecondLen = 8 ∧ Gen.eofProtocolStatus = 0 := by decide +kernel
theorem lit_maxPacketLen : Gen.maxPacketLen = 65535 := by decide
theorem lit_fullPad : Gen.fullPad = 1 := by decide

/-- wire form of a record (what `format_output` gathers for it) -/
def encRecord (r : Spec.Record) : Bytes :=
  fcgiHeader r.type r.requestId r.content.length r.padding ++ r.content ++ List.replicate r.padding 0

def Spec.Record.Valid (r : Spec.Record) : Prop :=
  r.type < 256 ∧ r.requestId < 65536 ∧ r.content.length < 65536 ∧ r.padding < 256

theorem be16_roundtrip (n : Nat) (h : n < 65536) :
    (UInt8.ofNat (n / 256)).toNat * 256 + (UInt8.ofNat (n % 256)).toNat = n := by
  rw [UInt8.toNat_ofNat', UInt8.toNat_ofNat', Nat.mod_mod, Nat.mod_eq_of_lt (Nat.div_lt_of_lt_mul h), Nat.div_add_mod']

theorem deRecordsAux_step (fuel : Nat) (r : Spec.Record) (hv : r.Valid) (tail : Bytes) (acc : List Spec.Record) :
    Spec.deRecordsAux (fuel + 1) (encRecord r ++ tail) acc = Spec.deRecordsAux fuel tail (r :: acc) := by
  obtain ⟨ht, hr, hc, hp⟩ := hv
  have t1 : (r.content ++ (List.replicate r.padding (0 : UInt8) ++ tail)).take r.content.length = r.content := List.take_left' rfl
  have d1 : (r.content ++ (List.replicate r.padding (0 : UInt8) ++ tail)).drop r.content.length = List.replicate r.padding 0 ++ tail := List.drop_left' rfl
  have t2 : (List.replicate r.padding (0 : UInt8) ++ tail).take r.padding = List.replicate r.padding 0 := List.take_left' List.length_replicate
  have d2 : (List.replicate r.padding (0 : UInt8) ++ tail).drop r.padding = tail := List.drop_left' List.length_replicate
  have e3 : (UInt8.ofNat r.padding).toNat = r.padding := by rw [UInt8.toNat_ofNat', Nat.mod_eq_of_lt hp]
  have e4 : (UInt8.ofNat r.type).toNat = r.type := by rw [UInt8.toNat_ofNat', Nat.mod_eq_of_lt ht]
  unfold encRecord fcgiHeader be16
  simp only [List.cons_append, List.nil_append, List.append_assoc]
  -- the equation of `deRecordsAux` for fuel left and at least eight bytes (a whole record header)
  rw [Spec.deRecordsAux.eq_3]
  simp only [be16_roundtrip _ hc, be16_roundtrip _ hr, e3, e4, lit_fcgiVersion,
    t1, d1, t2, d2, List.length_replicate, and_self, if_true]

theorem deRecordsAux_list (recs : List Spec.Record) (hv : ∀ r ∈ recs, r.Valid) : ∀ (acc : List Spec.Record) (fuel : Nat), recs.length < fuel →
    Spec.deRecordsAux fuel (recs.map encRecord).flatten acc = some (acc.reverse ++ recs) := by
  induction recs with
  | nil =>
    intro acc fuel hf
    cases fuel with
    | zero => cases hf
    | succ fuel => simp [Spec.deRecordsAux]
  | cons r rs ih =>
    intro acc fuel hf
    cases fuel with
    | zero => cases hf
    | succ fuel =>
      rw [List.map_cons, List.flatten_cons, deRecordsAux_step _ r (hv r List.mem_cons_self),
        ih (fun x hx => hv x (List.mem_cons_of_mem _ hx)) _ fuel (Nat.lt_of_succ_lt_succ hf), List.reverse_cons, List.append_assoc]
      rfl

/-- the STDOUT records `fastcgi::format_output` cuts `data` into -/
def stdoutRecs (reqId : Nat) (data : Bytes) : List Spec.Record :=
  if h : data.length = 0 then []
  else if Gen.isFullRecord data.length then
    { type := Gen.fcgiStdout, requestId := reqId, content := data.take Gen.maxPacketLen, padding := Gen.fullPad } ::
      stdoutRecs reqId (data.drop Gen.maxPacketLen)
  else [{ type := Gen.fcgiStdout, requestId := reqId, content := data, padding := Gen.lastPad data.length }]
termination_by data.length
decreasing_by
  simp only [List.length_drop]
  have : 0 < Gen.maxPacketLen := by decide
  omega

theorem fcgiRecords_eq (reqId : Nat) (data : Bytes) :
    fcgiRecords reqId data = ((stdoutRecs reqId data).map encRecord).flatten := by
  induction data using fcgiRecords.induct with
  -- `case1`: no data left; `case2`: more than a full record, cut off `maxPacketLen` bytes and go on;
  -- `case3`: what is left fits into one last record
  | case1 data h => rw [fcgiRecords, stdoutRecs, dif_pos h, dif_pos h]; rfl
  | case2 data h hfull ih =>
    have hl : (data.take Gen.maxPacketLen).length = Gen.maxPacketLen := by
      simp only [List.length_take, Gen.isFullRecord, decide_eq_true_eq] at *
      omega
    rw [fcgiRecords, stdoutRecs, dif_neg h, dif_neg h, if_pos hfull, if_pos hfull, ih]
    simp [encRecord, hl]
  | case3 data h hfull =>
    rw [fcgiRecords, stdoutRecs, dif_neg h, dif_neg h, if_neg hfull, if_neg hfull]
    simp [encRecord]

theorem stdoutRecs_spec (reqId : Nat) (hr : reqId < 65536) (data : Bytes) :
    ((stdoutRecs reqId data).map (·.content)).flatten = data ∧
    ∀ r ∈ stdoutRecs reqId data, r.Valid ∧ r.type = Spec.FCGI_STDOUT ∧ r.requestId = reqId ∧ r.content ≠ [] ∧ r.content.length ≤ 65535 := by
  induction data using stdoutRecs.induct with
  -- the cases are those of `fcgiRecords_eq`: nothing left, a full record and more, one last record
  | case1 data h => rw [stdoutRecs, dif_pos h]; simp [List.eq_nil_of_length_eq_zero h]
  | case2 data h hfull ih =>
    have hgt : 65535 < data.length := by simpa [Gen.isFullRecord, Gen.maxPacketLen] using hfull
    have hl : (data.take 65535).length = 65535 := by rw [List.length_take]; omega
    rw [stdoutRecs, dif_neg h, if_pos hfull]
    refine ⟨by simp [ih.1], fun r hr' => ?_⟩
    rcases List.mem_cons.1 hr' with rfl | h1
    · exact ⟨⟨(by decide : Gen.fcgiStdout < 256), hr, by show (data.take 65535).length < _; omega, (by decide : Gen.fullPad < 256)⟩,
        rfl, rfl, fun hn => (by rw [show data.take 65535 = [] from hn] at hl; cases hl), (by show (data.take 65535).length ≤ _; omega)⟩
    · exact ih.2 r h1
  | case3 data h hfull =>
    have hle : data.length ≤ 65535 := by simpa [Gen.isFullRecord, Gen.maxPacketLen] using hfull
    rw [stdoutRecs, dif_neg h, if_neg hfull]
    refine ⟨by simp, fun r hr' => ?_⟩
    obtain rfl := List.mem_singleton.1 hr'
    exact ⟨⟨(by decide : Gen.fcgiStdout < 256), hr, by show data.length < _; omega, by show (8 - data.length % 8) % 8 < 256; omega⟩,
      rfl, rfl, fun hn => h (by rw [show data = [] from hn]; rfl), hle⟩

/-- the two closing records of `prepare_eof` -/
def eofRecs (reqId : Nat) : List Spec.Record :=
  [{ type := Spec.FCGI_STDOUT, requestId := reqId, content := [], padding := 0 },
   { type := Spec.FCGI_END_REQUEST, requestId := reqId, content := [0,0,0,0,0,0,0,0], padding := 0 }]

theorem fcgiEof_eq (reqId : Nat) : fcgiEof reqId = ((eofRecs reqId).map encRecord).flatten := by
  have ⟨h1, h2, h3, h4⟩ := lit_eof
  simp [fcgiEof, eofRecs, encRecord, h1, h2, h3, h4]

/-- everything a FastCGI connection sends for one response: the gathered inputs of the successive
`format_output` calls (`ds`, the first one starting with the header block), the last call with `completed` -/
def fcgiWire (reqId : Nat) (ds : List Bytes) : Bytes :=
  (ds.map (fcgiRecords reqId)).flatten ++ fcgiEof reqId

def fcgiAllRecs (reqId : Nat) (ds : List Bytes) : List Spec.Record :=
  ds.flatMap (stdoutRecs reqId) ++ eofRecs reqId

theorem fcgiWire_eq (reqId : Nat) (ds : List Bytes) :
    fcgiWire reqId ds = ((fcgiAllRecs reqId ds).map encRecord).flatten := by
  rw [fcgiWire, fcgiAllRecs, fcgiEof_eq, List.map_append, List.flatten_append]
  congr 1
  induction ds with
  | nil => rfl
  | cons d ds ih => simp only [List.map_cons, List.flatten_cons, List.flatMap_cons, List.map_append, List.flatten_append, fcgiRecords_eq, ih]

theorem deRecords_fcgiWire (reqId : Nat) (hr : reqId < 65536) (ds : List Bytes) :
    Spec.deRecords (fcgiWire reqId ds) = some (fcgiAllRecs reqId ds) := by
  have hv : ∀ r ∈ fcgiAllRecs reqId ds, r.Valid := by
    intro r h
    rcases List.mem_append.1 h with h | h
    · obtain ⟨d, _, hd⟩ := List.mem_flatMap.1 h
      exact ((stdoutRecs_spec reqId hr d).2 r hd).1
    · simp only [eofRecs, List.mem_cons, List.not_mem_nil, or_false] at h
      rcases h with rfl | rfl <;> exact ⟨by simp [Spec.FCGI_STDOUT, Spec.FCGI_END_REQUEST], hr, by simp, by simp⟩
  -- a record takes at least one byte (eight, in fact), so the decoder's fuel suffices
  have hlen : ∀ recs : List Spec.Record, recs.length ≤ (recs.map encRecord).flatten.length := by
    intro recs
    induction recs with
    | nil => exact Nat.le_refl _
    | cons r rs ih =>
      rw [List.map_cons, List.flatten_cons, List.length_append, List.length_cons, Nat.add_comm]
      exact Nat.add_le_add (Nat.succ_pos _ : 0 < (encRecord r).length) ih
  rw [Spec.deRecords, fcgiWire_eq, deRecordsAux_list _ hv [] _ (Nat.lt_succ_of_le (hlen _))]
  rfl

theorem fcgiStdoutStream_append : ∀ (recs : List Spec.Record) (rid : Nat),
    (∀ r ∈ recs, r.type = Spec.FCGI_STDOUT ∧ r.requestId = rid ∧ r.content ≠ []) →
    Spec.fcgiStdoutStream rid (recs ++ eofRecs rid) = some (recs.map (·.content)).flatten := by
  intro recs rid
  induction recs with
  | nil => intro _; simp [eofRecs, Spec.fcgiStdoutStream]
  | cons r rs ih =>
    intro h
    have ⟨h1, h2, h3⟩ := h r List.mem_cons_self
    -- `rs ++ eofRecs` has at least two elements, so after `r` the list is neither `[]` nor `[e]` and the
    -- fourth equation of `fcgiStdoutStream` (the branch `r :: rest`) applies
    have hlen : 2 ≤ (rs ++ eofRecs rid).length := by rw [List.length_append]; exact Nat.le_add_left 2 _
    rw [List.cons_append, Spec.fcgiStdoutStream.eq_4 rid r _ (fun h => by rw [h] at hlen; cases hlen)
      (fun e h => by rw [h] at hlen; exact absurd hlen (Nat.lt_irrefl 1)), ih (fun x hx => h x (List.mem_cons_of_mem _ hx)),
      if_pos ⟨h1, h2, h3⟩]
    rfl
theorem fcgiStdoutStream_wire (reqId : Nat) (hr : reqId < 65536) (ds : List Bytes) :
    Spec.fcgiStdoutStream reqId (fcgiAllRecs reqId ds) = some ds.flatten := by
  rw [fcgiAllRecs, fcgiStdoutStream_append]
  · congr 1
    induction ds with
    | nil => rfl
    | cons d ds ih => simp only [List.flatMap_cons, List.map_append, List.flatten_append, List.flatten_cons, ih, (stdoutRecs_spec reqId hr d).1]
  · intro r h
    obtain ⟨d, _, hd⟩ := List.mem_flatMap.1 h
    have := (stdoutRecs_spec reqId hr d).2 r hd
    exact ⟨this.2.1, this.2.2.1, this.2.2.2.1⟩

theorem startsCRLFCRLF_append (s rest : Bytes) (h : 4 ≤ s.length) :
    Spec.startsCRLFCRLF (s ++ rest) = Spec.startsCRLFCRLF s := by
  rw [Spec.startsCRLFCRLF, Spec.startsCRLFCRLF, List.take_append_of_le_length h]

theorem startsCRLFCRLF_iff {s : Bytes} : Spec.startsCRLFCRLF s = true ↔ ∃ r, s = 13 :: 10 :: 13 :: 10 :: r :=
  ⟨fun h => ⟨s.drop 4, (List.take_append_drop 4 s).symm.trans (by rw [show s.take 4 = _ from eq_of_beq h]; rfl)⟩,
   fun ⟨_, h⟩ => h ▸ rfl⟩

theorem startsCRLFCRLF_cons_ne {c : UInt8} {s : Bytes} (hc : c ≠ 13) : ¬ Spec.startsCRLFCRLF (c :: s) = true := fun h => by
  obtain ⟨_, hr⟩ := startsCRLFCRLF_iff.1 h
  exact hc (List.cons.inj hr).1

theorem startsCRLFCRLF_length (s : Bytes) (h : Spec.startsCRLFCRLF s = true) : 4 ≤ s.length := by
  obtain ⟨r, rfl⟩ := startsCRLFCRLF_iff.1 h
  exact Nat.le_add_left 4 r.length

theorem splitHeadAux_append : ∀ (s : Bytes) (acc : List UInt8) (hd r : Bytes),
    Spec.splitHeadAux s acc = some (hd, r) → 4 ≤ s.length ∧ ∀ rest, Spec.splitHeadAux (s ++ rest) acc = some (hd, r ++ rest) := by
  intro s
  induction s with
  | nil => intro _ _ _ h; simp [Spec.splitHeadAux] at h
  | cons c s ih =>
    intro acc hd r h
    rw [Spec.splitHeadAux] at h
    by_cases hs : Spec.startsCRLFCRLF (c :: s) = true
    · have h4 := startsCRLFCRLF_length _ hs
      refine ⟨h4, fun rest => ?_⟩
      rw [if_pos hs] at h
      obtain ⟨rfl, rfl⟩ := Prod.mk.inj (Option.some.inj h)
      rw [List.cons_append, Spec.splitHeadAux, ← List.cons_append, startsCRLFCRLF_append _ _ h4, if_pos hs,
        List.drop_append_of_le_length (by simp only [List.length_cons] at h4; omega)]
    · rw [if_neg hs] at h
      have ⟨h4, ih⟩ := ih _ hd r h
      refine ⟨by simp only [List.length_cons]; omega, fun rest => ?_⟩
      rw [List.cons_append, Spec.splitHeadAux, ← List.cons_append,
        startsCRLFCRLF_append _ _ (by simp only [List.length_cons]; omega), if_neg hs]
      exact ih rest

/-- `H` is exactly one header block: its first CRLFCRLF is its end -/
def HeadOk (H : Bytes) : Prop := Spec.splitHead H = some (H, [])

theorem splitHead_append (H rest : Bytes) (h : HeadOk H) : Spec.splitHead (H ++ rest) = some (H, rest) :=
  (splitHeadAux_append H [] H [] h).2 rest

/-- all output of a sequence of `format_output` calls -/
def scgiRun : ScgiSt → List Bytes → Bytes
  | _, [] => []
  | st, w :: ws => (scgiFormat st w).2 ++ scgiRun (scgiFormat st w).1 ws

theorem scgiRun_written (ws : List Bytes) (st : ScgiSt) (h : st.headersWritten = true) : scgiRun st ws = ws.flatten := by
  induction ws with
  | nil => rfl
  | cons w ws ih => simp only [scgiRun, scgiFormat, h, if_true, List.flatten_cons, ih]

theorem scgiRun_fresh (H : Bytes) (w : Bytes) (ws : List Bytes) :
    scgiRun { headers := H, headersWritten := false } (w :: ws) = H ++ (w :: ws).flatten := by
  simp only [scgiRun, scgiFormat, Bool.false_eq_true, if_false, List.flatten_cons]
  rw [scgiRun_written ws _ rfl, List.append_assoc]

/-- all output of a sequence of `format_output(input, completed)` calls -/
def fcgiRun : FcgiSt → List (Bytes × Bool) → Bytes
  | _, [] => []
  | st, (w, e) :: cs => (fcgiFormat st w e).2 ++ fcgiRun (fcgiFormat st w e).1 cs

theorem fcgiRun_written : ∀ (ws : List Bytes) (last : Bytes) (st : FcgiSt), st.headersWritten = true →
    fcgiRun st (ws.map (·, false) ++ [(last, true)]) = fcgiWire st.reqId (ws ++ [last]) := by
  intro ws last
  induction ws with
  | nil => intro st h; simp [fcgiRun, fcgiFormat, h, fcgiWire]
  | cons w ws ih =>
    intro st h
    simp only [List.map_cons, List.cons_append, fcgiRun]
    rw [ih _ rfl]
    simp [fcgiFormat, h, fcgiWire]

theorem fcgiRun_fresh (reqId : Nat) (H : Bytes) (ws : List Bytes) (last : Bytes) :
    fcgiRun { reqId := reqId, responseHeaders := H, headersWritten := false } (ws.map (·, false) ++ [(last, true)]) =
      match ws with
      | [] => fcgiWire reqId [H ++ last]
      | w :: ws' => fcgiWire reqId ((H ++ w) :: ws' ++ [last]) := by
  cases ws with
  | nil => simp [fcgiRun, fcgiFormat, fcgiWire]
  | cons w ws' =>
    simp only [List.map_cons, List.cons_append, fcgiRun]
    rw [fcgiRun_written ws' last _ rfl]
    simp [fcgiFormat, fcgiWire]

theorem fcgiRun_fresh_wire (reqId : Nat) (H : Bytes) (ws : List Bytes) (last : Bytes) :
    ∃ ds, ds.flatten = H ++ (ws.flatten ++ last) ∧
      fcgiRun { reqId := reqId, responseHeaders := H, headersWritten := false } (ws.map (·, false) ++ [(last, true)]) = fcgiWire reqId ds := by
  rw [fcgiRun_fresh]
  cases ws with
  | nil => exact ⟨_, by simp, rfl⟩
  | cons w ws' => exact ⟨_, by simp, rfl⟩

end Cppcms.C03
