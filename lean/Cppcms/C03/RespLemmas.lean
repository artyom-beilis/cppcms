import Cppcms.C03.Response
import Cppcms.C03.DeviceLemmas
/-! Stage 1: the response object as a composition of its buffers. -/
namespace Cppcms.C03
open Cppcms

variable {D : Deflater}

def Act.toDevOp : Act → DevOp
  | .put bs => .put bs
  | .sync => .sync

theorem devOps_data (acts : List Act) : ((acts.map Act.toDevOp).map DevOp.data).flatten = actBytes acts := by
  rw [List.map_map, show DevOp.data ∘ Act.toDevOp = Act.bytes from funext fun a => by cases a <;> rfl]
  rfl

theorem Dev.apply_eq_run : ∀ (acts : List Act) (d : Dev) (k : Trace), Dev.apply traceIf d k acts = Dev.run (d, k) (acts.map Act.toDevOp)
  | [], _, _ => rfl
  | .put _ :: as, _, _ => Dev.apply_eq_run as _ _
  | .sync :: as, _, _ => Dev.apply_eq_run as _ _

/-- the device part of a response that is still open -/
structure DevPart (r : Resp D) (T : Bytes) : Prop where
  good : DevGood r.dev r.trace T
  mode : r.dev.rawMode = r.mode.isRaw

/-- the fields of a response that the buffer chain does not touch -/
structure Frame (r r' : Resp D) : Prop where
  mode : r'.mode = r.mode
  written : r'.written = r.written
  finalized : r'.finalized = r.finalized
  requested : r'.ostreamRequested = r.ostreamRequested
  headers : r'.headers = r.headers
  copyToCache : r'.copyToCache = r.copyToCache
  pcu : r'.pageCompressionUsed = r.pageCompressionUsed
  cfg : r'.cfg = r.cfg
  accept : r'.acceptGzip = r.acceptGzip
  sent : r'.sentHeaders = r.sentHeaders

theorem Frame.refl (r : Resp D) : Frame r r := ⟨rfl, rfl, rfl, rfl, rfl, rfl, rfl, rfl, rfl, rfl⟩

theorem Frame.trans {a c e : Resp D} (h1 : Frame a c) (h2 : Frame c e) : Frame a e :=
  ⟨h2.mode.trans h1.mode, h2.written.trans h1.written, h2.finalized.trans h1.finalized, h2.requested.trans h1.requested,
   h2.headers.trans h1.headers, h2.copyToCache.trans h1.copyToCache, h2.pcu.trans h1.pcu, h2.cfg.trans h1.cfg,
   h2.accept.trans h1.accept, h2.sent.trans h1.sent⟩

theorem Frame.chain (r : Resp D) (g : Option (Gz D)) (c : Option Copy) (d : Dev) (t : Trace) (n : Int) (a : Bool) :
    Frame r { r with gz := g, copy := c, dev := d, trace := t, requiredBufferSize := n, asyncFullBuffering := a } :=
  ⟨rfl, rfl, rfl, rfl, rfl, rfl, rfl, rfl, rfl, rfl⟩

/-- the `copy_buf` part: present (then it has seen `Z` and passed `T` on) or absent (`T = Z`) -/
def CopyPart (r : Resp D) (Z T : Bytes) : Prop :=
  match r.copy with
  | some k => k.Inv Z T
  | none => T = Z

/-- the `gzip_buf` part: present (then it has seen `W` and passed `Z` on) or absent (`Z = W`) -/
def GzPart (r : Resp D) (W Z : Bytes) : Prop :=
  match r.gz with
  | some g => g.Inv W Z
  | none => Z = W

/-- the stream has been requested and not finalized; `W` = bytes written to it so far -/
structure Open (r : Resp D) (W : Bytes) : Prop where
  req : r.ostreamRequested = true
  notFin : r.finalized = false
  chain : ∃ Z T, GzPart r W Z ∧ CopyPart r Z T ∧ DevPart r T
  hdr : r.mode.isRaw = false → ∃ H, r.sentHeaders = some H ∧ HdrShape r.trace H
  rawSent : r.mode.isRaw = true → r.sentHeaders = none
  rawNoGz : r.mode.isRaw = true → r.gz = none

/-- a buffer operation relative to the response before it: the frame is kept, the trace only grows, and
(outside the raw modes) no further header set is handed over -/
structure Grows (r r' : Resp D) : Prop where
  frame : Frame r r'
  ext : ∃ e : Trace, r'.trace = r.trace ++ e
  hdrs : r.mode.isRaw = false → r'.trace.hdrs = r.trace.hdrs

theorem Grows.refl (r : Resp D) : Grows r r := ⟨Frame.refl r, ⟨[], (List.append_nil _).symm⟩, fun _ => rfl⟩

theorem Grows.trans {a c e : Resp D} (h1 : Grows a c) (h2 : Grows c e) : Grows a e := by
  obtain ⟨e1, he1⟩ := h1.ext
  obtain ⟨e2, he2⟩ := h2.ext
  exact ⟨h1.frame.trans h2.frame, ⟨e1 ++ e2, by rw [he2, he1, List.append_assoc]⟩,
    fun hm => (h2.hdrs (h1.frame.mode ▸ hm)).trans (h1.hdrs hm)⟩

theorem Grows.hdr {r r' : Resp D} (g : Grows r r')
    (h : r.mode.isRaw = false → ∃ H, r.sentHeaders = some H ∧ HdrShape r.trace H) :
    r'.mode.isRaw = false → ∃ H, r'.sentHeaders = some H ∧ HdrShape r'.trace H := by
  intro hm
  rw [g.frame.mode] at hm
  obtain ⟨H, h1, h2⟩ := h hm
  obtain ⟨e, he⟩ := g.ext
  have := g.hdrs hm
  rw [he, Trace.hdrs_append, List.append_right_eq_self] at this
  exact ⟨H, g.frame.sent.trans h1, he ▸ h2.extend this⟩

theorem Grows.filters (r : Resp D) (g : Option (Gz D)) (c : Option Copy) (n : Int) (a : Bool) :
    Grows r { r with gz := g, copy := c, requiredBufferSize := n, asyncFullBuffering := a } :=
  ⟨Frame.chain r _ _ _ _ _ _, ⟨[], (List.append_nil _).symm⟩, fun _ => rfl⟩

theorem DevPart.step {r : Resp D} {T T' : Bytes} (h : DevPart r T) (x : Dev × Trace) (hx : r.dev.StepTo r.trace x T') :
    DevPart ({ r with dev := x.1, trace := x.2 } : Resp D) T' ∧ Grows r ({ r with dev := x.1, trace := x.2 } : Resp D) :=
  ⟨⟨h.good.step hx.inv hx.step, hx.step.mode.trans h.mode⟩, Frame.chain r _ _ _ _ _ _, hx.step.extends, fun hm => hx.step.hdrs_nonraw (h.mode.trans hm)⟩

theorem Resp.intoDev_spec (r : Resp D) (T : Bytes) (acts : List Act) (h : DevPart r T) :
    DevPart (r.intoDev acts) (T ++ actBytes acts) ∧ Grows r (r.intoDev acts) := by
  obtain ⟨g, m, hh, hext⟩ := Dev.run_good (acts.map Act.toDevOp) r.dev r.trace T h.good
  rw [devOps_data, ← Dev.apply_eq_run] at g
  rw [← Dev.apply_eq_run] at m hh hext
  exact ⟨⟨g, m.trans h.mode⟩, Frame.chain r _ _ _ _ _ _, hext, fun hm => hh (h.mode.trans hm)⟩

theorem CopyPart.some {r : Resp D} {k : Copy} (h : r.copy = some k) {Z T : Bytes} : CopyPart r Z T ↔ k.Inv Z T := by
  rw [CopyPart, h]

theorem CopyPart.none {r : Resp D} (h : r.copy = none) {Z T : Bytes} : CopyPart r Z T ↔ T = Z := by
  rw [CopyPart, h]

theorem GzPart.some {r : Resp D} {g : Gz D} (h : r.gz = some g) {W Z : Bytes} : GzPart r W Z ↔ g.Inv W Z := by
  rw [GzPart, h]

theorem GzPart.none {r : Resp D} (h : r.gz = none) {W Z : Bytes} : GzPart r W Z ↔ Z = W := by
  rw [GzPart, h]

theorem actBytes_cons (a : Act) (rest : List Act) : actBytes (a :: rest) = actBytes [a] ++ actBytes rest :=
  actBytes_append [a] rest

theorem Copy.applyAct_inv (k : Copy) (Z T : Bytes) (a : Act) (h : k.Inv Z T) :
    (k.applyAct a).1.Inv (Z ++ actBytes [a]) (T ++ actBytes (k.applyAct a).2) := by
  cases a with
  | put bs => simpa [Copy.applyAct, actBytes, Act.bytes] using Copy.xsputn_inv k Z T bs h
  | sync => simpa [Copy.applyAct, actBytes, Act.bytes] using Copy.sync_inv k Z T h

theorem Resp.belowGz_spec : ∀ (acts : List Act) (r : Resp D) (Z T : Bytes), CopyPart r Z T → DevPart r T →
    ∃ T', CopyPart (r.belowGz acts) (Z ++ actBytes acts) T' ∧ DevPart (r.belowGz acts) T' ∧
      Grows r (r.belowGz acts) ∧ (r.belowGz acts).gz = r.gz ∧ (r.belowGz acts).copy.isSome = r.copy.isSome
  | [], r, Z, T, hc, hd => ⟨T, by rw [actBytes_nil, List.append_nil]; exact hc, hd, Grows.refl r, rfl, rfl⟩
  | a :: rest, r, Z, T, hc, hd => by
    rw [Resp.belowGz, actBytes_cons, ← List.append_assoc]
    cases hk : r.copy with
    | none =>
      obtain ⟨d1, g1⟩ := Resp.intoDev_spec r T [a] hd
      have hc1 : CopyPart (r.intoDev [a]) (Z ++ actBytes [a]) (T ++ actBytes [a]) := by
        rw [(CopyPart.none hk).1 hc]; exact (CopyPart.none hk).2 rfl
      obtain ⟨T', i1, i2, i3, i4, i5⟩ := Resp.belowGz_spec rest _ _ _ hc1 d1
      exact ⟨T', i1, i2, g1.trans i3, i4, i5.trans (congrArg Option.isSome hk)⟩
    | some k =>
      -- the copy buffer takes the action, its own actions go to the device
      obtain ⟨d1, g1⟩ := Resp.intoDev_spec { r with copy := some (k.applyAct a).1 } T (k.applyAct a).2 ⟨hd.good, hd.mode⟩
      obtain ⟨T', i1, i2, i3, i4, i5⟩ := Resp.belowGz_spec rest _ _ _
        ((CopyPart.some rfl).2 (Copy.applyAct_inv k Z T a ((CopyPart.some hk).1 hc))) d1
      exact ⟨T', i1, i2, ((Grows.filters r _ _ _ _).trans g1).trans i3, i4, i5⟩

theorem Open.of_grows {r r' : Resp D} {W W' : Bytes} (o : Open r W) (g : Grows r r') (hgz : r.gz = none → r'.gz = none)
    (chain : ∃ Z T, GzPart r' W' Z ∧ CopyPart r' Z T ∧ DevPart r' T) : Open r' W' :=
  ⟨g.frame.requested.trans o.req, g.frame.finalized.trans o.notFin, chain, g.hdr o.hdr,
    fun hm => g.frame.sent.trans (o.rawSent (g.frame.mode ▸ hm)), fun hm => hgz (o.rawNoGz (g.frame.mode ▸ hm))⟩

theorem Open.devOp {r : Resp D} {W : Bytes} (o : Open r W) (x : Dev × Trace)
    (hstep : ∀ T, r.dev.Inv r.trace T → r.dev.StepTo r.trace x T) :
    Open ({ r with dev := x.1, trace := x.2 } : Resp D) W ∧ Grows r ({ r with dev := x.1, trace := x.2 } : Resp D) := by
  obtain ⟨Z, T, hg, hc, hd⟩ := o.chain
  obtain ⟨hdp, hgrow⟩ := hd.step x (hstep T hd.good.inv)
  exact ⟨o.of_grows hgrow id ⟨Z, T, hg, hc, hdp⟩, hgrow⟩

/-- an operation on the top-most buffer of the chain: `gzip_buf`, else `copy_buf`, else the device -/
def Resp.onTop (r : Resp D) (fg : Gz D → Gz D × List Act) (fk : Copy → Copy × List Act) (fd : Dev → Trace → Dev × Trace) : Resp D :=
  match r.gz with
  | some g => ({ r with gz := some (fg g).1 } : Resp D).belowGz (fg g).2
  | none =>
    match r.copy with
    | some k => ({ r with copy := some (fk k).1 } : Resp D).intoDev (fk k).2
    | none => { r with dev := (fd r.dev r.trace).1, trace := (fd r.dev r.trace).2 }

/-- if each kind of buffer carries its invariant along by `data`, the whole chain does -/
theorem Open.onTop {r : Resp D} {W : Bytes} (o : Open r W) (data : Bytes) {fg : Gz D → Gz D × List Act}
    {fk : Copy → Copy × List Act} {fd : Dev → Trace → Dev × Trace}
    (hg : ∀ g Z, g.Inv W Z → (fg g).1.Inv (W ++ data) (Z ++ actBytes (fg g).2))
    (hk : ∀ k T, k.Inv W T → (fk k).1.Inv (W ++ data) (T ++ actBytes (fk k).2))
    (hd : ∀ T, r.dev.Inv r.trace T → r.dev.StepTo r.trace (fd r.dev r.trace) (T ++ data)) :
    Open (r.onTop fg fk fd) (W ++ data) ∧ Grows r (r.onTop fg fk fd) := by
  obtain ⟨Z, T, hgp, hcp, hdp⟩ := o.chain
  unfold Resp.onTop
  split
  · next g hgz =>
    obtain ⟨T', i1, i2, i3, i4, -⟩ := Resp.belowGz_spec (fg g).2 { r with gz := some (fg g).1 } Z T hcp ⟨hdp.good, hdp.mode⟩
    have hgrow := (Grows.filters r _ _ _ _).trans i3
    exact ⟨o.of_grows hgrow (fun h => by rw [hgz] at h; cases h) ⟨_, T', (GzPart.some i4).2 (hg g Z ((GzPart.some hgz).1 hgp)), i1, i2⟩, hgrow⟩
  · next hgz =>
    split
    · next k hk0 =>
      have hkI := hk k T (by rw [← (GzPart.none hgz).1 hgp]; exact (CopyPart.some hk0).1 hcp)
      obtain ⟨d1, g1⟩ := Resp.intoDev_spec { r with copy := some (fk k).1 } T (fk k).2 ⟨hdp.good, hdp.mode⟩
      have hgrow := (Grows.filters r _ _ _ _).trans g1
      exact ⟨o.of_grows hgrow (fun _ => hgz) ⟨_, _, (GzPart.none hgz).2 rfl, (CopyPart.some rfl).2 hkI, d1⟩, hgrow⟩
    · next hk0 =>
      obtain ⟨d1, hgrow⟩ := hdp.step _ (hd T hdp.good.inv)
      rw [(CopyPart.none hk0).1 hcp, (GzPart.none hgz).1 hgp] at d1
      exact ⟨o.of_grows hgrow id ⟨_, _, (GzPart.none hgz).2 rfl, (CopyPart.none hk0).2 rfl, d1⟩, hgrow⟩

/-- nothing has been requested from the response yet -/
structure Fresh (r : Resp D) : Prop where
  req : r.ostreamRequested = false
  notFin : r.finalized = false
  trace : r.trace = []
  written : r.written = []
  gz : r.gz = none
  copy : r.copy = none
  sent : r.sentHeaders = none

/-- the headers `out()` hands to the connection -/
def Resp.outHeaders (r : Resp D) : Headers :=
  if r.needGzip then r.headers.set sContentEncoding sGzip else r.headers

theorem Resp.requestStream_of_requested (r : Resp D) (h : r.ostreamRequested = true) : r.requestStream = r := by
  rw [Resp.requestStream, if_pos h]

theorem Resp.requestStream_first (r : Resp D) (h : r.ostreamRequested = false) :
    r.requestStream = { r with
      dev := Dev.fresh r.mode.isAsync (if r.mode.isAsync then r.asyncFullBuffering else true) r.mode.isRaw
        (if r.requiredBufferSize = -1 then (if r.mode.isAsync then r.cfg.asyncOutputBuffer else r.cfg.outputBuffer)
          else r.requiredBufferSize.toNat)
      ostreamRequested := true, headers := r.outHeaders
      trace := if r.mode.isRaw then r.trace else r.trace ++ [WEv.hdr r.outHeaders]
      sentHeaders := if r.mode.isRaw then r.sentHeaders else some r.outHeaders
      copy := if r.copyToCache then some {} else r.copy
      gz := if r.needGzip then some (Gz.open D r.cfg.gzipBuffer) else r.gz } := by
  rw [Resp.requestStream, if_neg (by simp [h])]
  rfl

theorem Resp.needGzip_raw (r : Resp D) (h : r.mode.isRaw = true) : r.needGzip = false := by
  unfold Resp.needGzip
  cases hm : r.mode <;> first | rfl | (rw [hm] at h; cases h)

/-- `out()` on a fresh response: the chain is set up as decided, empty, and (outside the raw modes) the header set is the first
thing the connection is given -/
theorem Fresh.request {r : Resp D} (f : Fresh r) :
    Open r.requestStream [] ∧ r.requestStream.written = [] ∧
    r.requestStream.gz.isSome = r.needGzip ∧ r.requestStream.copy.isSome = r.copyToCache ∧
    r.requestStream.headers = r.outHeaders ∧ r.requestStream.mode = r.mode ∧
    (r.mode.isRaw = false → r.requestStream.sentHeaders = some r.outHeaders) ∧
    r.requestStream.copyToCache = r.copyToCache ∧ r.requestStream.pageCompressionUsed = r.pageCompressionUsed ∧
    r.requestStream.finalized = false ∧ r.requestStream.cfg = r.cfg ∧ r.requestStream.acceptGzip = r.acceptGzip := by
  rw [Resp.requestStream_first r f.req]
  have hs : (if r.mode.isRaw then r.trace else r.trace ++ [WEv.hdr r.outHeaders]).sends = [] := by
    rw [f.trace]; split <;> rfl
  obtain ⟨di, dq, dm⟩ := Dev.fresh_inv r.mode.isAsync (if r.mode.isAsync then r.asyncFullBuffering else true) r.mode.isRaw
    (if r.requiredBufferSize = -1 then (if r.mode.isAsync then r.cfg.asyncOutputBuffer else r.cfg.outputBuffer) else r.requiredBufferSize.toNat)
    _ hs
  refine ⟨{ req := rfl, notFin := f.notFin,
            chain := ⟨[], [], ?gzPart, ?copyPart, ⟨⟨di, dq, fun hm => ?rawOk⟩, dm⟩⟩,
            hdr := fun hm => ?hdr, rawSent := fun hm => ?rawSent, rawNoGz := fun hm => ?rawNoGz },
    f.written, ?gzSome, ?copySome, rfl, rfl, fun hm => ?sent, rfl, rfl, f.notFin, rfl, rfl⟩
  case gzPart =>
    by_cases hz : r.needGzip = true
    · exact (GzPart.some (if_pos hz)).2 (Gz.open_inv D _)
    · exact (GzPart.none ((if_neg hz).trans f.gz)).2 rfl
  case copyPart =>
    by_cases hc : r.copyToCache = true
    · exact (CopyPart.some (if_pos hc)).2 Copy.inv_init
    · exact (CopyPart.none ((if_neg hc).trans f.copy)).2 rfl
  case rawOk =>
    -- raw modes: nothing handed over yet
    refine ⟨fun _ => ?_, fun hd => by cases hd⟩
    show Trace.sends (if _ then _ else _) = [] ∧ Trace.hdrs (if _ then _ else _) = []
    rw [if_pos (dm ▸ hm), f.trace]
    exact ⟨rfl, rfl⟩
  case hdr =>
    -- other modes: the header set is the one event in the trace
    have hm' : r.mode.isRaw = false := hm
    refine ⟨r.outHeaders, ?_, [], [], ?_, rfl, rfl, rfl⟩
    · show (if _ then _ else _) = _
      rw [if_neg (by simp [hm'])]
    · show (if _ then _ else _) = _
      rw [if_neg (by simp [hm']), f.trace]
  case rawSent =>
    show (if _ then _ else _) = _
    rw [if_pos hm]; exact f.sent
  case rawNoGz =>
    show (if _ then _ else _) = _
    rw [if_neg (by simp [Resp.needGzip_raw r hm])]; exact f.gz
  case gzSome =>
    show Option.isSome (if _ then _ else _) = _
    cases r.needGzip <;> simp [f.gz]
  case copySome =>
    show Option.isSome (if _ then _ else _) = _
    cases r.copyToCache <;> simp [f.copy]
  case sent =>
    show (if _ then _ else _) = _
    rw [if_neg (by simp [hm])]

/-- `Open` reads none of the fields set here -/
theorem Open.update {r : Resp D} {W : Bytes} (o : Open r W) (hd : Headers) (wr : Bytes) (n : Int) (a cc pcu : Bool) :
    Open ({ r with headers := hd, written := wr, requiredBufferSize := n, asyncFullBuffering := a, copyToCache := cc,
                   pageCompressionUsed := pcu } : Resp D) W :=
  ⟨o.req, o.notFin, o.chain.imp fun _ => .imp fun _ h => ⟨h.1, h.2.1, h.2.2.good, h.2.2.mode⟩, o.hdr, o.rawSent, o.rawNoGz⟩

theorem Resp.push_eq (r : Resp D) (s : Bytes) : r.push s = r.onTop (·.xsputn s) (·.xsputn s) (·.xsputn traceIf · s) := rfl

theorem Resp.pushc_eq (r : Resp D) (c : UInt8) : r.pushc c = r.onTop (·.sputc c) (·.sputc c) (·.sputc traceIf · c) := rfl

theorem Resp.sync_eq (r : Resp D) : r.sync = r.requestStream.onTop (·.sync) (·.sync) (·.sync traceIf ·) := rfl

theorem Open.write {r : Resp D} (o : Open r r.written) (s : Bytes) :
    Open (r.write s) (r.write s).written ∧ (r.write s).written = r.written ++ s ∧ (r.write s).mode = r.mode := by
  obtain ⟨o1, g1⟩ := o.onTop s (fg := (·.xsputn s)) (fk := (·.xsputn s)) (fd := (·.xsputn traceIf · s))
    (fun g Z => Gz.xsputn_inv g _ Z s) (fun k T => Copy.xsputn_inv k _ T s) (fun T => Dev.xsputn_step _ _ T s)
  rw [Resp.write, Resp.requestStream_of_requested r o.req, Resp.push_eq]
  -- `write` is `push` (= `onTop`) with `written` extended by `s`, which `Open` does not read
  exact ⟨o1.update _ _ _ _ _ _, rfl, g1.frame.mode⟩

theorem Open.putc {r : Resp D} (o : Open r r.written) (c : UInt8) :
    Open (r.putc c) (r.putc c).written ∧ (r.putc c).written = r.written ++ [c] ∧ (r.putc c).mode = r.mode := by
  obtain ⟨o1, g1⟩ := o.onTop [c] (fg := (·.sputc c)) (fk := (·.sputc c)) (fd := (·.sputc traceIf · c))
    (fun g Z => Gz.sputc_inv g _ Z c) (fun k T => Copy.sputc_inv k _ T c) (fun T => Dev.sputc_step _ _ T c)
  rw [Resp.putc, Resp.requestStream_of_requested r o.req, Resp.pushc_eq]
  exact ⟨o1.update _ _ _ _ _ _, rfl, g1.frame.mode⟩

theorem Open.sync {r : Resp D} {W : Bytes} (o : Open r W) : Open r.sync W ∧ Grows r r.sync := by
  have := o.onTop [] (fg := (·.sync)) (fk := (·.sync)) (fd := (·.sync traceIf ·))
    (fun g Z h => by simpa using Gz.sync_inv g _ Z h) (fun k T h => by simpa using Copy.sync_inv k _ T h)
    (fun T h => by simpa using Dev.sync_step _ _ T h)
  rw [List.append_nil] at this
  rw [Resp.sync_eq, Resp.requestStream_of_requested r o.req]
  exact this

theorem Open.setbuf {r : Resp D} {W : Bytes} (o : Open r W) (n : Int) : Open (r.setbuf n) W ∧ Grows r (r.setbuf n) := by
  -- `setbuf` first records `requiredBufferSize`, which `Open` does not read, then acts on the device
  have o0 : Open ({ r with requiredBufferSize := if n < 0 then -1 else n } : Resp D) W := o.update _ _ _ _ _ _
  simp only [Resp.setbuf]
  rw [if_pos o.req]
  have h := fun size => o0.devOp _ (fun T ht => Dev.setbuf_step _ _ T size ht)
  exact ⟨(h _).1, (Grows.filters r _ _ _ _).trans (h _).2⟩

theorem Open.setFullBuffering {r : Resp D} {W : Bytes} (o : Open r W) (v : Bool) : Open (r.setFullBuffering v) W := by
  -- besides the device's fields only `asyncFullBuffering` is set, which `Open` does not read
  refine ite_of (P := fun r' => Open r' W) (fun _ => ?_) (fun _ => o.update _ _ _ _ _ _)
  exact (o.devOp _ (fun T ht => Dev.setFullBuffering_step _ _ T v ht)).1.update _ _ _ _ _ _

theorem Trace.sends_snoc_flush (t : Trace) : (t ++ [WEv.asyncFlush]).sends = t.sends := by
  rw [Trace.sends_append]; exact List.append_nil _

theorem Trace.bytes_snoc_flush (t : Trace) : (t ++ [WEv.asyncFlush]).bytes = t.bytes := by
  rw [Trace.bytes_append]; exact List.append_nil _

theorem Trace.eofs_snoc_flush (t : Trace) : (t ++ [WEv.asyncFlush]).eofs = t.eofs := by
  rw [Trace.eofs_append]; rfl

theorem DevGood.snoc_flush {d : Dev} {k : Trace} {T : Bytes} (g : DevGood d k T) : DevGood d (k ++ [WEv.asyncFlush]) T :=
  ⟨g.inv.of_bytes (Trace.bytes_snoc_flush k), ⟨g.quiet.1, g.quiet.2.1, (Trace.eofs_snoc_flush k).trans g.quiet.eofs⟩, g.raw.append_flush⟩

theorem Open.asyncWriteResponse {r : Resp D} {W : Bytes} (o : Open r W) : Open r.asyncWriteResponse W := by
  -- the flush is a device operation; the marker changes neither the calls nor the header sets of the trace
  obtain ⟨o1, -⟩ := o.devOp _ (Dev.flush_step r.dev r.trace)
  obtain ⟨Z, T, hg, hc, hd⟩ := o1.chain
  refine { req := o1.req, notFin := o1.notFin, chain := ⟨Z, T, hg, hc, hd.good.snoc_flush, hd.mode⟩,
           hdr := fun hm => ?_, rawSent := o1.rawSent, rawNoGz := o1.rawNoGz }
  obtain ⟨H, h1, h2⟩ := o1.hdr hm
  exact ⟨H, h1, h2.extend rfl⟩

/-- the calls of a finalized response: data calls without eof, exactly one call with eof, then only empty calls -/
def FinalCalls (l : List (Bytes × Bool)) (body : Bytes) : Prop :=
  ∃ (ws : List Bytes) (last : Bytes) (m : Nat), l = ws.map (·, false) ++ [(last, true)] ++ List.replicate m ([], false) ∧
    ws.flatten ++ last = body

theorem sends_no_eof : ∀ (l : List (Bytes × Bool)), (l.filter (·.2)).length = 0 → l = (l.map (·.1)).map (·, false)
  | [], _ => rfl
  | (_, true) :: _, h => nomatch h
  | (_, false) :: xs, h => congrArg _ (sends_no_eof xs h)

/-- how the compressed stream relates to what was written (no `gzip_buf`: they are the same) -/
def GzDone (r : Resp D) (W Z : Bytes) : Prop :=
  match r.gz with
  | some g => g.opened = false ∧ ∃ calls last, g.fed = calls ++ [(last, Flush.finish)] ∧ (∀ c ∈ calls, c.2 ≠ Flush.finish) ∧
      (g.fed.map (·.1)).flatten = W ∧ (feedAll D D.init g.fed).2 = Z
  | none => Z = W

/-- the cache copy after `close()` -/
def CopyDone (r : Resp D) (Z : Bytes) : Prop :=
  match r.copy with
  | some k => k.getstr.1 = Z ∧ k.attached = false
  | none => True

theorem GzDone.some {r : Resp D} {g : Gz D} (h : r.gz = some g) {W Z : Bytes} :
    GzDone r W Z ↔ g.opened = false ∧ ∃ calls last, g.fed = calls ++ [(last, Flush.finish)] ∧ (∀ c ∈ calls, c.2 ≠ Flush.finish) ∧
      (g.fed.map (·.1)).flatten = W ∧ (feedAll D D.init g.fed).2 = Z := by
  rw [GzDone, h]

theorem GzDone.none {r : Resp D} (h : r.gz = none) {W Z : Bytes} : GzDone r W Z ↔ Z = W := by
  rw [GzDone, h]

theorem CopyDone.some {r : Resp D} {k : Copy} (h : r.copy = some k) {Z : Bytes} : CopyDone r Z ↔ k.getstr.1 = Z ∧ k.attached = false := by
  rw [CopyDone, h]

theorem CopyDone.none {r : Resp D} (h : r.copy = none) {Z : Bytes} : CopyDone r Z := by
  rw [CopyDone, h]; trivial

/-- the response has been finalized: everything written (`W`) went through the chain; `Z` is what left
`gzip_buf` (or `W`) and — minus the application's header block in the raw modes — what
the connection was given, with eof announced exactly once; in the raw modes the header hand-over (`rawHdr`)
is known only for a complete application block -/
structure Done (r : Resp D) (W Z : Bytes) : Prop where
  req : r.ostreamRequested = true
  fin : r.finalized = true
  gz : GzDone r W Z
  calls : FinalCalls r.trace.sends (filterOf r.mode.isRaw Z)
  bytesAll : r.trace.bytes = filterOf r.mode.isRaw Z
  inv : r.dev.Inv r.trace Z
  sealed : Sealed r.dev
  mode : r.dev.rawMode = r.mode.isRaw
  eofs : r.trace.eofs = 1
  hdr : r.mode.isRaw = false → ∃ H, r.sentHeaders = some H ∧ HdrShape r.trace H
  rawHdr : r.mode.isRaw = true → r.gz = none ∧ r.sentHeaders = none ∧ Z = W ∧ ((rawNext {} W).done = true → RawOk r.dev r.trace)

theorem FinalCalls.of_close (k : List (Bytes × Bool)) (x : Bytes) (h : (k.filter (·.2)).length = 0) :
    FinalCalls (k ++ [(x, true)]) ((k.map (·.1)).flatten ++ x) :=
  ⟨k.map (·.1), x, 0, by rw [← sends_no_eof k h]; simp, rfl⟩

theorem FinalCalls.snoc {l : List (Bytes × Bool)} {body : Bytes} (h : FinalCalls l body) : FinalCalls (l ++ [([], false)]) body := by
  obtain ⟨ws, last, m, rfl, h2⟩ := h
  exact ⟨ws, last, m + 1, by simp [List.replicate_succ', List.append_assoc], h2⟩

theorem Open.closeGz {r : Resp D} {W : Bytes} (o : Open r W) :
    ∃ Z T, GzDone r.closeGz W Z ∧ CopyPart r.closeGz Z T ∧ DevPart r.closeGz T ∧ Grows r r.closeGz ∧
      r.closeGz.gz.isSome = r.gz.isSome ∧ r.closeGz.copy.isSome = r.copy.isSome ∧ (r.gz = none → r.closeGz.gz = none) := by
  obtain ⟨Z, T, hg, hc, hd⟩ := o.chain
  unfold Resp.closeGz
  split
  · next g hgz =>
    obtain ⟨calls, last, c1, c2, c3, c4, c5⟩ := Gz.close_spec g W Z ((GzPart.some hgz).1 hg)
    obtain ⟨T', i1, i2, i3, i4, i5⟩ := Resp.belowGz_spec g.close.2 { r with gz := some g.close.1 } Z T hc ⟨hd.good, hd.mode⟩
    refine ⟨Z ++ actBytes g.close.2, T', ?_, i1, i2, (Grows.filters r _ _ _ _).trans i3, by rw [i4, hgz]; rfl, i5,
      fun h => by rw [hgz] at h; cases h⟩
    exact (GzDone.some i4).2 ⟨c5, calls, last, c1, c2, c3, c4⟩
  · next hgz =>
    refine ⟨Z, T, ?_, hc, hd, Grows.refl r, rfl, rfl, id⟩
    exact (GzDone.none hgz).2 ((GzPart.none hgz).1 hg)

theorem Resp.closeCopy_spec (r : Resp D) (W Z T : Bytes) (hg : GzDone r W Z) (hc : CopyPart r Z T) (hd : DevPart r T) :
    GzDone r.closeCopy W Z ∧ CopyDone r.closeCopy Z ∧ DevPart r.closeCopy Z ∧ Grows r r.closeCopy ∧
      r.closeCopy.gz = r.gz ∧ r.closeCopy.copy.isSome = r.copy.isSome := by
  unfold Resp.closeCopy
  split
  · next k hk =>
    obtain ⟨hteed, hstr⟩ := Copy.close_spec k Z T ((CopyPart.some hk).1 hc)
    obtain ⟨dd, gg⟩ := Resp.intoDev_spec { r with copy := some k.close.1 } T k.close.2 ⟨hd.good, hd.mode⟩
    rw [hteed] at dd
    exact ⟨hg, (CopyDone.some rfl).2 ⟨hstr, rfl⟩, dd, (Grows.filters r _ _ _ _).trans gg, rfl, by rw [hk]; rfl⟩
  · next hk =>
    rw [(CopyPart.none hk).1 hc] at hd
    exact ⟨hg, CopyDone.none hk, hd, Grows.refl r, rfl, rfl⟩

theorem Open.finalize {r : Resp D} {W : Bytes} (o : Open r W) :
    ∃ Z, Done r.finalize W Z ∧ CopyDone r.finalize Z ∧ Frame r { r.finalize with finalized := r.finalized } ∧ (∃ e : Trace, r.finalize.trace = r.trace ++ e) ∧
      r.finalize.gz.isSome = r.gz.isSome ∧ r.finalize.copy.isSome = r.copy.isSome := by
  rw [Resp.finalize, if_neg (by simp [o.notFin]), Resp.requestStream_of_requested r o.req]
  obtain ⟨Z, T1, gzDone1, copyPart1, devPart1, grows1, gzSome1, copySome1, gzNone1⟩ := o.closeGz
  obtain ⟨gzDone, copyDone, d2, grows2, gzSame2, copySome2⟩ := Resp.closeCopy_spec r.closeGz W Z T1 gzDone1 copyPart1 devPart1
  have gr := grows1.trans grows2
  generalize r.closeGz.closeCopy = r2 at *
  have cl := Dev.close_spec r2.dev r2.trace Z d2.good rfl
  have ls := cl.stepTo.step
  have gr3 : Grows r ({ r2 with dev := (r2.dev.close traceIf r2.trace).1, trace := (r2.dev.close traceIf r2.trace).2 } : Resp D) :=
    gr.trans ⟨Frame.chain r2 _ _ _ _ _ _, ls.extends, fun hm => ls.hdrs_nonraw (d2.mode.trans hm)⟩
  have f := gr.frame
  refine ⟨Z,
    { req := f.requested.trans o.req, fin := rfl, gz := gzDone, calls := ?_, bytesAll := d2.mode ▸ cl.bytes, inv := cl.stepTo.inv,
      sealed := cl.sealed, mode := ls.mode.trans d2.mode, eofs := cl.eofs, hdr := gr3.hdr o.hdr, rawHdr := fun hm => ?_ },
    copyDone,
    ⟨f.mode, f.written, rfl, f.requested, f.headers, f.copyToCache, f.pcu, f.cfg, f.accept, f.sent⟩, gr3.ext,
    (congrArg Option.isSome gzSame2).trans gzSome1, copySome2.trans copySome1⟩
  · -- the calls so far carried no eof; the closing one carries the rest of what the filter lets through
    obtain ⟨Y, hY⟩ := d2.good.inv.bytes_prefix
    have := FinalCalls.of_close r2.trace.sends ((filterOf r2.dev.rawMode Z).drop r2.trace.bytes.length) d2.good.quiet.eofs
    rw [← cl.lastCall, show (r2.trace.sends.map (·.1)).flatten = r2.trace.bytes from rfl, hY, List.drop_left, ← hY, d2.mode] at this
    exact this
  · have hm' : r.mode.isRaw = true := f.mode ▸ hm
    have hgz : r2.gz = none := gzSame2.trans (gzNone1 (o.rawNoGz hm'))
    have hZ : Z = W := (GzDone.none hgz).1 gzDone
    exact ⟨hgz, f.sent.trans (o.rawSent hm'), hZ, fun hd => cl.rawOk fun _ => hZ ▸ hd⟩

/-- an operation on the device alone after the response was finalized (`setbuf`, `full_asynchronous_buffering`,
`flush_async_chunk`) -/
theorem Done.devOp {r : Resp D} {W Z : Bytes} (dn : Done r W Z) (x : Dev × Trace)
    (hstep : ∀ T, r.dev.Inv r.trace T → r.dev.StepTo r.trace x T) :
    Done ({ r with dev := x.1, trace := x.2 } : Resp D) W Z ∧ (∃ e : Trace, x.2 = r.trace ++ e) := by
  obtain ⟨hi, hs⟩ := hstep Z dn.inv
  obtain ⟨hseal, heofs⟩ := dn.sealed.step hs
  have hmode := hs.mode.trans dn.mode
  obtain ⟨hsends, hbytes⟩ := dn.sealed.sends ⟨hi, hs⟩ (dn.mode ▸ dn.bytesAll)
  have hgrow : Grows r ({ r with dev := x.1, trace := x.2 } : Resp D) :=
    ⟨Frame.chain r _ _ _ _ _ _, hs.extends, fun hm => hs.hdrs_nonraw (dn.mode.trans hm)⟩
  refine ⟨{ req := dn.req, fin := dn.fin, gz := dn.gz, calls := ?_, bytesAll := hbytes.trans dn.bytesAll, inv := hi, sealed := hseal,
            mode := hmode, eofs := heofs.trans dn.eofs, hdr := hgrow.hdr dn.hdr, rawHdr := fun hm => ?_ },
    hs.extends⟩
  · show FinalCalls x.2.sends _
    rcases hsends with h | h <;> rw [h]
    · exact dn.calls
    · exact dn.calls.snoc
  · obtain ⟨h1, h2, h3, h4⟩ := dn.rawHdr hm
    exact ⟨h1, h2, h3, fun hd => (h4 hd).step hs (.inl dn.sealed.flag)⟩

/-- as `Open.update`; `Done` does not read `copy` either -/
theorem Done.update {r : Resp D} {W Z : Bytes} (d : Done r W Z) (hd : Headers) (wr : Bytes) (n : Int) (a cc pcu : Bool) (k : Option Copy) :
    Done ({ r with headers := hd, written := wr, requiredBufferSize := n, asyncFullBuffering := a, copyToCache := cc,
                   pageCompressionUsed := pcu, copy := k } : Resp D) W Z :=
  ⟨d.req, d.fin, d.gz, d.calls, d.bytesAll, d.inv, d.sealed, d.mode, d.eofs, d.hdr, d.rawHdr⟩

theorem Done.setbuf {r : Resp D} {W Z : Bytes} (dn : Done r W Z) (n : Int) :
    Done (r.setbuf n) W Z ∧ (∃ e : Trace, (r.setbuf n).trace = r.trace ++ e) := by
  have d0 : Done ({ r with requiredBufferSize := if n < 0 then -1 else n } : Resp D) W Z := dn.update _ _ _ _ _ _ _
  simp only [Resp.setbuf]
  rw [if_pos dn.req]
  exact d0.devOp _ (fun T ht => Dev.setbuf_step _ _ T _ ht)

theorem Done.setFullBuffering {r : Resp D} {W Z : Bytes} (dn : Done r W Z) (v : Bool) : Done (r.setFullBuffering v) W Z := by
  refine ite_of (P := fun r' : Resp D => Done r' W Z) (fun _ => ?_) (fun _ => dn.update _ _ _ _ _ _ _)
  exact (dn.devOp _ (fun T ht => Dev.setFullBuffering_step _ _ T v ht)).1.update _ _ _ _ _ _ _

theorem Done.asyncWriteResponse {r : Resp D} {W Z : Bytes} (dn : Done r W Z) : Done r.asyncWriteResponse W Z := by
  -- a device operation, then the marker, which changes neither the calls nor the header sets of the trace
  obtain ⟨d, -⟩ := dn.devOp _ (Dev.flush_step r.dev r.trace)
  refine { req := d.req, fin := d.fin, gz := d.gz, calls := ?_, bytesAll := (Trace.bytes_snoc_flush _).trans d.bytesAll,
           inv := d.inv.of_bytes (Trace.bytes_snoc_flush _), sealed := d.sealed, mode := d.mode,
           eofs := (Trace.eofs_snoc_flush _).trans d.eofs, hdr := fun hm => ?_, rawHdr := fun hm => ?_ }
  · show FinalCalls (Trace.sends (_ ++ [WEv.asyncFlush])) _
    rw [Trace.sends_snoc_flush]; exact d.calls
  · obtain ⟨H, h1, h2⟩ := d.hdr hm
    exact ⟨H, h1, h2.extend rfl⟩
  · obtain ⟨h1, h2, h3, h4⟩ := d.rawHdr hm
    exact ⟨h1, h2, h3, fun hd => (h4 hd).append_flush⟩

end Cppcms.C03
