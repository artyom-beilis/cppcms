import Cppcms.C03.BuffersLemmas
/-! The devices in every io mode, over a connection that accepts every write: the raw-mode header parser (`consume_*`), the trace vocabulary
(`Trace.bytes`, `eofs`, `filterOf`), `Dev.Inv`, `Dev.Emits`/`Dev.Step`/`Dev.StepTo` with one `_step` lemma per operation, `Quiet`/`Sealed`/`RawOk` along steps. -/
namespace Cppcms.C03
open Cppcms

/-- what `cgi_headers_parser::consume` leaves unconsumed / the parser afterwards -/
def rawPassed (p : RawParser) (s : Bytes) : Bytes := (p.consume s).2.1
def rawNext (p : RawParser) (s : Bytes) : RawParser := (p.consume s).1

theorem consume_done (p : RawParser) (h : p.done = true) (s : Bytes) : p.consume s = (p, s, none) := by
  cases s <;> simp [RawParser.consume, h]

theorem consume_append : ∀ (a : Bytes) (p : RawParser) (b2 : Bytes),
    rawNext p (a ++ b2) = rawNext (rawNext p a) b2 ∧ rawPassed p (a ++ b2) = rawPassed p a ++ rawPassed (rawNext p a) b2 := by
  intro a p b2
  unfold rawNext rawPassed
  -- a parser that is done, or becomes done at a blank line, passes the rest on (`consume_done`); any other byte is one step of `consume`
  -- (`-not_and`: the negated guard must stay a conjunction to rewrite the `if`)
  fun_induction RawParser.consume p a
  all_goals simp_all [RawParser.consume, consume_done, -not_and]

theorem consume_cases (s : Bytes) (p : RawParser) (hd : p.done = false) :
    ((rawNext p s).done = true ∧ (p.consume s).2.2 = some (rawNext p s).h) ∨
    ((rawNext p s).done = false ∧ (p.consume s).2.2 = none ∧ rawPassed p s = []) := by
  unfold rawNext rawPassed
  -- only the branch "blank line seen" ends done, and it reports the `h` of the parser it returns; the recursive branches keep `done = false`
  fun_induction RawParser.consume p s
  all_goals simp_all [-not_and]

theorem consume_line : ∀ (l : Bytes) (p : RawParser) (rest : Bytes), p.done = false → (∀ c ∈ l, c ≠ 13) → (∀ c ∈ p.hrev, c ≠ 13) →
    l ++ p.hrev ≠ [] →
    p.consume (l ++ 13 :: 10 :: rest) = RawParser.consume { p with h := rawAddHeader p.h (p.hrev.reverse ++ l), hrev := [] } rest
  | [], p, rest, hd, _, _, hne => by
    obtain ⟨x, xs, hx⟩ := List.exists_cons_of_ne_nil (show p.hrev ≠ [] by simpa using hne)
    simp [RawParser.consume, hd, hx]
  | c :: l, p, rest, hd, hl, hacc, _ => by
    have hc : ¬ (c = 10 ∧ p.hrev.head? = some 13) := fun ⟨_, h⟩ => hacc 13 (List.mem_of_mem_head? h) rfl
    rw [List.cons_append, RawParser.consume, if_neg (by simp [hd]), if_neg hc,
      consume_line l { p with hrev := c :: p.hrev } rest hd (fun x hx => hl x (List.mem_cons_of_mem _ hx))
        (fun x hx => (List.mem_cons.1 hx).elim (fun e => e ▸ hl c List.mem_cons_self) (hacc x)) (by simp)]
    simp

theorem consume_block : ∀ (ls : List Bytes) (p : RawParser) (body : Bytes), p.done = false → p.hrev = [] →
    (∀ l ∈ ls, l ≠ [] ∧ ∀ c ∈ l, c ≠ 13) →
    (p.consume ((ls.map (· ++ [13, 10])).flatten ++ 13 :: 10 :: body)).2.1 = body ∧
    (p.consume ((ls.map (· ++ [13, 10])).flatten ++ 13 :: 10 :: body)).1.done = true ∧
    (p.consume ((ls.map (· ++ [13, 10])).flatten ++ 13 :: 10 :: body)).2.2 = some (ls.foldl rawAddHeader p.h)
  | [], p, body, hd, hh, _ => by simp [RawParser.consume, hd, hh]
  | l :: ls, p, body, hd, hh, hok => by
    have hl := hok l List.mem_cons_self
    simp only [List.map_cons, List.flatten_cons, List.append_assoc, List.cons_append, List.nil_append]
    rw [consume_line l p _ hd hl.2 (by simp [hh]) (by simpa [hh] using hl.1)]
    simpa [hh] using consume_block ls { p with h := rawAddHeader p.h (p.hrev.reverse ++ l), hrev := [] } body hd rfl
      (fun x hx => hok x (List.mem_cons_of_mem _ hx))

def Trace.bytes (t : Trace) : Bytes := (t.sends.map (·.1)).flatten
def Trace.eofs (t : Trace) : Nat := (t.sends.filter (·.2)).length

theorem Trace.sends_append (a c : Trace) : (a ++ c).sends = a.sends ++ c.sends := by
  simp [Trace.sends, List.filterMap_append]

theorem Trace.hdrs_append (a c : Trace) : (a ++ c).hdrs = a.hdrs ++ c.hdrs := by
  simp [Trace.hdrs, List.filterMap_append]

theorem Trace.bytes_append (a c : Trace) : (a ++ c).bytes = a.bytes ++ c.bytes := by
  simp [Trace.bytes, Trace.sends_append]

theorem HdrShape.extend {t e : Trace} {H : Headers} (h : HdrShape t H) (he : e.hdrs = []) : HdrShape (t ++ e) H := by
  obtain ⟨a, c, rfl, h2, h3, h4⟩ := h
  exact ⟨a, c ++ e, by simp, h2, h3, by rw [Trace.hdrs_append, h4, he]; rfl⟩

theorem Trace.eofs_append (a c : Trace) : (a ++ c).eofs = a.eofs + c.eofs := by
  simp [Trace.eofs, Trace.sends_append, List.filter_append]

@[simp] theorem Trace.sends_send (bs : Bytes) (e : Bool) : Trace.sends [WEv.send bs e] = [(bs, e)] := rfl
@[simp] theorem Trace.sends_hdr (h : Headers) : Trace.sends [WEv.hdr h] = [] := rfl
@[simp] theorem Trace.sends_flush : Trace.sends [WEv.asyncFlush] = [] := rfl
@[simp] theorem Trace.hdrs_send (bs : Bytes) (e : Bool) : Trace.hdrs [WEv.send bs e] = [] := rfl
@[simp] theorem Trace.hdrs_hdr (h : Headers) : Trace.hdrs [WEv.hdr h] = [h] := rfl
@[simp] theorem Trace.hdrs_flush : Trace.hdrs [WEv.asyncFlush] = [] := rfl
@[simp] theorem Trace.bytes_send (bs : Bytes) (e : Bool) : Trace.bytes [WEv.send bs e] = bs := by simp [Trace.bytes, Trace.sends, WEv.asSend]
@[simp] theorem Trace.bytes_hdr (h : Headers) : Trace.bytes [WEv.hdr h] = [] := rfl
@[simp] theorem Trace.bytes_nil : Trace.bytes [] = [] := rfl
@[simp] theorem Trace.sends_nil : Trace.sends [] = [] := rfl
@[simp] theorem Trace.hdrs_nil : Trace.hdrs [] = [] := rfl

/-- the event `set_response_headers` leaves in the trace when the raw header block completes -/
def hdrEv : Option Headers → Trace
  | some h => [WEv.hdr h]
  | none => []

theorem setHeaders_opt (k : Trace) (o : Option Headers) : (o.map fun h => k ++ [WEv.hdr h]).getD k = k ++ hdrEv o := by
  cases o <;> simp [hdrEv]

/-- what the connection receives of a byte string handed to `write`: all of it, or (raw modes) what follows the application's header block -/
def filterOf (raw : Bool) (s : Bytes) : Bytes := if raw then rawPassed {} s else s

/-- device invariant relative to the bytes written into it (`inp`): `fed` is the part already handed to `write` -/
def Dev.Inv (d : Dev) (k : Trace) (inp : Bytes) : Prop :=
  ∃ fed, d.dead = false ∧ d.pos ≤ d.vec.length ∧ fed ++ d.vec.take d.pos = inp ∧
    k.bytes = filterOf d.rawMode fed ∧ (d.rawMode = true → d.raw = rawNext {} fed)

def eofFlag (d : Dev) : Bool := d.final && !d.eofSend

theorem Dev.Inv.pos_le {d : Dev} {k : Trace} {inp : Bytes} (h : d.Inv k inp) : d.pos ≤ d.vec.length := by
  obtain ⟨_, _, hp, _⟩ := h
  exact hp

theorem filterOf_append (raw : Bool) (a c : Bytes) : ∃ Y, filterOf raw (a ++ c) = filterOf raw a ++ Y := by
  cases raw with
  | false => exact ⟨c, rfl⟩
  | true => exact ⟨rawPassed (rawNext {} a) c, (consume_append a {} c).2⟩

theorem Dev.Inv.bytes_prefix {d : Dev} {k : Trace} {inp : Bytes} (h : d.Inv k inp) : ∃ Y, filterOf d.rawMode inp = k.bytes ++ Y := by
  obtain ⟨fed, -, -, rfl, hk, -⟩ := h
  rw [hk]; exact filterOf_append _ _ _

theorem Dev.Inv.of_bytes {d : Dev} {k k' : Trace} {inp : Bytes} (h : d.Inv k inp) (hb : k'.bytes = k.bytes) : d.Inv k' inp := by
  obtain ⟨fed, alive, hpos, hfed, hk, hraw⟩ := h
  exact ⟨fed, alive, hpos, hfed, hb.trans hk, hraw⟩

theorem Dev.Inv.bytes_content {d : Dev} {k : Trace} {inp : Bytes} (h : d.Inv k inp) (hm : d.rawMode = false) :
    k.bytes ++ d.content = inp := by
  obtain ⟨fed, -, -, hfed, hk, -⟩ := h
  rw [hk, hm]
  exact hfed

theorem Dev.write_plain (d : Dev) (k : Trace) (out : List Bytes) (hd : d.dead = false) (hm : d.rawMode = false ∨ d.raw.done = true) :
    d.write traceIf k out = ({ d with eofSend := d.eofSend || eofFlag d }, k ++ [WEv.send out.flatten (eofFlag d)], true) := by
  have : (d.rawMode && !d.raw.done) = false := by rcases hm with h | h <;> simp [h]
  simp [Dev.write, hd, this, traceIf, eofFlag]

theorem Dev.write_raw (d : Dev) (k : Trace) (out : List Bytes) (hd : d.dead = false) (hm : d.rawMode = true) (hnd : d.raw.done = false) :
    d.write traceIf k out =
      ({ d with eofSend := d.eofSend || eofFlag d, raw := rawNext d.raw out.flatten },
       k ++ hdrEv (d.raw.consume out.flatten).2.2 ++
         (if (rawNext d.raw out.flatten).done || eofFlag d then [WEv.send (rawPassed d.raw out.flatten) (eofFlag d)] else []), true) := by
  simp only [Dev.write, hd, hm, hnd, traceIf, eofFlag, rawNext, rawPassed, Bool.false_eq_true, if_false, Bool.not_false,
    Bool.and_self, if_true, setHeaders_opt]
  by_cases hs : ((d.raw.consume out.flatten).1.done || (d.final && !d.eofSend)) = true
  · simp only [hs, if_true]
  · simp only [hs, Bool.false_eq_true, if_false, List.append_nil]

/-- what one device operation appends to the trace: nothing; one `do_write` with the current eof flag (the eof call, if the raw header
block is still incomplete); or, when it completes the block, `set_response_headers` and then the call -/
inductive Dev.Emits (d d' : Dev) : Trace → Prop
  | nothing : d'.eofSend = d.eofSend → (d.rawMode = true → d'.raw.done = d.raw.done) → Dev.Emits d d' []
  | call (bs : Bytes) : d'.eofSend = (d.eofSend || eofFlag d) → (d.rawMode = true → d'.raw.done = d.raw.done) →
      (d.rawMode = true → d'.raw.done = false → eofFlag d = true) → Dev.Emits d d' [WEv.send bs (eofFlag d)]
  | blockDone (bs : Bytes) : d.rawMode = true → d.raw.done = false → d'.raw.done = true → d'.eofSend = (d.eofSend || eofFlag d) →
      Dev.Emits d d' [WEv.hdr d'.raw.h, WEv.send bs (eofFlag d)]

/-- one device operation, as far as the trace goes; it sees `d`, `d'` only through `final`, `rawMode`, `raw`, `eofSend` (in this order the
four `rfl`s of `of_fields`, `from`, `into`) -/
structure Dev.Step (d d' : Dev) (k k' : Trace) : Prop where
  final : d'.final = d.final
  mode : d'.rawMode = d.rawMode
  rawKeep : d.raw.done = true → d'.raw = d.raw
  emits : ∃ e, k' = k ++ e ∧ Dev.Emits d d' e

/-- what a `write` that takes all written so far (`all`) leaves -/
structure Dev.Wrote (d : Dev) (k : Trace) (all : Bytes) (d' : Dev) (k' : Trace) : Prop where
  alive : d'.dead = false
  bytes : k'.bytes = filterOf d.rawMode all
  raw : d.rawMode = true → d'.raw = rawNext {} all
  step : Dev.Step d d' k k'
  eofCall : eofFlag d = true → k'.sends = k.sends ++ [((filterOf d.rawMode all).drop k.bytes.length, true)]
  eofSend : d'.eofSend = (d.eofSend || eofFlag d)

theorem Dev.write_spec (d : Dev) (k : Trace) (inp : Bytes) (extra : Bytes) (out : List Bytes) (hout : out.flatten = d.content ++ extra)
    (h : d.Inv k inp) : ∃ d' k', d.write traceIf k out = (d', k', true) ∧ Dev.Wrote d k (inp ++ extra) d' k' := by
  refine (fun ⟨d', k', e, alive, bytes, raw, step, eofCall, eofSend⟩ => ⟨d', k', e, ⟨alive, bytes, raw, step, eofCall, eofSend⟩⟩)
    (?_ : ∃ d' k', _ ∧ _ ∧ _ ∧ _ ∧ _ ∧ _ ∧ _)
  obtain ⟨fed, hd, -, rfl, hk, hr⟩ := h
  have hall : fed ++ d.vec.take d.pos ++ extra = fed ++ out.flatten := by rw [hout, Dev.content, List.append_assoc]
  obtain ⟨ca1, ca2⟩ := consume_append fed {} out.flatten
  rw [hall]
  by_cases hm : d.rawMode = true
  · rw [← hr hm] at ca1 ca2
    simp only [hm, filterOf, if_true] at hk ⊢
    rw [ca1, ca2, ← hk]
    by_cases hdone : d.raw.done = true
    · simp only [rawNext, rawPassed, consume_done d.raw hdone]
      refine ⟨_, _, Dev.write_plain d k out hd (.inr hdone), hd, by simp [Trace.bytes_append], fun _ => rfl,
        { final := rfl, mode := rfl, rawKeep := fun _ => rfl,
          emits := ⟨_, rfl, .call _ rfl (fun _ => rfl) (fun _ h => by rw [hdone] at h; cases h)⟩ },
        (fun hf => by simp [Trace.sends_append, hf]), rfl⟩
    · simp only [Bool.not_eq_true] at hdone
      have hkeep : d.raw.done = true → rawNext d.raw out.flatten = d.raw := fun h => by rw [hdone] at h; cases h
      rcases consume_cases out.flatten d.raw hdone with ⟨h1, h2⟩ | ⟨h1, h2, h3⟩
      · -- the block completes: the header set goes first
        refine ⟨_, _, Dev.write_raw d k out hd hm hdone, hd, ?_, fun _ => rfl,
          { final := rfl, mode := rfl, rawKeep := hkeep,
            emits := ⟨_, ?_, .blockDone (rawPassed d.raw out.flatten) hm hdone h1 rfl⟩ }, ?_, rfl⟩
        all_goals simp [h1, h2, hdrEv, Trace.bytes, Trace.sends, List.filterMap_cons, WEv.asSend]
      · -- still incomplete: nothing is passed on; an empty write if eof is due
        cases hf : eofFlag d
        · refine ⟨_, _, Dev.write_raw d k out hd hm hdone, hd, ?_, fun _ => rfl,
            { final := rfl, mode := rfl, rawKeep := hkeep,
              emits := ⟨_, ?_, .nothing (by simp [hf]) fun _ => h1.trans hdone.symm⟩ }, ?_, by simp [hf]⟩
          all_goals simp [h1, h2, h3, hf, hdrEv]
        · refine ⟨_, _, Dev.write_raw d k out hd hm hdone, hd, ?_, fun _ => rfl,
            { final := rfl, mode := rfl, rawKeep := hkeep,
              emits := ⟨[WEv.send [] true], ?_, hf ▸ Dev.Emits.call [] (by simp [hf]) (fun _ => h1.trans hdone.symm) fun _ _ => hf⟩ }, ?_, by simp [hf]⟩
          all_goals simp [h1, h2, h3, hf, hdrEv, Trace.bytes_append, Trace.sends_append]
  · simp only [Bool.not_eq_true] at hm
    simp only [hm, filterOf, Bool.false_eq_true, if_false] at hk ⊢
    rw [← hk]
    refine ⟨_, _, Dev.write_plain d k out hd (.inl hm), hd, by simp [Trace.bytes_append], (fun h => by cases h),
      { final := rfl, mode := rfl, rawKeep := fun _ => rfl,
        emits := ⟨_, rfl, .call _ rfl (fun _ => rfl) (fun h => by rw [hm] at h; cases h)⟩ },
      (fun hf => by simp [Trace.sends_append, hf]), rfl⟩

theorem nextSize_gt (n : Nat) : n < Gen.nextSize n := by
  unfold Gen.nextSize; split <;> omega

theorem growTo_ge_min : ∀ (fuel rs m : Nat), 0 < rs → m ≤ rs + fuel → m ≤ growTo fuel rs m
  | 0, _, _, _, h => h
  | f + 1, rs, m, hp, h => by
    rw [growTo]
    split
    · exact growTo_ge_min f (rs * 2) m (by omega) (by omega)
    · omega

theorem Dev.Step.of_fields {d d' : Dev} (k : Trace) (hf : d'.final = d.final) (hm : d'.rawMode = d.rawMode) (hr : d'.raw = d.raw)
    (he : d'.eofSend = d.eofSend) : Dev.Step d d' k k :=
  { final := hf, mode := hm, rawKeep := fun _ => hr, emits := ⟨[], (List.append_nil k).symm, .nothing he fun _ => by rw [hr]⟩ }

theorem Dev.Step.refl (d : Dev) (k : Trace) : Dev.Step d d k k := Dev.Step.of_fields k rfl rfl rfl rfl

theorem Dev.Emits.congr {d d' d1 d2 : Dev} {e : Trace} (h : Dev.Emits d d' e) (hf : d1.final = d.final) (hm : d1.rawMode = d.rawMode)
    (hr : d1.raw = d.raw) (he : d1.eofSend = d.eofSend) (hr' : d2.raw = d'.raw) (he' : d2.eofSend = d'.eofSend) : Dev.Emits d1 d2 e := by
  have hflag : eofFlag d1 = eofFlag d := by rw [eofFlag, eofFlag, hf, he]
  cases h with
  | nothing h1 h2 => exact .nothing (by rw [he', he, h1]) (by rw [hm, hr', hr]; exact h2)
  | call bs h1 h2 h3 =>
    rw [← hflag]
    exact .call bs (by rw [he', he, hflag, h1]) (by rw [hm, hr', hr]; exact h2) (by rw [hm, hr', hflag]; exact h3)
  | blockDone bs h1 h2 h3 h4 =>
    rw [← hflag, ← hr']
    exact .blockDone bs (hm.trans h1) (by rw [hr, h2]) (by rw [hr', h3]) (by rw [he', he, hflag, h4])

theorem Dev.Step.from {d d1 d' : Dev} {k k' : Trace} (h : Dev.Step d1 d' k k') (hf : d1.final = d.final) (hm : d1.rawMode = d.rawMode)
    (hr : d1.raw = d.raw) (he : d1.eofSend = d.eofSend) : Dev.Step d d' k k' :=
  let ⟨e, hk, hem⟩ := h.emits
  { final := h.final.trans hf, mode := h.mode.trans hm, rawKeep := fun hd => (h.rawKeep (hr ▸ hd)).trans hr,
    emits := ⟨e, hk, hem.congr hf.symm hm.symm hr.symm he.symm rfl rfl⟩ }

theorem Dev.Step.into {d d' d2 : Dev} {k k' : Trace} (h : Dev.Step d d' k k') (hf : d2.final = d'.final) (hm : d2.rawMode = d'.rawMode)
    (hr : d2.raw = d'.raw) (he : d2.eofSend = d'.eofSend) : Dev.Step d d2 k k' :=
  let ⟨e, hk, hem⟩ := h.emits
  { final := hf.trans h.final, mode := hm.trans h.mode, rawKeep := fun hd => hr.trans (h.rawKeep hd),
    emits := ⟨e, hk, hem.congr rfl rfl rfl rfl hr he⟩ }

theorem Dev.Step.sends {d d' : Dev} {k k' : Trace} (h : Dev.Step d d' k k') :
    k'.sends = k.sends ∨ ∃ bs, k'.sends = k.sends ++ [(bs, eofFlag d)] := by
  obtain ⟨e, rfl, hem⟩ := h.emits
  cases hem with
  | nothing => left; rw [List.append_nil]
  | call bs => right; exact ⟨bs, by rw [Trace.sends_append]; rfl⟩
  | blockDone bs => right; exact ⟨bs, by rw [Trace.sends_append]; rfl⟩

theorem Dev.Step.extends {d d' : Dev} {k k' : Trace} (h : Dev.Step d d' k k') : ∃ e : Trace, k' = k ++ e :=
  let ⟨e, hk, _⟩ := h.emits
  ⟨e, hk⟩

theorem Dev.Step.eofs {d d' : Dev} {k k' : Trace} (h : Dev.Step d d' k k') (hf : eofFlag d = false) : k'.eofs = k.eofs := by
  rcases h.sends with hs | ⟨bs, hs⟩ <;> simp [Trace.eofs, hs, hf]

theorem Dev.Step.hdrs_nonraw {d d' : Dev} {k k' : Trace} (h : Dev.Step d d' k k') (hm : d.rawMode = false) : k'.hdrs = k.hdrs := by
  obtain ⟨e, rfl, hem⟩ := h.emits
  cases hem with
  | nothing => rw [List.append_nil]
  | call bs => rw [Trace.hdrs_append]; exact List.append_nil _
  | blockDone bs hraw => rw [hm] at hraw; cases hraw

theorem Dev.Wrote.inv {d d' : Dev} {k k' : Trace} {all : Bytes} (w : Dev.Wrote d k all d' k') (v : Bytes) :
    ({ d' with vec := v, pos := 0 } : Dev).Inv k' all :=
  ⟨all, w.alive, Nat.zero_le _, by simp, w.step.mode ▸ w.bytes, fun hm => w.raw (w.step.mode ▸ hm)⟩

/-- `x` is what one device operation makes of `(d, k)`, which has taken `inp'` then -/
structure Dev.StepTo (d : Dev) (k : Trace) (x : Dev × Trace) (inp' : Bytes) : Prop where
  inv : x.1.Inv x.2 inp'
  step : Dev.Step d x.1 k x.2

theorem Dev.Inv.reset {d : Dev} {k : Trace} {inp : Bytes} (h : d.Inv k inp) (hp : d.pos = 0) (v : Bytes) :
    ({ d with vec := v, pos := 0 } : Dev).Inv k inp := by
  obtain ⟨fed, alive, -, hfed, hk, hraw⟩ := h
  rw [hp] at hfed
  exact ⟨fed, alive, Nat.zero_le _, hfed, hk, hraw⟩

theorem Dev.Inv.rebuf {d : Dev} {k : Trace} {inp : Bytes} (h : d.Inv k inp) (n bs : Nat) (hn : d.pos ≤ n) :
    ({ d with vec := resize d.vec n, bufferSize := bs } : Dev).Inv k inp := by
  obtain ⟨fed, hd, hp, rfl, hk, hr⟩ := h
  exact ⟨fed, hd, by show d.pos ≤ (resize d.vec n).length; rw [resize_length]; exact hn,
    by show fed ++ (resize d.vec n).take d.pos = _; rw [resize_take _ _ _ hp hn], hk, hr⟩

theorem Dev.pokeBlock_inv (d : Dev) (k : Trace) (inp s : Bytes) (h : d.Inv k inp) (hfit : d.pos + s.length ≤ d.vec.length) :
    ({ d with vec := poke d.vec d.pos s, pos := d.pos + s.length } : Dev).Inv k (inp ++ s) := by
  obtain ⟨fed, hd, -, rfl, hk, hr⟩ := h
  refine ⟨fed, hd, ?_, ?_, hk, hr⟩
  · show d.pos + s.length ≤ (poke d.vec d.pos s).length
    rw [poke_length _ _ _ hfit]; exact hfit
  · show fed ++ (poke d.vec d.pos s).take (d.pos + s.length) = _
    rw [poke_take _ _ _ hfit, List.append_assoc]

/-- what `flush` leaves -/
structure Dev.Flushed (d : Dev) (k : Trace) (inp : Bytes) (d' : Dev) (k' : Trace) : Prop where
  inv : d'.Inv k' inp
  empty : d'.pos = 0
  step : Dev.Step d d' k k'
  bytes : k'.bytes = filterOf d.rawMode inp
  eofCall : eofFlag d = true → k'.sends = k.sends ++ [((filterOf d.rawMode inp).drop k.bytes.length, true)]
  eofSend : d'.eofSend = (d.eofSend || eofFlag d)

theorem Dev.flush_spec (d : Dev) (k : Trace) (inp : Bytes) (h : d.Inv k inp) :
    ∃ d' k', d.flush traceIf k = (d', k', true) ∧ Dev.Flushed d k inp d' k' := by
  obtain ⟨d', k', hw, w⟩ := Dev.write_spec d k inp [] [d.content] (by simp) h
  rw [List.append_nil] at w
  unfold Dev.flush
  rw [hw]
  exact ⟨_, _, rfl,
    { inv := w.inv _, empty := rfl, step := w.step.into rfl rfl rfl rfl, bytes := w.bytes, eofCall := w.eofCall, eofSend := w.eofSend }⟩

theorem Dev.flush_step (d : Dev) (k : Trace) (T : Bytes) (h : d.Inv k T) :
    d.StepTo k ((d.flush traceIf k).1, (d.flush traceIf k).2.1) T := by
  obtain ⟨d', k', hw, f⟩ := Dev.flush_spec d k T h
  rw [hw]; exact ⟨f.inv, f.step⟩

theorem Dev.writeThenSetp_step (d : Dev) (k : Trace) (inp extra : Bytes) (out : List Bytes) (hout : out.flatten = d.content ++ extra)
    (h : d.Inv k inp) :
    d.StepTo k (if (d.write traceIf k out).2.2 then ((d.write traceIf k out).1.doSetp, (d.write traceIf k out).2.1)
      else ((d.write traceIf k out).1, (d.write traceIf k out).2.1)) (inp ++ extra) := by
  obtain ⟨d', k', hw, w⟩ := Dev.write_spec d k inp extra out hout h
  rw [hw]
  exact ⟨w.inv _, w.step.into rfl rfl rfl rfl⟩

theorem Dev.basicOverflow_step (d : Dev) (k : Trace) (inp : Bytes) (c : Option UInt8) (h : d.Inv k inp) :
    d.StepTo k (d.basicOverflow traceIf k c) (inp ++ c.toList) := by
  cases c with
  | none => exact Dev.writeThenSetp_step d k inp [] [d.content] (by simp) h
  | some c => exact Dev.writeThenSetp_step d k inp [c] [d.content, [c]] (by simp) h

theorem Dev.basicXsputn_step (d : Dev) (k : Trace) (inp s : Bytes) (h : d.Inv k inp) :
    d.StepTo k (d.basicXsputn traceIf k s) (inp ++ s) := by
  refine ite_of (P := fun x => d.StepTo k x (inp ++ s)) (fun hfit => ?_)
    (fun _ => Dev.writeThenSetp_step d k inp s [d.content, s] (by simp) h)
  have hp := h.pos_le
  cases s with
  | nil => rw [List.append_nil]; exact ⟨h, Dev.Step.refl d k⟩
  | cons c s => exact ⟨Dev.pokeBlock_inv d k inp _ h (by omega), Dev.Step.of_fields k rfl rfl rfl rfl⟩

theorem Dev.basicSetbuf_step (d : Dev) (k : Trace) (inp : Bytes) (size : Nat) (h : d.Inv k inp) :
    d.StepTo k (d.basicSetbuf traceIf k size) inp := by
  unfold Dev.basicSetbuf
  by_cases hgt : d.pos > size
  · obtain ⟨d', k', hw, f⟩ := Dev.flush_spec { d with bufferSize := size } k inp h
    simp only [hgt, hw, if_true]
    exact ⟨f.inv.reset f.empty _, (Dev.Step.from (d := d) f.step rfl rfl rfl rfl).into rfl rfl rfl rfl⟩
  · simp only [hgt, if_false]
    exact ⟨h.rebuf size size (Nat.le_of_not_gt hgt), Dev.Step.of_fields k rfl rfl rfl rfl⟩

theorem Dev.setbuf_step (d : Dev) (k : Trace) (inp : Bytes) (size : Nat) (h : d.Inv k inp) :
    d.StepTo k (d.setbuf traceIf k size) inp :=
  ite_of (P := fun x => d.StepTo k x inp) (fun _ => ⟨h.rebuf _ size (by split <;> omega), Dev.Step.of_fields k rfl rfl rfl rfl⟩)
    (fun _ => Dev.basicSetbuf_step d k inp size h)

/-- `async_io_buf` in full buffering grows its vector instead of writing: afterwards there is room for `n` more bytes, nothing was sent
(the `if` is named so that `overflow` and `xsputn`, each with its own `c`, rewrite with it) -/
theorem Dev.Inv.grow {d : Dev} {k : Trace} {inp : Bytes} (h : d.Inv k inp) (c : Prop) [Decidable c] (m n : Nat) (hc : ¬ c → d.pos + n ≤ d.vec.length)
    (hm : d.pos + n ≤ m) :
    ∃ d1 : Dev, (if c then { d with vec := resize d.vec m } else d) = d1 ∧ d1.Inv k inp ∧ d1.pos + n ≤ d1.vec.length ∧ Dev.Step d d1 k k := by
  by_cases hcc : c
  · rw [if_pos hcc]
    exact ⟨_, rfl, h.rebuf m d.bufferSize (by omega), by show d.pos + n ≤ (resize d.vec m).length; rw [resize_length]; exact hm,
      Dev.Step.of_fields k rfl rfl rfl rfl⟩
  · rw [if_neg hcc]
    exact ⟨d, rfl, h, hc hcc, Dev.Step.refl d k⟩

theorem Dev.overflow_step (d : Dev) (k : Trace) (inp : Bytes) (c : Option UInt8) (h : d.Inv k inp) :
    d.StepTo k (d.overflow traceIf k c) (inp ++ c.toList) := by
  refine ite_of (P := fun x => d.StepTo k x (inp ++ c.toList)) (fun _ => ?_) (fun _ => Dev.basicOverflow_step d k inp c h)
  have hp := h.pos_le
  have hn := nextSize_gt d.vec.length
  obtain ⟨d1, hd1, hinv1, hroom, hs1⟩ := h.grow (d.pos = d.vec.length) (Gen.nextSize d.vec.length) 1 (by omega) (by omega)
  simp only [hd1]
  cases c with
  | none => rw [Option.toList_none, List.append_nil]; exact ⟨hinv1, hs1⟩
  | some c => exact ⟨Dev.pokeBlock_inv d1 k inp [c] hinv1 hroom, hs1.into rfl rfl rfl rfl⟩

theorem Dev.xsputn_step (d : Dev) (k : Trace) (inp s : Bytes) (h : d.Inv k inp) :
    d.StepTo k (d.xsputn traceIf k s) (inp ++ s) := by
  refine ite_of (P := fun x => d.StepTo k x (inp ++ s)) (fun _ => ?_) (fun _ => Dev.basicXsputn_step d k inp s h)
  have hp := h.pos_le
  have hn := nextSize_gt d.vec.length
  obtain ⟨d1, hd1, hinv1, hroom, hs1⟩ := h.grow (d.vec.length - d.pos < s.length)
    (growTo (d.pos + s.length + 1) (Gen.nextSize d.vec.length) (d.pos + s.length)) s.length (by omega)
    (growTo_ge_min _ _ _ (by omega) (by omega))
  simp only [hd1]
  cases s with
  | nil => rw [List.append_nil]; exact ⟨hinv1, hs1⟩
  | cons c s => exact ⟨Dev.pokeBlock_inv d1 k inp _ hinv1 hroom, hs1.into rfl rfl rfl rfl⟩

theorem Dev.sputc_step (d : Dev) (k : Trace) (inp : Bytes) (c : UInt8) (h : d.Inv k inp) :
    d.StepTo k (d.sputc traceIf k c) (inp ++ [c]) :=
  ite_of (P := fun x => d.StepTo k x (inp ++ [c]))
    (fun hr => ⟨Dev.pokeBlock_inv d k inp [c] h hr, Dev.Step.of_fields k rfl rfl rfl rfl⟩) (fun _ => Dev.overflow_step d k inp (some c) h)

theorem Dev.sync_step (d : Dev) (k : Trace) (inp : Bytes) (h : d.Inv k inp) : d.StepTo k (d.sync traceIf k) inp := by
  have := Dev.overflow_step d k inp none h
  rwa [Option.toList_none, List.append_nil] at this

theorem Dev.setFullBuffering_step (d : Dev) (k : Trace) (inp : Bytes) (v : Bool) (h : d.Inv k inp) :
    d.StepTo k (d.setFullBuffering traceIf k v) inp := by
  refine ite_of (P := fun x => d.StepTo k x inp) (fun _ => ⟨h, Dev.Step.refl d k⟩) fun _ =>
    ite_of (P := fun x => d.StepTo k x inp) (fun _ => ?_) (fun _ => ⟨h, Dev.Step.of_fields k rfl rfl rfl rfl⟩)
  have := Dev.setbuf_step { d with fullBuffering := v } k inp d.bufferSize h
  exact ⟨this.inv, Dev.Step.from (d := d) this.step rfl rfl rfl rfl⟩

/-- what the layers above (or the application, through `std::ostream` and `response`) can do to a device -/
inductive DevOp where
  | put (s : Bytes)        -- sputn
  | putc (c : UInt8)       -- sputc
  | sync                   -- pubsync (ostream::flush)
  | flush                  -- response::flush_async_chunk
  | setbuf (n : Nat)       -- response::setbuf
  | fullBuf (v : Bool)     -- response::full_asynchronous_buffering
  deriving Repr, DecidableEq, Inhabited

def DevOp.data : DevOp → Bytes
  | .put s => s
  | .putc c => [c]
  | _ => []

def Dev.step (x : Dev × Trace) : DevOp → Dev × Trace
  | .put s => x.1.xsputn traceIf x.2 s
  | .putc c => x.1.sputc traceIf x.2 c
  | .sync => x.1.sync traceIf x.2
  | .flush => let r := x.1.flush traceIf x.2; (r.1, r.2.1)
  | .setbuf n => x.1.setbuf traceIf x.2 n
  | .fullBuf v => x.1.setFullBuffering traceIf x.2 v

def Dev.run (x : Dev × Trace) (ops : List DevOp) : Dev × Trace := ops.foldl Dev.step x

theorem Dev.step_spec (d : Dev) (k : Trace) (inp : Bytes) (op : DevOp) (h : d.Inv k inp) :
    d.StepTo k (Dev.step (d, k) op) (inp ++ op.data) := by
  cases op with
  | put s => exact Dev.xsputn_step d k inp s h
  | putc c => exact Dev.sputc_step d k inp c h
  | sync => simp only [DevOp.data, List.append_nil]; exact Dev.sync_step d k inp h
  | flush =>
    simp only [DevOp.data, List.append_nil]; exact Dev.flush_step d k inp h
  | setbuf n => simp only [DevOp.data, List.append_nil]; exact Dev.setbuf_step d k inp n h
  | fullBuf v => simp only [DevOp.data, List.append_nil]; exact Dev.setFullBuffering_step d k inp v h

/-- no eof has been announced yet -/
def Quiet (d : Dev) (k : Trace) : Prop := d.final = false ∧ d.eofSend = false ∧ k.eofs = 0

theorem Quiet.eofs {d : Dev} {k : Trace} (q : Quiet d k) : k.eofs = 0 := q.2.2

theorem Quiet.flag {d : Dev} {k : Trace} (q : Quiet d k) : eofFlag d = false := by simp [eofFlag, q.1]

theorem Dev.Step.eofSend {d d' : Dev} {k k' : Trace} (h : Dev.Step d d' k k') (hf : eofFlag d = false) : d'.eofSend = d.eofSend := by
  obtain ⟨e, -, hem⟩ := h.emits
  cases hem with
  | nothing he => exact he
  | call bs he => rw [he, hf, Bool.or_false]
  | blockDone bs _ _ _ he => rw [he, hf, Bool.or_false]

theorem Quiet.step {d d' : Dev} {k k' : Trace} (q : Quiet d k) (h : Dev.Step d d' k k') : Quiet d' k' :=
  ⟨h.final.trans q.1, (h.eofSend q.flag).trans q.2.1, (h.eofs q.flag).trans q.2.2⟩

/-- the end of the response has been announced: it stays announced, nothing announces it again -/
def Sealed (d : Dev) : Prop := d.final = true ∧ d.eofSend = true

theorem Sealed.flag {d : Dev} (s : Sealed d) : eofFlag d = false := by simp [eofFlag, s.1, s.2]

theorem Sealed.step {d d' : Dev} {k k' : Trace} (s : Sealed d) (h : Dev.Step d d' k k') : Sealed d' ∧ k'.eofs = k.eofs :=
  ⟨⟨h.final.trans s.1, (h.eofSend s.flag).trans s.2⟩, h.eofs s.flag⟩

theorem Sealed.sends {d : Dev} {k : Trace} {x : Dev × Trace} {inp : Bytes} (s : Sealed d) (h : d.StepTo k x inp)
    (hb : k.bytes = filterOf d.rawMode inp) :
    (x.2.sends = k.sends ∨ x.2.sends = k.sends ++ [([], false)]) ∧ x.2.bytes = k.bytes := by
  have hsends : x.2.sends = k.sends ∨ x.2.sends = k.sends ++ [([], false)] := by
    rcases h.step.sends with h1 | ⟨bs, h1⟩
    · exact .inl h1
    · -- all the filter lets through is out already (`hb`) and what is sent stays a prefix of it: the call carries no byte
      obtain ⟨Y, hY⟩ := h.inv.bytes_prefix
      have hx : x.2.bytes = k.bytes ++ bs := by simp [Trace.bytes, h1]
      rw [h.step.mode, hx, hb] at hY
      have := congrArg List.length hY
      simp only [List.length_append] at this
      rw [h1, s.flag, List.eq_nil_of_length_eq_zero (by omega : bs.length = 0)]
      exact .inr rfl
  exact ⟨hsends, by rcases hsends with h | h <;> simp [Trace.bytes, h]⟩

/-- raw modes: nothing is sent before the application's header block has been handed to the connection -/
def RawOk (d : Dev) (k : Trace) : Prop :=
  d.rawMode = true →
    (d.raw.done = false → k.sends = [] ∧ k.hdrs = []) ∧
    (d.raw.done = true → ∃ a c : Trace, k = a ++ WEv.hdr d.raw.h :: c ∧ a.sends = [] ∧ a.hdrs = [] ∧ c.hdrs = [])

theorem RawOk.step {d d' : Dev} {k k' : Trace} (r : RawOk d k) (h : Dev.Step d d' k k')
    (hf : eofFlag d = false ∨ d'.raw.done = true) : RawOk d' k' := by
  intro hm'
  have hm : d.rawMode = true := h.mode ▸ hm'
  obtain ⟨r1, r2⟩ := r hm
  obtain ⟨e, rfl, hem⟩ := h.emits
  cases hem with
  | nothing _ hsame =>
    rw [List.append_nil]
    cases hd : d.raw.done
    · exact ⟨fun _ => r1 hd, fun h' => by rw [(hsame hm).trans hd] at h'; cases h'⟩
    · rw [h.rawKeep hd]
      exact ⟨(fun h' => by rw [hd] at h'; cases h'), fun _ => r2 hd⟩
  | call bs _ hsame hq =>
    cases hd : d.raw.done
    · -- still incomplete: the call would be the eof call, which `hf` excludes
      have hnd' := (hsame hm).trans hd
      rcases hf with hf | hf
      · rw [hq hm hnd'] at hf; cases hf
      · rw [hnd'] at hf; cases hf
    · -- already complete: the parser does not change any more
      rw [h.rawKeep hd]
      exact ⟨(fun h' => by rw [hd] at h'; cases h'), fun _ => HdrShape.extend (r2 hd) rfl⟩
  | blockDone bs _ hnd hdone' =>
    -- completed by this write: the header set goes first
    obtain ⟨hs0, hh0⟩ := r1 hnd
    exact ⟨(fun h' => by rw [hdone'] at h'; cases h'), fun _ => ⟨k, [WEv.send bs (eofFlag d)], by simp, hs0, hh0, rfl⟩⟩

theorem RawOk.append_flush {d : Dev} {k : Trace} (r : RawOk d k) : RawOk d (k ++ [WEv.asyncFlush]) := by
  intro hm
  obtain ⟨r1, r2⟩ := r hm
  refine ⟨fun hd => by simp [Trace.sends_append, Trace.hdrs_append, r1 hd], fun hd => ?_⟩
  exact HdrShape.extend (r2 hd) rfl

/-- everything the composition needs to know about a device that has not been closed yet -/
structure DevGood (d : Dev) (k : Trace) (inp : Bytes) : Prop where
  inv : d.Inv k inp
  quiet : Quiet d k
  raw : RawOk d k

theorem DevGood.step {d d' : Dev} {k k' : Trace} {inp inp' : Bytes} (g : DevGood d k inp) (hi : d'.Inv k' inp') (h : Dev.Step d d' k k') :
    DevGood d' k' inp' :=
  ⟨hi, g.quiet.step h, g.raw.step h (Or.inl g.quiet.flag)⟩

theorem Dev.run_good : ∀ (ops : List DevOp) (d : Dev) (k : Trace) (inp : Bytes), DevGood d k inp →
    DevGood (Dev.run (d, k) ops).1 (Dev.run (d, k) ops).2 (inp ++ (ops.map DevOp.data).flatten) ∧
    (Dev.run (d, k) ops).1.rawMode = d.rawMode ∧
    (d.rawMode = false → (Dev.run (d, k) ops).2.hdrs = k.hdrs) ∧
    (∃ e : Trace, (Dev.run (d, k) ops).2 = k ++ e)
  | [], d, k, inp, g => by simpa [Dev.run] using g
  | op :: ops, d, k, inp, g => by
    obtain ⟨h1, s1⟩ := Dev.step_spec d k inp op g.inv
    obtain ⟨g2, m2, hh2, e2, he2⟩ := Dev.run_good ops _ _ _ (g.step h1 s1)
    obtain ⟨e1, he1⟩ := s1.extends
    simp only [Dev.run, List.foldl_cons, List.map_cons, List.flatten_cons, ← List.append_assoc] at *
    exact ⟨g2, m2.trans s1.mode, fun hm => (hh2 (s1.mode.trans hm)).trans (s1.hdrs_nonraw hm), e1 ++ e2, by rw [he2, he1, List.append_assoc]⟩

theorem Dev.fresh_inv (isAsync full raw : Bool) (n : Nat) (k : Trace) (hk : k.sends = []) :
    (Dev.fresh isAsync full raw n).Inv k [] ∧ Quiet (Dev.fresh isAsync full raw n) k ∧ (Dev.fresh isAsync full raw n).rawMode = raw :=
  ⟨⟨[], rfl, Nat.zero_le _, rfl, by cases raw <;> simp [Trace.bytes, hk, filterOf, Dev.fresh, Dev.open, Dev.doSetp, rawPassed, RawParser.consume],
    fun _ => rfl⟩, ⟨rfl, rfl, by simp [Trace.eofs, hk]⟩, rfl⟩

/-- what `close()` leaves (`x`) on a device that has not announced the end -/
structure Dev.Closed (d : Dev) (k : Trace) (inp : Bytes) (x : Dev × Trace) : Prop where
  bytes : x.2.bytes = filterOf d.rawMode inp
  drained : x.1.content = []
  eofs : x.2.eofs = 1
  lastCall : x.2.sends = k.sends ++ [((filterOf d.rawMode inp).drop k.bytes.length, true)]
  stepTo : Dev.StepTo { d with final := true } k x inp
  sealed : Sealed x.1
  rawOk : (d.rawMode = true → (rawNext {} inp).done = true) → RawOk x.1 x.2

theorem Dev.close_spec (d : Dev) (k : Trace) (inp : Bytes) (g : DevGood d k inp) {x : Dev × Trace} (hx : d.close traceIf k = x) :
    Dev.Closed d k inp x := by
  subst hx
  obtain ⟨h, ⟨-, q2, q3⟩, r⟩ := g
  have hflag : eofFlag { d with final := true } = true := by simp [eofFlag, q2]
  obtain ⟨d', k', hw, f⟩ := Dev.flush_spec { d with final := true } k inp h
  have hk := f.eofCall hflag
  unfold Dev.close
  rw [if_neg (by simp [q2])]
  simp only [hw]
  refine { bytes := f.bytes, drained := by rw [Dev.content, f.empty]; rfl, eofs := ?_, lastCall := hk, stepTo := ⟨f.inv, f.step⟩,
           sealed := ⟨f.step.final, by rw [f.eofSend, hflag, Bool.or_true]⟩, rawOk := fun hraw hm => ?_ }
  · simp only [Trace.eofs] at q3 ⊢
    simp [hk, q3]
  · -- the parser has seen everything, so it is complete
    refine RawOk.step (d := { d with final := true }) r f.step (.inr ?_) hm
    obtain ⟨fed, -, -, hfed, -, hparser⟩ := f.inv
    rw [f.empty, List.take_zero, List.append_nil] at hfed
    rw [hparser hm, hfed]
    exact hraw (f.step.mode ▸ hm)

theorem Dev.run_fresh_good (isAsync full raw : Bool) (n : Nat) (ops : List DevOp) :
    DevGood (Dev.run (Dev.fresh isAsync full raw n, []) ops).1 (Dev.run (Dev.fresh isAsync full raw n, []) ops).2 (ops.map DevOp.data).flatten ∧
    (Dev.run (Dev.fresh isAsync full raw n, []) ops).1.rawMode = raw := by
  have ⟨hi0, hq0, hm0⟩ := Dev.fresh_inv isAsync full raw n [] rfl
  have ⟨g, hm, _, _⟩ := Dev.run_good ops _ [] [] ⟨hi0, hq0, fun _ => ⟨fun _ => ⟨rfl, rfl⟩, fun hd => nomatch hd⟩⟩
  exact ⟨g, hm.trans hm0⟩

/-- operations without data on a sealed device that has sent everything send no byte and no second eof -/
theorem Dev.run_sealed : ∀ (ops : List DevOp) (d : Dev) (k : Trace) (inp : Bytes), d.Inv k inp → Sealed d →
    k.bytes = filterOf d.rawMode inp → (∀ op ∈ ops, op.data = []) →
    (Dev.run (d, k) ops).1.Inv (Dev.run (d, k) ops).2 inp ∧ Sealed (Dev.run (d, k) ops).1 ∧
    (Dev.run (d, k) ops).2.eofs = k.eofs ∧ (Dev.run (d, k) ops).2.bytes = filterOf d.rawMode inp ∧
    (Dev.run (d, k) ops).1.rawMode = d.rawMode := by
  intro ops
  induction ops with
  | nil => intro d k inp hi hs hb _; exact ⟨hi, hs, rfl, hb, rfl⟩
  | cons op ops ih =>
    intro d k inp hi hs hb h
    have ⟨h1, s1⟩ := Dev.step_spec d k inp op hi
    rw [h op (by simp), List.append_nil] at h1
    have ⟨hs1, he1⟩ := hs.step s1
    have hb1 : (Dev.step (d, k) op).2.bytes = filterOf (Dev.step (d, k) op).1.rawMode inp := by
      rw [(hs.sends ⟨h1, s1⟩ hb).2, hb, s1.mode]
    have ⟨i1, i2, i3, i4, i5⟩ := ih _ _ inp h1 hs1 hb1 (fun o ho => h o (by simp [ho]))
    simp only [Dev.run, List.foldl_cons] at i1 i2 i3 i4 i5 ⊢
    exact ⟨i1, i2, i3.trans he1, by rw [i4, s1.mode], i5.trans s1.mode⟩

end Cppcms.C03
