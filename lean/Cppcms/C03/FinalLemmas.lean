import Cppcms.C03.Model
import Cppcms.C03.ScriptLemmas
import Cppcms.C03.WireLemmas
import Cppcms.C03.HttpLemmas
/-! Stage 1 ∘ stage 2: the predicted wire image of `runCase`.  `response_wire_calls` composes the stages at the level of `format_output`
calls; the three wire theorems read it through `Case.framer_run`, not through the structure `Framing` of `ChainLemmas.lean` (the abstract
form, which `Props.client_sees_app_bytes` alone uses). -/
namespace Cppcms.C03
open Cppcms

variable {D : Deflater}

theorem Framer.run_proto (cs : List (Bytes × Bool)) : ∀ (f : Framer),
    (f.run cs).2 = match f.proto with
      | .scgi => (scgiRun f.scgi (cs.map (·.1)), false)
      | .fcgi => (fcgiRun f.fcgi cs, false)
      | .http _ _ => httpRun f.http cs := by
  induction cs with
  | nil => intro f; cases f.proto <;> rfl
  | cons x cs ih =>
    intro f
    rw [Framer.run, ih]
    cases hp : f.proto with
    | scgi => rw [f.format_scgi hp]; simp only [hp]; rfl
    | fcgi => rw [f.format_fcgi hp]; simp only [hp]; rfl
    | http a c => rw [f.format_http hp]; simp only [hp]; rfl

theorem Framer.run_empties (m : Nat) (f : Framer) (hs : f.started = true) (hl : f.lenOk) :
    f.run (List.replicate m ([], false)) = (f, [], false) := by
  induction m with
  | zero => rfl
  | succ m ih =>
    rw [List.replicate_succ, Framer.run, Framer.format_empty f hs hl, ih]
    rfl

theorem Framer.run_trailing (f : Framer) (cs : List (Bytes × Bool)) (c : Bytes × Bool) (m : Nat) (hv : (f.run (cs ++ [c])).2.2 = false) :
    (f.run (cs ++ [c] ++ List.replicate m ([], false))).2 = (f.run (cs ++ [c])).2 := by
  have hst := Framer.format_started_lenOk (f.run cs).1 c.1 c.2
  have hrun := Framer.run_append cs [c] f
  simp only [Framer.run, List.append_nil, Bool.or_false] at hrun
  rw [hrun] at hv
  rw [Framer.run_append (cs ++ [c]), hrun, Framer.run_empties m _ hst.1 (hst.2 (Bool.or_eq_false_iff.1 hv).2)]
  simp only [List.append_nil, Bool.or_false]

/-- the header set that reaches the connection: what `out()` handed over, or — in the raw modes — what the
device parsed out of the application's own header block -/
def Resp.wireHeaders (r : Resp D) : Headers :=
  match r.sentHeaders with
  | some H => H
  | none => r.dev.raw.h

theorem Done.hdrShape {r : Resp D} {W Z : Bytes} (dn : Done r W Z) (hraw : r.mode.isRaw = true → (rawNext {} W).done = true) :
    HdrShape r.trace r.wireHeaders := by
  unfold Resp.wireHeaders
  by_cases hm : r.mode.isRaw = true
  · obtain ⟨_, hsent, _, hrawOk⟩ := dn.rawHdr hm
    obtain ⟨hnothing, hshape⟩ := hrawOk (hraw hm) (dn.mode.trans hm)
    rw [hsent]
    -- `RawOk`'s second clause is `HdrShape`; the parser is done, or not even the eof call would have been sent
    refine (hshape (Decidable.byContradiction fun hd => ?_) : HdrShape r.trace r.dev.raw.h)
    have := dn.eofs
    simp [Trace.eofs, (hnothing (by simpa using hd)).1] at this
  · obtain ⟨H, h1, h2⟩ := dn.hdr (by simpa using hm)
    rw [h1]
    exact h2

/-- in the asynchronous modes the context's last act is `async_write_response` (`wellFormed` scripts) -/
theorem runScript_async (cfg : Config) (cache : PageCache) (mode : Mode) (acceptGzip : Bool) (script : List Op)
    (hwf : wellFormed mode script = true) (ha : mode.isAsync = true) :
    ∃ t' : Trace, (runScript D cfg cache mode acceptGzip script).resp.trace = t' ++ [WEv.asyncFlush] := by
  have p0 : Phase (Resp.new D cfg mode acceptGzip) := Or.inl (Resp.new_fresh cfg mode acceptGzip)
  have ⟨p1, m1⟩ := Phase.fold script ({ resp := Resp.new D cfg mode acceptGzip, cache := cache } : Run D) p0 (fun _ => hwf)
  have ⟨_, _, hm, _⟩ := p1.finalize
  unfold runScript Resp.complete
  simp only [hm, m1, show (Resp.new D cfg mode acceptGzip).mode.isAsync = true from ha, if_true]
  exact ⟨_, rfl⟩

/-- the framing state `set_response_headers` leaves for header set `H` -/
def Case.framer (cs : Case) (H : Headers) : Framer := (Wire.init cs.proto cs.sched).fr.setHeaders H

/-- the properties of a run that do not depend on the protocol -/
structure WireOk (w : Wire) : Prop where
  noViolation : w.violated = false
  notGivenUp : w.gaveUp = false
  notBroken : w.conn.broken = false
  allSent : w.conn.backlog = []

/-- **stage 1 ∘ stage 2, at the level of `format_output` calls.**  For every `wellFormed` case, configuration and cache content: the response ends `Done`;
if in the raw modes the application's header block is complete, some `ws`, `last` have `ws.flatten ++ last` = the body that left the chain,
and unless `format_output` raises `protocol_violation` on `callsOf ws last`, `WireOk` and the wire holds exactly its results. -/
theorem response_wire_calls (cfg : Config) (cache : PageCache) (cs : Case) (hwf : wellFormed cs.mode cs.script = true) :
    ∃ Z, Done (runCaseWith D cfg cache cs).run.resp (runCaseWith D cfg cache cs).run.resp.written Z ∧
      (runCaseWith D cfg cache cs).run.resp.mode = cs.mode ∧
      ((cs.mode.isRaw = true → (rawNext {} (runCaseWith D cfg cache cs).run.resp.written).done = true) →
        ∃ ws last, ws.flatten ++ last = filterOf cs.mode.isRaw Z ∧
          (((cs.framer (runCaseWith D cfg cache cs).run.resp.wireHeaders).run (callsOf ws last)).2.2 = false →
            WireOk (runCaseWith D cfg cache cs).wire ∧
            (runCaseWith D cfg cache cs).wire.conn.wire =
              ((cs.framer (runCaseWith D cfg cache cs).run.resp.wireHeaders).run (callsOf ws last)).2.1)) := by
  obtain ⟨Z, dn, hmode⟩ := response_trace_spec (D := D) cfg cache cs.mode cs.gz cs.script hwf
  have hasync := runScript_async (D := D) cfg cache cs.mode cs.gz cs.script hwf
  rw [show (runCaseWith D cfg cache cs).wire =
      (Wire.init cs.proto cs.sched).replay (!cs.mode.isAsync) (runScript D cfg cache cs.mode cs.gz cs.script).resp.trace from rfl,
    show (runCaseWith D cfg cache cs).run = runScript D cfg cache cs.mode cs.gz cs.script from rfl]
  generalize (runScript D cfg cache cs.mode cs.gz cs.script).resp = r at *
  refine ⟨Z, dn, hmode, fun hraw => ?_⟩
  obtain ⟨ws, last, m, hcalls, hbody⟩ := dn.calls
  refine ⟨ws, last, hmode ▸ hbody, fun hnv => ?_⟩
  -- the empty calls after the eof call do not count
  have htr := Framer.run_trailing (cs.framer r.wireHeaders) _ _ m hnv
  rw [← hcalls] at htr
  have ⟨wi, wc, wp, wf⟩ := replay_spec cs.proto cs.sched (!cs.mode.isAsync) r.trace r.wireHeaders (dn.hdrShape (hmode ▸ hraw))
    (by rw [show ((Wire.init cs.proto cs.sched).fr.setHeaders r.wireHeaders) = cs.framer r.wireHeaders from rfl, htr]; exact hnv)
  generalize (Wire.init cs.proto cs.sched).replay (!cs.mode.isAsync) r.trace = w' at wi wc wp wf ⊢
  -- nothing pending at the end: a blocking write leaves nothing, an asynchronous response ends with its flush
  have hpend : w'.conn.pending = [] := by
    by_cases hasy : cs.mode.isAsync = true
    · obtain ⟨t', ht'⟩ := hasync hasy
      exact wf t' ht'
    · exact wp (by simpa using hasy)
  have hback : w'.conn.backlog = [] := by rw [Conn.backlog, wi.nofl, hpend]; rfl
  refine ⟨⟨wi.nov, wi.ngu, wi.nb, hback⟩, ?_⟩
  have hinv := wi.conn
  rw [Conn.Inv, hback, List.append_nil, wi.handed, wi.outs, wc] at hinv
  rw [hinv]
  exact congrArg (·.1) htr

/-- the value of `Framer.run` (what `Wire.replay` performs; state new theorems over it) by protocol, after `set_response_headers H` -/
def protoRun (proto : Proto) (H : Headers) (cs : List (Bytes × Bool)) : Bytes × Bool :=
  match proto with
  | .scgi => (scgiRun { headers := xcgiHeaders false H, headersWritten := false } (cs.map (·.1)), false)
  | .fcgi => (fcgiRun { reqId := 1, responseHeaders := xcgiHeaders false H, headersWritten := false } cs, false)
  | .http a c => httpRun (({ isHttp11 := a, clientKeepAlive := c } : HttpSt).setHeaders H) cs

/-- the bridge from `response_wire_calls` to the protocol's run function; also the equation `hF` of `Props.client_sees_app_bytes` for
`F.run = protoRun cs.proto H` (the `run` fields of the three `Framing`s of `ChainLemmas.lean`) -/
theorem Case.framer_run (cs : Case) (H : Headers) (calls : List (Bytes × Bool)) :
    ((cs.framer H).run calls).2 = protoRun cs.proto H calls := by
  rw [Framer.run_proto]
  unfold Case.framer Wire.init Framer.setHeaders protoRun
  cases cs.proto <;> rfl

/-- see `Props.response_wire_eq_scgi` -/
theorem response_wire_eq_scgi (cfg : Config) (cache : PageCache) (cs : Case) (hwf : wellFormed cs.mode cs.script = true)
    (hp : cs.proto = .scgi) :
    ∃ Z, Done (runCaseWith D cfg cache cs).run.resp (runCaseWith D cfg cache cs).run.resp.written Z ∧
      ((cs.mode.isRaw = true → (rawNext {} (runCaseWith D cfg cache cs).run.resp.written).done = true) →
        WireOk (runCaseWith D cfg cache cs).wire ∧
        (runCaseWith D cfg cache cs).wire.conn.wire =
          xcgiHeaders false (runCaseWith D cfg cache cs).run.resp.wireHeaders ++ filterOf cs.mode.isRaw Z) := by
  obtain ⟨Z, dn, _, rest⟩ := response_wire_calls (D := D) cfg cache cs hwf
  refine ⟨Z, dn, fun hraw => ?_⟩
  obtain ⟨ws, last, hbody, hw⟩ := rest hraw
  have hrun := cs.framer_run (runCaseWith D cfg cache cs).run.resp.wireHeaders (callsOf ws last)
  rw [hp] at hrun
  obtain ⟨wok, w5⟩ := hw (by rw [hrun]; rfl)
  refine ⟨wok, ?_⟩
  obtain ⟨x, xs, hx⟩ : ∃ x xs, (callsOf ws last).map (·.1) = x :: xs := by cases ws <;> exact ⟨_, _, rfl⟩
  rw [w5, hrun, protoRun, hx, scgiRun_fresh, ← hx, callsOf_fst, hbody]

end Cppcms.C03
