import Cppcms.C03.WireModel
import Cppcms.C03.ConnWriteLemmas
import Cppcms.C03.BuffersLemmas
/-! Stage 2: replaying a response's trace on the connection, for every socket schedule. -/
namespace Cppcms.C03
open Cppcms

/-- all `format_output` calls in order: final framing state, concatenated output, any `protocol_violation` -/
def Framer.run (f : Framer) : List (Bytes × Bool) → Framer × Bytes × Bool
  | [] => (f, [], false)
  | (bs, e) :: cs =>
    ((Framer.run (f.format bs e).1 cs).1, (f.format bs e).2.1 ++ (Framer.run (f.format bs e).1 cs).2.1,
      (f.format bs e).2.2 || (Framer.run (f.format bs e).1 cs).2.2)

theorem Framer.run_append (cs ds : List (Bytes × Bool)) : ∀ (f : Framer),
    f.run (cs ++ ds) = (((f.run cs).1.run ds).1, (f.run cs).2.1 ++ ((f.run cs).1.run ds).2.1, (f.run cs).2.2 || ((f.run cs).1.run ds).2.2) := by
  induction cs with
  | nil => intro f; simp [Framer.run]
  | cons c cs ih => intro f; simp only [List.cons_append, Framer.run, ih, List.append_assoc, Bool.or_assoc]

/-- the protocol's flag that its header block has gone out (`headersWritten`; HTTP: `headersDone`) -/
def Framer.started (f : Framer) : Bool :=
  match f.proto with
  | .scgi => f.scgi.headersWritten
  | .fcgi => f.fcgi.headersWritten
  | .http _ _ => f.http.headersDone

/-- HTTP with a fixed length: the body written so far does not exceed it -/
def Framer.lenOk (f : Framer) : Prop :=
  match f.proto with
  | .http _ _ => f.http.headersDone = true → f.http.chunked = false →
      Gen.overrun f.http.contentLength.isSome f.http.written (f.http.contentLength.getD 0) = false
  | _ => True

theorem httpFormat_done_lenOk (st : HttpSt) (bs : Bytes) (e : Bool) {r : HttpSt × Bytes × Bool} (hr : httpFormat st bs e = r) :
    r.1.headersDone = true ∧
    (r.2.2 = false → r.1.chunked = false → Gen.overrun r.1.contentLength.isSome r.1.written (r.1.contentLength.getD 0) = false) := by
  unfold httpFormat at hr
  split at hr
  · split at hr <;> subst hr
    · exact ⟨‹_›, fun _ h => by simp_all⟩
    · exact ⟨‹_›, fun h _ => h⟩
  · extract_lets st0 hdr auto cl hdr1 ka chunked hdr2 hdr3 at hr
    split at hr <;> subst hr
    · exact ⟨rfl, fun _ h => nomatch h⟩
    · exact ⟨rfl, fun h _ => h⟩

theorem Framer.format_scgi (f : Framer) (hp : f.proto = .scgi) (bs : Bytes) (e : Bool) :
    f.format bs e = ({ f with scgi := (scgiFormat f.scgi bs).1 }, (scgiFormat f.scgi bs).2, false) := by
  unfold Framer.format; simp only [hp]

theorem Framer.format_fcgi (f : Framer) (hp : f.proto = .fcgi) (bs : Bytes) (e : Bool) :
    f.format bs e = ({ f with fcgi := (fcgiFormat f.fcgi bs e).1 }, (fcgiFormat f.fcgi bs e).2, false) := by
  unfold Framer.format; simp only [hp]

theorem Framer.format_http (f : Framer) {a c : Bool} (hp : f.proto = .http a c) (bs : Bytes) (e : Bool) :
    f.format bs e = ({ f with http := (httpFormat f.http bs e).1 }, (httpFormat f.http bs e).2.1, (httpFormat f.http bs e).2.2) := by
  unfold Framer.format; simp only [hp]

theorem Framer.format_started_lenOk (f : Framer) (bs : Bytes) (e : Bool) :
    (f.format bs e).1.started = true ∧ ((f.format bs e).2.2 = false → (f.format bs e).1.lenOk) := by
  unfold Framer.started Framer.lenOk
  cases hp : f.proto with
  | scgi =>
    simp only [f.format_scgi hp, hp, implies_true, and_true]
    unfold scgiFormat; split <;> simp_all
  | fcgi => simp only [f.format_fcgi hp, hp, implies_true, and_true]; rfl
  | http a c =>
    simp only [f.format_http hp, hp]
    exact ⟨(httpFormat_done_lenOk f.http bs e rfl).1, fun hv _ => (httpFormat_done_lenOk f.http bs e rfl).2 hv⟩

/-- the empty, not completing call of `async_write_response` emits nothing once a call was made; in plain HTTP because adding 0 to
`written` cannot overrun a Content-Length respected so far (`lenOk`) -/
theorem Framer.format_empty (f : Framer) (hs : f.started = true) (hl : f.lenOk) : f.format [] false = (f, [], false) := by
  obtain ⟨p, ht, fc, sc⟩ := f
  cases p with
  | scgi =>
    have hs : sc.headersWritten = true := hs
    simp [Framer.format, scgiFormat, hs]
  | fcgi =>
    obtain ⟨id, rh, hw⟩ := fc
    have hs : hw = true := hs
    have : fcgiRecords id [] = [] := by unfold fcgiRecords; simp
    simp [Framer.format, fcgiFormat, hs, this]
  | http a c =>
    have hs : ht.headersDone = true := hs
    have hl : ht.chunked = false → _ := hl hs
    cases hch : ht.chunked
    · have hov := hl hch
      cases ht; simp_all [Framer.format, httpFormat]
    · cases ht; simp_all [Framer.format, httpFormat, chunkWrap]

theorem nextAns_hardErr (sched : List SchedItem) (total : Nat) (blocking : Bool) (ht : 1 ≤ total) :
    (nextAns sched total blocking).1.hardErr = false := by
  have ht' : (total == 0) = false := beq_false_of_ne (Nat.ne_of_gt ht)
  cases sched with
  | nil => exact ht'
  | cons it rest =>
    cases it with
    | accept k => by_cases hk : k = 0 <;> simp [nextAns, Ans.hardErr, hk]
    | wouldBlock => cases blocking <;> rfl
    | full => exact ht'

theorem blockingAnswers_err (sched : List SchedItem) (total : Nat) (ht : 1 ≤ total) :
    ∀ a ∈ blockingAnswers sched total, a.err = false := by
  intro a ha
  obtain ⟨it, _, rfl⟩ := List.mem_map.1 ha
  cases it with
  | accept k => by_cases hk : k = 0 <;> simp [Ans.err, hk]
  | wouldBlock => rfl
  | full => exact beq_false_of_ne (Nat.ne_of_gt ht)

/-- `drain`'s measure: a non-empty schedule loses an item; on the empty one the accept takes a byte or more -/
theorem nextAns_progress (sched : List SchedItem) (out : Bytes) (h : out ≠ []) :
    (nextAns sched out.length false).2.length + (out.length - (nextAns sched out.length false).1.taken out) < sched.length + out.length := by
  cases sched with
  | nil => simpa [nextAns, Ans.taken] using List.length_pos_iff.2 h
  | cons it rest =>
    rw [show (nextAns (it :: rest) out.length false).2 = rest by cases it <;> rfl, List.length_cons, Nat.add_right_comm]
    exact Nat.lt_succ_of_le (Nat.add_le_add_left (Nat.sub_le _ _) _)

theorem Wire.drain_idle (fuel : Nat) (w : Wire) (h : w.conn.inflight = none) : Wire.drain fuel w = w := by
  cases fuel with
  | zero => rfl
  | succ g => rw [Wire.drain, h]

theorem Wire.drain_spec : ∀ (fuel : Nat) (w : Wire), w.conn.Inv → w.conn.broken = false →
    w.sched.length + (w.conn.inflight.getD []).length < fuel →
    ∃ c s, Wire.drain fuel w = { w with conn := c, sched := s } ∧ c.Inv ∧ c.broken = false ∧ c.inflight = none ∧
      c.pending = w.conn.pending ∧ c.handed = w.conn.handed := by
  intro fuel
  induction fuel with
  | zero => exact fun _ _ _ h => absurd h (Nat.not_lt_zero _)
  | succ fuel ih =>
    intro w hinv hb hf
    rw [Wire.drain]
    cases hi : w.conn.inflight with
    | none => exact ⟨_, _, rfl, hinv, hb, hi, rfl, rfl⟩
    | some out =>
      rw [hi] at hf
      dsimp only [Option.getD_some] at hf ⊢
      have hstep := asyncStep_fst w.conn (nextAns w.sched out.length false).1 (out := out) (by rw [hi]; rfl) rfl
      have hinv1 := asyncStep_inv w.conn (nextAns w.sched out.length false).1 hinv
      by_cases hr : out.drop ((nextAns w.sched out.length false).1.taken out) = []
      · -- the handler completes
        rw [if_pos (Or.inl hr), hr, hb] at hstep
        rw [Wire.drain_idle _ _ (by rw [hstep])]
        exact ⟨_, _, rfl, hinv1 (by rw [hstep]; rfl), by rw [hstep]; rfl, by rw [hstep], by rw [hstep], by rw [hstep]⟩
      · -- it is re-armed, the measure smaller: no hard error, since something was in flight
        have hne : out ≠ [] := fun h => hr (by rw [h, List.drop_nil])
        rw [nextAns_hardErr _ _ _ (List.length_pos_iff.2 hne), hb] at hstep
        simp only [hr, Bool.false_eq_true, or_self, if_false, Bool.and_false, Bool.or_false] at hstep
        have ⟨c, s, e, i1, i2, i3, i4, i5⟩ := ih
          { w with conn := (asyncStep w.conn (nextAns w.sched out.length false).1).1, sched := (nextAns w.sched out.length false).2 }
          (hinv1 (by rw [hstep])) (by rw [hstep])
          (by simp only [hstep, Option.getD_some, List.length_drop]
              exact Nat.lt_of_lt_of_le (nextAns_progress w.sched out hne) (Nat.le_of_lt_succ hf))
        exact ⟨c, s, e, i1, i2, i3, by rw [i4, hstep], by rw [i5, hstep]⟩

/-- the connection between two events of the trace; `f0` is the framing state `set_response_headers` left.
Field names: `nb` not broken, `nofl` nothing in flight, `nov` no `protocol_violation`, `ngu` the device has not given up. -/
structure WInv (w : Wire) (f0 : Framer) : Prop where
  conn : w.conn.Inv
  nb : w.conn.broken = false
  nofl : w.conn.inflight = none
  handed : w.conn.handed = w.outs
  fr : w.fr = (f0.run w.calls).1
  outs : w.outs = (f0.run w.calls).2.1
  nov : w.violated = false
  ngu : w.gaveUp = false
  lenOk : w.fr.lenOk
  started : w.calls ≠ [] → w.fr.started = true

theorem WInv.pending_calls {w : Wire} {f0 : Framer} (i : WInv w f0) (h : w.conn.pending ≠ []) : w.calls ≠ [] := by
  intro hc
  have hh := i.conn
  rw [Conn.Inv, Conn.backlog, i.handed, i.outs, hc, i.nofl] at hh
  exact h (List.append_eq_nil_iff.1 (List.append_eq_nil_iff.1 hh).2).2

theorem Wire.send_ok (w : Wire) (blocking : Bool) (bs : Bytes) (e : Bool) (hv : (w.fr.format bs e).2.2 = false)
    (hi : w.conn.Inv) (hb : w.conn.broken = false) (hn : w.conn.inflight = none) :
    ∃ c s, (if blocking then w.sendBlocking bs e else w.sendNonblocking bs e) =
        ({ w with fr := (w.fr.format bs e).1, calls := w.calls ++ [(bs, e)], outs := w.outs ++ (w.fr.format bs e).2.1,
                  conn := c, sched := s }, true) ∧
      c.Inv ∧ c.broken = false ∧ c.inflight = none ∧ c.handed = w.conn.handed ++ (w.fr.format bs e).2.1 ∧
      (blocking = true → c.pending = []) := by
  generalize hr : w.fr.format bs e = r at hv ⊢
  cases blocking with
  | true =>
    simp only [if_true, Wire.sendBlocking, Wire.formatLogged, hr, hv, Bool.false_eq_true, if_false]
    have herr := fun hne => blockingAnswers_err w.sched (w.conn.pending ++ r.2.1).length (List.length_pos_iff.2 hne)
    generalize blockingAnswers w.sched (w.conn.pending ++ r.2.1).length = s at herr ⊢
    have ⟨h1, h2, h3, h4, h5⟩ := blockingWrite_ok w.conn r.2.1 s hn hi hb herr
    have h6 := blockingWrite_handed w.conn r.2.1 s
    generalize blockingWrite w.conn r.2.1 s = x at *
    exact ⟨x.1, _, by rw [h1], h2, h3, h4, h6, fun _ => h5⟩
  | false =>
    simp only [Bool.false_eq_true, if_false, Wire.sendNonblocking, Wire.formatLogged, hr, hv]
    split
    -- the write asks the socket (there is something to send); otherwise it is `nbWrite` with nothing taken
    · next hasks =>
      have hpos : 1 ≤ (w.conn.pending ++ r.2.1).length := List.length_pos_iff.2 (by simpa [nbWriteAsks] using hasks)
      have ⟨h1, h2, h3⟩ := nbWrite_inv w.conn r.2.1 (nextAns w.sched (w.conn.pending ++ r.2.1).length false).1 hn hi
      exact ⟨_, _, by rw [bne_iff_ne.2 (nbWrite_not_failed _ _ _ (nextAns_hardErr _ _ _ hpos))], h1, h3.trans hb, h2,
        nbWrite_handed _ _ _, nofun⟩
    · have ⟨h1, h2, h3⟩ := nbWrite_inv w.conn r.2.1 (.accept 0) hn hi
      exact ⟨_, _, rfl, h1, h3.trans hb, h2, nbWrite_handed _ _ _, nofun⟩

theorem WInv.send {w : Wire} {f0 : Framer} (i : WInv w f0) (blocking : Bool) (bs : Bytes) (e : Bool)
    (hnv : (f0.run (w.calls ++ [(bs, e)])).2.2 = false) :
    WInv (w.step blocking (.send bs e)) f0 ∧ (w.step blocking (.send bs e)).calls = w.calls ++ [(bs, e)] ∧
    (blocking = true → (w.step blocking (.send bs e)).conn.pending = []) := by
  have hrun := Framer.run_append w.calls [(bs, e)] f0
  simp only [Framer.run, List.append_nil, Bool.or_false, ← i.fr, ← i.outs] at hrun
  rw [hrun] at hnv
  have hfmt : (w.fr.format bs e).2.2 = false := (Bool.or_eq_false_iff.1 hnv).2
  have ⟨c, s, hs, cinv, cnb, cnofl, chanded, cpending⟩ := w.send_ok blocking bs e hfmt i.conn i.nb i.nofl
  have hst := Framer.format_started_lenOk w.fr bs e
  generalize hw' : w.step blocking (.send bs e) = w'
  simp only [Wire.step, if_neg (ne_true_of_eq_false i.ngu), hs, if_true] at hw'
  subst hw'
  exact ⟨{ conn := cinv, nb := cnb, nofl := cnofl, handed := by rw [chanded, i.handed], fr := by rw [hrun], outs := by rw [hrun],
           nov := i.nov, ngu := i.ngu, lenOk := hst.2 hfmt, started := fun _ => hst.1 }, rfl, cpending⟩

theorem WInv.asyncFlush {w : Wire} {f0 : Framer} (i : WInv w f0) (blocking : Bool) :
    WInv (w.step blocking .asyncFlush) f0 ∧ (w.step blocking .asyncFlush).calls = w.calls ∧
    (w.step blocking .asyncFlush).conn.pending = [] := by
  by_cases hp : w.conn.pending = []
  · have hstep : w.step blocking .asyncFlush = w := by simp [Wire.step, hp]
    rw [hstep]
    exact ⟨i, rfl, hp⟩
  · -- something is pending, so a call was made before and the empty `format_output` emits nothing (`format_empty`)
    have hfe := Framer.format_empty w.fr (i.started (i.pending_calls hp)) i.lenOk
    have hh := nextAns_hardErr w.sched w.conn.pending.length false (List.length_pos_iff.2 hp)
    generalize hw' : w.step blocking .asyncFlush = w'
    have hc : (w.gaveUp || w.conn.pending.isEmpty) = false := by rw [i.ngu]; simpa using hp
    simp [Wire.step, hc, hp, Wire.asyncWriteEmpty, hfe, nbWriteAsks] at hw'
    generalize nextAns w.sched w.conn.pending.length false = a at hh hw'
    -- `async_write` of no new data: without a hard error nothing stays in `pending_output_`
    have ⟨a1, a2⟩ := asyncWrite_inv w.conn [] a.1 i.nofl i.conn
    have ah := asyncWrite_handed w.conn [] a.1
    have ap := asyncWrite_pending w.conn [] a.1 hh
    generalize asyncWrite w.conn [] a.1 = x at *
    -- then the event loop, until the handler completes
    have ⟨c, s, e, dinv, dnb, dnofl, dpending, dhanded⟩ := Wire.drain_spec _ { w with conn := x.1, sched := a.2 } a1 (a2.trans i.nb)
      (Nat.lt_add_of_pos_right (by decide : 0 < 2))
    rw [← hw', e]
    exact ⟨{ conn := dinv, nb := dnb, nofl := dnofl, handed := by rw [dhanded, ah, List.append_nil]; exact i.handed, fr := i.fr,
             outs := i.outs, nov := i.nov, ngu := i.ngu, lenOk := i.lenOk, started := i.started }, rfl, dpending.trans ap⟩

theorem Wire.replay_append (blocking : Bool) (w : Wire) (t u : Trace) : w.replay blocking (t ++ u) = (w.replay blocking t).replay blocking u :=
  List.foldl_append

/-- the part of a trace after the header hand-over, without `protocol_violation` on its calls: the invariant is kept and the calls are
logged; nothing stays pending if the writes block (and nothing was pending) or the part ends with `async_write_response` -/
theorem WInv.replay : ∀ (c : Trace) (w : Wire) (f0 : Framer) (blocking : Bool), WInv w f0 → Trace.hdrs c = [] →
    (f0.run (w.calls ++ Trace.sends c)).2.2 = false →
    WInv (w.replay blocking c) f0 ∧ (w.replay blocking c).calls = w.calls ++ Trace.sends c ∧
    (blocking = true → w.conn.pending = [] → (w.replay blocking c).conn.pending = []) ∧
    (∀ c' : Trace, c = c' ++ [WEv.asyncFlush] → (w.replay blocking c).conn.pending = []) := by
  intro c
  induction c with
  | nil => exact fun w f0 blocking i _ _ => ⟨i, (List.append_nil _).symm, fun _ h => h, fun c' h => by simp at h⟩
  | cons ev c ih =>
    intro w f0 blocking i hh hnv
    -- one event, then the rest; `p1`: nothing is pending after the event if it is a blocking send or a flush
    obtain ⟨i1, c1, hs, p1⟩ : ∃ i1 : WInv (w.step blocking ev) f0, (w.step blocking ev).calls ++ Trace.sends c = w.calls ++ Trace.sends (ev :: c) ∧
        Trace.hdrs c = [] ∧ ((blocking = true ∨ ev = .asyncFlush) → (w.step blocking ev).conn.pending = []) := by
      cases ev with
      | send bs e =>
        have hnv1 : (f0.run (w.calls ++ [(bs, e)])).2.2 = false := by
          rw [show w.calls ++ Trace.sends (WEv.send bs e :: c) = (w.calls ++ [(bs, e)]) ++ Trace.sends c by simp [Trace.sends, WEv.asSend],
            Framer.run_append] at hnv
          exact (Bool.or_eq_false_iff.1 hnv).1
        have ⟨i1, c1, p1⟩ := i.send blocking bs e hnv1
        exact ⟨i1, by rw [c1, List.append_assoc]; rfl, hh, fun h => p1 (h.resolve_right (by simp))⟩
      | hdr h => simp [Trace.hdrs, WEv.asHdr] at hh
      | asyncFlush =>
        have ⟨i1, c1, p1⟩ := i.asyncFlush blocking
        exact ⟨i1, by rw [c1]; rfl, hh, fun _ => p1⟩
    have ⟨r1, r2, r3, r4⟩ := ih _ f0 blocking i1 hs (by rw [c1]; exact hnv)
    refine ⟨r1, r2.trans c1, fun hb _ => r3 hb (p1 (Or.inl hb)), fun c' hc' => ?_⟩
    cases c' with
    | nil => 
      obtain ⟨rfl, rfl⟩ := List.cons.inj hc'
      exact p1 (Or.inr rfl)
    | cons x c'' => exact r4 c'' (List.cons.inj hc').2

theorem replay_flush_only : ∀ (a : Trace) (w : Wire) (blocking : Bool), Trace.sends a = [] → Trace.hdrs a = [] →
    w.conn.pending = [] → w.replay blocking a = w := by
  intro a w blocking hs hh hp
  induction a with
  | nil => rfl
  | cons ev a ih =>
    cases ev with
    | send _ _ => simp [Trace.sends, WEv.asSend] at hs
    | hdr _ => simp [Trace.hdrs, WEv.asHdr] at hh
    | asyncFlush =>
      have hstep : w.step blocking .asyncFlush = w := by simp [Wire.step, hp]
      rw [Wire.replay, List.foldl_cons, hstep]
      exact ih hs hh

theorem Framer.setHeaders_lenOk (f : Framer) (h : Headers) (hd : f.http.headersDone = false) : (f.setHeaders h).lenOk := by
  unfold Framer.setHeaders Framer.lenOk
  cases f.proto with
  | http a c => exact fun hx => absurd (show f.http.headersDone = true from hx) (by simp [hd])
  | _ => trivial

/-- **stage 2.**  A trace that hands the header set `H` over before anything is sent, replayed on a fresh connection of any protocol under
any socket schedule, its calls not overrunning an announced Content-Length: nothing breaks or is given up, and `format_output` was applied
to exactly the calls of the trace from the state `set_response_headers(H)` left, its results handed to the write path in order;
none stays pending if the writes block or `async_write_response` comes last. -/
theorem replay_spec (proto : Proto) (sched : List SchedItem) (blocking : Bool) (t : Trace) (H : Headers) (hshape : HdrShape t H)
    (hnv : (((Wire.init proto sched).fr.setHeaders H).run t.sends).2.2 = false) :
    WInv ((Wire.init proto sched).replay blocking t) ((Wire.init proto sched).fr.setHeaders H) ∧
    ((Wire.init proto sched).replay blocking t).calls = t.sends ∧
    (blocking = true → ((Wire.init proto sched).replay blocking t).conn.pending = []) ∧
    (∀ t' : Trace, t = t' ++ [WEv.asyncFlush] → ((Wire.init proto sched).replay blocking t).conn.pending = []) := by
  obtain ⟨a, c, rfl, ha1, ha2, hc⟩ := hshape
  have hts : (a ++ WEv.hdr H :: c).sends = c.sends := by
    rw [Trace.sends, List.filterMap_append, show a.filterMap WEv.asSend = [] from ha1]; rfl
  have hi : WInv ((Wire.init proto sched).setHeaders H) ((Wire.init proto sched).fr.setHeaders H) :=
    { conn := by simp [Conn.Inv, Conn.backlog, Wire.setHeaders, Wire.init], nb := rfl, nofl := rfl, handed := rfl, fr := rfl, outs := rfl,
      nov := rfl, ngu := rfl, lenOk := Framer.setHeaders_lenOk _ H rfl, started := fun h => absurd rfl h }
  have ⟨r1, r2, r3, r4⟩ := WInv.replay c _ _ blocking hi hc (hts ▸ hnv)
  rw [Wire.replay_append, replay_flush_only a _ blocking ha1 ha2 rfl,
    show (Wire.init proto sched).replay blocking (WEv.hdr H :: c) = ((Wire.init proto sched).setHeaders H).replay blocking c from rfl]
  refine ⟨r1, r2.trans hts.symm, fun hb => r3 hb rfl, fun t' ht' => ?_⟩
  -- the last event of `t` is the last event of `c` (the header hand-over is not a flush)
  rcases List.eq_nil_or_concat c with hcn | ⟨c', x, hcx⟩
  · rw [hcn] at ht'
    simpa using congrArg List.getLast? ht'
  · rw [List.concat_eq_append] at hcx
    rw [hcx, show a ++ WEv.hdr H :: (c' ++ [x]) = (a ++ WEv.hdr H :: c') ++ [x] by simp] at ht'
    obtain ⟨_, hx⟩ := List.append_inj' ht' rfl
    exact r4 c' (by rw [hcx, List.singleton_inj.1 hx])

end Cppcms.C03
