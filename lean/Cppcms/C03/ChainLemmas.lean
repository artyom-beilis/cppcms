import Cppcms.C03.HttpLemmas
/-! The three protocols behind one interface (`Framing`), each with its round-trip theorem. -/
namespace Cppcms.C03
open Cppcms

/-! ### a framing protocol, abstractly -/

/-- what `Props.client_sees_app_bytes` asks of a protocol: running `format_output` over the calls of a finalized
response gives a wire image that the independent de-framer decodes to one head and the concatenated inputs -/
structure Framing where
  run : List (Bytes × Bool) → Bytes × Bool
  deframe : Bytes → Option (Bytes × Bytes)
  /-- side condition on the total body length (HTTP with an announced Content-Length) -/
  lengthOk : Nat → Prop
  roundtrip : ∀ (ws : List Bytes) (last : Bytes), lengthOk (ws.flatten ++ last).length →
    ∃ head, (run (callsOf ws last)).2 = false ∧ deframe (run (callsOf ws last)).1 = some (head, ws.flatten ++ last)

/-- HTTP, from the state `set_response_headers` prepared -/
def httpFraming (st : HttpSt) (l0 : Bytes) (rest0 : List Bytes) (h : HttpReady st l0 rest0) : Framing where
  run := httpRun st
  deframe := Spec.deHttp
  lengthOk := fun total => ∀ n, st.contentLength = some n → total = n
  roundtrip := by
    intro ws last hl
    obtain ⟨extras, enc, h1, h2⟩ := http_roundtrip_lemma st l0 rest0 h ws last hl
    exact ⟨_, by rw [h1], by rw [h1]; exact h2⟩

/-- FastCGI with a CGI header block `H` -/
def fcgiFraming (reqId : Nat) (hr : reqId < 65536) (H : Bytes) (hH : HeadOk H) : Framing where
  run := fun cs => (fcgiRun { reqId := reqId, responseHeaders := H, headersWritten := false } cs, false)
  deframe := Spec.deFcgi reqId
  lengthOk := fun _ => True
  roundtrip := by
    intro ws last _
    refine ⟨H, rfl, ?_⟩
    have hrun := fcgiRun_fresh reqId H ws last
    show Spec.deFcgi reqId (fcgiRun { reqId := reqId, responseHeaders := H, headersWritten := false } (ws.map (·, false) ++ [(last, true)])) = _
    rw [hrun]
    unfold Spec.deFcgi
    cases ws with
    | nil =>
      simp only [deRecords_fcgiWire reqId hr, fcgiStdoutStream_wire reqId hr]
      simp only [List.flatten_cons, List.flatten_nil, List.append_nil, List.nil_append]
      exact splitHead_append H last hH
    | cons w ws' =>
      simp only [deRecords_fcgiWire reqId hr, fcgiStdoutStream_wire reqId hr]
      have : ((H ++ w) :: ws' ++ [last]).flatten = H ++ ((w :: ws').flatten ++ last) := by simp [List.append_assoc]
      rw [this]
      exact splitHead_append H _ hH

/-- SCGI / CGI with a header block `H` -/
def scgiFraming (H : Bytes) (hH : HeadOk H) : Framing where
  run := fun cs => (scgiRun { headers := H, headersWritten := false } (cs.map (·.1)), false)
  deframe := Spec.deScgi
  lengthOk := fun _ => True
  roundtrip := by
    intro ws last _
    refine ⟨H, rfl, ?_⟩
    simp only
    have : (callsOf ws last).map (·.1) = ws ++ [last] := by
      simp only [callsOf, List.map_append, List.map_map, List.map_cons, List.map_nil]
      congr 1
      induction ws with
      | nil => rfl
      | cons w ws ih => simp only [List.map_cons, Function.comp]; rw [ih]
    rw [this]
    unfold Spec.deScgi
    cases ws with
    | nil =>
      rw [List.nil_append, scgiRun_fresh]
      simp only [List.flatten_cons, List.flatten_nil, List.append_nil, List.nil_append]
      exact splitHead_append H last hH
    | cons w ws' =>
      rw [List.cons_append, scgiRun_fresh]
      have : (w :: (ws' ++ [last])).flatten = (w :: ws').flatten ++ last := by simp [List.append_assoc]
      rw [this]
      exact splitHead_append H _ hH

end Cppcms.C03

namespace Cppcms.C03
open Cppcms

end Cppcms.C03
