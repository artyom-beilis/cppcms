import Cppcms.C03.HttpLemmas
import Cppcms.C03.HeadersLemmas
import Cppcms.C03.Response
/-! The header hypotheses of the HTTP theorems (`HttpHeadersOk`, `HeadersClean`) with the lemmas their derivations in `Props.lean` use, and
what the raw-mode parser makes of a block of ordinary header lines. -/
namespace Cppcms.C03
open Cppcms

/-- the `Status` entry, or the default `200 Ok` -/
def Headers.statusValue (H : Headers) : Bytes :=
  match mapFind (b Gen.statusName) H.map with
  | some (_, v) => v
  | none => b Gen.defaultStatus

/-- the status line `format_http_headers` writes -/
def httpStatusLine (http11 : Bool) (H : Headers) : Bytes :=
  b Gen.httpPrefix ++ b (if http11 then Gen.httpVersion11 else Gen.httpVersion10) ++ b Gen.httpVersionSep ++ H.statusValue

/-- what the application's header set must look like for an HTTP response to be well formed: no CR in the
status or in any `Name: value` line / added header / cookie, no Transfer-Encoding of its own, and a
Content-Length — if it sets one — that is the only one and a plain decimal number.  (cppcms does not
validate header values; injecting CR or a second Content-Length is the application's responsibility.) -/
structure HttpHeadersOk (H : Headers) : Prop where
  status : ∀ c ∈ H.statusValue, c ≠ 13
  lines : ∀ l ∈ H.lines (some (b Gen.statusName)), LineOk l
  noTE : Spec.fieldValues Spec.sTransferEncoding (H.lines (some (b Gen.statusName))) = []
  cl : (H.get sContentLengthName = [] ∧ Spec.fieldValues Spec.sContentLength (H.lines (some (b Gen.statusName))) = []) ∨
       (H.get sContentLengthName ≠ [] ∧
        Spec.fieldValues Spec.sContentLength (H.lines (some (b Gen.statusName))) = [H.get sContentLengthName] ∧
        Spec.parseDecNum (H.get sContentLengthName) = some (atoll (H.get sContentLengthName)))

theorem LineOk.append {p s : Bytes} (hp : LineOk p) (hs : ∀ c ∈ s, c ≠ 13) : LineOk (p ++ s) :=
  ⟨fun h0 => hp.1 (List.append_eq_nil_iff.1 h0).1, fun c hc => (List.mem_append.1 hc).elim (hp.2 c) (hs c)⟩

theorem lineOk_field {k v : Bytes} (hk : ∀ c ∈ k, c ≠ 13) (hv : ∀ c ∈ v, c ≠ 13) : LineOk (k ++ [58, 32] ++ v) := by
  refine LineOk.append ⟨by simp, fun c hc => ?_⟩ hv
  rcases List.mem_append.1 hc with hc | hc
  · exact hk c hc
  · exact (by decide : ∀ c ∈ ([58, 32] : Bytes), c ≠ 13) c hc

/-- the model's `ascii_to_lower` (range and shift extracted from the source) is the specification's -/
theorem lowerByte_spec (c : UInt8) : lowerByte c = Spec.lowerByte c := by
  have hc : (65 ≤ c ∧ c ≤ 90) ↔ (Gen.lowerLo ≤ c.toNat ∧ c.toNat ≤ Gen.lowerHi) := by
    rw [UInt8.le_iff_toNat_le, UInt8.le_iff_toNat_le]; rfl
  unfold lowerByte Spec.lowerByte
  by_cases h : Gen.lowerLo ≤ c.toNat ∧ c.toNat ≤ Gen.lowerHi
  · rw [if_pos h, if_pos (hc.2 h)]
    apply UInt8.toNat_inj.1
    rw [UInt8.toNat_ofNat', UInt8.toNat_add]
    simp only [Gen.lowerLo, Gen.lowerHi, Gen.lowerTo] at h ⊢
    have : (32 : UInt8).toNat = 32 := rfl
    omega
  · rw [if_neg h, if_neg (fun h' => h (hc.1 h'))]

theorem ieq_lower (k n : Bytes) : ieq k n = true ↔ Spec.lower k = Spec.lower n := by
  have h : ∀ s, foldName s = Spec.lower s := fun s => congrArg (List.map · s) (funext lowerByte_spec)
  rw [ieq_iff, h, h]

theorem fieldValues_map : ∀ (m : List (Bytes × Bytes)), Sorted m → (∀ kv ∈ m, ∀ c ∈ kv.1, c ≠ 58) → ∀ (n : Bytes),
    Spec.fieldValues (Spec.lower n) (m.map fun kv => kv.1 ++ [58, 32] ++ kv.2) =
      ((mapFind n m).map fun kv => kv.2.dropWhile Spec.isWs).toList := by
  intro m
  induction m with
  | nil => intro _ _ _; rfl
  | cons e rest ih =>
    intro hs hk n
    obtain ⟨k, v⟩ := e
    have hk0 : ∀ c ∈ k, c ≠ 58 := hk (k, v) (by simp)
    have ih' := ih hs.2 (fun kv h => hk kv (by simp [h])) n
    rw [List.map_cons, fieldValues_cons _ _ _ (parseField_line k v hk0), ih']
    by_cases hq : ieq k n = true
    · have hl := (ieq_lower k n).1 hq
      have hnone : mapFind n rest = none := mapFind_none_of_all_less rest k n hq hs.1
      simp only [mapFind, hq, if_true, hl, hnone, Option.map_some, Option.map_none, Option.toList_some, Option.toList_none,
        List.append_nil]
    · have hl : ¬ Spec.lower k = Spec.lower n := fun h => hq ((ieq_lower k n).2 h)
      simp only [mapFind, hq, Bool.false_eq_true, if_false, hl, List.nil_append]

theorem fieldValues_lines (H : Headers) (ok : H.Ok) (hkeys : ∀ kv ∈ H.map, ∀ c ∈ kv.1, c ≠ 58) (s n : Bytes)
    (hns : ieq n s = false) :
    Spec.fieldValues (Spec.lower n) (H.lines (some s)) =
      ((mapFind n H.map).map fun kv => kv.2.dropWhile Spec.isWs).toList ++ Spec.fieldValues (Spec.lower n) H.added := by
  rw [lines_skip, fieldValues_append,
    fieldValues_map _ (Sorted.filter _ _ ok) (fun kv h => hkeys kv (List.mem_filter.1 h).1) n, mapFind_filter_skip s _ n hns]

theorem atollAux_digits : ∀ (v : Bytes) (acc : Nat), (∀ c ∈ v, 48 ≤ c ∧ c ≤ 57) → Spec.parseDecAcc v acc = some (atollAux v acc) := by
  intro v
  induction v with
  | nil => intro acc _; rfl
  | cons c cs ih =>
    intro acc h
    have hc := h c (by simp)
    simp only [Spec.parseDecAcc, atollAux, hc, and_self, if_true]
    exact ih _ (fun x hx => h x (by simp [hx]))

theorem atoll_digits (v : Bytes) (hne : v ≠ []) (hd : ∀ c ∈ v, 48 ≤ c ∧ c ≤ 57) : Spec.parseDecNum v = some (atoll v) := by
  cases v with
  | nil => exact absurd rfl hne
  | cons c cs =>
    have hc := hd c (by simp)
    have hws : (c = 32 || (9 ≤ c && c ≤ 13)) = false := by
      have h1 : c ≠ 32 := by intro h; rw [h] at hc; exact absurd hc.1 (by decide)
      have h2 : ¬ (c ≤ 13) := by intro h; exact absurd (Nat.le_trans (UInt8.le_iff_toNat_le.1 hc.1) (UInt8.le_iff_toNat_le.1 h)) (by decide)
      simp [h1, h2]
    unfold Spec.parseDecNum atoll
    simp only [List.isEmpty_cons, Bool.false_eq_true, if_false, List.dropWhile_cons, hws]
    exact atollAux_digits (c :: cs) 0 hd

def sTransferEncodingName : Bytes := b [84,114,97,110,115,102,101,114,45,69,110,99,111,100,105,110,103]

/-- conditions on the header *container* (names, values, added lines) under which an HTTP response head is well formed:
a sorted map, no colon or CR in a name, no CR in a value or the status, clean added lines that are neither a Transfer-Encoding nor a
Content-Length, no Transfer-Encoding entry, and a Content-Length entry — if any — in plain decimal -/
structure HeadersClean (H : Headers) : Prop where
  ok : H.Ok
  keys : ∀ kv ∈ H.map, ∀ c ∈ kv.1, c ≠ 58 ∧ c ≠ 13
  vals : ∀ kv ∈ H.map, ∀ c ∈ kv.2, c ≠ 13
  added : ∀ l ∈ H.added, LineOk l
  addedTE : Spec.fieldValues Spec.sTransferEncoding H.added = []
  addedCL : Spec.fieldValues Spec.sContentLength H.added = []
  noTE : mapFind sTransferEncodingName H.map = none
  cl : ∀ kv, mapFind sContentLengthName H.map = some kv → kv.2 ≠ [] ∧ ∀ c ∈ kv.2, 48 ≤ c ∧ c ≤ 57

theorem isSpHt_of_isTokenChar (c : UInt8) (h : isTokenChar c = true) : isSpHt c = false := by
  cases hs : isSpHt c with
  | false => rfl
  | true =>
    have : c = 32 ∨ c = 9 := by simpa [isSpHt] using hs
    rcases this with rfl | rfl <;> exact absurd h (by decide)

theorem rawAddHeader_line (h : Headers) (k v : Bytes) (hk : k ≠ []) (htok : ∀ c ∈ k, isTokenChar c = true)
    (hsp : isSpecialName k = false) (hv : Scan.Stops isSpHt v) :
    rawAddHeader h (k ++ [58, 32] ++ v) = { h with added := h.added ++ [k ++ [58, 32] ++ v] } := by
  obtain ⟨c, cs, rfl⟩ := List.exists_cons_of_ne_nil hk
  have e : c :: cs ++ [58, 32] ++ v = (c :: cs) ++ 58 :: (32 :: v) := by simp
  have hd0 : ((c :: cs) ++ 58 :: (32 :: v)).dropWhile isSpHt = (c :: cs) ++ 58 :: (32 :: v) :=
    Scan.dropWhile_stops (Scan.stops_cons (isSpHt_of_isTokenChar _ (htok _ List.mem_cons_self)))
  have ⟨t1, t2⟩ := Scan.takeWhile_append_cons (c := 58) (32 :: v) htok (by decide)
  have h58 : (58 :: 32 :: v).dropWhile isSpHt = 58 :: 32 :: v := Scan.dropWhile_stops (Scan.stops_cons rfl)
  have h32 : (32 :: v).dropWhile isSpHt = v := by rw [List.dropWhile_cons_of_pos rfl, Scan.dropWhile_stops hv]
  rw [rawAddHeader, e, hd0]
  simp only [t1, t2, h58, h32, List.isEmpty_cons, Bool.false_eq_true, if_false, show Gen.rawLineKept = true from rfl, if_true]
  rw [Headers.add, show (Gen.addHeaderAsSet.map b).any (ieq (c :: cs)) = false from hsp, if_neg Bool.false_ne_true, lit_headerSep_lineEnd.2]
  simp
/-- an ordinary header line of a raw-mode block -/
structure RawLineOk (kv : Bytes × Bytes) : Prop where
  name : kv.1 ≠ []
  tok : ∀ c ∈ kv.1, isTokenChar c = true
  notSpecial : isSpecialName kv.1 = false
  value : ∀ c, kv.2.head? = some c → isSpHt c = false
  noCR : ∀ c ∈ kv.2, c ≠ 13

theorem rawAddHeader_fold : ∀ (ls : List (Bytes × Bytes)) (h : Headers), (∀ kv ∈ ls, RawLineOk kv) →
    (ls.map fun kv => kv.1 ++ [58, 32] ++ kv.2).foldl rawAddHeader h =
      { h with added := h.added ++ ls.map fun kv => kv.1 ++ [58, 32] ++ kv.2 } := by
  intro ls
  induction ls with
  | nil => intro h _; simp
  | cons kv rest ih =>
    intro h hok
    have o := hok kv (by simp)
    simp only [List.map_cons, List.foldl_cons]
    rw [rawAddHeader_line h kv.1 kv.2 o.name o.tok o.notSpecial o.value, ih _ (fun x hx => hok x (by simp [hx]))]
    simp

end Cppcms.C03
