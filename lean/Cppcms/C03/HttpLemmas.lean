import Cppcms.C03.FramingLemmas
import Cppcms.Lib.Scan
/-! HTTP: the response head as a list of lines, what an RFC 7230 client reads from it, and the
state machine `http::format_output` over a whole response. -/
namespace Cppcms.C03
open Cppcms

/-- header lines joined the way `format_http_headers` / `format_output` write them -/
def joinLines (ls : List Bytes) : Bytes := (ls.map (· ++ [13, 10])).flatten

/-- a header line as the server may write it: not empty, no CR inside -/
def LineOk (l : Bytes) : Prop := l ≠ [] ∧ ∀ c ∈ l, c ≠ 13

instance (l : Bytes) : Decidable (LineOk l) := inferInstanceAs (Decidable (_ ∧ _))

theorem joinLines_cons (l : Bytes) (ls : List Bytes) : joinLines (l :: ls) = l ++ [13, 10] ++ joinLines ls := by
  rw [joinLines, List.map_cons, List.flatten_cons]; rfl

theorem joinLines_append (a c : List Bytes) : joinLines (a ++ c) = joinLines a ++ joinLines c := by
  rw [joinLines, List.map_append, List.flatten_append]; rfl

theorem joinLines_singleton (l : Bytes) : joinLines [l] = l ++ [13, 10] := List.append_nil _

theorem joinLines_cons_end (l : Bytes) (ls : List Bytes) :
    joinLines (l :: ls) ++ [13, 10] = l ++ 13 :: 10 :: (joinLines ls ++ [13, 10]) := by
  rw [joinLines_cons, List.append_assoc, List.append_assoc]; rfl

theorem linesAux_join (ls : List Bytes) (h : ∀ l ∈ ls, ∀ c ∈ l, c ≠ 13) : ∀ (fuel : Nat) (acc : List Bytes), ls.length < fuel →
    Spec.linesAux fuel (joinLines ls ++ [13, 10]) acc = acc.reverse ++ ls ++ [[]] := by
  induction ls with
  | nil =>
    intro fuel acc hf
    cases fuel with
    | zero => cases hf
    | succ f =>
      rw [show joinLines [] ++ [13, 10] = [13, 10] from rfl, Spec.linesAux, show Spec.splitLine [13, 10] = some ([], []) from rfl]
      cases f <;> simp [Spec.linesAux, Spec.splitLine, Spec.splitLineAux]
  | cons l ls ih =>
    intro fuel acc hf
    cases fuel with
    | zero => cases hf
    | succ f =>
      rw [joinLines_cons_end, Spec.linesAux, splitLine_append l (h l List.mem_cons_self)]
      dsimp only
      rw [ih (fun x hx => h x (List.mem_cons_of_mem _ hx)) f _ (Nat.lt_of_succ_lt_succ hf), List.reverse_cons, List.append_assoc,
        List.append_assoc, List.append_assoc]
      rfl

theorem lines_head (ls : List Bytes) (h : ∀ l ∈ ls, ∀ c ∈ l, c ≠ 13) :
    Spec.lines (joinLines ls ++ [13, 10]) = ls ++ [[]] := by
  have hlen : ls.length ≤ (joinLines ls).length := by
    clear h
    induction ls with
    | nil => exact Nat.le_refl _
    | cons l ls ih => rw [joinLines_cons, List.length_append, List.length_append, List.length_cons]; simp only [List.length_cons]; omega
  rw [Spec.lines, linesAux_join ls h _ [] (Nat.lt_succ_of_le (Nat.le_trans hlen (by rw [List.length_append]; exact Nat.le_add_right _ _)))]
  rfl
theorem splitHeadAux_skip (xs : Bytes) (hx : ∀ c ∈ xs, c ≠ 13) (rest : Bytes) (acc : List UInt8) :
    Spec.splitHeadAux (xs ++ rest) acc = Spec.splitHeadAux rest (xs.reverse ++ acc) := by
  induction xs generalizing acc with
  | nil => rfl
  | cons x xs ih =>
    rw [List.cons_append, Spec.splitHeadAux, if_neg (startsCRLFCRLF_cons_ne (hx x List.mem_cons_self)),
      ih (fun c hc => hx c (List.mem_cons_of_mem _ hc)), List.reverse_cons, List.append_assoc]
    rfl

theorem splitHeadAux_crlf_then (y : UInt8) (hy : y ≠ 13) (rest : Bytes) (acc : List UInt8) :
    Spec.splitHeadAux (13 :: 10 :: y :: rest) acc = Spec.splitHeadAux (y :: rest) (10 :: 13 :: acc) := by
  have h1 : ¬ Spec.startsCRLFCRLF (13 :: 10 :: y :: rest) = true := fun h => by
    obtain ⟨_, hr⟩ := startsCRLFCRLF_iff.1 h
    exact hy (List.cons.inj (List.cons.inj (List.cons.inj hr).2).2).1
  rw [Spec.splitHeadAux, if_neg h1, Spec.splitHeadAux, if_neg (startsCRLFCRLF_cons_ne (by decide))]

theorem splitHeadAux_lines (ls : List Bytes) (hne : ls ≠ []) (hok : ∀ l ∈ ls, LineOk l) : ∀ (acc : List UInt8),
    Spec.splitHeadAux (joinLines ls ++ [13, 10]) acc = some (acc.reverse ++ (joinLines ls ++ [13, 10]), []) := by
  induction ls with
  | nil => exact absurd rfl hne
  | cons l ls ih =>
    intro acc
    rw [joinLines_cons_end, splitHeadAux_skip l (hok l List.mem_cons_self).2]
    cases ls with
    | nil =>
      rw [show (13 : UInt8) :: 10 :: (joinLines [] ++ [13, 10]) = [13, 10, 13, 10] from rfl, Spec.splitHeadAux,
        if_pos (startsCRLFCRLF_iff.2 ⟨[], rfl⟩), List.reverse_append, List.reverse_reverse, List.append_assoc]
      rfl
    | cons l2 t =>
      -- the next line starts with a byte that is not a CR
      have ⟨hne2, hcr⟩ := hok l2 (List.mem_cons_of_mem _ List.mem_cons_self)
      obtain ⟨y, l2', rfl⟩ := List.exists_cons_of_ne_nil hne2
      have ih := ih (List.cons_ne_nil _ _) (fun x hx => hok x (List.mem_cons_of_mem _ hx)) (10 :: 13 :: (l.reverse ++ acc))
      rw [joinLines_cons_end, List.cons_append] at ih ⊢
      rw [splitHeadAux_crlf_then y (hcr y List.mem_cons_self), ih]
      simp

theorem headOk_lines (ls : List Bytes) (hne : ls ≠ []) (hok : ∀ l ∈ ls, LineOk l) : HeadOk (joinLines ls ++ [13, 10]) :=
  splitHeadAux_lines ls hne hok []

def serverLine : Bytes := (b Gen.serverHeader).take ((b Gen.serverHeader).length - 2)
def keepAliveLine : Bytes := (b Gen.connKeepAlive).take ((b Gen.connKeepAlive).length - 2)
def closeLine : Bytes := (b Gen.connClose).take ((b Gen.connClose).length - 2)
def teLine : Bytes := (b Gen.teChunked).take ((b Gen.teChunked).length - 2)
def clLine (n : Nat) : Bytes := b Gen.contentLengthName ++ decDigits n
/-- the connection line `format_output` chooses -/
def connLine (ka : Bool) : Bytes := if ka then keepAliveLine else closeLine

/-- below the application's own lines: `Server`, the Content-Length `format_output` computed itself (if it did), `Connection`,
and `Transfer-Encoding: chunked` (if it chose that) -/
def addedLines (auto : Option Nat) (ka chunked : Bool) : List Bytes :=
  [serverLine] ++ (auto.map clLine).toList ++ [connLine ka] ++ (if chunked then [teLine] else [])

theorem lit_server : b Gen.serverHeader = serverLine ++ [13, 10] := by decide +kernel
theorem lit_conn (ka : Bool) : b (if ka then Gen.connKeepAlive else Gen.connClose) = connLine ka ++ [13, 10] := by cases ka <;> decide +kernel
theorem lit_te : b Gen.teChunked = teLine ++ [13, 10] := by decide +kernel
theorem lit_crlf : b Gen.crlf = [13, 10] ∧ b Gen.headersEnd = [13, 10] := by decide +kernel

/-- the if-cascade of `format_output` over the prepared head `P` (`X`: after `Server` and the computed Content-Length) writes `addedLines`,
then the blank line -/
theorem addedLines_bytes (P : Bytes) (au : Bool) (n : Nat) (ka chunked : Bool) (hck : chunked = true → ka = true) {X : Bytes}
    (hX : (if au then P ++ b Gen.serverHeader ++ b Gen.contentLengthName ++ decDigits n ++ b Gen.crlf else P ++ b Gen.serverHeader) = X) :
    (if ka then (if chunked then X ++ b Gen.connKeepAlive ++ b Gen.teChunked else X ++ b Gen.connKeepAlive) else X ++ b Gen.connClose) ++
      b Gen.headersEnd =
    P ++ joinLines (addedLines (if au then some n else none) ka chunked) ++ [13, 10] := by
  have hs : X = P ++ joinLines ([serverLine] ++ ((if au then some n else none).map clLine).toList) := by
    rw [← hX, lit_server, lit_crlf.1]
    cases au
    · exact (congrArg (P ++ ·) (joinLines_singleton _)).symm
    · rw [if_pos rfl, if_pos rfl, joinLines_append, joinLines_singleton, show ((some n).map clLine).toList = [clLine n] from rfl,
        joinLines_singleton, clLine]
      simp only [List.append_assoc]
  have e1 := lit_conn true
  have e2 := lit_conn false
  rw [if_pos rfl] at e1
  rw [if_neg Bool.false_ne_true] at e2
  rw [addedLines, joinLines_append, joinLines_append, joinLines_singleton, hs, lit_crlf.2, e1, e2, lit_te]
  cases ka <;> cases chunked
  · -- `Connection: close`
    simp only [Bool.false_eq_true, if_false, List.append_assoc]; rfl
  · -- chunked without keep-alive does not occur
    exact absurd (hck rfl) Bool.false_ne_true
  · -- `Connection: keep-alive`
    simp only [Bool.false_eq_true, if_false, if_true, List.append_assoc]; rfl
  · -- `Connection: keep-alive`, `Transfer-Encoding: chunked`
    simp only [if_true, List.append_assoc, joinLines_singleton]

theorem clLine_ok (n : Nat) : LineOk (clLine n) := by
  refine ⟨by simp [clLine, b, Gen.contentLengthName], fun c hc => ?_⟩
  rcases List.mem_append.1 hc with h | h
  · exact (by decide +kernel : LineOk (b Gen.contentLengthName)).2 c h
  · intro h13
    exact absurd (h13 ▸ (decDigits_all n c h).1) (by decide)

theorem addedLines_ok (auto : Option Nat) (ka chunked : Bool) : ∀ l ∈ addedLines auto ka chunked, LineOk l := by
  intro l hl
  rw [addedLines, List.mem_append, List.mem_append, List.mem_append, List.mem_singleton, List.mem_singleton] at hl
  rcases hl with ((rfl | hl) | rfl) | hl
  · decide +kernel
  · cases auto with
    | none => cases hl
    | some n => rw [List.mem_singleton.1 hl]; exact clLine_ok n
  · cases ka <;> decide +kernel
  · cases chunked with
    | false => cases hl
    | true => rw [List.mem_singleton.1 hl]; decide +kernel

theorem fieldValues_append (name : Bytes) (a c : List Bytes) :
    Spec.fieldValues name (a ++ c) = Spec.fieldValues name a ++ Spec.fieldValues name c :=
  List.filterMap_append

theorem fieldValues_cons (name l : Bytes) (ls : List Bytes) {n v : Bytes} (h : Spec.parseField l = some (n, v)) :
    Spec.fieldValues name (l :: ls) = (if n = name then [v] else []) ++ Spec.fieldValues name ls := by
  rw [Spec.fieldValues, List.filterMap_cons, h]
  by_cases hn : n = name
  · simp only [hn, if_true]; rfl
  · simp only [hn, if_false]; rfl

theorem isWs_of_digit {c : UInt8} (h : 48 ≤ c ∧ c ≤ 57) : Spec.isWs c = false := by
  have h1 : c ≠ 32 := fun e => absurd (e ▸ h.1) (by decide)
  have h2 : c ≠ 9 := fun e => absurd (e ▸ h.1) (by decide)
  simp [Spec.isWs, h1, h2]

theorem parseField_line (k v : Bytes) (hk : ∀ c ∈ k, c ≠ 58) :
    Spec.parseField (k ++ [58, 32] ++ v) = some (Spec.lower k, v.dropWhile Spec.isWs) := by
  have ⟨t1, t2⟩ := Scan.takeWhile_append_cons (p := (· ≠ 58)) (c := 58) (32 :: v) (fun c hc => decide_eq_true (hk c hc)) (by decide)
  rw [Spec.parseField, show k ++ [58, 32] ++ v = k ++ 58 :: (32 :: v) by simp]
  simp only [t1, t2]
  rw [List.dropWhile_cons_of_pos (by decide)]

theorem parseField_cl (n : Nat) : Spec.parseField (clLine n) = some (Spec.sContentLength, decDigits n) := by
  obtain ⟨d, ds, hd⟩ := List.exists_cons_of_ne_nil (digits_ne_nil 10 (by decide) n)
  have hws := isWs_of_digit (decDigits_all n d (by rw [decDigits, hd]; exact List.mem_cons_self))
  -- the line is `Content-Length: ` followed by a value that starts with a digit
  rw [clLine, show b Gen.contentLengthName = [67,111,110,116,101,110,116,45,76,101,110,103,116,104] ++ [58, 32] from by decide +kernel,
    parseField_line _ _ (by decide), decDigits, hd, List.dropWhile_cons_of_neg (by rw [hws]; exact Bool.false_ne_true)]
  rfl

theorem fieldValues_addedLines (auto : Option Nat) (ka chunked : Bool) :
    Spec.fieldValues Spec.sTransferEncoding (addedLines auto ka chunked) = (if chunked then [Spec.sChunked] else []) ∧
    Spec.fieldValues Spec.sContentLength (addedLines auto ka chunked) = (auto.map decDigits).toList := by
  have hs : Spec.fieldValues Spec.sTransferEncoding [serverLine] = [] ∧ Spec.fieldValues Spec.sContentLength [serverLine] = [] := by decide +kernel
  have hc : Spec.fieldValues Spec.sTransferEncoding [connLine ka] = [] ∧ Spec.fieldValues Spec.sContentLength [connLine ka] = [] := by
    cases ka <;> decide +kernel
  have ht : Spec.fieldValues Spec.sTransferEncoding [teLine] = [Spec.sChunked] ∧ Spec.fieldValues Spec.sContentLength [teLine] = [] := by decide +kernel
  have hl : ∀ n, Spec.fieldValues Spec.sTransferEncoding [clLine n] = [] ∧ Spec.fieldValues Spec.sContentLength [clLine n] = [decDigits n] :=
    fun n => ⟨by rw [fieldValues_cons _ _ _ (parseField_cl n), if_neg (by decide)]; rfl,
      by rw [fieldValues_cons _ _ _ (parseField_cl n), if_pos rfl]; rfl⟩
  simp only [addedLines, fieldValues_append, hs, hc]
  cases auto <;> cases chunked <;> simp [ht, hl, show ∀ n, Spec.fieldValues n [] = [] from fun _ => rfl]

/-- output and `protocol_violation` flag of a sequence of `format_output(input, completed)` calls -/
def httpRun : HttpSt → List (Bytes × Bool) → Bytes × Bool
  | _, [] => ([], false)
  | st, (w, e) :: cs =>
    let r := httpFormat st w e
    let r2 := httpRun r.1 cs
    (r.2.1 ++ r2.1, r.2.2 || r2.2)

/-- calls as the device issues them for a finalized response: eof exactly once, with the last write -/
def callsOf (ws : List Bytes) (last : Bytes) : List (Bytes × Bool) := ws.map (·, false) ++ [(last, true)]

/-- what `set_response_headers` left in the connection before the first `format_output`:
the application's status line and header lines, and the Content-Length it announced (if any) -/
structure HttpReady (st : HttpSt) (l0 : Bytes) (rest0 : List Bytes) : Prop where
  fresh : st.headersDone = false
  hdr : st.responseHeaders = joinLines (l0 :: rest0)
  status : l0.take 5 = Spec.sHttpSlash
  ok : ∀ l ∈ l0 :: rest0, LineOk l
  noTE : Spec.fieldValues Spec.sTransferEncoding rest0 = []
  cl : (st.contentLength = none ∧ Spec.fieldValues Spec.sContentLength rest0 = []) ∨
       (∃ n v, st.contentLength = some n ∧ Spec.fieldValues Spec.sContentLength rest0 = [v] ∧ Spec.parseDecNum v = some n)
  written0 : st.written = 0
  /-- the status line carries the version `set_response_headers` chose from `is_http_11_` -/
  version : st.isHttp11 = true → l0.take 8 = Spec.sHttp11

/-- the first `format_output` call, from what `set_response_headers` prepared: `au` — compute the Content-Length itself (complete
response that announced none); `ka` — keep-alive; `chunked` — keep-alive possible and no length known -/
theorem httpFormat_first {st : HttpSt} {l0 : Bytes} {rest0 : List Bytes} (h : HttpReady st l0 rest0) (x : Bytes) (e : Bool)
    {au : Bool} (hau : Gen.autoContentLength st.contentLength.isSome e = au)
    {cl : Option Nat} (hcl : (if au then some x.length else st.contentLength) = cl)
    {ka chunked : Bool} (hka : Gen.keepAliveCond st.clientKeepAlive st.errorState cl.isSome st.isHttp11 = ka)
    (hch : (ka && Gen.chunkedCond cl.isSome) = chunked) :
    httpFormat st x e =
      ({ st with contentLength := cl, keepAlive := ka, chunked := chunked, headersDone := true,
                 responseHeaders := joinLines (l0 :: (rest0 ++ addedLines (if au then some x.length else none) ka chunked)) ++ [13, 10],
                 written := if chunked then 0 else x.length },
       joinLines (l0 :: (rest0 ++ addedLines (if au then some x.length else none) ka chunked)) ++ [13, 10] ++
         (if chunked then chunkWrap x e else x),
       !chunked && Gen.overrun cl.isSome x.length (cl.getD 0)) := by
  have hne : (joinLines (l0 :: rest0)).isEmpty = false := by rw [joinLines_cons]; simp
  have hb := addedLines_bytes (joinLines (l0 :: rest0)) au x.length ka chunked (by rw [← hch]; simp +contextual) rfl
  rw [← joinLines_append, List.cons_append] at hb
  unfold httpFormat
  simp only [h.fresh, hne, Bool.false_eq_true, if_false, hau, hcl, hka, hch, h.written0, Nat.zero_add, h.hdr, hb]
  cases chunked <;> rfl

theorem httpRun_chunked : ∀ (cs : List (Bytes × Bool)) (st : HttpSt), st.headersDone = true → st.chunked = true →
    httpRun st cs = ((cs.map fun c => chunkWrap c.1 c.2).flatten, false) := by
  intro cs st h1 h2
  induction cs with
  | nil => rfl
  | cons c cs ih =>
    obtain ⟨w, e⟩ := c
    have hf : httpFormat st w e = (st, chunkWrap w e, false) := by simp [httpFormat, h1, h2]
    rw [httpRun, hf]
    dsimp only
    rw [ih]
    rfl

theorem httpRun_plain : ∀ (cs : List (Bytes × Bool)) (st : HttpSt), st.headersDone = true → st.chunked = false →
    (∀ n, st.contentLength = some n → st.written + (cs.map (·.1)).flatten.length ≤ n) →
    httpRun st cs = ((cs.map (·.1)).flatten, false) := by
  intro cs
  induction cs with
  | nil => exact fun _ _ _ _ => rfl
  | cons c cs ih =>
    intro st h1 h2 h3
    obtain ⟨w, e⟩ := c
    have hv : Gen.overrun st.contentLength.isSome (st.written + w.length) (st.contentLength.getD 0) = false := by
      cases hc : st.contentLength with
      | none => rfl
      | some n => have := h3 n hc; simp [Gen.overrun] at this ⊢; omega
    have hf : httpFormat st w e = ({ st with written := st.written + w.length }, w, false) := by simp [httpFormat, h1, h2, hv]
    rw [httpRun, hf]
    dsimp only
    rw [ih { st with written := st.written + w.length } h1 h2 (fun n hn => by have := h3 n hn; simp at this ⊢; omega)]
    rfl

theorem deHttp_lines (l0 : Bytes) (ls : List Bytes) (hhttp : l0.take 5 = Spec.sHttpSlash) (hok : ∀ l ∈ l0 :: ls, LineOk l) (enc : Bytes)
    (hver : Spec.framingOf (Spec.fieldValues Spec.sTransferEncoding ls) (Spec.fieldValues Spec.sContentLength ls) = some .chunked →
      l0.take 8 = Spec.sHttp11) :
    Spec.deHttp (joinLines (l0 :: ls) ++ [13, 10] ++ enc) =
      Spec.deBody (Spec.framingOf (Spec.fieldValues Spec.sTransferEncoding ls) (Spec.fieldValues Spec.sContentLength ls))
        (joinLines (l0 :: ls) ++ [13, 10]) enc := by
  -- the first bytes of the head are those of the status line
  have htake : ∀ n, n ≤ l0.length → (joinLines (l0 :: ls) ++ [13, 10]).take n = l0.take n := fun n hn => by
    rw [joinLines_cons, List.append_assoc, List.append_assoc, List.take_append_of_le_length hn]
  have hlen : ∀ {n : Nat} {s : Bytes}, l0.take n = s → s.length = n → n ≤ l0.length := fun h hs => by
    have := congrArg List.length h
    rw [List.length_take, hs] at this
    omega
  have hfr : Spec.httpFraming (joinLines (l0 :: ls) ++ [13, 10]) =
      Spec.framingOf (Spec.fieldValues Spec.sTransferEncoding ls) (Spec.fieldValues Spec.sContentLength ls) := by
    rw [Spec.httpFraming, lines_head _ (fun l hl => (hok l hl).2)]
    simp only [List.cons_append, List.drop_succ_cons, List.drop_zero, fieldValues_append]
    rw [show Spec.fieldValues Spec.sTransferEncoding [[]] = [] from rfl, show Spec.fieldValues Spec.sContentLength [[]] = [] from rfl,
      List.append_nil, List.append_nil]
  rw [Spec.deHttp, splitHead_append _ enc (headOk_lines _ (List.cons_ne_nil _ _) hok)]
  simp only [htake 5 (hlen hhttp rfl), hhttp, ne_eq, not_true_eq_false, if_false, hfr]
  split
  -- this branch is "chunked framing but not `HTTP/1.1`", which `hver` excludes
  · next hc =>
    exact absurd (htake 8 (hlen (hver hc.1) rfl) ▸ hver hc.1) hc.2
  · rfl

theorem callsOf_fst (ws : List Bytes) (last : Bytes) : ((callsOf ws last).map (·.1)).flatten = ws.flatten ++ last := by
  simp [callsOf, Function.comp_def]

theorem callsOf_chunks (ws : List Bytes) (last : Bytes) :
    ((callsOf ws last).map fun c => chunkWrap c.1 c.2).flatten = (ws.map fun w => chunkWrap w false).flatten ++ chunkWrap last true := by
  simp [callsOf, Function.comp_def]

/-- see `Props.framing_roundtrip_http` -/
theorem http_roundtrip_lemma (st : HttpSt) (l0 : Bytes) (rest0 : List Bytes) (h : HttpReady st l0 rest0)
    (ws : List Bytes) (last : Bytes)
    (hlen : ∀ n, st.contentLength = some n → (ws.flatten ++ last).length = n) :
    ∃ extras enc, httpRun st (callsOf ws last) = (joinLines (l0 :: (rest0 ++ extras)) ++ [13, 10] ++ enc, false) ∧
      Spec.deHttp (joinLines (l0 :: (rest0 ++ extras)) ++ [13, 10] ++ enc) =
        some (joinLines (l0 :: (rest0 ++ extras)) ++ [13, 10], ws.flatten ++ last) := by
  -- the first call `(x, e)`, which sends the head, and the others; only a single call is `completed` at once
  obtain ⟨x, e, cs, hcs, hx⟩ : ∃ x e cs, callsOf ws last = (x, e) :: cs ∧ (e = true → ws.flatten ++ last = x ∧ cs = []) := by
    cases ws with
    | nil => exact ⟨last, true, [], rfl, fun _ => ⟨rfl, rfl⟩⟩
    | cons w ws' => exact ⟨w, false, callsOf ws' last, rfl, fun h => nomatch h⟩
  have hbody := callsOf_fst ws last
  have hchunks := callsOf_chunks ws last
  rw [hcs] at hbody hchunks ⊢
  generalize hau : Gen.autoContentLength st.contentLength.isSome e = au
  generalize hcl : (if au then some x.length else st.contentLength) = cl
  generalize hka : Gen.keepAliveCond st.clientKeepAlive st.errorState cl.isSome st.isHttp11 = ka
  generalize hch : (ka && Gen.chunkedCond cl.isSome) = chunked
  have hf := httpFormat_first h x e hau hcl hka hch
  have ⟨fTE, fCL⟩ := fieldValues_addedLines (if au then some x.length else none) ka chunked
  have hokE := addedLines_ok (if au then some x.length else none) ka chunked
  generalize addedLines (if au then some x.length else none) ka chunked = E at hf fTE fCL hokE
  -- a length is known (`cl`), by announcement or because the response is complete, or not; the client sees the same, and the
  -- body has that length
  have key : (cl = none ∧ Spec.fieldValues Spec.sContentLength (rest0 ++ E) = []) ∨
      (∃ n v, cl = some n ∧ Spec.fieldValues Spec.sContentLength (rest0 ++ E) = [v] ∧ Spec.parseDecNum v = some n ∧
        (ws.flatten ++ last).length = n) := by
    rw [fieldValues_append, fCL]
    rcases h.cl with ⟨hc, hv0⟩ | ⟨n, v, hc, hv0, hp⟩
    · obtain rfl : e = au := by simpa [Gen.autoContentLength, hc] using hau
      cases e with
      | false => exact Or.inl ⟨by rw [← hcl, hc]; rfl, by rw [hv0]; rfl⟩
      | true => exact Or.inr ⟨_, _, hcl.symm, by rw [hv0]; rfl, parseDecNum_decDigits _, by rw [(hx rfl).1]⟩
    · obtain rfl : au = false := by simpa [Gen.autoContentLength, hc] using hau.symm
      exact Or.inr ⟨n, v, by rw [← hcl, hc]; rfl, by rw [hv0]; rfl, hp, hlen n hc⟩
  have hTE : Spec.fieldValues Spec.sTransferEncoding (rest0 ++ E) = if chunked then [Spec.sChunked] else [] := by
    rw [fieldValues_append, h.noTE, fTE]; rfl
  have hok := fun l (hl : l ∈ l0 :: (rest0 ++ E)) => by
    rw [← List.cons_append] at hl
    exact (List.mem_append.1 hl).elim (h.ok l) (hokE l)
  refine ⟨E, if chunked then (ws.map fun w => chunkWrap w false).flatten ++ chunkWrap last true else ws.flatten ++ last, ?_, ?_⟩
  · -- what is sent
    rw [httpRun, hf]
    dsimp only
    cases chunked with
    | true => rw [httpRun_chunked cs _ rfl rfl, ← hchunks]; simp
    | false =>
      have hfit : ∀ n, cl = some n → x.length + (cs.map (·.1)).flatten.length ≤ n := fun n hn => by
        rcases key with ⟨hc, -⟩ | ⟨m, _, hc, -, -, hm⟩
        · rw [hc] at hn; cases hn
        · obtain rfl : m = n := Option.some.inj (hc.symm.trans hn)
          rw [← hbody, List.map_cons, List.flatten_cons, List.length_append] at hm
          exact Nat.le_of_eq hm
      rw [httpRun_plain cs _ rfl rfl hfit, ← hbody]
      have hov : Gen.overrun cl.isSome x.length (cl.getD 0) = false := by
        cases hc : cl with
        | none => rfl
        | some n => have := hfit n hc; simp [Gen.overrun]; omega
      simp [hov]
  · -- what the client reads
    cases chunked with
    | true =>
      -- chunked: keep-alive without a known length, which takes HTTP/1.1
      have hnone : cl = none := by simpa [Gen.chunkedCond] using (Bool.and_eq_true_iff.1 hch).2
      have h11 : st.isHttp11 = true := by
        have := (Bool.and_eq_true_iff.1 hch).1
        rw [← hka, hnone] at this
        simpa [Gen.keepAliveCond] using (Bool.and_eq_true_iff.1 this).2
      obtain ⟨-, hCL⟩ | ⟨_, _, hc, -⟩ := key
      · rw [deHttp_lines l0 _ h.status hok _ (fun _ => h.version h11), hTE, hCL]
        have := deChunked_body ws last []
        rw [List.append_nil] at this
        simp only [Spec.framingOf, show Spec.lower Spec.sChunked = Spec.sChunked from by decide, if_true, Spec.deBody, this]
      · rw [hnone] at hc; cases hc
    | false =>
      obtain ⟨-, hCL⟩ | ⟨n, v, -, hCL, hp, hl⟩ := key
      · rw [deHttp_lines l0 _ h.status hok _ (by rw [hTE, hCL]; exact fun h => nomatch h), hTE, hCL]
        rfl
      · rw [deHttp_lines l0 _ h.status hok _ (by rw [hTE, hCL]; simp [Spec.framingOf]), hTE, hCL]
        simp [Spec.framingOf, hp, Spec.deBody, hl]

theorem lit_headerSep_lineEnd : b Gen.lineEnd = [13, 10] ∧ b Gen.headerSep = [58, 32] := by decide +kernel

/-- the header lines `format_cgi_headers` / `format_http_headers` write (`skip`: leave out the `Status` entry) -/
def Headers.lines (h : Headers) (skip : Option Bytes) : List Bytes :=
  (h.map.flatMap fun kv =>
      match skip with
      | some s => if ieq kv.1 s then [] else [kv.1 ++ [58, 32] ++ kv.2]
      | none => [kv.1 ++ [58, 32] ++ kv.2]) ++ h.added

theorem fmtLines_eq (h : Headers) (skip : Option Bytes) : fmtLines h skip = joinLines (h.lines skip) := by
  have ⟨e1, e2⟩ := lit_headerSep_lineEnd
  rw [fmtLines, Headers.lines, joinLines_append, e1, e2]
  congr 1
  · induction h.map with
    | nil => rfl
    | cons kv m ih =>
      rw [List.flatMap_cons, List.flatMap_cons, joinLines_append, ih]
      cases skip with
      | none => simp [joinLines]
      | some s => dsimp only; split <;> simp [joinLines]

/-- the `some s` twin of `Props.header_lines_shape` -/
theorem lines_skip (H : Headers) (s : Bytes) :
    H.lines (some s) = ((H.map.filter fun kv => !ieq kv.1 s).map fun kv => kv.1 ++ [58, 32] ++ kv.2) ++ H.added := by
  unfold Headers.lines
  congr 1
  induction H.map with
  | nil => rfl
  | cons kv m ih =>
    simp only [List.flatMap_cons, List.filter_cons, ih]
    by_cases h : ieq kv.1 s = true
    · simp [h]
    · simp [h]

end Cppcms.C03
