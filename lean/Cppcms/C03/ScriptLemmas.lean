import Cppcms.C03.RespLemmas
/-! Stage 1 over whole scripts: whatever the application does (within the usage contract `wellFormed`),
the response ends finalized with the invariants of `Done`. -/
namespace Cppcms.C03
open Cppcms

variable {D : Deflater}

/-- the three phases of a response -/
def Phase (r : Resp D) : Prop := Fresh r ∨ Open r r.written ∨ ∃ Z, Done r r.written Z

theorem Phase.finalized_false {r : Resp D} (p : Phase r) (h : r.finalized = false) : Fresh r ∨ Open r r.written := by
  rcases p with f | o | ⟨Z, d⟩
  · exact Or.inl f
  · exact Or.inr o
  · rw [d.fin] at h; cases h

theorem Phase.finalized_true {r : Resp D} (p : Phase r) (h : r.finalized = true) : ∃ Z, Done r r.written Z := by
  rcases p with f | o | d
  · rw [f.notFin] at h; cases h
  · rw [o.notFin] at h; cases h
  · exact d

theorem Fresh.update {r : Resp D} (f : Fresh r) (hd : Headers) (n : Int) (a cc pcu : Bool) :
    Fresh ({ r with headers := hd, requiredBufferSize := n, asyncFullBuffering := a, copyToCache := cc, pageCompressionUsed := pcu } : Resp D) :=
  ⟨f.req, f.notFin, f.trace, f.written, f.gz, f.copy, f.sent⟩

/-- `written` is the `W` of `Open` and `Done`, so it is not among the fields -/
theorem Phase.update {r : Resp D} (p : Phase r) (hd : Headers) (n : Int) (a cc pcu : Bool) :
    Phase ({ r with headers := hd, requiredBufferSize := n, asyncFullBuffering := a, copyToCache := cc, pageCompressionUsed := pcu } : Resp D) :=
  p.imp (·.update hd n a cc pcu) (.imp (·.update hd r.written n a cc pcu) fun ⟨Z, d⟩ => ⟨Z, d.update hd r.written n a cc pcu r.copy⟩)

theorem Resp.requestStream_requested (r : Resp D) : r.requestStream.ostreamRequested = true := by
  by_cases h : r.ostreamRequested = true
  · rw [Resp.requestStream_of_requested r h]; exact h
  · rw [Resp.requestStream_first r (by simpa using h)]

theorem Resp.requestStream_idem (r : Resp D) : r.requestStream.requestStream = r.requestStream :=
  Resp.requestStream_of_requested _ r.requestStream_requested

theorem Resp.requestStream_keeps (r : Resp D) :
    r.requestStream.finalized = r.finalized ∧ r.requestStream.written = r.written ∧ r.requestStream.mode = r.mode ∧
    r.requestStream.cfg = r.cfg ∧ r.requestStream.acceptGzip = r.acceptGzip ∧ r.requestStream.copyToCache = r.copyToCache ∧
    r.requestStream.pageCompressionUsed = r.pageCompressionUsed := by
  by_cases h : r.ostreamRequested = true
  · rw [Resp.requestStream_of_requested r h]; exact ⟨rfl, rfl, rfl, rfl, rfl, rfl, rfl⟩
  · rw [Resp.requestStream_first r (by simpa using h)]; exact ⟨rfl, rfl, rfl, rfl, rfl, rfl, rfl⟩

theorem Phase.request {r : Resp D} (p : Phase r) : Phase r.requestStream ∧ (r.finalized = false → Open r.requestStream r.requestStream.written) := by
  rcases p with f | o | ⟨Z, d⟩
  · have ho : Open r.requestStream r.requestStream.written := by
      obtain ⟨o, hw, -⟩ := f.request
      exact hw ▸ o
    exact ⟨.inr (.inl ho), fun _ => ho⟩
  · rw [Resp.requestStream_of_requested r o.req]; exact ⟨.inr (.inl o), fun _ => o⟩
  · rw [Resp.requestStream_of_requested r d.req]; exact ⟨.inr (.inr ⟨Z, d⟩), fun h => by rw [d.fin] at h; cases h⟩

theorem Resp.write_request (r : Resp D) (s : Bytes) : r.write s = r.requestStream.write s := by
  rw [Resp.write, Resp.write, Resp.requestStream_idem]

theorem Phase.write {r : Resp D} (p : Phase r) (h : r.finalized = false) (s : Bytes) :
    Open (r.write s) (r.write s).written ∧ (r.write s).written = r.written ++ s ∧ (r.write s).mode = r.mode ∧ (r.write s).finalized = false := by
  obtain ⟨kfin, kwritten, kmode, -⟩ := Resp.requestStream_keeps r
  obtain ⟨o1, w1, m1⟩ := (p.request.2 h).write s
  rw [Resp.write_request]
  exact ⟨o1, w1.trans (by rw [kwritten]), m1.trans kmode, o1.notFin⟩

theorem Phase.putc {r : Resp D} (p : Phase r) (h : r.finalized = false) (c : UInt8) :
    Open (r.putc c) (r.putc c).written ∧ (r.putc c).written = r.written ++ [c] ∧ (r.putc c).mode = r.mode ∧ (r.putc c).finalized = false := by
  obtain ⟨kfin, kwritten, kmode, -⟩ := Resp.requestStream_keeps r
  obtain ⟨o1, w1, m1⟩ := (p.request.2 h).putc c
  rw [Resp.putc, ← Resp.requestStream_idem r]
  exact ⟨o1, w1.trans (by rw [kwritten]), m1.trans kmode, o1.notFin⟩

theorem Open.putAll : ∀ (bs : Bytes) (r : Resp D), Open r r.written →
    Open (putAll r bs) (putAll r bs).written ∧ (putAll r bs).written = r.written ++ bs ∧ (putAll r bs).mode = r.mode
  | [], r, o => ⟨o, (List.append_nil _).symm, rfl⟩
  | c :: cs, r, o => by
    obtain ⟨o1, w1, m1⟩ := o.putc c
    obtain ⟨o2, w2, m2⟩ := Open.putAll cs (r.putc c) o1
    exact ⟨o2, by rw [Cppcms.C03.putAll, w2, w1, List.append_assoc]; rfl, m2.trans m1⟩

theorem Phase.sync {r : Resp D} (p : Phase r) (h : r.finalized = false) :
    Open r.sync r.sync.written ∧ r.sync.written = r.written ∧ r.sync.mode = r.mode := by
  obtain ⟨kfin, kwritten, kmode, -⟩ := Resp.requestStream_keeps r
  obtain ⟨o1, g1⟩ := (p.request.2 h).sync
  rw [Resp.sync, ← Resp.requestStream_idem r]
  exact ⟨g1.frame.written ▸ o1, g1.frame.written.trans kwritten, g1.frame.mode.trans kmode⟩

theorem Phase.asyncFlush {r : Resp D} (p : Phase r) :
    Phase r.asyncFlush ∧ r.asyncFlush.written = r.written ∧ r.asyncFlush.mode = r.mode ∧ r.asyncFlush.finalized = r.finalized := by
  unfold Resp.asyncFlush
  rcases p with f | o | ⟨Z, d⟩
  · rw [if_neg (by simp [f.req])]; exact ⟨.inl f, rfl, rfl, rfl⟩
  · rw [if_pos o.req]; exact ⟨.inr (.inl o.asyncWriteResponse), rfl, rfl, rfl⟩
  · rw [if_pos d.req]; exact ⟨.inr (.inr ⟨Z, d.asyncWriteResponse⟩), rfl, rfl, rfl⟩

theorem Resp.setbuf_frame (r : Resp D) (n : Int) : Frame r (r.setbuf n) :=
  ite_of (P := Frame r) (fun _ => Frame.chain r _ _ _ _ _ _) (fun _ => Frame.chain r _ _ _ _ _ _)

theorem Resp.setFullBuffering_frame (r : Resp D) (v : Bool) : Frame r (r.setFullBuffering v) :=
  ite_of (P := Frame r) (fun _ => Frame.chain r _ _ _ _ _ _) (fun _ => Frame.chain r _ _ _ _ _ _)

theorem Phase.setbuf {r : Resp D} (p : Phase r) (n : Int) :
    Phase (r.setbuf n) ∧ (r.setbuf n).written = r.written ∧ (r.setbuf n).mode = r.mode ∧ (r.setbuf n).finalized = r.finalized := by
  have f := Resp.setbuf_frame r n
  refine ⟨?_, f.written, f.mode, f.finalized⟩
  rw [Phase, f.written]
  rcases p with fr | o | ⟨Z, d⟩
  · left
    simp only [Resp.setbuf]
    rw [if_neg (by simp [fr.req])]
    exact fr.update _ _ _ _ _
  · exact .inr (.inl (o.setbuf n).1)
  · exact .inr (.inr ⟨Z, (d.setbuf n).1⟩)

theorem Phase.setFullBuffering {r : Resp D} (p : Phase r) (v : Bool) :
    Phase (r.setFullBuffering v) ∧ (r.setFullBuffering v).written = r.written ∧ (r.setFullBuffering v).mode = r.mode ∧
    (r.setFullBuffering v).finalized = r.finalized := by
  have f := Resp.setFullBuffering_frame r v
  refine ⟨?_, f.written, f.mode, f.finalized⟩
  rw [Phase, f.written]
  rcases p with fr | o | ⟨Z, d⟩
  · left
    rw [Resp.setFullBuffering, if_neg (by simp [fr.req])]
    exact fr.update _ _ _ _ _
  · exact .inr (.inl (o.setFullBuffering v))
  · exact .inr (.inr ⟨Z, d.setFullBuffering v⟩)

theorem Resp.finalize_of_finalized (r : Resp D) (h : r.finalized = true) : r.finalize = r := by
  rw [Resp.finalize, if_pos h]

theorem Phase.finalize {r : Resp D} (p : Phase r) :
    (∃ Z, Done r.finalize r.finalize.written Z ∧ (r.finalized = false → CopyDone r.finalize Z)) ∧ r.finalize.written = r.written ∧
    r.finalize.mode = r.mode ∧ r.finalize.finalized = true := by
  by_cases hfin : r.finalized = true
  · obtain ⟨Z, d⟩ := p.finalized_true hfin
    rw [Resp.finalize_of_finalized r hfin]
    exact ⟨⟨Z, d, fun h => by rw [hfin] at h; cases h⟩, rfl, rfl, hfin⟩
  · obtain ⟨kfin, kwritten, kmode, -⟩ := Resp.requestStream_keeps r
    obtain ⟨Z, d, cd, fr, -⟩ := (p.request.2 (by simpa using hfin)).finalize
    have e : r.finalize = r.requestStream.finalize := by
      rw [Resp.finalize, if_neg hfin, Resp.finalize, if_neg (by rw [kfin]; exact hfin), Resp.requestStream_idem]
    rw [e]
    have hw := fr.written.trans kwritten
    exact ⟨⟨Z, hw ▸ kwritten ▸ d, fun _ => cd⟩, hw, fr.mode.trans kmode, d.fin⟩

/-- may the application still do this once the response is finalized?  It may not write any more, and a
synchronous `out().flush()` is pointless then (the filter buffers are closed); `async_flush_output`, `setbuf`,
header setters, a second `finalize`/`store_page` are fine -/
def Op.afterFinalOk (mode : Mode) : Op → Bool
  | .write _ _ | .putc _ _ | .lit _ | .fetchPage _ => false
  | .flush => mode.isAsync
  | _ => true

def Op.finalizes : Op → Bool
  | .finalize | .storePage _ => true
  | _ => false

/-- the flag: the response has been finalized already (by `finalize()` or `store_page()`) -/
def wellFormedFrom (mode : Mode) : Bool → List Op → Bool
  | _, [] => true
  | fin, op :: rest => (!fin || op.afterFinalOk mode) && wellFormedFrom mode (fin || op.finalizes) rest

/-- the usage contract of `http::response` the theorems assume: no write, synchronous flush or `fetch_page` after the response was finalized -/
def wellFormed (mode : Mode) (script : List Op) : Bool := wellFormedFrom mode false script

theorem Run.fetchPage_spec (x : Run D) (key : String) (p : Phase x.resp) (hnf : x.resp.finalized = false) :
    Phase (x.fetchPage key).resp ∧ (x.fetchPage key).resp.mode = x.resp.mode ∧ (x.fetchPage key).resp.finalized = false := by
  simp only [Run.fetchPage]
  split
  · next page _ =>
    -- a hit sets `pageCompressionUsed` (and `headers`) before it writes the page; `Phase` reads neither
    obtain ⟨o, _, m, f⟩ := Phase.write (r := if x.resp.needGzip = true then
        { x.resp with pageCompressionUsed := x.resp.needGzip, headers := x.resp.headers.set sContentEncoding sGzip }
        else { x.resp with pageCompressionUsed := x.resp.needGzip }) (by split <;> exact p.update _ _ _ _ _)
      (by split <;> exact hnf) page
    exact ⟨.inr (.inl o), m.trans (by split <;> rfl), f⟩
  -- a miss only sets `pageCompressionUsed` and `copyToCache`
  · exact ⟨p.update _ _ _ _ _, rfl, hnf⟩

theorem Run.storePage_spec (x : Run D) (key : String) (p : Phase x.resp) :
    Phase (x.storePage key).resp ∧ (x.storePage key).resp.mode = x.resp.mode ∧ (x.storePage key).resp.finalized = true ∧
    (x.storePage key).resp.written = x.resp.written := by
  obtain ⟨⟨Z, d, _⟩, hw, hm, hf⟩ := p.finalize
  have pd : Phase x.resp.finalize := .inr (.inr ⟨Z, d⟩)
  simp only [Run.storePage]
  split
  · split
    · exact ⟨pd, hm, hf, hw⟩
    -- `getstr` has emptied `copy`, which `Done` does not read
    · exact ⟨.inr (.inr ⟨Z, d.update _ _ _ _ _ _ _⟩), hm, hf, hw⟩
  · exact ⟨pd, hm, hf, hw⟩

theorem Run.step_spec (x : Run D) (op : Op) (p : Phase x.resp) (hns : x.stopped = false)
    (hok : x.resp.finalized = true → op.afterFinalOk x.resp.mode = true) :
    ∃ y, x.step op = y ∧ Phase y.resp ∧ y.resp.mode = x.resp.mode ∧
      (y.stopped = false → y.resp.finalized = (x.resp.finalized || op.finalizes)) ∧
      ((∀ key, op ≠ .fetchPage key ∧ op ≠ .storePage key) → y = { x with resp := y.resp }) := by
  -- an action that is not allowed after `finalize` finds the response not finalized
  have hnf : op.afterFinalOk x.resp.mode = false → x.resp.finalized = false := fun h1 => by
    cases hfz : x.resp.finalized with
    | false => rfl
    | true => rw [hok hfz] at h1; cases h1
  obtain ⟨kfin, kwritten, kmode, -⟩ := Resp.requestStream_keeps x.resp
  rw [Run.step, if_neg (by simp [hns])]
  cases op with
  | write n seed =>
    have hf := hnf rfl
    obtain ⟨o, _, m, f⟩ := p.write hf (genBytes seed n)
    exact ⟨{ x with resp := _ }, rfl, .inr (.inl o), m, (fun _ => by rw [f, hf]; rfl), fun _ => rfl⟩
  | lit bs =>
    have hf := hnf rfl
    obtain ⟨o, _, m, f⟩ := p.write hf bs
    exact ⟨{ x with resp := _ }, rfl, .inr (.inl o), m, (fun _ => by rw [f, hf]; rfl), fun _ => rfl⟩
  | putc n seed =>
    have hf := hnf rfl
    obtain ⟨o, _, m⟩ := Open.putAll (genBytes seed n) _ (p.request.2 hf)
    exact ⟨{ x with resp := _ }, rfl, .inr (.inl o), m.trans kmode, (fun _ => by rw [o.notFin, hf]; rfl),
      fun _ => rfl⟩
  | out =>
    exact ⟨{ x with resp := _ }, rfl, p.request.1, kmode, fun _ => kfin.trans (Bool.or_false _).symm, fun _ => rfl⟩
  | finalize =>
    obtain ⟨⟨Z, d, _⟩, hw, hm, hf⟩ := p.finalize
    exact ⟨{ x with resp := _ }, rfl, .inr (.inr ⟨Z, d⟩), hm, fun _ => hf.trans (Bool.or_true _).symm, fun _ => rfl⟩
  | flush =>
    by_cases ha : x.resp.mode.isAsync = true
    · have ⟨p1, w, m, f⟩ := p.asyncFlush
      refine ⟨{ x with resp := _ }, rfl, ?_⟩
      rw [if_pos ha]
      exact ⟨p1, m, fun _ => f.trans (Bool.or_false _).symm, fun _ => rfl⟩
    · have hf := hnf (by simpa [Op.afterFinalOk] using ha)
      obtain ⟨o, w, m⟩ := p.sync hf
      refine ⟨{ x with resp := _ }, rfl, ?_⟩
      rw [if_neg ha]
      exact ⟨.inr (.inl o), m, (fun _ => by rw [o.notFin, hf]; rfl), fun _ => rfl⟩
  | setbuf n =>
    obtain ⟨p1, w, m, f⟩ := p.setbuf n
    exact ⟨{ x with resp := _ }, rfl, p1, m, fun _ => f.trans (Bool.or_false _).symm, fun _ => rfl⟩
  | fullBuf v =>
    obtain ⟨p1, w, m, f⟩ := p.setFullBuffering v
    exact ⟨{ x with resp := _ }, rfl, p1, m, fun _ => f.trans (Bool.or_false _).symm, fun _ => rfl⟩
  | setHeader n v | addHeader n v | cookie n v | contentLength n | status n =>
    -- these five change `headers` only
    exact ⟨{ x with resp := _ }, rfl, p.update _ _ _ _ _, rfl, fun _ => (Bool.or_false _).symm, fun _ => rfl⟩
  | fetchPage key =>
    obtain ⟨p1, m, f⟩ := x.fetchPage_spec key p (hnf rfl)
    exact ⟨_, rfl, p1, m, (fun _ => by rw [f, hnf rfl]; rfl), fun h => absurd rfl (h key).1⟩
  | storePage key =>
    obtain ⟨p1, m, f, w⟩ := x.storePage_spec key p
    exact ⟨_, rfl, p1, m, fun _ => f.trans (Bool.or_true _).symm, fun h => absurd rfl (h key).2⟩

theorem Run.foldl_stopped : ∀ (ops : List Op) (x : Run D), x.stopped = true → ops.foldl Run.step x = x
  | [], _, _ => rfl
  | op :: ops, x, h => by
    rw [List.foldl_cons, Run.step, if_pos h]
    exact Run.foldl_stopped ops x h

theorem Phase.fold : ∀ (ops : List Op) (x : Run D), Phase x.resp →
    (x.stopped = false → wellFormedFrom x.resp.mode x.resp.finalized ops = true) →
    Phase (ops.foldl Run.step x).resp ∧ (ops.foldl Run.step x).resp.mode = x.resp.mode
  | [], x, p, _ => ⟨p, rfl⟩
  | op :: ops, x, p, hwf => by
    cases hs : x.stopped with
    | true => rw [Run.foldl_stopped _ x hs]; exact ⟨p, rfl⟩
    | false =>
      have hw := hwf hs
      simp only [wellFormedFrom, Bool.and_eq_true, Bool.or_eq_true, Bool.not_eq_true'] at hw
      obtain ⟨y, e, p1, m1, f1, -⟩ := x.step_spec op p hs fun hf => hw.1.resolve_left (by simp [hf])
      have := Phase.fold ops y p1 (fun hns => by rw [m1, f1 hns]; exact hw.2)
      rw [List.foldl_cons, e]
      exact ⟨this.1, this.2.trans m1⟩

theorem Resp.new_fresh (cfg : Config) (mode : Mode) (acceptGzip : Bool) : Fresh (Resp.new D cfg mode acceptGzip) :=
  ⟨rfl, rfl, rfl, rfl, rfl, rfl, rfl⟩

theorem Done.complete {r : Resp D} {W Z : Bytes} (d : Done r W Z) : Done r.complete W Z := by
  simp only [Resp.complete, Resp.finalize_of_finalized r d.fin]
  split
  · exact d.asyncWriteResponse
  · exact d

theorem Phase.complete {r : Resp D} (p : Phase r) : (∃ Z, Done r.complete r.complete.written Z) ∧ r.complete.mode = r.mode ∧
    r.complete.written = r.written := by
  obtain ⟨⟨Z, d, _⟩, hw, hm, _⟩ := p.finalize
  simp only [Resp.complete]
  split
  · exact ⟨⟨Z, d.asyncWriteResponse⟩, hm, hw⟩
  · exact ⟨⟨Z, d⟩, hm, hw⟩

/-- see `Props.response_trace` -/
theorem response_trace_spec (cfg : Config) (cache : PageCache) (mode : Mode) (acceptGzip : Bool) (script : List Op)
    (hwf : wellFormed mode script = true) :
    ∃ Z, Done (runScript D cfg cache mode acceptGzip script).resp (runScript D cfg cache mode acceptGzip script).resp.written Z ∧
      (runScript D cfg cache mode acceptGzip script).resp.mode = mode := by
  obtain ⟨p1, m1⟩ := Phase.fold script ({ resp := Resp.new D cfg mode acceptGzip, cache := cache } : Run D)
    (.inl (Resp.new_fresh cfg mode acceptGzip)) (fun _ => hwf)
  obtain ⟨⟨Z, d⟩, hm, _⟩ := p1.complete
  exact ⟨Z, d, hm.trans m1⟩

end Cppcms.C03
