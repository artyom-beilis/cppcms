import Cppcms.C03.Buffers
/-! The filter buffers `copy_buf` and `gzip_buf`: each keeps an invariant relating the bytes written into it
to the bytes it has passed down, and every operation carries it forward by the bytes the operation takes.  Also `ite_of` and `HdrShape`, shared by later modules. -/
namespace Cppcms.C03
open Cppcms

theorem ite_of {α : Type} {P : α → Prop} {c : Prop} [Decidable c] {a b : α} (ha : c → P a) (hb : ¬ c → P b) :
    P (if c then a else b) := by
  split
  · exact ha ‹_›
  · exact hb ‹_›

@[simp] theorem resize_length (v : Bytes) (n : Nat) : (resize v n).length = n := by
  simp only [resize, List.length_append, List.length_take, List.length_replicate]
  omega

theorem resize_take (v : Bytes) (n k : Nat) (hk : k ≤ v.length) (hn : k ≤ n) : (resize v n).take k = v.take k := by
  rw [resize, List.take_append_of_le_length (by simp only [List.length_take]; omega), List.take_take, Nat.min_eq_left hn]

theorem poke_length (v : Bytes) (pos : Nat) (s : Bytes) (h : pos + s.length ≤ v.length) : (poke v pos s).length = v.length := by
  simp only [poke, List.length_append, List.length_take, List.length_drop]
  omega

theorem poke_take (v : Bytes) (pos : Nat) (s : Bytes) (h : pos + s.length ≤ v.length) :
    (poke v pos s).take (pos + s.length) = v.take pos ++ s :=
  List.take_left' (by simp only [List.length_append, List.length_take]; omega)

theorem poke_take_le (v : Bytes) (pos : Nat) (s : Bytes) (k : Nat) (hk : k ≤ pos) (h : pos ≤ v.length) :
    (poke v pos s).take k = v.take k := by
  rw [poke, List.append_assoc, List.take_append_of_le_length (by simp only [List.length_take]; omega), List.take_take,
    Nat.min_eq_left hk]

theorem poke_nil (v : Bytes) (pos : Nat) : poke v pos [] = v := by
  simp [poke]

theorem actBytes_append (a c : List Act) : actBytes (a ++ c) = actBytes a ++ actBytes c := by
  simp [actBytes]

theorem actBytes_nil : actBytes [] = [] := rfl

/-- in `std::streambuf::xsputn`: what fits, the byte handed to `overflow`, and a strictly shorter rest -/
theorem drop_eq_cons {s rest : Bytes} {n : Nat} {c : UInt8} (h : s.drop n = c :: rest) (inp : Bytes) :
    inp ++ s = inp ++ s.take n ++ [c] ++ rest ∧ rest.length < s.length := by
  have hl := congrArg List.length h
  simp only [List.length_drop, List.length_cons] at hl
  refine ⟨?_, by omega⟩
  rw [List.append_assoc, List.append_assoc, List.singleton_append, ← h, List.take_append_drop]

/-- invariant of `copy_buf` relative to everything written into it (`inp`) and everything it has
passed on to the next buffer (`teed`) -/
def Copy.Inv (k : Copy) (inp teed : Bytes) : Prop :=
  k.attached = true ∧
  ((k.started = true ∧ k.base ≤ k.pos ∧ k.pos ≤ k.vec.length ∧ 0 < k.vec.length ∧ k.vec.take k.pos = inp ∧ teed = k.vec.take k.base) ∨
   (k.started = false ∧ k.vec = [] ∧ inp = [] ∧ teed = []))

theorem Copy.inv_init : ({} : Copy).Inv [] [] := by
  simp [Copy.Inv]

theorem Copy.teeActs_bytes (k : Copy) (inp teed : Bytes) (h : k.Inv inp teed) : teed ++ actBytes k.teeActs = inp := by
  obtain ⟨hatt, ⟨-, hbp, -, -, rfl, rfl⟩ | ⟨-, hv, rfl, rfl⟩⟩ := h
  · have := List.take_append_drop k.base (k.vec.take k.pos)
    rw [List.take_take, Nat.min_eq_left hbp, List.drop_take] at this
    by_cases hb : k.base = k.pos
    · simp [Copy.teeActs, hb, actBytes]
    · simpa [Copy.teeActs, hatt, hb, actBytes, Act.bytes] using this
  · unfold Copy.teeActs
    rw [hv]
    split <;> simp [actBytes, Act.bytes]

theorem Copy.reposition_inv (k : Copy) (inp teed : Bytes) (h : k.Inv inp teed) :
    k.reposition.Inv inp inp ∧ k.reposition.started = true ∧ k.reposition.pos < k.reposition.vec.length := by
  obtain ⟨hatt, ⟨hs, -, hpl, hlen, rfl, -⟩ | ⟨hs, hv, rfl, -⟩⟩ := h
  · unfold Copy.reposition
    rw [if_neg (by simp [hs])]
    split
    · next hfull =>
      have ht : (resize k.vec (k.vec.length * 2)).take k.vec.length = k.vec.take k.pos := by
        rw [resize_take _ _ _ (Nat.le_refl _) (by omega), hfull]
      have hl : k.vec.length < (resize k.vec (k.vec.length * 2)).length := by rw [resize_length]; omega
      exact ⟨⟨hatt, .inl ⟨hs, Nat.le_refl _, Nat.le_of_lt hl, Nat.zero_lt_of_lt hl, ht, ht.symm⟩⟩, hs, hl⟩
    · next hfull =>
      exact ⟨⟨hatt, .inl ⟨hs, Nat.le_refl _, hpl, hlen, rfl, rfl⟩⟩, hs, Nat.lt_of_le_of_ne hpl hfull⟩
  · have hl : 0 < (resize ([] : Bytes) Gen.copyBufInitial).length := by rw [resize_length]; decide
    unfold Copy.reposition
    rw [if_pos (by simp [hs]), hv, if_pos List.isEmpty_nil]
    exact ⟨⟨hatt, .inl ⟨rfl, Nat.le_refl _, Nat.zero_le _, hl, rfl, rfl⟩⟩, rfl, hl⟩

theorem Copy.pokeBlock_inv (k : Copy) (inp teed : Bytes) (s : Bytes) (h : k.Inv inp teed)
    (hfit : s.length ≤ (if k.started then k.vec.length - k.pos else 0)) :
    ({ k with vec := poke k.vec k.pos s, pos := k.pos + s.length } : Copy).Inv (inp ++ s) teed := by
  obtain ⟨hatt, ⟨hs, hbp, hpl, hlen, rfl, rfl⟩ | ⟨hs, hv, rfl, rfl⟩⟩ := h
  · rw [if_pos hs] at hfit
    have hp : k.pos + s.length ≤ k.vec.length := by omega
    refine ⟨hatt, .inl ⟨hs, Nat.le_trans hbp (Nat.le_add_right _ _), ?_, ?_, poke_take _ _ _ hp, (poke_take_le _ _ _ _ hbp hpl).symm⟩⟩
    · show _ ≤ (poke k.vec k.pos s).length
      rw [poke_length _ _ _ hp]; exact hp
    · show 0 < (poke k.vec k.pos s).length
      rw [poke_length _ _ _ hp]; exact hlen
  · rw [if_neg (by simp [hs]), Nat.le_zero, List.length_eq_zero_iff] at hfit
    subst hfit
    exact ⟨hatt, .inr ⟨hs, by show poke k.vec k.pos [] = []; rw [poke_nil, hv], rfl, rfl⟩⟩

theorem Copy.overflow_inv (k : Copy) (inp teed : Bytes) (c : Option UInt8) (h : k.Inv inp teed) :
    (k.overflow c).1.Inv (inp ++ c.toList) (teed ++ actBytes (k.overflow c).2) := by
  obtain ⟨hr, hs, hroom⟩ := Copy.reposition_inv k inp teed h
  cases c with
  | none => simpa [Copy.overflow, Copy.teeActs_bytes k inp teed h] using hr
  | some c =>
    simp only [Copy.overflow, Option.toList_some, Copy.teeActs_bytes k inp teed h]
    exact Copy.pokeBlock_inv _ _ _ [c] hr (by rw [if_pos hs]; exact Nat.le_sub_of_add_le' hroom)

theorem Copy.sputc_inv (k : Copy) (inp teed : Bytes) (c : UInt8) (h : k.Inv inp teed) :
    (k.sputc c).1.Inv (inp ++ [c]) (teed ++ actBytes (k.sputc c).2) := by
  unfold Copy.sputc
  split
  · next hc =>
    simp only [Bool.and_eq_true, decide_eq_true_eq] at hc
    simpa [actBytes, Copy.store] using Copy.pokeBlock_inv k inp teed [c] h (by rw [if_pos hc.1]; exact Nat.le_sub_of_add_le' hc.2)
  · exact Copy.overflow_inv k inp teed (some c) h

theorem Copy.xsputnAux_inv : ∀ (fuel : Nat) (k : Copy) (inp teed s : Bytes), k.Inv inp teed → s.length < fuel →
    (Copy.xsputnAux fuel k s).1.Inv (inp ++ s) (teed ++ actBytes (Copy.xsputnAux fuel k s).2)
  | 0, _, _, _, _, _, hf => absurd hf (Nat.not_lt_zero _)
  | f + 1, k, inp, teed, s, h, hf => by
    rw [Copy.xsputnAux]
    generalize hroom : (if k.started then k.vec.length - k.pos else 0) = room
    split
    · next hfit => simpa [actBytes] using Copy.pokeBlock_inv k inp teed s h (hroom ▸ hfit)
    · -- fill what fits, `overflow` with the next byte, go on with the rest
      next hfit =>
      have h1 : (if room = 0 then k else { k with vec := poke k.vec k.pos (s.take room), pos := k.pos + room } : Copy).Inv
          (inp ++ s.take room) teed := by
        have hl : (s.take room).length = room := by rw [List.length_take]; omega
        split
        · next hz => simpa [hz] using h
        · simpa only [hl] using Copy.pokeBlock_inv k inp teed (s.take room) h (by rw [hroom, hl]; exact Nat.le_refl _)
      generalize (if room = 0 then k else { k with vec := poke k.vec k.pos (s.take room), pos := k.pos + room } : Copy) = k1 at h1 ⊢
      split
      · next hd => have := congrArg List.length hd; simp only [List.length_drop, List.length_nil] at this; omega
      · next c rest hd =>
        obtain ⟨hs, hrl⟩ := drop_eq_cons hd inp
        rw [actBytes_append, ← List.append_assoc, hs]
        exact Copy.xsputnAux_inv f _ _ _ rest (Copy.overflow_inv _ _ teed (some c) h1) (by omega)

theorem Copy.xsputn_inv (k : Copy) (inp teed s : Bytes) (h : k.Inv inp teed) :
    (k.xsputn s).1.Inv (inp ++ s) (teed ++ actBytes (k.xsputn s).2) :=
  Copy.xsputnAux_inv (s.length + 1) k inp teed s h (Nat.lt_succ_self _)

theorem Copy.sync_inv (k : Copy) (inp teed : Bytes) (h : k.Inv inp teed) :
    (k.sync).1.Inv inp (teed ++ actBytes (k.sync).2) := by
  have ho : (k.overflow none).1.Inv inp (teed ++ actBytes (k.overflow none).2) := by
    simpa using Copy.overflow_inv k inp teed none h
  have e : actBytes (k.sync).2 = actBytes (k.overflow none).2 := by
    simp [Copy.sync, h.1, actBytes, Act.bytes]
  rw [e]
  exact ho

theorem Copy.close_spec (k : Copy) (inp teed : Bytes) (h : k.Inv inp teed) :
    teed ++ actBytes (k.close).2 = inp ∧ (k.close).1.getstr.1 = inp := by
  obtain ⟨⟨-, ⟨-, -, -, -, hi, -⟩ | ⟨hns, -⟩⟩, hs, -⟩ := Copy.reposition_inv k inp teed h
  · exact ⟨Copy.teeActs_bytes k inp teed h, by simpa [Copy.close, Copy.overflow, Copy.getstr, hs] using hi⟩
  · rw [hs] at hns; cases hns

theorem piecesAux_flatten (chunk : Nat) : ∀ (fuel : Nat) (t : Bytes), (piecesAux chunk fuel t).flatten = t
  | 0, t => by simp [piecesAux]
  | f + 1, t => by
    rw [piecesAux]
    split
    · simp
    · simp [piecesAux_flatten chunk f]

theorem actBytes_put_pieces (chunk : Nat) (t : Bytes) : actBytes ((pieces chunk t).map Act.put) = t := by
  rw [actBytes, List.map_map, show Act.bytes ∘ Act.put = id from rfl, List.map_id]
  exact piecesAux_flatten chunk _ t

/-- run the deflater over a list of `do_write` calls: final state and concatenated output -/
def feedAll (D : Deflater) : D.σ → List (Bytes × Flush) → D.σ × Bytes
  | s, [] => (s, [])
  | s, (i, f) :: rest =>
    let r := D.feed s i f
    let r2 := feedAll D r.1 rest
    (r2.1, r.2 ++ r2.2)

theorem feedAll_append (D : Deflater) : ∀ (xs : List (Bytes × Flush)) (s : D.σ) (i : Bytes) (f : Flush),
    feedAll D s (xs ++ [(i, f)]) =
      ((D.feed (feedAll D s xs).1 i f).1, (feedAll D s xs).2 ++ (D.feed (feedAll D s xs).1 i f).2)
  | [], s, i, f => by simp [feedAll]
  | (xi, xf) :: xs, s, i, f => by simp only [List.cons_append, feedAll, feedAll_append D xs, List.append_assoc]

/-- invariant of `gzip_buf` relative to the application bytes written into it (`inp`) and the bytes
it has passed down (`out`) -/
def Gz.Inv {D : Deflater} (g : Gz D) (inp out : Bytes) : Prop :=
  g.opened = true ∧ 0 < g.cap ∧ g.inBuf.length ≤ g.cap ∧
  (g.fed.map (·.1)).flatten ++ g.inBuf = inp ∧
  (∀ c ∈ g.fed, c.2 ≠ Flush.finish) ∧
  feedAll D D.init g.fed = (g.z, out)

theorem Gz.open_inv (D : Deflater) (n : Int) : (Gz.open D n).Inv [] [] := by
  refine ⟨rfl, ?_, Nat.zero_le _, rfl, by simp [Gz.open], rfl⟩
  show 0 < if _ then _ else _
  split
  · decide
  · next h => exact Int.pos_iff_toNat_pos.1 (Int.lt_of_lt_of_le (by decide) (Int.not_lt.1 h))

theorem Gz.doWrite_spec {D : Deflater} (g : Gz D) (inp out : Bytes) (fl : Flush) (h : g.Inv inp out)
    (hns : ¬ (g.inBuf.isEmpty = true ∧ fl = .noFlush)) :
    ∃ z', (g.doWrite g.inBuf fl).1 = { g with z := z', fed := g.fed ++ [(g.inBuf, fl)] } ∧
      feedAll D D.init (g.fed ++ [(g.inBuf, fl)]) = (z', out ++ actBytes (g.doWrite g.inBuf fl).2) := by
  obtain ⟨hopen, _, _, _, _, hfed⟩ := h
  have hskip : (g.inBuf.isEmpty && fl == .noFlush) = false := by simpa using hns
  simp only [Gz.doWrite, Bool.not_eq_true', hopen, Bool.true_eq_false, if_false, hskip, Bool.false_eq_true]
  refine ⟨_, rfl, ?_⟩
  rw [feedAll_append, hfed, actBytes_append, actBytes_put_pieces]
  split <;> simp [actBytes, Act.bytes]

theorem Gz.Inv.refill {D : Deflater} {g : Gz D} {inp out : Bytes} (h : g.Inv inp out) (fl : Flush) (hfl : fl ≠ .finish)
    (z' : D.σ) (out' : Bytes) (hz : feedAll D D.init (g.fed ++ [(g.inBuf, fl)]) = (z', out')) (b : Bytes) (hb : b.length ≤ g.cap) :
    ({ g with z := z', fed := g.fed ++ [(g.inBuf, fl)], inBuf := b } : Gz D).Inv (inp ++ b) out' := by
  obtain ⟨ho, hc, -, rfl, hf, -⟩ := h
  refine ⟨ho, hc, hb, by simp, ?_, hz⟩
  intro x hx
  rcases List.mem_append.1 hx with hx | hx
  · exact hf x hx
  · rw [List.mem_singleton.1 hx]; exact hfl

theorem Gz.appendBuf_inv {D : Deflater} (g : Gz D) (inp out s : Bytes) (h : g.Inv inp out) (hfit : g.inBuf.length + s.length ≤ g.cap) :
    ({ g with inBuf := g.inBuf ++ s } : Gz D).Inv (inp ++ s) out := by
  obtain ⟨ho, hc, -, rfl, hf, hz⟩ := h
  exact ⟨ho, hc, by simpa using hfit, by simp, hf, hz⟩

theorem Gz.overflowC_inv {D : Deflater} (g : Gz D) (inp out : Bytes) (c : UInt8) (h : g.Inv inp out) :
    (g.overflowC c).1.Inv (inp ++ [c]) (out ++ actBytes (g.overflowC c).2) := by
  have hopen : g.opened = true := h.1
  have hcap : 0 < g.cap := h.2.1
  simp only [Gz.overflowC, Bool.not_eq_true', hopen, Bool.true_eq_false, if_false]
  split
  · next he =>
    have := Gz.appendBuf_inv g inp out [c] h (by rw [List.isEmpty_iff.1 he]; exact hcap)
    simpa [List.isEmpty_iff.1 he, actBytes] using this
  · next he =>
    obtain ⟨z', e, hz⟩ := Gz.doWrite_spec g inp out .noFlush h (by simp [he])
    rw [e]
    exact h.refill .noFlush (by simp) z' _ hz [c] hcap

theorem Gz.sputc_inv {D : Deflater} (g : Gz D) (inp out : Bytes) (c : UInt8) (h : g.Inv inp out) :
    (g.sputc c).1.Inv (inp ++ [c]) (out ++ actBytes (g.sputc c).2) := by
  unfold Gz.sputc
  split
  · next hr => simpa [actBytes] using Gz.appendBuf_inv g inp out [c] h hr
  · exact Gz.overflowC_inv g inp out c h

theorem Gz.xsputnAux_inv {D : Deflater} : ∀ (fuel : Nat) (g : Gz D) (inp out s : Bytes), g.Inv inp out → s.length < fuel →
    (Gz.xsputnAux fuel g s).1.Inv (inp ++ s) (out ++ actBytes (Gz.xsputnAux fuel g s).2)
  | 0, _, _, _, _, _, hf => absurd hf (Nat.not_lt_zero _)
  | f + 1, g, inp, out, s, h, hf => by
    have hl : g.inBuf.length ≤ g.cap := h.2.2.1
    rw [Gz.xsputnAux]
    split
    · next hfit => simpa [actBytes] using Gz.appendBuf_inv g inp out s h (by omega)
    · next hfit =>
      have h1 := Gz.appendBuf_inv g inp out (s.take (g.cap - g.inBuf.length)) h (by rw [List.length_take]; omega)
      split
      · next hd => have := congrArg List.length hd; simp only [List.length_drop, List.length_nil] at this; omega
      · next c rest hd =>
        obtain ⟨hs, hrl⟩ := drop_eq_cons hd inp
        rw [actBytes_append, ← List.append_assoc, hs]
        exact Gz.xsputnAux_inv f _ _ _ rest (Gz.overflowC_inv _ _ out c h1) (by omega)

theorem Gz.xsputn_inv {D : Deflater} (g : Gz D) (inp out s : Bytes) (h : g.Inv inp out) :
    (g.xsputn s).1.Inv (inp ++ s) (out ++ actBytes (g.xsputn s).2) := by
  simp only [Gz.xsputn, Bool.not_eq_true', h.1, Bool.true_eq_false, if_false]
  exact Gz.xsputnAux_inv (s.length + 1) g inp out s h (Nat.lt_succ_self _)

theorem Gz.sync_inv {D : Deflater} (g : Gz D) (inp out : Bytes) (h : g.Inv inp out) :
    (g.sync).1.Inv inp (out ++ actBytes (g.sync).2) := by
  obtain ⟨z', e, hz⟩ := Gz.doWrite_spec g inp out .syncFlush h (by simp)
  simp only [Gz.sync, if_pos h.1, e]
  simpa using h.refill .syncFlush (by simp) z' _ hz [] (Nat.zero_le _)

theorem Gz.close_spec {D : Deflater} (g : Gz D) (inp out : Bytes) (h : g.Inv inp out) :
    ∃ calls last, (g.close).1.fed = calls ++ [(last, Flush.finish)] ∧ (∀ c ∈ calls, c.2 ≠ Flush.finish) ∧
      ((g.close).1.fed.map (·.1)).flatten = inp ∧
      (feedAll D D.init (g.close).1.fed).2 = out ++ actBytes (g.close).2 ∧
      (g.close).1.opened = false := by
  obtain ⟨z', e, hz⟩ := Gz.doWrite_spec g inp out .finish h (by simp)
  obtain ⟨hopen, _, _, hinp, hnofin, _⟩ := h
  simp only [Gz.close, Bool.not_eq_true', hopen, Bool.true_eq_false, if_false, e]
  exact ⟨g.fed, g.inBuf, rfl, hnofin, by simpa using hinp, by rw [hz], trivial⟩

/-- what reaches a filter layer from above: `sputn`, `sputc`, `pubsync` -/
inductive BufOp where
  | put (s : Bytes) | putc (c : UInt8) | sync
  deriving Repr, DecidableEq, Inhabited

def BufOp.data : BufOp → Bytes
  | .put s => s
  | .putc c => [c]
  | .sync => []

def Copy.step (x : Copy × List Act) : BufOp → Copy × List Act
  | .put s => let r := x.1.xsputn s; (r.1, x.2 ++ r.2)
  | .putc c => let r := x.1.sputc c; (r.1, x.2 ++ r.2)
  | .sync => let r := x.1.sync; (r.1, x.2 ++ r.2)

def Copy.run (x : Copy × List Act) (ops : List BufOp) : Copy × List Act := ops.foldl Copy.step x

theorem Copy.run_inv : ∀ (ops : List BufOp) (k : Copy) (acts : List Act) (inp : Bytes), k.Inv inp (actBytes acts) →
    (Copy.run (k, acts) ops).1.Inv (inp ++ (ops.map BufOp.data).flatten) (actBytes (Copy.run (k, acts) ops).2)
  | [], k, acts, inp, h => by simpa [Copy.run] using h
  | op :: ops, k, acts, inp, h => by
    have h1 : (Copy.step (k, acts) op).1.Inv (inp ++ op.data) (actBytes (Copy.step (k, acts) op).2) := by
      cases op <;> simp only [Copy.step, actBytes_append, BufOp.data]
      · exact Copy.xsputn_inv k inp _ _ h
      · exact Copy.sputc_inv k inp _ _ h
      · simpa using Copy.sync_inv k inp _ h
    simpa [Copy.run] using Copy.run_inv ops _ _ _ h1

def Gz.step {D : Deflater} (x : Gz D × List Act) : BufOp → Gz D × List Act
  | .put s => let r := x.1.xsputn s; (r.1, x.2 ++ r.2)
  | .putc c => let r := x.1.sputc c; (r.1, x.2 ++ r.2)
  | .sync => let r := x.1.sync; (r.1, x.2 ++ r.2)

def Gz.run {D : Deflater} (x : Gz D × List Act) (ops : List BufOp) : Gz D × List Act := ops.foldl Gz.step x

theorem Gz.run_inv {D : Deflater} : ∀ (ops : List BufOp) (g : Gz D) (acts : List Act) (inp : Bytes), g.Inv inp (actBytes acts) →
    (Gz.run (g, acts) ops).1.Inv (inp ++ (ops.map BufOp.data).flatten) (actBytes (Gz.run (g, acts) ops).2)
  | [], g, acts, inp, h => by simpa [Gz.run] using h
  | op :: ops, g, acts, inp, h => by
    have h1 : (Gz.step (g, acts) op).1.Inv (inp ++ op.data) (actBytes (Gz.step (g, acts) op).2) := by
      cases op <;> simp only [Gz.step, actBytes_append, BufOp.data]
      · exact Gz.xsputn_inv g inp _ _ h
      · exact Gz.sputc_inv g inp _ _ h
      · simpa using Gz.sync_inv g inp _ h
    simpa [Gz.run] using Gz.run_inv ops _ _ _ h1

/-- the header set `H` is handed over exactly once, and before anything is sent -/
def HdrShape (t : Trace) (H : Headers) : Prop :=
  ∃ a c : Trace, t = a ++ WEv.hdr H :: c ∧ a.sends = [] ∧ a.hdrs = [] ∧ c.hdrs = []

end Cppcms.C03
