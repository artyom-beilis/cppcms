import Cppcms.Common
import Cppcms.C03.Gen
import Cppcms.C03.Framing
/-!
# C03 model, part 3: the stream-buffer chain of `http::response` (src/http_response.cpp)

    application → [gzip_buf] → [copy_buf] → output_device | async_io_buf → connection

Every layer is a state machine whose operations return the *actions* it performs on the layer
below (`sputn` / `pubsync`); composition is replay of those actions (`Resp.belowGz`, `Resp.intoDev` in `Response.lean`).  The
device at the bottom talks to the connection through `ConnIf`.

`std::vector<char>` buffers are modelled with their contents (`resize` truncates or appends
zeros; the put area is `vec[0, pos)`), because the defect fixed in `async_io_buf::setbuf`
(`known_findings.txt`) lived exactly there.
-/
namespace Cppcms.C03
open Cppcms

/-- what a layer does to the `std::streambuf` below it -/
inductive Act where
  | put (bs : Bytes)     -- `out_->sputn(p, n)`
  | sync                 -- `out_->pubsync()`
  deriving Repr, DecidableEq, Inhabited

def Act.bytes : Act → Bytes
  | .put bs => bs
  | .sync => []

/-- all bytes a list of actions hands down, in order -/
def actBytes (as : List Act) : Bytes := (as.map Act.bytes).flatten

/-- `std::vector<char>::resize(n)` -/
def resize (v : Bytes) (n : Nat) : Bytes := v.take n ++ List.replicate (n - v.length) 0

/-- `memcpy(&v[pos], s, |s|)` (requires `pos + |s| ≤ |v|`) -/
def poke (v : Bytes) (pos : Nat) (s : Bytes) : Bytes := v.take pos ++ s ++ v.drop (pos + s.length)

/-! ## gzip_buf -/

inductive Flush where
  | noFlush | syncFlush | finish
  deriving Repr, DecidableEq, Inhabited

/-- zlib as a parameter: `feed st input flush` is the complete output of the `do { deflate } while(avail_out == 0)`
loop of one `gzip_buf::do_write` call.  Assumptions on zlib made by this shape (documented contract of
`deflate`): all input of the call is consumed; when `deflate` returns with `avail_out != 0` no output is
pending; the produced bytes do not depend on how much room each call offers. -/
structure Deflater where
  σ : Type
  init : σ
  feed : σ → Bytes → Flush → σ × Bytes

/-- the pieces in which `do_write` forwards `total` (the loop ends with the first piece shorter than `chunk`) -/
def piecesAux (chunk : Nat) : Nat → Bytes → List Bytes
  | 0, t => [t]
  | fuel + 1, t => if t.length < chunk then [t] else t.take chunk :: piecesAux chunk fuel (t.drop chunk)

def pieces (chunk : Nat) (t : Bytes) : List Bytes := piecesAux chunk (t.length + 1) t

structure Gz (D : Deflater) where
  /-- `buffer_`: size of `in_chunk_` and `chunk_` -/
  cap : Nat
  /-- put area `in_chunk_[0, pptr)` -/
  inBuf : Bytes := []
  z : D.σ := D.init
  opened : Bool := true
  /-- ghost: every `(input, flush)` handed to the deflater, in order -/
  fed : List (Bytes × Flush) := []

/-- `gzip_buf::open`: `if(buffer_size < 256) buffer_size = 256;` -/
def Gz.open (D : Deflater) (configured : Int) : Gz D :=
  { cap := if configured < (Gen.gzipMinBuffer : Int) then Gen.gzipMinBuffer else configured.toNat }

/-- `gzip_buf::do_write(p, n, flush)` -/
def Gz.doWrite {D : Deflater} (g : Gz D) (input : Bytes) (fl : Flush) : Gz D × List Act :=
  if !g.opened then (g, [])
  else if input.isEmpty && fl == .noFlush then (g, [])
  else
    let r := D.feed g.z input fl
    let acts := (pieces g.cap r.2).map Act.put ++ (if fl == .syncFlush then [Act.sync] else [])
    ({ g with z := r.1, fed := g.fed ++ [(input, fl)] }, acts)

/-- `gzip_buf::overflow(c)` with `c != EOF` -/
def Gz.overflowC {D : Deflater} (g : Gz D) (c : UInt8) : Gz D × List Act :=
  if !g.opened then (g, [])      -- `pbase() == epptr()`: -1
  else
    let r := if g.inBuf.isEmpty then (g, []) else g.doWrite g.inBuf .noFlush
    ({ r.1 with inBuf := [c] }, r.2)

/-- `std::streambuf::sputc` -/
def Gz.sputc {D : Deflater} (g : Gz D) (c : UInt8) : Gz D × List Act :=
  if g.inBuf.length < g.cap then ({ g with inBuf := g.inBuf ++ [c] }, []) else g.overflowC c

/-- `std::streambuf::xsputn` (libstdc++): copy what fits, `overflow(next char)`, repeat -/
def Gz.xsputnAux {D : Deflater} : Nat → Gz D → Bytes → Gz D × List Act
  | 0, g, _ => (g, [])
  | fuel + 1, g, s =>
    let room := g.cap - g.inBuf.length
    if s.length ≤ room then ({ g with inBuf := g.inBuf ++ s }, [])
    else
      let g1 := { g with inBuf := g.inBuf ++ s.take room }
      match s.drop room with
      | [] => (g1, [])
      | c :: rest =>
        let r1 := g1.overflowC c
        let r2 := Gz.xsputnAux fuel r1.1 rest
        (r2.1, r1.2 ++ r2.2)

def Gz.xsputn {D : Deflater} (g : Gz D) (s : Bytes) : Gz D × List Act :=
  if !g.opened then (g, []) else Gz.xsputnAux (s.length + 1) g s

/-- `gzip_buf::sync` -/
def Gz.sync {D : Deflater} (g : Gz D) : Gz D × List Act :=
  let r := g.doWrite g.inBuf .syncFlush
  (if g.opened then { r.1 with inBuf := [] } else r.1, r.2)

/-- `gzip_buf::close` -/
def Gz.close {D : Deflater} (g : Gz D) : Gz D × List Act :=
  if !g.opened then (g, [])
  else
    let r := g.doWrite g.inBuf .finish
    ({ r.1 with opened := false }, r.2)

/-! ## copy_buf -/

structure Copy where
  /-- `buffer_` -/
  vec : Bytes := []
  /-- `pbase() - &buffer_[0]`, `pptr() - &buffer_[0]`; `epptr()` is the end of `buffer_` once started -/
  base : Nat := 0
  pos : Nat := 0
  /-- `pptr() != 0` -/
  started : Bool := false
  /-- `out_ != 0` -/
  attached : Bool := true
  deriving Repr, DecidableEq, Inhabited

/-- the `sputn(pbase(), pptr()-pbase())` at the head of `copy_buf::overflow` -/
def Copy.teeActs (k : Copy) : List Act :=
  if k.attached && k.base != k.pos then [Act.put ((k.vec.drop k.base).take (k.pos - k.base))] else []

/-- the `setp` part of `copy_buf::overflow`: first allocation, doubling, or just moving `pbase` up -/
def Copy.reposition (k : Copy) : Copy :=
  if !k.started then
    { k with vec := if k.vec.isEmpty then resize k.vec Gen.copyBufInitial else k.vec, base := 0, pos := 0, started := true }
  else if k.pos = k.vec.length then
    { k with vec := resize k.vec (k.vec.length * 2), base := k.vec.length, pos := k.vec.length }
  else { k with base := k.pos }

/-- `sputc(c)` into a put area that has room -/
def Copy.store (k : Copy) (c : UInt8) : Copy := { k with vec := poke k.vec k.pos [c], pos := k.pos + 1 }

/-- `copy_buf::overflow(c)`; `c = none` is `EOF` -/
def Copy.overflow (k : Copy) (c : Option UInt8) : Copy × List Act :=
  match c with
  | none => (k.reposition, k.teeActs)
  | some c => (k.reposition.store c, k.teeActs)

def Copy.sputc (k : Copy) (c : UInt8) : Copy × List Act :=
  if k.started && k.pos < k.vec.length then (k.store c, [])
  else k.overflow (some c)

/-- `std::streambuf::xsputn` over `copy_buf::overflow` -/
def Copy.xsputnAux : Nat → Copy → Bytes → Copy × List Act
  | 0, k, _ => (k, [])
  | fuel + 1, k, s =>
    let room := if k.started then k.vec.length - k.pos else 0
    if s.length ≤ room then ({ k with vec := poke k.vec k.pos s, pos := k.pos + s.length }, [])
    else
      let k1 := if room = 0 then k else { k with vec := poke k.vec k.pos (s.take room), pos := k.pos + room }
      match s.drop room with
      | [] => (k1, [])
      | c :: rest =>
        let r1 := k1.overflow (some c)
        let r2 := Copy.xsputnAux fuel r1.1 rest
        (r2.1, r1.2 ++ r2.2)

def Copy.xsputn (k : Copy) (s : Bytes) : Copy × List Act := Copy.xsputnAux (s.length + 1) k s

/-- `copy_buf::sync` -/
def Copy.sync (k : Copy) : Copy × List Act :=
  let r := k.overflow none
  (r.1, r.2 ++ (if k.attached then [Act.sync] else []))

/-- `copy_buf::close` -/
def Copy.close (k : Copy) : Copy × List Act :=
  let r := k.overflow none
  ({ r.1 with attached := false }, r.2)

/-- `copy_buf::getstr(std::string &)` -/
def Copy.getstr (k : Copy) : Bytes × Copy :=
  let n := if k.started then k.pos else k.vec.length
  (k.vec.take n, { k with vec := k.vec.take n, base := 0, pos := 0, started := false })

/-! ## raw mode: `cgi_headers_parser` -/

def isSeparator (c : UInt8) : Bool :=
  [40, 41, 60, 62, 64, 44, 59, 58, 92, 34, 47, 91, 93, 63, 61, 123, 125, 32, 9].contains c

def isTokenChar (c : UInt8) : Bool := 0x20 ≤ c && c ≤ 0x7E && !isSeparator c
def isSpHt (c : UInt8) : Bool := c = 32 || c = 9

structure RawParser where
  /-- `header_` (the line being collected), most recent byte first -/
  hrev : List UInt8 := []
  h : Headers := {}
  done : Bool := false
  deriving Repr, DecidableEq, Inhabited

/-- `cgi_headers_parser::add_header` on a complete line (without its CRLF) -/
def rawAddHeader (h : Headers) (line : Bytes) : Headers :=
  let s := line.dropWhile isSpHt
  let key := s.takeWhile isTokenChar
  let afterKey := (s.dropWhile isTokenChar).dropWhile isSpHt
  match afterKey with
  | 58 :: v =>
    if key.isEmpty then h.addRaw line
    else if Gen.rawLineKept then h.add key (v.dropWhile isSpHt) else h.set key (v.dropWhile isSpHt)
  | _ => h.addRaw line

/-- `consume(data, length, conn)`: returns the parser, the unconsumed rest, and the header set if the
block was completed by this call (the code then calls `conn.set_response_headers`).  A line is complete when
the byte just appended is LF and the one before it CR; a line consisting of CRLF only ends the block. -/
def RawParser.consume (p : RawParser) : Bytes → RawParser × Bytes × Option Headers
  | [] => (p, [], none)
  | c :: rest =>
    if p.done then (p, c :: rest, none)
    else if c = 10 ∧ p.hrev.head? = some 13 then
      if p.hrev.tail.isEmpty then ({ p with hrev := c :: p.hrev, done := true }, rest, some p.h)
      else RawParser.consume { p with h := rawAddHeader p.h p.hrev.tail.reverse, hrev := [] } rest
    else RawParser.consume { p with hrev := c :: p.hrev } rest

/-! ## the devices -/

/-- how a device reaches its connection -/
structure ConnIf (κ : Type) where
  /-- `do_write`: `connection::write` or `connection::nonblocking_write`; `false` = failed with an error -/
  send : κ → Bytes → Bool → κ × Bool
  /-- `connection::set_response_headers` -/
  setHeaders : κ → Headers → κ

/-- what a response does to its connection, in order (the only feedback it takes from the connection is
the success flag of a write; after a failed write it never touches the connection again) -/
inductive WEv where
  | send (bs : Bytes) (eof : Bool)   -- `do_write`: `connection::write` / `nonblocking_write`
  | hdr (h : Headers)                -- `connection::set_response_headers`
  | asyncFlush                       -- `connection::async_write_response` after `flush_async_chunk` succeeded
  deriving Repr, DecidableEq, Inhabited

abbrev Trace := List WEv

/-- a connection that records what it is asked to do and accepts every write -/
def traceIf : ConnIf Trace :=
  { send := fun t bs e => (t ++ [WEv.send bs e], true), setHeaders := fun t h => t ++ [WEv.hdr h] }

def WEv.asSend : WEv → Option (Bytes × Bool)
  | .send bs e => some (bs, e)
  | _ => none

def WEv.asHdr : WEv → Option Headers
  | .hdr h => some h
  | _ => none

/-- the `(bytes, eof)` calls of a trace, in order -/
def Trace.sends (t : Trace) : List (Bytes × Bool) := t.filterMap WEv.asSend
/-- the header sets handed over, in order -/
def Trace.hdrs (t : Trace) : List Headers := t.filterMap WEv.asHdr

structure Dev where
  /-- `output_` and `pptr() - pbase()`; `epptr() - pbase()` is `vec.length` throughout -/
  vec : Bytes := []
  pos : Nat := 0
  bufferSize : Nat := 0
  final : Bool := false
  eofSend : Bool := false
  /-- `conn_` was reset after a failed write -/
  dead : Bool := false
  /-- `async_io_buf` (else `output_device`) -/
  isAsync : Bool := false
  fullBuffering : Bool := true
  rawMode : Bool := false
  raw : RawParser := {}
  deriving Repr, DecidableEq, Inhabited

def Dev.content (d : Dev) : Bytes := d.vec.take d.pos

/-- `do_setp` -/
def Dev.doSetp (d : Dev) : Dev := { d with vec := resize d.vec d.bufferSize, pos := 0 }

/-- `basic_device::open` -/
def Dev.open (d : Dev) (n : Nat) : Dev := { d with bufferSize := n }.doSetp

/-- a freshly opened device of either kind (`async_io_buf` / `output_device`), in any io mode -/
def Dev.fresh (isAsync full raw : Bool) (n : Nat) : Dev :=
  ({ isAsync := isAsync, fullBuffering := full, rawMode := raw } : Dev).open n

/-- `basic_device::write(out, e)`; result `false` = returned -1 -/
def Dev.write {κ : Type} (I : ConnIf κ) (d : Dev) (k : κ) (out : List Bytes) : Dev × κ × Bool :=
  if d.dead then (d, k, false)
  else
    let sendEof := d.final && !d.eofSend
    let d := { d with eofSend := d.eofSend || sendEof }     -- `eof_send_ = eof_send_ || send_eof`
    if d.rawMode && !d.raw.done then
      -- the gathered pieces go through the header parser (the code loops over them; the parser is
      -- insensitive to how the bytes are cut, `consume_append` in `DeviceLemmas.lean`)
      let r := d.raw.consume out.flatten
      let k := (r.2.2.map (I.setHeaders k)).getD k     -- `conn.set_response_headers(h_)` when the block completes
      let d := { d with raw := r.1 }
      if r.1.done || sendEof then
        let s := I.send k r.2.1 sendEof
        if s.2 then (d, s.1, true) else ({ d with dead := true }, s.1, false)
      else (d, k, true)
    else
      let s := I.send k out.flatten sendEof
      if s.2 then (d, s.1, true) else ({ d with dead := true }, s.1, false)

/-- `basic_device::overflow(c)` -/
def Dev.basicOverflow {κ : Type} (I : ConnIf κ) (d : Dev) (k : κ) (c : Option UInt8) : Dev × κ :=
  let r := d.write I k (match c with | some c => [d.content, [c]] | none => [d.content])
  if r.2.2 then (r.1.doSetp, r.2.1) else (r.1, r.2.1)

/-- `basic_device::xsputn` -/
def Dev.basicXsputn {κ : Type} (I : ConnIf κ) (d : Dev) (k : κ) (s : Bytes) : Dev × κ :=
  if s.length ≤ d.vec.length - d.pos then
    (if s.isEmpty then d else { d with vec := poke d.vec d.pos s, pos := d.pos + s.length }, k)
  else
    let r := d.write I k [d.content, s]
    if r.2.2 then (r.1.doSetp, r.2.1) else (r.1, r.2.1)

/-- `basic_device::flush(e)` (also `response::flush_async_chunk`) -/
def Dev.flush {κ : Type} (I : ConnIf κ) (d : Dev) (k : κ) : Dev × κ × Bool :=
  let r := d.write I k [d.content]
  ({ r.1 with pos := 0 }, r.2.1, r.2.2)

/-- `basic_device::setbuf(0, size)` -/
def Dev.basicSetbuf {κ : Type} (I : ConnIf κ) (d : Dev) (k : κ) (size : Nat) : Dev × κ :=
  let d := { d with bufferSize := size }
  if d.pos > size then
    let r := d.flush I k
    if r.2.2 then ({ r.1.doSetp with pos := 0 }, r.2.1) else (r.1, r.2.1)
  else
    let p := d.pos
    ({ d.doSetp with pos := p }, k)

/-- doubling loop of `async_io_buf::xsputn` -/
def growTo : Nat → Nat → Nat → Nat
  | 0, rs, _ => rs
  | fuel + 1, rs, minimal => if rs < minimal then growTo fuel (rs * 2) minimal else rs

/-- `async_io_buf::setbuf` / `basic_device::setbuf` -/
def Dev.setbuf {κ : Type} (I : ConnIf κ) (d : Dev) (k : κ) (size : Nat) : Dev × κ :=
  if d.isAsync && d.fullBuffering then
    let newSize := if d.pos > size then d.pos else size
    ({ d with bufferSize := size, vec := resize d.vec newSize }, k)
  else d.basicSetbuf I k size

/-- `overflow(c)` of the device in use -/
def Dev.overflow {κ : Type} (I : ConnIf κ) (d : Dev) (k : κ) (c : Option UInt8) : Dev × κ :=
  if d.isAsync && d.fullBuffering then
    let d := if d.pos = d.vec.length then { d with vec := resize d.vec (Gen.nextSize d.vec.length) } else d
    match c with
    | some c => ({ d with vec := poke d.vec d.pos [c], pos := d.pos + 1 }, k)
    | none => (d, k)
  else d.basicOverflow I k c

/-- `xsputn` of the device in use -/
def Dev.xsputn {κ : Type} (I : ConnIf κ) (d : Dev) (k : κ) (s : Bytes) : Dev × κ :=
  if d.isAsync && d.fullBuffering then
    let d :=
      if d.vec.length - d.pos < s.length then
        { d with vec := resize d.vec (growTo (d.pos + s.length + 1) (Gen.nextSize d.vec.length) (d.pos + s.length)) }
      else d
    (if s.isEmpty then d else { d with vec := poke d.vec d.pos s, pos := d.pos + s.length }, k)
  else d.basicXsputn I k s

/-- `std::streambuf::sputc` on the device -/
def Dev.sputc {κ : Type} (I : ConnIf κ) (d : Dev) (k : κ) (c : UInt8) : Dev × κ :=
  if d.pos < d.vec.length then ({ d with vec := poke d.vec d.pos [c], pos := d.pos + 1 }, k)
  else d.overflow I k (some c)

/-- `basic_device::sync` -/
def Dev.sync {κ : Type} (I : ConnIf κ) (d : Dev) (k : κ) : Dev × κ := d.overflow I k none

/-- `basic_device::close` -/
def Dev.close {κ : Type} (I : ConnIf κ) (d : Dev) (k : κ) : Dev × κ :=
  if d.eofSend then (d, k)
  else
    let r := { d with final := true }.flush I k
    (r.1, r.2.1)

/-- `async_io_buf::full_buffering(b)` -/
def Dev.setFullBuffering {κ : Type} (I : ConnIf κ) (d : Dev) (k : κ) (v : Bool) : Dev × κ :=
  if d.fullBuffering = v then (d, k)
  else
    let d := { d with fullBuffering := v }
    if !v then d.setbuf I k d.bufferSize else (d, k)

/-- apply the actions of an upper layer to the device -/
def Dev.apply {κ : Type} (I : ConnIf κ) (d : Dev) (k : κ) : List Act → Dev × κ
  | [] => (d, k)
  | .put bs :: rest => let r := d.xsputn I k bs; Dev.apply I r.1 r.2 rest
  | .sync :: rest => let r := d.sync I k; Dev.apply I r.1 r.2 rest

end Cppcms.C03
