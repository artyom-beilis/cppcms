import Cppcms.Common
/-!
# C03 model, part 1: the connection write path (`src/cgi_api.cpp`)

`connection::write`, `nonblocking_write`, `append_pending`, `async_write` and
`async_write_handler::operator()` over a *socket oracle*: every `write_some(buf)` the code
issues is answered by the environment with

* `accept k` — `writev` returned `k` (the code treats `k = 0` as `aio_error::eof`),
* `wouldBlock` — `EAGAIN`/`EWOULDBLOCK`,
* `error` — any other error.

`format_output` is applied by the caller (see `Framing.lean`); here the argument `newData`
is its result, and the ghost field `handed` accumulates those results in order.
-/
namespace Cppcms.C03
open Cppcms

/-- answer of the socket to one `write_some` -/
inductive Ans where
  | accept (k : Nat)
  | wouldBlock
  | error
  deriving Repr, DecidableEq, Inhabited

/-- state of a `cgi::connection` as far as output is concerned -/
structure Conn where
  /-- bytes the socket has accepted, in order (what the peer will read) -/
  wire : Bytes := []
  /-- `pending_output_` -/
  pending : Bytes := []
  /-- buffer owned by an `async_write_handler` waiting for writability (`data`/`output`) -/
  inflight : Option Bytes := none
  /-- ghost: concatenation of every `format_output` result handed to the write path -/
  handed : Bytes := []
  /-- a `write` (blocking, or in an async handler) failed: the response gives up -/
  broken : Bool := false
  deriving Repr, DecidableEq, Inhabited

/-- `stream_socket::write_some` on a non-empty buffer `out`: number of bytes taken.
`writev` returning `0` is reported as `eof` (an error) with `n = 0`; the kernel never accepts more than offered. -/
def Ans.taken (out : Bytes) : Ans → Nat
  | .accept k => min k out.length
  | .wouldBlock => 0
  | .error => 0

/-- `e` is set after `write_some` -/
def Ans.err : Ans → Bool
  | .accept k => k == 0
  | .wouldBlock => true
  | .error => true

/-- `e` is set and is not `would_block` -/
def Ans.hardErr : Ans → Bool
  | .accept k => k == 0
  | .wouldBlock => false
  | .error => true

/-- result of `nonblocking_write` -/
inductive NbRes where
  | done        -- returned true: everything (old pending and new data) is on the wire
  | blocked     -- returned false, `e` clear: data kept in `pending_output_`
  | failed      -- returned false, `e` set
  deriving Repr, DecidableEq, Inhabited

/-- `connection::nonblocking_write` after `format_output` produced `newData`.
The three branches of the code: `n == total`, `n == 0` (`append_pending(new_data)`),
`0 < n < total` (`swap` + `append_pending(output + n)`). The oracle is consulted only when
there is something to send (`if(output.empty()) return true;`). -/
def nbWrite (c : Conn) (newData : Bytes) (a : Ans) : Conn × NbRes :=
  let c := { c with handed := c.handed ++ newData }
  let output := c.pending ++ newData
  if output.isEmpty then (c, .done)
  else
    let n := a.taken output
    if n = output.length then
      ({ c with wire := c.wire ++ output, pending := [] }, .done)
    else if n = 0 then
      ({ c with pending := c.pending ++ newData }, if a.hardErr then .failed else .blocked)
    else
      ({ c with wire := c.wire ++ output.take n, pending := output.drop n },
        if a.hardErr then .failed else .blocked)

/-- does `nbWrite` consult the socket? -/
def nbWriteAsks (c : Conn) (newData : Bytes) : Bool := !(c.pending ++ newData).isEmpty

/-- `stream_socket::write` / `http::write_to_socket`: loop `write_some` until everything is
written or an error is reported. Consumes answers from the schedule; an exhausted schedule
counts as the kernel accepting everything offered. Returns (bytes written, success, rest of schedule). -/
def writeAll : (fuel : Nat) → Bytes → List Ans → Bytes × Bool × List Ans
  | 0, _, s => ([], false, s)
  | fuel + 1, out, s =>
    if out.isEmpty then ([], true, s)
    else
      let a := s.headD (Ans.accept out.length)
      let s' := s.tail
      let n := a.taken out
      if a.err then (out.take n, false, s')
      else
        let r := writeAll fuel (out.drop n) s'
        (out.take n ++ r.1, r.2.1, r.2.2)

/-- `connection::write` (blocking): `pending_output_` is cleared whatever the result. -/
def blockingWrite (c : Conn) (newData : Bytes) (s : List Ans) : Conn × Bool × List Ans :=
  let c := { c with handed := c.handed ++ newData }
  let output := c.pending ++ newData
  if output.isEmpty then (c, true, s)
  else
    let r := writeAll (output.length + 1) output s
    ({ c with wire := c.wire ++ r.1, pending := [], broken := c.broken || !r.2.1 }, r.2.1, r.2.2)

/-- `connection::async_write`: try `nonblocking_write`; if data is left over (and no error)
the `async_write_handler` takes `pending_output_` (by `swap`) and waits for writability. -/
def asyncWrite (c : Conn) (newData : Bytes) (a : Ans) : Conn × NbRes :=
  let r := nbWrite c newData a
  match r.2 with
  | .done => r
  | .failed => r
  | .blocked => ({ r.1 with inflight := some r.1.pending, pending := [] }, .blocked)

/-- one `async_write_handler::operator()` invocation (socket reported writable, `ein` clear):
`write_some(output)`, advance, complete when empty, fail on a real error, otherwise re-arm. -/
def asyncStep (c : Conn) (a : Ans) : Conn × NbRes :=
  match c.inflight with
  | none => (c, .done)
  | some out =>
    if out.isEmpty then ({ c with inflight := none }, .done)   -- cannot happen: handler is only created with data
    else
      let n := a.taken out
      let rest := out.drop n
      let c' := { c with wire := c.wire ++ out.take n }
      if rest.isEmpty then ({ c' with inflight := none }, if a.err then .failed else .done)
      else if a.hardErr then ({ c' with inflight := none, broken := true }, .failed)
      else ({ c' with inflight := some rest }, .blocked)

/-- events of the write path, as the response layer and the event loop drive it -/
inductive Ev where
  | nb (data : Bytes) (a : Ans)          -- nonblocking_write (async_io_buf::do_write)
  | async (data : Bytes) (a : Ans)       -- async_write (async_write_response / handle_http_error)
  | writable (a : Ans)                   -- event loop calls the armed async_write_handler
  | blocking (data : Bytes) (s : List Ans) -- connection::write (output_device::do_write)
  deriving Repr, Inhabited

def stepEv (c : Conn) : Ev → Conn
  | .nb d a => (nbWrite c d a).1
  | .async d a => (asyncWrite c d a).1
  | .writable a => (asyncStep c a).1
  | .blocking d s => (blockingWrite c d s).1

def runEvs (c : Conn) (evs : List Ev) : Conn := evs.foldl stepEv c

/-- The documented usage contract of the asynchronous API: while an asynchronous write is in
flight (its completion handler has not run) the application does not write.  `disciplined`
checks a trace against the states it leads through. -/
def evOk (c : Conn) : Ev → Bool
  | .writable _ => true
  | _ => c.inflight.isNone

def disciplined : Conn → List Ev → Bool
  | _, [] => true
  | c, e :: es => evOk c e && disciplined (stepEv c e) es

/-- everything not yet on the wire, in wire order -/
def Conn.backlog (c : Conn) : Bytes := c.inflight.getD [] ++ c.pending

end Cppcms.C03
