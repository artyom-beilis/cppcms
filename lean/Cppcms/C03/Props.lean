import Cppcms.C03.FinalLemmas
import Cppcms.C03.ChainLemmas
import Cppcms.C03.CacheLemmas
import Cppcms.C03.HttpHeadersLemmas
/-! C03 — the client receives exactly the bytes the application wrote, once and in order: the property theorems, layer by
layer (write path, framing, stream buffers, `response_headers`), then their composition over the model the correspondence
runs (`runCase`: response object → trace → connection → wire) and the page cache. -/
namespace Cppcms.C03.Props
open Cppcms Cppcms.C03

/-- For every trace of `nonblocking_write` / `async_write` / handler
invocations / blocking `write` calls and every answer of the socket to each `write_some`
(accept any prefix, would-block, error), as long as no write ended in a hard error:
bytes on the wire ++ bytes owned by the in-flight asynchronous handler ++ `pending_output_`
= concatenation of the formatted outputs handed over so far.
Hypothesis `disciplined`: the application does not write while an asynchronous write is in flight. -/
theorem pending_invariant (evs : List Ev) (hd : disciplined {} evs = true) (hb : (runEvs {} evs).broken = false) :
    (runEvs {} evs).wire ++ (runEvs {} evs).backlog = (evs.map Ev.data).flatten := by
  have h := runEvs_inv evs {} (by simp [Conn.Inv, Conn.backlog]) hd hb
  have hh := runEvs_handed evs {}
  simp only [List.nil_append] at hh
  rw [← hh]
  exact h

/-- non-vacuity: a trace with a partial accept, a would-block, an asynchronous write and handler steps -/
example : disciplined {} [.nb [1,2,3] (.accept 2), .nb [4] .wouldBlock, .async [5] (.accept 1), .writable .wouldBlock, .writable (.accept 9)] = true
    ∧ (runEvs {} [.nb [1,2,3] (.accept 2), .nb [4] .wouldBlock, .async [5] (.accept 1), .writable .wouldBlock, .writable (.accept 9)]).broken = false
    ∧ (runEvs {} [.nb [1,2,3] (.accept 2), .nb [4] .wouldBlock, .async [5] (.accept 1), .writable .wouldBlock, .writable (.accept 9)]).wire = [1,2,3,4,5] := by decide +kernel

/-- **completion.**  Once nothing is pending or in flight, the peer has received everything, once, in order. -/
theorem wire_complete_when_drained (evs : List Ev) (hd : disciplined {} evs = true) (hb : (runEvs {} evs).broken = false)
    (hp : (runEvs {} evs).backlog = []) : (runEvs {} evs).wire = (evs.map Ev.data).flatten := by
  have := pending_invariant evs hd hb
  rwa [hp, List.append_nil] at this

/-- **a failing write never corrupts the stream**: after the event on which a write fails for
good, the wire still holds a prefix of what was handed over (nothing duplicated or reordered). -/
theorem wire_prefix_on_failure (evs : List Ev) (e : Ev) (hd : disciplined {} (evs ++ [e]) = true)
    (hb : (runEvs {} evs).broken = false) :
    (runEvs {} (evs ++ [e])).wire <+: ((evs ++ [e]).map Ev.data).flatten := by
  have hd' := Bool.and_eq_true_iff.1 (disciplined_snoc evs e {} ▸ hd)
  have hinv := runEvs_inv evs {} (by simp [Conn.Inv, Conn.backlog]) hd'.1 hb
  have := stepEv_wire_prefix (runEvs {} evs) e hinv hd'.2
  have hh := runEvs_handed (evs ++ [e]) {}
  simp only [List.nil_append] at hh
  rw [← hh]
  simpa [runEvs, List.foldl_append] using this

/-- **liveness of the asynchronous handler**: if the socket accepts at least one byte each time
it is reported writable, the handler completes after at most `|data|` invocations and the data is
on the wire exactly once.  (`hb` is not needed.) -/
theorem async_write_drains (c : Conn) (out : Bytes) (ks : List Nat) (hi : c.inflight = some out) (hne : out ≠ [])
    (hl : out.length ≤ ks.length) (hb : c.broken = false) :
    (drainSteps c ks).inflight = none ∧ (drainSteps c ks).wire = c.wire ++ out := by
  rw [drain_complete ks c out hi hne hl]
  exact ⟨rfl, rfl⟩

/-- the discipline hypothesis is necessary: writing while an asynchronous write is in flight
reorders the stream (`async_write` took `pending_output_` away by `swap`). -/
theorem write_during_async_reorders :
    (runEvs {} [.async [1, 2] (.accept 1), .nb [3] (.accept 1), .writable (.accept 1)]).wire = [1, 3, 2] := by decide +kernel

/-- **chunked round trip** (RFC 7230 4.1 decoder of `Spec.lean`): whatever sequence of
`format_output(w, false)` calls and final `format_output(last, true)` produced the body in chunked
mode, a client decodes exactly the concatenation of the writes, and stops exactly at the end. -/
theorem chunked_roundtrip (ws : List Bytes) (last rest : Bytes) :
    Spec.deChunked ((ws.map fun w => chunkWrap w false).flatten ++ chunkWrap last true ++ rest)
      = some (ws.flatten ++ last, rest) :=
  deChunked_body ws last rest

/-- chunk sizes are written in lower-case hexadecimal without prefix, and parse back -/
theorem chunk_size_roundtrip (n : Nat) : Spec.parseHexNum (hexDigits n) = some n := parseHexNum_hexDigits n

/-- **FastCGI round trip**: the records sent for the gathered inputs `ds` of the successive
`format_output` calls (the first one starts with the CGI header block) parse back, by the
record grammar of the FastCGI specification, to a STDOUT stream equal to their concatenation. -/
theorem fcgi_roundtrip (reqId : Nat) (hr : reqId < 65536) (ds : List Bytes) :
    ∃ recs, Spec.deRecords (fcgiWire reqId ds) = some recs ∧ Spec.fcgiStdoutStream reqId recs = some ds.flatten :=
  ⟨fcgiAllRecs reqId ds, deRecords_fcgiWire reqId hr ds, fcgiStdoutStream_wire reqId hr ds⟩

/-- Every STDOUT record carries between 1 and 65535 bytes, the stream
is closed by exactly one empty STDOUT record followed by exactly one END_REQUEST, which is last. -/
theorem fcgi_records_wellformed (reqId : Nat) (hr : reqId < 65536) (ds : List Bytes) :
    ∃ body, fcgiAllRecs reqId ds = body ++ eofRecs reqId ∧
      (∀ r ∈ body, r.type = Spec.FCGI_STDOUT ∧ r.requestId = reqId ∧ 1 ≤ r.content.length ∧ r.content.length ≤ 65535) ∧
      Spec.deRecords (fcgiWire reqId ds) = some (fcgiAllRecs reqId ds) := by
  refine ⟨ds.flatMap (stdoutRecs reqId), rfl, ?_, deRecords_fcgiWire reqId hr ds⟩
  intro r h
  simp only [List.mem_flatMap] at h
  obtain ⟨d, _, hd⟩ := h
  have ⟨_, h1, h2, h3, h4⟩ := (stdoutRecs_spec reqId hr d).2 r hd
  exact ⟨h1, h2, List.length_pos_iff.2 h3, h4⟩

/-- non-vacuity: a 70000-byte write is cut into a full record (65535 + 1 pad) and a 4465-byte record (+ 7 pad) -/
example (data : Bytes) (h : data.length = 70000) :
    (stdoutRecs 1 data).map (fun r => (r.content.length, r.padding)) = [(65535, 1), (4465, 7)] := by
  have h2 : (data.drop Gen.maxPacketLen).length = 4465 := by simp [List.length_drop, h, Gen.maxPacketLen]
  rw [stdoutRecs]
  simp only [h, Gen.isFullRecord, Gen.maxPacketLen, Gen.fullPad]
  rw [stdoutRecs]
  have h2' : (data.drop 65535).length = 4465 := h2
  simp [h, h2', Gen.isFullRecord, Gen.maxPacketLen, Gen.lastPad, List.length_take]

/-- For either device (`output_device`, `async_io_buf` with full or
partial buffering), in every io mode (`raw` = the raw modes, where the device first takes the
application's own CGI header block out of the stream), any initial buffer size and every sequence of
`sputn` / `sputc` / `pubsync` / `flush_async_chunk` / `setbuf m` / `full_asynchronous_buffering b`
(over a connection that accepts its writes): before `close()` no eof was announced; after `close()` nothing
is buffered, the bytes passed to `connection::write` are exactly the bytes written by the layer above
(`filterOf raw` = identity outside the raw modes), and eof is announced exactly once — with the last write.
And **whatever** is done to the device afterwards (`post`: any number of `flush_async_chunk`, `pubsync`,
`setbuf`, buffering-mode changes, in any order — `async_write_response` after an explicit `finalize()`, an
application that keeps calling `async_flush_output`) sends no further byte and announces eof no second time. -/
theorem device_conservation (isAsync full raw : Bool) (n : Nat) (ops post : List DevOp) (hpost : ∀ op ∈ post, op.data = []) :
    let r := Dev.run (Dev.fresh isAsync full raw n, []) ops
    let c := r.1.close traceIf r.2
    let p := Dev.run (c.1, c.2) post
    r.2.eofs = 0 ∧
    c.2.bytes = filterOf raw (ops.map DevOp.data).flatten ∧ c.1.content = [] ∧ c.2.eofs = 1 ∧
    (c.2.sends.getLast?.map (fun (x : Bytes × Bool) => x.2)) = some true ∧
    p.2.bytes = filterOf raw (ops.map DevOp.data).flatten ∧ p.2.eofs = 1 := by
  intro r c p
  have ⟨g, hmr⟩ := Dev.run_fresh_good isAsync full raw n ops
  have cl := Dev.close_spec r.1 r.2 _ g (x := c) rfl
  have hmc : c.1.rawMode = raw := cl.stepTo.step.mode.trans hmr
  have hbytes := cl.bytes
  rw [hmr] at hbytes
  have ⟨_, _, peofs, pbytes, _⟩ := Dev.run_sealed post c.1 c.2 _ cl.stepTo.inv cl.sealed (by rw [hmc]; exact hbytes) hpost
  rw [hmc] at pbytes
  refine ⟨g.quiet.eofs, hbytes, cl.drained, cl.eofs, ?_, pbytes, peofs.trans cl.eofs⟩
  show (List.getLast? (Trace.sends (r.1.close traceIf r.2).2)).map _ = _
  rw [cl.lastCall]; simp

/-- written ++ buffered = input at every moment (outside the raw modes) -/
theorem device_conservation_running (isAsync full : Bool) (n : Nat) (ops : List DevOp) :
    let r := Dev.run (Dev.fresh isAsync full false n, []) ops
    r.2.bytes ++ r.1.content = (ops.map DevOp.data).flatten := by
  intro r
  have ⟨g, hmr⟩ := Dev.run_fresh_good isAsync full false n ops
  exact g.inv.bytes_content hmr

/-- **raw modes**: of a stream that starts with a CGI header block given line by line (lines not
empty, no CR inside) the device passes on exactly what follows the block, and the block's lines reach
`set_response_headers` through `add_header`, in order — however the stream is cut into writes
(`device_conservation` quantifies over the cuts). -/
theorem raw_header_block_stripped (ls : List Bytes) (hok : ∀ l ∈ ls, l ≠ [] ∧ ∀ c ∈ l, c ≠ 13) (body : Bytes) :
    filterOf true ((ls.map (· ++ [13, 10])).flatten ++ 13 :: 10 :: body) = body ∧
    (({} : RawParser).consume ((ls.map (· ++ [13, 10])).flatten ++ 13 :: 10 :: body)).2.2 = some (ls.foldl rawAddHeader {}) := by
  have := consume_block ls {} body rfl rfl hok
  exact ⟨this.1, this.2.2⟩

/-- **raw modes keep every header line the application wrote** — "exactly one header block carrying every header and cookie
the application set": for a block of ordinary `Name: value` lines (token names other than `Status`/`Content-Length`, which
are assignments; names may repeat in any mix of case; values without CR and without leading SP/HT), the connection's header set has
exactly those lines as its added headers, all of them, in the order written; the body follows untouched.  (How the parser
stores a line — `add_header`, not `set_header` — is read from the source: `Gen.rawLineKept`.) -/
theorem raw_header_lines_all_kept (ls : List (Bytes × Bytes)) (hok : ∀ kv ∈ ls, RawLineOk kv) (body : Bytes) :
    filterOf true (((ls.map fun kv => kv.1 ++ [58, 32] ++ kv.2).map (· ++ [13, 10])).flatten ++ 13 :: 10 :: body) = body ∧
    (({} : RawParser).consume (((ls.map fun kv => kv.1 ++ [58, 32] ++ kv.2).map (· ++ [13, 10])).flatten ++ 13 :: 10 :: body)).2.2 =
      some { map := [], added := ls.map fun kv => kv.1 ++ [58, 32] ++ kv.2 } := by
  have hl : ∀ l ∈ (ls.map fun kv => kv.1 ++ [58, 32] ++ kv.2), l ≠ [] ∧ ∀ c ∈ l, c ≠ 13 := by
    intro l hl
    obtain ⟨kv, hkv, rfl⟩ := List.mem_map.1 hl
    exact lineOk_field (fun c hc h13 => absurd (h13 ▸ (hok kv hkv).tok c hc) (by decide)) (hok kv hkv).noCR
  have := consume_block _ {} body rfl rfl hl
  refine ⟨this.1, ?_⟩
  rw [this.2.2, rawAddHeader_fold ls _ hok]
  simp

/-- non-vacuity: `Set-Cookie: a=1`, `set-cookie: b=2`, `X-Trace:` (empty value), `Set-Cookie: c=3` -/
example : ∀ kv ∈ ([(b [83,101,116,45,67,111,111,107,105,101], b [97,61,49]), (b [115,101,116,45,99,111,111,107,105,101], b [98,61,50]),
    (b [88,45,84,114,97,99,101], []), (b [83,101,116,45,67,111,111,107,105,101], b [99,61,51])] : List (Bytes × Bytes)), RawLineOk kv := by
  intro kv hkv
  simp only [List.mem_cons, List.not_mem_nil, or_false] at hkv
  rcases hkv with h | h | h | h <;> subst h <;>
    exact ⟨by decide +kernel, by decide +kernel, by decide +kernel, by decide +kernel, by decide +kernel⟩

/-- illustration: a 2-byte buffer, a write larger than it, two puts that stay in it, a setbuf that forces a flush -/
example : (Dev.run (Dev.fresh false true false 2, []) [.put [1,2,3], .putc 4, .putc 5, .setbuf 1, .put [6]]).2.sends = [([1,2,3], false), ([4,5], false)]
    ∧ (Dev.run (Dev.fresh false true false 2, []) [.put [1,2,3], .putc 4, .putc 5, .setbuf 1, .put [6]]).1.content = [6] := by
  decide +kernel

/-- raw mode illustration: `A: b CRLF CRLF xy` written in two pieces that cut the header block -/
example : ((Dev.run (Dev.fresh false true true 0, []) [.put [65, 58, 32, 98, 13], .put [10, 13, 10, 120, 121]]).1.close traceIf
    (Dev.run (Dev.fresh false true true 0, []) [.put [65, 58, 32, 98, 13], .put [10, 13, 10, 120, 121]]).2).2.bytes = [120, 121] := by
  decide +kernel

/-- `eof_send_` is sticky: `close()` then three flushes — one eof -/
example : (Dev.run ((Dev.fresh true true false 4).close traceIf []) [.flush, .flush, .flush]).2.eofs = 1 := by decide +kernel

/-- For every sequence of writes/puts/flushes through `copy_buf` followed by
`close()`: the bytes it handed to the next buffer (what goes towards the client) and the bytes
`copied_data()` returns for the page cache are both exactly the bytes written into it. -/
theorem cache_copy_identical (ops : List BufOp) :
    let r := Copy.run ({}, []) ops
    let c := r.1.close
    actBytes (r.2 ++ c.2) = (ops.map BufOp.data).flatten ∧ c.1.getstr.1 = (ops.map BufOp.data).flatten ∧
    c.1.getstr.1 = actBytes (r.2 ++ c.2) := by
  intro r c
  have h := Copy.run_inv ops {} [] [] (by simpa [actBytes] using Copy.inv_init)
  simp only [List.nil_append] at h
  have ⟨h1, h2⟩ := Copy.close_spec r.1 _ _ h
  rw [actBytes_append]
  exact ⟨h1, h2, by rw [h1, h2]⟩

/-- `copied_data()` can be asked again (a second `store_page` under another key): it returns the same page,
not the buffer's capacity (`copy_buf::getstr` keeps exactly the data) -/
theorem cache_copy_repeatable (k : Copy) : k.getstr.2.getstr.1 = k.getstr.1 := by
  unfold Copy.getstr
  simp only [Bool.false_eq_true, if_false]
  exact List.take_length

/-- non-vacuity: 300 bytes overflow the initial 128-byte buffer twice (doubling to 256 then 512) -/
example : ((Copy.run ({}, []) [.put (List.replicate 300 7), .sync]).1.vec.length,
           actBytes (Copy.run ({}, []) [.put (List.replicate 300 7), .sync]).2 == List.replicate 300 7) = (512, true) := by
  decide +kernel

/-- For every deflater, buffer size and sequence of writes/puts/flushes through
`gzip_buf` followed by `close()`: the inputs fed to the deflater, in order, are exactly the
application bytes; `Z_FINISH` is issued exactly once, as the last call; the bytes handed to the next
buffer are exactly the deflater's outputs in order.  Hence, for any `inflate` that inverts this deflater
on finished streams, the client recovers the application bytes from the body. -/
theorem gzip_bookkeeping (D : Deflater) (bufsize : Int) (ops : List BufOp) :
    let r := Gz.run (Gz.open D bufsize, []) ops
    let c := r.1.close
    ∃ calls last, c.1.fed = calls ++ [(last, Flush.finish)] ∧ (∀ x ∈ calls, x.2 ≠ Flush.finish) ∧
      (c.1.fed.map (·.1)).flatten = (ops.map BufOp.data).flatten ∧
      actBytes (r.2 ++ c.2) = (feedAll D D.init c.1.fed).2 ∧
      ∀ inflate : Bytes → Option Bytes,
        (∀ cs l, (∀ x ∈ cs, x.2 ≠ Flush.finish) →
            inflate (feedAll D D.init (cs ++ [(l, Flush.finish)])).2 = some ((cs ++ [(l, Flush.finish)]).map (·.1)).flatten) →
        inflate (actBytes (r.2 ++ c.2)) = some (ops.map BufOp.data).flatten := by
  intro r c
  have h := Gz.run_inv ops (Gz.open D bufsize) [] [] (by simpa [actBytes] using Gz.open_inv D bufsize)
  simp only [List.nil_append] at h
  obtain ⟨calls, last, h1, h2, h3, h4, _⟩ := Gz.close_spec r.1 _ _ h
  refine ⟨calls, last, h1, h2, h3, ?_, ?_⟩
  · rw [actBytes_append]; exact h4.symm
  · intro inflate hinf
    rw [actBytes_append, ← h4, h1, hinf calls last h2, ← h1, h3]

/-- a deflater that stores: output = input -/
def idDeflater : Deflater := { σ := Unit, init := (), feed := fun _ i _ => ((), i) }

/-- illustration with a storing deflater: the `do_write` calls of a concrete run
(259 bytes through a 256-byte buffer: one Z_NO_FLUSH feed of 256 bytes, then Z_FINISH with the remaining 3) -/
example : ((Gz.run (Gz.open idDeflater (-1), []) [.put (List.replicate 259 9)]).1.close).1.fed.map (fun x => (x.1.length, x.2))
    = [(256, Flush.noFlush), (3, Flush.finish)] := by
  decide +kernel

/-- **framing_roundtrip (HTTP).**  `st` is the connection state after `set_response_headers`: the
application's status line `l0` and header lines `rest0` (no CR inside, none empty, no Transfer-Encoding
among them, at most one Content-Length, in plain decimal).  For every sequence of `format_output` calls
of a finalized response whose total length is the announced Content-Length (if one was announced), no
`protocol_violation` is raised and the RFC 7230 client of `Spec.lean` reads **exactly one head** — the
application's lines followed by the ones `format_output` adds — and a body equal to the concatenation of
the inputs, whether the server chose Content-Length (announced, or computed for a single write),
chunked (keep-alive and HTTP/1.1) or close-delimited framing. -/
theorem framing_roundtrip_http (st : HttpSt) (l0 : Bytes) (rest0 : List Bytes) (h : HttpReady st l0 rest0)
    (ws : List Bytes) (last : Bytes) (hlen : ∀ n, st.contentLength = some n → (ws.flatten ++ last).length = n) :
    ∃ extras enc,
      httpRun st (callsOf ws last) = (joinLines (l0 :: (rest0 ++ extras)) ++ [13, 10] ++ enc, false) ∧
      Spec.deHttp (joinLines (l0 :: (rest0 ++ extras)) ++ [13, 10] ++ enc) =
        some (joinLines (l0 :: (rest0 ++ extras)) ++ [13, 10], ws.flatten ++ last) :=
  http_roundtrip_lemma st l0 rest0 h ws last hlen

/-- a concrete ready state: HTTP/1.1 keep-alive client, `HTTP/1.1 200 Ok` + `Content-Type: text/html` -/
def exampleHttpSt : HttpSt :=
  { isHttp11 := true, clientKeepAlive := true,
    responseHeaders := joinLines [[72,84,84,80,47,49,46,49,32,50,48,48,32,79,107],
                                  [67,111,110,116,101,110,116,45,84,121,112,101,58,32,116,101,120,116,47,104,116,109,108]] }

/-- non-vacuity of `HttpReady` -/
example : HttpReady exampleHttpSt [72,84,84,80,47,49,46,49,32,50,48,48,32,79,107]
    [[67,111,110,116,101,110,116,45,84,121,112,101,58,32,116,101,120,116,47,104,116,109,108]] where
  fresh := rfl
  hdr := rfl
  status := by decide +kernel
  ok := by decide +kernel
  noTE := by decide +kernel
  cl := Or.inl ⟨rfl, by decide +kernel⟩
  written0 := rfl
  version := by intro _; decide +kernel

/-- and what that state sends for two writes: chunked, decoded back by the client -/
example : (httpRun exampleHttpSt (callsOf [[1, 2, 3]] [4])).2 = false ∧
    (Spec.deHttp (httpRun exampleHttpSt (callsOf [[1, 2, 3]] [4])).1).map (·.2) = some [1, 2, 3, 4] := by
  decide +kernel

/-- **framing_roundtrip (FastCGI).**  With a CGI header block `H` (exactly one block: its first blank line
is its end) and a 16-bit request id: the records sent for a finalized response parse, by the record grammar of
the FastCGI specification, to a STDOUT stream that splits into exactly that header block and the
concatenation of the inputs; see `fcgi_records_wellformed` for the shape of the records. -/
theorem framing_roundtrip_fcgi (reqId : Nat) (hr : reqId < 65536) (H : Bytes) (hH : HeadOk H) (ws : List Bytes) (last : Bytes) :
    Spec.deFcgi reqId (fcgiRun { reqId := reqId, responseHeaders := H, headersWritten := false } (callsOf ws last))
      = some (H, ws.flatten ++ last) := by
  obtain ⟨ds, hds, hrun⟩ := fcgiRun_fresh_wire reqId H ws last
  simp only [callsOf, hrun, Spec.deFcgi, deRecords_fcgiWire reqId hr, fcgiStdoutStream_wire reqId hr, hds]
  exact splitHead_append H _ hH

/-- **framing_roundtrip (SCGI/CGI).**  The header block is sent once, in front of the first output. -/
theorem framing_roundtrip_scgi (H : Bytes) (hH : HeadOk H) (ws : List Bytes) (last : Bytes) :
    Spec.deScgi (scgiRun { headers := H, headersWritten := false } (ws ++ [last])) = some (H, ws.flatten ++ last) := by
  obtain ⟨x, xs, hx⟩ : ∃ x xs, ws ++ [last] = x :: xs := by cases ws <;> exact ⟨_, _, rfl⟩
  rw [hx, scgiRun_fresh, ← hx, Spec.deScgi, splitHead_append H _ hH]
  simp

/-- **one header block from the header set** (SCGI/FastCGI): what `format_xcgi_response_headers` makes of
the response's headers — the map entries as `Name: value` lines in map order, then the added
headers/cookies in insertion order, then a blank line — is exactly one header block (`HeadOk`, the
hypothesis of the two round-trip theorems) if there is a line and none is empty or contains a CR. -/
theorem header_block_once_xcgi (h : Headers) (hne : h.lines none ≠ []) (hok : ∀ l ∈ h.lines none, LineOk l) :
    HeadOk (xcgiHeaders false h) ∧ xcgiHeaders false h = joinLines (h.lines none) ++ [13, 10] := by
  have e : xcgiHeaders false h = joinLines (h.lines none) ++ [13, 10] := by
    simp [xcgiHeaders, Headers.fmtCgi, fmtLines_eq, lit_headerSep_lineEnd.1]
  rw [e]
  exact ⟨headOk_lines _ hne hok, rfl⟩

/-- non-vacuity: `Content-Type: text/html` set, a cookie added -/
example : (({} : Headers).set [67,111,110,116,101,110,116,45,84,121,112,101] [116,101,120,116,47,104,116,109,108] |>.addRaw [83,101,116,45,67,111,111,107,105,101,58,97,61,98]).lines none
    = [[67,111,110,116,101,110,116,45,84,121,112,101,58,32,116,101,120,116,47,104,116,109,108], [83,101,116,45,67,111,111,107,105,101,58,97,61,98]] := by
  decide +kernel

/-- non-vacuity of `HeadOk`: `Content-Type: text/html CRLF CRLF` -/
example : HeadOk [67,111,110,116,101,110,116,45,84,121,112,101,58,32,116,101,120,116,47,104,116,109,108,13,10,13,10] := by
  unfold HeadOk; decide +kernel

/-- header names are compared without regard to ASCII case — `ieq` is the equivalence of
`protocol::compare` (the ordering of the `headers_` map) -/
theorem header_names_case_insensitive (l r : Bytes) : ieq l r = true ↔ l.map lowerByte = r.map lowerByte :=
  ieq_iff l r

/-- **last set wins, under any spelling.**  After any sequence of `set_header` (and the typed setters
built on it), `add_header` and `set_cookie` calls on an empty container, `get_header(n)` returns the value of
the last assignment to a name equal to `n` up to case (`add_header` assigns only for `Status` and
`Content-Length`), or nothing if there was none / the last one was empty (which erases). -/
theorem headers_last_set_wins (ops : List HOp) (n : Bytes) :
    (ops.foldl Headers.apply {}).get n = lastValue n [] ops :=
  (Headers.run_spec ops {} Headers.ok_empty).2.1 n

/-- **one entry per name**: the map never holds two entries whose names differ only in case, so
at most one `Name: value` line per name is written -/
theorem headers_unique_names (ops : List HOp) (n : Bytes) :
    ((ops.foldl Headers.apply {}).map.filter fun e => ieq e.1 n).length ≤ 1 :=
  Sorted.unique _ (Headers.run_spec ops {} Headers.ok_empty).1 n

/-- **added headers and cookies are kept, all of them, in the order they were added** -/
theorem headers_added_in_order (ops : List HOp) :
    (ops.foldl Headers.apply {}).added = ops.filterMap HOp.adds := by
  have := (Headers.run_spec ops {} Headers.ok_empty).2.2
  simpa using this

/-- the lines of the header block: one per map entry, then the added ones -/
theorem header_lines_shape (H : Headers) :
    H.lines none = H.map.map (fun kv => kv.1 ++ [58, 32] ++ kv.2) ++ H.added := by
  unfold Headers.lines
  congr 1
  induction H.map with
  | nil => rfl
  | cons kv m ih => simp only [List.flatMap_cons, List.map_cons, ih]; rfl

/-- non-vacuity / illustration: `Content-Type` set twice in different case, a cookie, `add_header("Status")` -/
example : ((([HOp.set [67,111,110,116,101,110,116,45,84,121,112,101] [97], HOp.addRaw [99,61,49],
              HOp.set [99,79,78,84,69,78,84,45,116,121,112,101] [98], HOp.add (b Gen.statusName) [52,48,52]] : List HOp).foldl Headers.apply {}).lines none)
    = [[67,111,110,116,101,110,116,45,84,121,112,101,58,32,98], [83,116,97,116,117,115,58,32,52,48,52], [99,61,49]] := by
  decide +kernel

/-- non-vacuity of the usage contract; an explicit `finalize()` followed by asynchronous flushes is inside it -/
example : wellFormed .async [.setbuf 0, .write 5 1, .flush, .write 3 2, .finalize, .flush, .flush] = true ∧
          wellFormed .normal [.fetchPage "k", .write 5 1, .flush, .storePage "k"] = true ∧
          wellFormed .normal [.finalize, .write 1 1] = false := by decide +kernel

/-- **stage 1: the response object.**  For every script within the usage contract, io mode, buffer / gzip
configuration, cache content and request: when the context has completed the response it is `Done` — every
byte written went through the chain; `Z`, what left `gzip_buf` (or the bytes written), is
— minus the application's own header block in the raw modes — what the connection was given as a sequence of
calls `…(wᵢ, false)…, (last, true), ([], false)*`: eof announced exactly once, with the last data, empty calls
afterwards only; the header set is handed over exactly once, before the first byte (raw modes: if the application's
block is complete). -/
theorem response_trace (D : Deflater) (cfg : Config) (cache : PageCache) (mode : Mode) (acceptGzip : Bool) (script : List Op)
    (hwf : wellFormed mode script = true) :
    ∃ Z, Done (runScript D cfg cache mode acceptGzip script).resp (runScript D cfg cache mode acceptGzip script).resp.written Z ∧
      (runScript D cfg cache mode acceptGzip script).resp.mode = mode :=
  response_trace_spec cfg cache mode acceptGzip script hwf

/-- **body = what the application wrote, or a gzip stream of it.**  In a `Done` response without `gzip_buf`,
what left the chain is what was written; with `gzip_buf`, it is the output of the deflater fed exactly the bytes
written, `Z_FINISH` exactly once and last — so any `inflate` that inverts the deflater on finished streams
recovers the application's bytes. -/
theorem body_is_written_or_gzip_of_it {D : Deflater} {r : Resp D} {W Z : Bytes} (d : Done r W Z) :
    (r.gz = none → Z = W) ∧
    (r.gz.isSome = true → ∀ inflate : Bytes → Option Bytes,
      (∀ cs l, (∀ x ∈ cs, x.2 ≠ Flush.finish) →
          inflate (feedAll D D.init (cs ++ [(l, Flush.finish)])).2 = some ((cs ++ [(l, Flush.finish)]).map (·.1)).flatten) →
      inflate Z = some W) := by
  refine ⟨fun h => (GzDone.none h).1 d.gz, fun h inflate hinf => ?_⟩
  obtain ⟨g, hgs⟩ := Option.isSome_iff_exists.mp h
  obtain ⟨_, calls, last, hfed, hnofin, hin, hout⟩ := (GzDone.some hgs).1 d.gz
  rw [← hout, hfed, hinf calls last hnofin, ← hfed, hin]

/-- **the gzip decision and the headers agree**, for every script (no usage contract needed): with a `gzip_buf`, the
connection got a set for which `need_gzip()` held plus `Content-Encoding: gzip`; without one, outside the raw modes, a set
for which it does not hold; in the raw modes no `gzip_buf`; see `Enc`. -/
theorem gzip_decision_matches_headers (D : Deflater) (cfg : Config) (cache : PageCache) (mode : Mode) (acceptGzip : Bool)
    (script : List Op) : Enc (runScript D cfg cache mode acceptGzip script).resp :=
  (Enc.fold script _ (Enc.fresh (Resp.new_fresh cfg mode acceptGzip))).complete

/-- **response_wire_eq (SCGI/CGI).**  For every write script within the usage contract, io mode, buffer and gzip
configuration, cache content, request and socket schedule: nothing is violated, given up, broken or left
pending, and the bytes on the wire are the header block `format_xcgi_response_headers` makes of the header set
`out()` handed over (in the raw modes: parsed from the application's own block, which must be complete), followed
by exactly the bytes that left the buffer chain. -/
theorem response_wire_eq_scgi (D : Deflater) (cfg : Config) (cache : PageCache) (cs : Case)
    (hwf : wellFormed cs.mode cs.script = true) (hp : cs.proto = .scgi) :
    ∃ Z, Done (runCaseWith D cfg cache cs).run.resp (runCaseWith D cfg cache cs).run.resp.written Z ∧
      ((cs.mode.isRaw = true → (rawNext {} (runCaseWith D cfg cache cs).run.resp.written).done = true) →
        WireOk (runCaseWith D cfg cache cs).wire ∧
        (runCaseWith D cfg cache cs).wire.conn.wire =
          xcgiHeaders false (runCaseWith D cfg cache cs).run.resp.wireHeaders ++ filterOf cs.mode.isRaw Z) :=
  Cppcms.C03.response_wire_eq_scgi cfg cache cs hwf hp

/-- **response_wire_eq (FastCGI).**  As above; the wire is a well-formed record sequence for request 1 (see
`fcgi_records_wellformed`) whose STDOUT stream is the header block followed by the bytes that left the chain. -/
theorem response_wire_eq_fcgi (D : Deflater) (cfg : Config) (cache : PageCache) (cs : Case)
    (hwf : wellFormed cs.mode cs.script = true) (hp : cs.proto = .fcgi) :
    ∃ Z, Done (runCaseWith D cfg cache cs).run.resp (runCaseWith D cfg cache cs).run.resp.written Z ∧
      ((cs.mode.isRaw = true → (rawNext {} (runCaseWith D cfg cache cs).run.resp.written).done = true) →
        WireOk (runCaseWith D cfg cache cs).wire ∧
        ∃ ds, ds.flatten = xcgiHeaders false (runCaseWith D cfg cache cs).run.resp.wireHeaders ++ filterOf cs.mode.isRaw Z ∧
          (runCaseWith D cfg cache cs).wire.conn.wire = fcgiWire 1 ds ∧
          Spec.deRecords (runCaseWith D cfg cache cs).wire.conn.wire = some (fcgiAllRecs 1 ds) ∧
          Spec.fcgiStdoutStream 1 (fcgiAllRecs 1 ds) = some ds.flatten) := by
  obtain ⟨Z, dn, _, rest⟩ := response_wire_calls (D := D) cfg cache cs hwf
  refine ⟨Z, dn, fun hraw => ?_⟩
  obtain ⟨ws, last, hbody, hw⟩ := rest hraw
  have hrun := cs.framer_run (runCaseWith D cfg cache cs).run.resp.wireHeaders (callsOf ws last)
  obtain ⟨ds, hds, hfr⟩ := fcgiRun_fresh_wire 1 (xcgiHeaders false (runCaseWith D cfg cache cs).run.resp.wireHeaders) ws last
  rw [hp, protoRun, callsOf, hfr] at hrun
  obtain ⟨wok, w5⟩ := hw (by rw [callsOf, hrun])
  rw [callsOf, hrun] at w5
  exact ⟨wok, ds, hbody ▸ hds, w5, w5 ▸ deRecords_fcgiWire 1 (by decide) ds, fcgiStdoutStream_wire 1 (by decide) ds⟩

/-- **response_wire_eq (HTTP).**  As above, for an HTTP/1.0 or 1.1 request with or without keep-alive.  Hypotheses
about the application's headers (`HttpReady`, derivable from `HttpHeadersOk` by `http_ready_of_clean_headers`: no CR in
status / header lines, no Transfer-Encoding of its own, at most one Content-Length, in plain decimal) and, if it
announced a Content-Length, that the body has that length.  Then the wire is exactly one head — the application's
status line and headers, then the lines `format_output` adds — followed by the body in the framing chosen
(Content-Length, chunked, until-close), and an RFC 7230 client decodes it to the bytes that left the chain. -/
theorem response_wire_eq_http (D : Deflater) (cfg : Config) (cache : PageCache) (cs : Case)
    (hwf : wellFormed cs.mode cs.script = true) (a c : Bool) (hp : cs.proto = .http a c) (l0 : Bytes) (rest0 : List Bytes)
    (hready : HttpReady (({ isHttp11 := a, clientKeepAlive := c } : HttpSt).setHeaders (runCaseWith D cfg cache cs).run.resp.wireHeaders) l0 rest0) :
    ∃ Z, Done (runCaseWith D cfg cache cs).run.resp (runCaseWith D cfg cache cs).run.resp.written Z ∧
      ((cs.mode.isRaw = true → (rawNext {} (runCaseWith D cfg cache cs).run.resp.written).done = true) →
       (∀ n, (({ isHttp11 := a, clientKeepAlive := c } : HttpSt).setHeaders (runCaseWith D cfg cache cs).run.resp.wireHeaders).contentLength = some n →
          (filterOf cs.mode.isRaw Z).length = n) →
        WireOk (runCaseWith D cfg cache cs).wire ∧
        ∃ extras enc,
          (runCaseWith D cfg cache cs).wire.conn.wire = joinLines (l0 :: (rest0 ++ extras)) ++ [13, 10] ++ enc ∧
          Spec.deHttp (runCaseWith D cfg cache cs).wire.conn.wire =
            some (joinLines (l0 :: (rest0 ++ extras)) ++ [13, 10], filterOf cs.mode.isRaw Z)) := by
  obtain ⟨Z, dn, _, rest⟩ := response_wire_calls (D := D) cfg cache cs hwf
  refine ⟨Z, dn, fun hraw hlen => ?_⟩
  obtain ⟨ws, last, hbody, hw⟩ := rest hraw
  have hrun := cs.framer_run (runCaseWith D cfg cache cs).run.resp.wireHeaders (callsOf ws last)
  obtain ⟨extras, enc, h1, h2⟩ := http_roundtrip_lemma _ l0 rest0 hready ws last (hbody ▸ hlen)
  rw [hp, protoRun, h1] at hrun
  obtain ⟨wok, w5⟩ := hw (by rw [hrun])
  rw [hrun] at w5
  exact ⟨wok, extras, enc, w5, by rw [w5, h2, hbody]⟩

/-- the header hypothesis of `response_wire_eq_http`, from conditions on the header set alone -/
theorem http_ready_of_clean_headers (a c : Bool) (H : Headers) (ok : HttpHeadersOk H) :
    HttpReady (({ isHttp11 := a, clientKeepAlive := c } : HttpSt).setHeaders H) (httpStatusLine a H)
      (H.lines (some (b Gen.statusName))) :=
  {
    fresh := rfl
    hdr := by
      show H.fmtHttp (b (if a then Gen.httpVersion11 else Gen.httpVersion10)) false = _
      unfold Headers.fmtHttp httpStatusLine Headers.statusValue
      rw [joinLines_cons, fmtLines_eq, lit_headerSep_lineEnd.1]
      cases mapFind (b Gen.statusName) H.map <;> simp [List.append_assoc]
    status := by cases a <;> rfl
    ok := by
      intro l hl
      rcases List.mem_cons.1 hl with rfl | h
      · exact LineOk.append (by cases a <;> decide +kernel) ok.status
      · exact ok.lines l h
    noTE := ok.noTE
    cl := by
      have e : (({ isHttp11 := a, clientKeepAlive := c } : HttpSt).setHeaders H).contentLength =
          if (H.get sContentLengthName).isEmpty then none else some (atoll (H.get sContentLengthName)) := rfl
      rw [e]
      rcases ok.cl with ⟨h1, h2⟩ | ⟨h1, h2, h3⟩
      · exact Or.inl ⟨by rw [h1]; rfl, h2⟩
      · exact Or.inr ⟨_, _, if_neg (by simpa using h1), h2, h3⟩
    written0 := rfl
    version := fun ha => by cases (show a = true from ha); rfl }

/-- `HttpHeadersOk` follows from conditions on the header *container* — names without colon or CR, values and status without CR,
clean added lines that are neither Transfer-Encoding nor Content-Length, no Transfer-Encoding entry, a Content-Length entry (if
any) in plain decimal.  That the map is sorted by folded name (`Headers.Ok`) is what makes the client see exactly one Content-Length. -/
theorem http_headers_ok_of_clean_container (H : Headers) (h : HeadersClean H) : HttpHeadersOk H :=
  {
    status := by
      unfold Headers.statusValue
      cases hm : mapFind (b Gen.statusName) H.map with
      | none => simp only; decide
      | some kv => exact h.vals kv (mapFind_mem _ _ kv hm).1
    lines := by
      intro l hl
      rw [lines_skip] at hl
      rcases List.mem_append.1 hl with hl | hl
      · obtain ⟨kv, hkv, rfl⟩ := List.mem_map.1 hl
        have hmem := (List.mem_filter.1 hkv).1
        exact lineOk_field (fun c hc => (h.keys kv hmem c hc).2) (h.vals kv hmem)
      · exact h.added l hl
    noTE := by
      have e : Spec.sTransferEncoding = Spec.lower sTransferEncodingName := by decide
      rw [e, fieldValues_lines H h.ok (fun kv hk c hc => (h.keys kv hk c hc).1) _ sTransferEncodingName (by decide), h.noTE, ← e, h.addedTE]
      rfl
    cl := by
      have e : Spec.sContentLength = Spec.lower sContentLengthName := by decide
      have hfv := fieldValues_lines H h.ok (fun kv hk c hc => (h.keys kv hk c hc).1) (b Gen.statusName) sContentLengthName (by decide)
      rw [← e, h.addedCL, List.append_nil] at hfv
      cases hm : mapFind sContentLengthName H.map with
      | none =>
        left
        rw [hm] at hfv
        exact ⟨by unfold Headers.get; rw [hm], hfv⟩
      | some kv =>
        right
        obtain ⟨hne, hd⟩ := h.cl kv hm
        have hget : H.get sContentLengthName = kv.2 := by unfold Headers.get; rw [hm]
        have hdw : kv.2.dropWhile Spec.isWs = kv.2 := Scan.dropWhile_stops
          (Scan.stops_of_cons fun c _ h => isWs_of_digit (hd c (h ▸ List.mem_cons_self)))
        rw [hm] at hfv
        simp only [Option.map_some, Option.toList_some, hdw] at hfv
        rw [hget]
        exact ⟨hne, hfv, atoll_digits kv.2 hne hd⟩ }

/-- the field values a client sees under a name (not the skipped one; sorted map, no colon in its names): the value of the map entry
under any spelling, leading SP/HT dropped, if there is one, then those of the added lines carrying the name -/
theorem client_field_values (H : Headers) (ok : H.Ok) (hkeys : ∀ kv ∈ H.map, ∀ c ∈ kv.1, c ≠ 58) (s n : Bytes)
    (hns : ieq n s = false) :
    Spec.fieldValues (Spec.lower n) (H.lines (some s)) =
      ((mapFind n H.map).map fun kv => kv.2.dropWhile Spec.isWs).toList ++ Spec.fieldValues (Spec.lower n) H.added :=
  fieldValues_lines H ok hkeys s n hns

/-- The wire theorems in abstract form: for any presentation `F` of the protocol's `format_output`
(hypothesis `hF`) that comes with a round-trip theorem against the independent de-framer (a `Framing` of `ChainLemmas.lean`), the client decodes exactly one head and exactly the bytes that left the buffer chain.
No instance is applied: the three `response_wire_eq_*` do not go through this theorem; `Case.framer_run` gives `hF`. -/
theorem client_sees_app_bytes (D : Deflater) (cfg : Config) (cache : PageCache) (cs : Case)
    (hwf : wellFormed cs.mode cs.script = true) :
    ∃ Z, Done (runCaseWith D cfg cache cs).run.resp (runCaseWith D cfg cache cs).run.resp.written Z ∧
      (runCaseWith D cfg cache cs).run.resp.mode = cs.mode ∧
      ∀ (F : Framing),
        (∀ calls, F.run calls = ((cs.framer (runCaseWith D cfg cache cs).run.resp.wireHeaders).run calls).2) →
        (cs.mode.isRaw = true → (rawNext {} (runCaseWith D cfg cache cs).run.resp.written).done = true) →
        F.lengthOk (filterOf cs.mode.isRaw Z).length →
        (runCaseWith D cfg cache cs).wire.violated = false ∧ (runCaseWith D cfg cache cs).wire.gaveUp = false ∧
        (runCaseWith D cfg cache cs).wire.conn.broken = false ∧ (runCaseWith D cfg cache cs).wire.conn.backlog = [] ∧
        ∃ ws last head, ws.flatten ++ last = filterOf cs.mode.isRaw Z ∧
          (runCaseWith D cfg cache cs).wire.conn.wire = (F.run (callsOf ws last)).1 ∧
          F.deframe (runCaseWith D cfg cache cs).wire.conn.wire = some (head, filterOf cs.mode.isRaw Z) := by
  obtain ⟨Z, dn, hmode, rest⟩ := response_wire_calls (D := D) cfg cache cs hwf
  refine ⟨Z, dn, hmode, fun F hF hraw hlen => ?_⟩
  obtain ⟨ws, last, hbody, hw⟩ := rest hraw
  obtain ⟨head, hnv, hde⟩ := F.roundtrip ws last (hbody ▸ hlen)
  obtain ⟨wok, hwire⟩ := hw (hF _ ▸ hnv)
  exact ⟨wok.noViolation, wok.notGivenUp, wok.notBroken, wok.allSent, ws, last, head, hbody, by rw [hwire, hF],
    by rw [hwire, ← hbody, ← hde, hF]⟩

/-- what the connection was given of `Z` (all of it outside the raw modes, what follows the header block in them) is determined
by the response -/
theorem done_body_unique {D : Deflater} {r : Resp D} {W W' Z Z' : Bytes} (d : Done r W Z) (d' : Done r W' Z') :
    filterOf r.mode.isRaw Z = filterOf r.mode.isRaw Z' := by
  rw [← d.bytesAll, ← d'.bytesAll]

/-- **`store_page` stores what was sent.**  On an armed, not yet finalized response `store_page(key)` finalizes
it and stores — under the key variant for "compressed" exactly if the body went through `gzip_buf` — the very
byte string `Z` that left the buffer chain towards the client (`Done … Z`): the cached copy is byte-identical to
what was sent, and the read-back through `cache_interface` returns it. -/
theorem store_page_stores_sent_bytes {D : Deflater} (x : Run D) (key : String) (p : Phase x.resp) (e : Enc x.resp) (a : Armed x.resp)
    (hnf : x.resp.finalized = false) :
    ∃ Z, Done (x.storePage key).resp (x.storePage key).resp.written Z ∧
      (x.storePage key).resp.gz.isSome = x.resp.finalize.gz.isSome ∧
      (x.storePage key).cache.fetch (pageKey (x.storePage key).resp.gz.isSome key) = some Z ∧
      (x.storePage key).cacheCopy = some Z := by
  obtain ⟨⟨Z, d, cd⟩, _⟩ := p.finalize
  have a1 := a.finalize e
  -- the tee is there and holds what left the chain
  obtain ⟨k, hk⟩ := Option.isSome_iff_exists.1 (a1.tee d.req)
  have hkz : k.getstr.1 = Z := ((CopyDone.some hk).1 (cd hnf)).1
  have hcond : (!x.resp.finalize.copyToCache || !x.resp.finalize.ostreamRequested) = false := by rw [a1.on, d.req]; rfl
  have hdata : x.resp.finalize.copiedData = Z := by simp only [Resp.copiedData, hcond, hk, hkz, Bool.false_eq_true, if_false]
  simp only [Run.storePage, hk, hcond, hdata, Bool.false_eq_true, if_false, PageCache.fetch_store]
  -- `store_page` changes the finalized response only in `copy` (`getstr` empties it), which `Done` does not read
  refine ⟨Z, d.update _ _ _ _ _ _ _, trivial, ?_, rfl⟩
  rw [← a1.pcuPost d.req]
  exact PageCache.fetch_store _ _ _

/-- **a miss is recorded and stored as sent.**  For every configuration, io mode, request, prelude, and every
script part `mid` between `fetch_page(key)` and `store_page(key)` that neither finalizes the response nor touches
Content-Encoding / Content-Type nor calls `fetch_page` again, and whatever finalization-compatible actions `post`
other than `store_page` follow: if the cache has no page under the variant `need_gzip()` selects, then at the end the response is `Done`
with `Z` = the bytes that left the buffer chain for the client, and the cache holds exactly `Z` under the
variant "compressed" iff the body went through `gzip_buf` (the read-back returned `Z` as well). -/
theorem cache_miss_stores_sent_bytes (D : Deflater) (cfg : Config) (cache : PageCache) (mode : Mode) (acceptGzip : Bool)
    (pre mid post : List Op) (key : String) (hpre : ∀ op ∈ pre, op.isPrelude = true)
    (hmiss : cache.fetch (pageKey (pre.foldl Run.step ({ resp := Resp.new D cfg mode acceptGzip, cache } : Run D)).resp.needGzip key) = none)
    (hmid : ∀ op ∈ mid, op.keepsEncoding = true ∧ op.finalizes = false)
    (hpost : ∀ op ∈ post, op.afterFinalOk mode = true ∧ op.isStore = false) :
    ∃ Z, Done (runScript D cfg cache mode acceptGzip (pre ++ .fetchPage key :: (mid ++ .storePage key :: post))).resp
           (runScript D cfg cache mode acceptGzip (pre ++ .fetchPage key :: (mid ++ .storePage key :: post))).resp.written Z ∧
      (runScript D cfg cache mode acceptGzip (pre ++ .fetchPage key :: (mid ++ .storePage key :: post))).cache.fetch
        (pageKey (runScript D cfg cache mode acceptGzip (pre ++ .fetchPage key :: (mid ++ .storePage key :: post))).resp.gz.isSome key) = some Z ∧
      (runScript D cfg cache mode acceptGzip (pre ++ .fetchPage key :: (mid ++ .storePage key :: post))).cacheCopy = some Z := by
  obtain ⟨fresh0, stop0, cache0, _, mode0⟩ := Fresh.fold pre ({ resp := Resp.new D cfg mode acceptGzip, cache } : Run D) hpre (Resp.new_fresh cfg mode acceptGzip)
  simp only [runScript, List.foldl_append, List.foldl_cons]
  generalize (pre.foldl Run.step ({ resp := Resp.new D cfg mode acceptGzip, cache } : Run D)) = x0 at *
  have hm0 : x0.resp.mode = mode := mode0
  obtain ⟨armed1, stop1, cache1, _⟩ := x0.fetchPage_miss key fresh0.req (cache0.symm ▸ hmiss)
  obtain ⟨phase1, mode1, notFin1⟩ := x0.fetchPage_spec key (.inl fresh0) fresh0.notFin
  obtain ⟨phase2, enc2, armed2, stop2, notFin2, cache2, mode2⟩ := Run.fold_recording mid (x0.fetchPage key) phase1 (Enc.fetchPage x0 key (Enc.fresh fresh0)) armed1 (stop1.trans stop0) notFin1 hmid
  rw [Run.step_fetchPage _ key stop0, Run.step_storePage _ key stop2]
  generalize mid.foldl Run.step (x0.fetchPage key) = x2 at *
  obtain ⟨Z, done3, gz3, stored3, copy3⟩ := store_page_stores_sent_bytes x2 key phase2 enc2 armed2 notFin2
  have mode3 : (x2.storePage key).resp.mode = mode := by rw [(x2.storePage_spec key phase2).2.1, mode2, mode1, hm0]
  obtain ⟨done4, cache4, copy4, static4, written4⟩ := Done.fold post (x2.storePage key) done3 (fun o ho => mode3 ▸ hpost o ho)
  generalize post.foldl Run.step (x2.storePage key) = x4 at *
  -- the context completes the finalized response
  have hst : x4.resp.complete.static = x4.resp.static := by
    rw [Resp.complete_static, Resp.finalize_of_finalized _ done4.fin]
  refine ⟨Z, ?_, ?_, copy4.trans copy3⟩
  · rw [(Phase.complete (.inr (.inr ⟨Z, written4 ▸ done4⟩))).2.2, written4]; exact done4.complete
  · rw [show x4.resp.complete.gz.isSome = _ from (congrArg Static.gzSome hst).trans (congrArg Static.gzSome static4), cache4]; exact stored3

/-- **a cached page is served as stored, once.**  For every configuration, io mode and request, every prelude
(header setters, `setbuf`, buffering mode) and whatever the application would have done afterwards (`rest` is
never run): if the cache holds `page` under the key variant that `need_gzip()` selects when `fetch_page(key)` is
called, the completed response is `Done` with written = left-the-chain = `page` (no second compression, no
`copy_buf`), and — outside the raw modes — the header set handed to the connection is the application's, with
`Content-Encoding: gzip` added exactly if the compressed variant was selected.  The cache is left as it was. -/
theorem cached_hit_serves_stored_bytes_once (D : Deflater) (cfg : Config) (cache : PageCache) (mode : Mode) (acceptGzip : Bool)
    (pre rest : List Op) (key : String) (page : Bytes) (hpre : ∀ op ∈ pre, op.isPrelude = true)
    (hit : cache.fetch (pageKey (pre.foldl Run.step ({ resp := Resp.new D cfg mode acceptGzip, cache } : Run D)).resp.needGzip key) = some page) :
    Done (runScript D cfg cache mode acceptGzip (pre ++ .fetchPage key :: rest)).resp page page ∧
    (runScript D cfg cache mode acceptGzip (pre ++ .fetchPage key :: rest)).resp.written = page ∧
    (runScript D cfg cache mode acceptGzip (pre ++ .fetchPage key :: rest)).resp.gz = none ∧
    (runScript D cfg cache mode acceptGzip (pre ++ .fetchPage key :: rest)).resp.copy = none ∧
    (runScript D cfg cache mode acceptGzip (pre ++ .fetchPage key :: rest)).resp.mode = mode ∧
    (runScript D cfg cache mode acceptGzip (pre ++ .fetchPage key :: rest)).cache = cache ∧
    (mode.isRaw = false → (runScript D cfg cache mode acceptGzip (pre ++ .fetchPage key :: rest)).resp.sentHeaders =
      some (if (pre.foldl Run.step ({ resp := Resp.new D cfg mode acceptGzip, cache } : Run D)).resp.needGzip
        then (pre.foldl Run.step ({ resp := Resp.new D cfg mode acceptGzip, cache } : Run D)).resp.headers.set sContentEncoding sGzip
        else (pre.foldl Run.step ({ resp := Resp.new D cfg mode acceptGzip, cache } : Run D)).resp.headers)) := by
  obtain ⟨fresh0, stop0, cache0, tee0, mode0⟩ := Fresh.fold pre ({ resp := Resp.new D cfg mode acceptGzip, cache } : Run D) hpre (Resp.new_fresh cfg mode acceptGzip)
  simp only [runScript, List.foldl_append, List.foldl_cons]
  generalize (pre.foldl Run.step ({ resp := Resp.new D cfg mode acceptGzip, cache } : Run D)) = x0 at *
  have hm0 : x0.resp.mode = mode := mode0
  obtain ⟨-, cacheSame, hopen, hwritten, gzNone, copyNone, hmode, hsent⟩ := x0.fetchPage_hit key page fresh0 tee0 (cache0.symm ▸ hit)
  rw [Run.step_fetchPage _ key stop0, Run.foldl_stopped _ _ (by rw [Run.fetchPage_hit_eq _ key page (cache0.symm ▸ hit)])]
  obtain ⟨d, w, m, st⟩ := Open.complete_plain (hwritten.symm ▸ hopen) gzNone
  rw [hwritten] at d w
  exact ⟨d, w, eq_none_of_isSome_false ((congrArg Static.gzSome st).trans (congrArg Option.isSome gzNone)),
    eq_none_of_isSome_false ((congrArg Static.copySome st).trans (congrArg Option.isSome copyNone)), m.trans (hmode.trans hm0), cacheSame.trans cache0,
    fun hm => (congrArg Static.sent st).trans (hsent (hm0 ▸ hm))⟩

/-- **cache round trip.**  Request A misses, writes, stores; a later request B
(a prelude, then `fetch_page(key)`) whose `need_gzip()` selects the variant A stored ends `Done` with written =
left-the-chain = `Z`, the bytes that A's client was sent. -/
theorem cache_roundtrip (D : Deflater) (cfgA cfgB : Config) (cache : PageCache) (modeA modeB : Mode) (accA accB : Bool)
    (preA midA postA preB restB : List Op) (key : String)
    (hpreA : ∀ op ∈ preA, op.isPrelude = true)
    (hmiss : cache.fetch (pageKey (preA.foldl Run.step ({ resp := Resp.new D cfgA modeA accA, cache } : Run D)).resp.needGzip key) = none)
    (hmid : ∀ op ∈ midA, op.keepsEncoding = true ∧ op.finalizes = false)
    (hpost : ∀ op ∈ postA, op.afterFinalOk modeA = true ∧ op.isStore = false)
    (hpreB : ∀ op ∈ preB, op.isPrelude = true) :
    ∃ Z, Done (runScript D cfgA cache modeA accA (preA ++ .fetchPage key :: (midA ++ .storePage key :: postA))).resp
           (runScript D cfgA cache modeA accA (preA ++ .fetchPage key :: (midA ++ .storePage key :: postA))).resp.written Z ∧
      ((preB.foldl Run.step ({ resp := Resp.new D cfgB modeB accB, cache := (runScript D cfgA cache modeA accA (preA ++ .fetchPage key :: (midA ++ .storePage key :: postA))).cache } : Run D)).resp.needGzip =
          (runScript D cfgA cache modeA accA (preA ++ .fetchPage key :: (midA ++ .storePage key :: postA))).resp.gz.isSome →
        Done (runScript D cfgB (runScript D cfgA cache modeA accA (preA ++ .fetchPage key :: (midA ++ .storePage key :: postA))).cache
               modeB accB (preB ++ .fetchPage key :: restB)).resp Z Z) := by
  obtain ⟨Z, d, hc, _⟩ := cache_miss_stores_sent_bytes D cfgA cache modeA accA preA midA postA key hpreA hmiss hmid hpost
  refine ⟨Z, d, fun hsel => ?_⟩
  rw [← hsel] at hc
  exact (cached_hit_serves_stored_bytes_once D cfgB _ modeB accB preB restB key Z hpreB hc).1

/-- an HTTP/1.1 keep-alive case: status, cookie, gzip (stand-in deflater), two writes and a flush, a short write and a would-block -/
def exCase : Case :=
  { proto := .http true true, mode := .normal, gz := true, zstub := true,
    script := [.status 404, .cookie [97] [98], .write 5 1, .flush, .write 3 2], sched := [.accept 3, .wouldBlock] }

def exHeaders : Headers :=
  { map := [([67, 111, 110, 116, 101, 110, 116, 45, 69, 110, 99, 111, 100, 105, 110, 103], [103, 122, 105, 112]),
          ([67, 111, 110, 116, 101, 110, 116, 45, 84, 121, 112, 101], [116, 101, 120, 116, 47, 104, 116, 109, 108]),
          ([83, 116, 97, 116, 117, 115], [52, 48, 52, 32, 78, 111, 116, 32, 70, 111, 117, 110, 100])],
    added := [[83, 101, 116, 45, 67, 111, 111, 107, 105, 101, 58, 97, 61, 98, 59, 32, 86, 101, 114, 115, 105, 111, 110, 61, 49]] }

example : wellFormed exCase.mode exCase.script = true := by decide +kernel

/-- the header set `out()` hands over in `exCase` -/
theorem exHeaders_eq : (runCaseWith stubDeflater {} [] exCase).run.resp.wireHeaders = exHeaders := by decide +kernel

/-- … satisfies the header hypothesis of `response_wire_eq_http` -/
example : HttpHeadersOk exHeaders where
  status := by decide +kernel
  lines := by decide +kernel
  noTE := by decide +kernel
  cl := Or.inl ⟨by decide +kernel, by decide +kernel⟩

/-- a response with an announced Content-Length (the other branch of `HttpHeadersOk.cl`) -/
example : HttpHeadersOk ((({} : Headers).set sContentType sTextHtml).set sContentLengthName [56]) where
  status := by decide +kernel
  lines := by decide +kernel
  noTE := by decide +kernel
  cl := Or.inr ⟨by decide +kernel, by decide +kernel, by decide +kernel⟩

/-- the hit hypothesis of `cached_hit_serves_stored_bytes_once`: a compressed page in the cache, a client that accepts gzip -/
example : PageCache.fetch [("_Z:k", [1,2,3])] (pageKey (([] : List Op).foldl Run.step
    ({ resp := Resp.new stubDeflater {} .normal true, cache := [("_Z:k", [1,2,3])] } : Run stubDeflater)).resp.needGzip "k") = some [1,2,3] := by
  decide +kernel

/-- the miss hypothesis of `cache_miss_stores_sent_bytes`, and a script of the shape it covers -/
example : PageCache.fetch [] (pageKey (([.status 404] : List Op).foldl Run.step
    ({ resp := Resp.new stubDeflater {} .normal true, cache := [] } : Run stubDeflater)).resp.needGzip "k") = none ∧
    (∀ op ∈ ([.write 5 1, .flush, .cookie [97] [98], .setbuf 0, .putc 3 2] : List Op), op.keepsEncoding = true ∧ op.finalizes = false) ∧
    (∀ op ∈ ([.flush, .flush, .finalize] : List Op), op.afterFinalOk .async = true ∧ op.isStore = false) := by
  decide +kernel

/-- raw modes: a complete header block satisfies the completeness hypothesis -/
example : (rawNext {} [65, 58, 32, 98, 13, 10, 13, 10, 120, 121]).done = true := by decide +kernel

/-- non-vacuity: the header set of `Props.exCase` (Content-Encoding, Content-Type, Status, a cookie) is clean -/
example : HeadersClean exHeaders where
  ok := by unfold Headers.Ok exHeaders; simp only [Sorted]; decide +kernel
  keys := by decide +kernel
  vals := by decide +kernel
  added := by decide +kernel
  addedTE := by decide +kernel
  addedCL := by decide +kernel
  noTE := by decide +kernel
  cl := by intro kv h; have : mapFind sContentLengthName exHeaders.map = none := by decide +kernel
           rw [this] at h; cases h

end Cppcms.C03.Props
