import Cppcms.C01.Gen
/-!
# C02 — `string_pool` page bookkeeping (`private/string_map.h`)

The pool that stores every CGI variable of a request is a singly linked list of `malloc` blocks.  The head
block is the current page (`data_`, `free_space_` describe its unused tail); allocations of more than half a
page get a block of their own, linked in *behind* the head; `clear()` (between two requests of a kept-alive
connection) frees all blocks but one and declares `page_size_` bytes free in it.

The model keeps the byte capacity of every block and is a checked interpreter: an allocation that would be
handed memory beyond its block's capacity yields `none`.  The page size, the two conditions of
`allocate_space` and the shape of `clear()` (which block is kept) are regenerated from the source
(`Gen.poolPageSize`, `Gen.poolOversized`, `Gen.poolNeedsPage`, `Gen.poolClearKeepsHead`).
-/
namespace Cppcms.C02
open Cppcms.C01

structure Pool where
  /-- capacity (bytes of `data`) of every block, head (`pages_`) first -/
  pages : List Nat
  /-- `data_ - pages_->data` -/
  off : Nat
  /-- `free_space_` -/
  free : Nat
deriving Repr

inductive PoolOp where
  | alloc (n : Nat)
  | clear
deriving Repr

/-- constructor: `add_page()` on the empty list -/
def Pool.init : Pool := { pages := [Gen.poolPageSize], off := 0, free := Gen.poolPageSize }

/-- `allocate_space(size)`; `none` = the bytes handed out do not lie inside their block -/
def Pool.alloc (p : Pool) (n : Nat) : Option Pool :=
  if Gen.poolOversized n Gen.poolPageSize then
    match p.pages with
    | [] => none
    | hd :: rest => some { p with pages := hd :: n :: rest }
  else
    let p : Pool := if Gen.poolNeedsPage n p.free then
        { pages := Gen.poolPageSize :: p.pages, off := 0, free := Gen.poolPageSize } else p
    match p.pages with
    | [] => none
    | hd :: _ => if p.off + n ≤ hd then some { p with off := p.off + n, free := p.free - n } else none

/-- `clear()`: one block is kept — the head, or the last of the list (finding D18) — and declared to have
`page_size_` free bytes -/
def Pool.clear (keepsHead : Bool) (p : Pool) : Option Pool :=
  match p.pages with
  | [] => none
  | hd :: rest =>
    some { pages := [if keepsHead then hd else rest.getLastD hd], off := 0, free := Gen.poolPageSize }

def Pool.step (kh : Bool) (p : Pool) : PoolOp → Option Pool
  | .alloc n => p.alloc n
  | .clear => p.clear kh

def Pool.run (kh : Bool) (p : Pool) : List PoolOp → Option Pool
  | [] => some p
  | op :: ops => match p.step kh op with
    | none => none
    | some p' => p'.run kh ops

/-- the head block is a full page and `data_`/`free_space_` describe a range inside it -/
structure PoolInv (p : Pool) : Prop where
  head : ∃ rest, p.pages = Gen.poolPageSize :: rest
  fits : p.off + p.free ≤ Gen.poolPageSize

theorem poolInv_init : PoolInv Pool.init := ⟨⟨[], rfl⟩, by simp [Pool.init]⟩

theorem poolInv_step (p : Pool) (op : PoolOp) (hi : PoolInv p) : ∃ p', p.step true op = some p' ∧ PoolInv p' := by
  obtain ⟨⟨rest, hp⟩, hf⟩ := hi
  cases op with
  | clear =>
    refine ⟨_, by simp only [Pool.step, Pool.clear, hp]; rfl, ?_⟩
    exact ⟨⟨[], by simp⟩, by simp⟩
  | alloc n =>
    simp only [Pool.step, Pool.alloc]
    by_cases ho : Gen.poolOversized n Gen.poolPageSize = true
    · simp only [ho, if_true, hp]
      exact ⟨_, rfl, ⟨⟨_, rfl⟩, hf⟩⟩
    · have ho' : n * 2 ≤ Gen.poolPageSize := by
        simp only [Gen.poolOversized, decide_eq_true_eq] at ho; omega
      have ho0 : Gen.poolOversized n Gen.poolPageSize = false := by simpa using ho
      simp only [ho0, Bool.false_eq_true, if_false]
      by_cases hn : Gen.poolNeedsPage n p.free = true
      · simp only [hn, if_true]
        have : 0 + n ≤ Gen.poolPageSize := by omega
        simp only [this, if_true]
        exact ⟨_, rfl, ⟨⟨_, rfl⟩, by simp only; omega⟩⟩
      · have hn' : n ≤ p.free := by
          simp only [Gen.poolNeedsPage, decide_eq_true_eq] at hn; omega
        have hn0 : Gen.poolNeedsPage n p.free = false := by simpa using hn
        simp only [hn0, Bool.false_eq_true, if_false, hp]
        have : p.off + n ≤ Gen.poolPageSize := by omega
        simp only [this, if_true]
        exact ⟨_, rfl, ⟨⟨_, rfl⟩, by simp only; omega⟩⟩

theorem poolInv_run (ops : List PoolOp) : ∀ p : Pool, PoolInv p → (p.run true ops).isSome = true := by
  induction ops with
  | nil => intro p _; rfl
  | cons op r ih =>
    intro p hi
    obtain ⟨p', h1, h2⟩ := poolInv_step p op hi
    simp only [Pool.run, h1]
    exact ih p' h2

/-- the checked pool never fails -/
theorem pool_no_overflow (ops : List PoolOp) : (Pool.init.run Gen.poolClearKeepsHead ops).isSome = true := by
  have hk : Gen.poolClearKeepsHead = true := rfl
  rw [hk]
  exact poolInv_run ops _ poolInv_init

/-- finding D18 as a fact about the model: when `clear()` keeps the *last* block, a first request with
one value of just over half a page followed, after `clear()`, by two values of half a page is handed bytes
beyond a block -/
theorem pool_overflows_when_last_kept :
    Pool.init.run false [.alloc (Gen.poolPageSize / 2 + 1), .clear, .alloc (Gen.poolPageSize / 2),
      .alloc (Gen.poolPageSize / 2)] = none := by decide

end Cppcms.C02
