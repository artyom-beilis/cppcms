import Cppcms.C01.FcgiProofs
import Cppcms.C02.Safety
import Cppcms.C02.Closing
/-! FastCGI over the flat record reader reaches no undefined operation.  That the recursion budgets suffice is part of
it: running out of fuel is the outcome `.crash "out of fuel"`.  Every fuel argument rests on `flatReader_read`.
(The buffer-level reader's crashes: C01 `fcgiReadRecord_sim`.) -/
namespace Cppcms.C01
open Cppcms Cppcms.C02

/-- a read does not grow the stream, a record consumes at least its header, and `.crash` is never reported -/
theorem flatReader_read (s : Bytes × Bool) (body : Bytes) :
    (∃ e s', flatReader.read s body = (.err e, s') ∧ s'.1.length ≤ s.1.length) ∨
    (∃ h b s', flatReader.read s body = (.got h b, s') ∧ s'.1.length + Gen.hdrSize ≤ s.1.length) := by
  show (∃ e s', fcgiReadRecordF s body = _ ∧ _) ∨ (∃ h b s', fcgiReadRecordF s body = _ ∧ _)
  unfold fcgiReadRecordF
  split
  · exact .inl ⟨_, _, rfl, Nat.le_refl _⟩  -- no complete header
  · simp only
    split
    · exact .inr ⟨_, _, _, rfl, by simp only [List.length_drop]; omega⟩  -- an empty record
    · split
      · exact .inl ⟨_, _, rfl, by simp⟩  -- eof inside the record
      · exact .inr ⟨_, _, _, rfl, by simp only [List.length_drop]; omega⟩

theorem fcgiParams_safe : ∀ (fuel : Nat) (h : FcgiHdr) (body : Bytes) (reqId : Nat) (s : Bytes × Bool),
    s.1.length < fuel →
    (fcgiParams flatReader fuel h body reqId s).2.1.length ≤ s.1.length ∧
    (∀ o, (fcgiParams flatReader fuel h body reqId s).1 = .error o → isCrash o = false) := by
  intro fuel
  induction fuel with
  | zero => intro h body reqId s hf; omega
  | succ fuel ih =>
    intro h body reqId s hf
    unfold fcgiParams
    split
    · exact ⟨by simp, by intro o ho; simp at ho; subst ho; rfl⟩  -- wrong type or id
    · split
      · split
        · -- the next record is read
          rcases flatReader_read s body with ⟨e, s', hr, hl⟩ | ⟨h', b', s', hr, hl⟩ <;> rw [hr]
          · exact ⟨hl, by intro o ho; simp at ho; subst ho; rfl⟩
          · have hpos : 0 < Gen.hdrSize := by decide
            obtain ⟨i1, i2⟩ := ih h' b' reqId s' (by omega)
            exact ⟨by dsimp only; omega, i2⟩
        · exact ⟨by simp, by intro o ho; simp at ho; subst ho; rfl⟩  -- over the limit
      · exact ⟨by simp, by intro o ho; simp at ho⟩  -- end of the stream

/-- the header phase does not grow the stream; to `out` it adds management replies, then one final outcome that is no
crash, or a request -/
def HdrOk (s : Bytes × Bool) (out : List Outcome) (res : List Outcome × Option FcgiReq × (Bytes × Bool)) : Prop :=
  res.2.2.1.length ≤ s.1.length ∧ ∃ ms, (∀ o ∈ ms, goesOn o = true) ∧
    ((res.2.1 = none ∧ ∃ o, isCrash o = false ∧ res.1 = out ++ ms ++ [o]) ∨
      (res.2.1.isSome = true ∧ res.1 = out ++ ms))

theorem HdrOk.stop {s s' : Bytes × Bool} {out : List Outcome} {o : Outcome} (hl : s'.1.length ≤ s.1.length)
    (ho : isCrash o = false) : HdrOk s out (out ++ [o], none, s') :=
  ⟨hl, [], nofun, .inl ⟨rfl, o, ho, by simp⟩⟩

theorem HdrOk.req {s s' : Bytes × Bool} {out : List Outcome} {r : FcgiReq} (hl : s'.1.length ≤ s.1.length) :
    HdrOk s out (out, some r, s') :=
  ⟨hl, [], nofun, .inr ⟨rfl, by simp⟩⟩

theorem HdrOk.mono {s s' : Bytes × Bool} {out : List Outcome} {res} (h : HdrOk s' out res)
    (hl : s'.1.length ≤ s.1.length) : HdrOk s out res :=
  ⟨Nat.le_trans h.1 hl, h.2⟩

theorem HdrOk.reply {s : Bytes × Bool} {out : List Outcome} {o : Outcome} {res} (h : HdrOk s (out ++ [o]) res)
    (ho : goesOn o = true) : HdrOk s out res := by
  obtain ⟨hl, ms, hm, hr⟩ := h
  refine ⟨hl, o :: ms, ?_, ?_⟩
  · intro x hx
    rcases List.mem_cons.mp hx with rfl | hx
    · exact ho
    · exact hm x hx
  · simpa using hr

theorem fcgiStdinEof_ok (r : FcgiReq) (s : Bytes × Bool) (out : List Outcome) :
    HdrOk s out (fcgiStdinEof flatReader r s out) := by
  unfold fcgiStdinEof
  rcases flatReader_read s [] with ⟨e, s', hr, hl⟩ | ⟨h, b, s', hr, hl⟩ <;> rw [hr]
  · exact .stop hl rfl
  · dsimp only
    split
    · exact .stop (by omega) rfl
    · exact .req (by omega)

theorem fcgiAfterBegin_ok (fuel reqId : Nat) (keep : Bool) (s : Bytes × Bool) (out : List Outcome)
    (hf : s.1.length < fuel) : HdrOk s out (fcgiAfterBegin flatReader fuel reqId keep s out) := by
  unfold fcgiAfterBegin
  rcases flatReader_read s [] with ⟨e, s', hr, hl⟩ | ⟨h1, b1, s', hr, hl⟩ <;> rw [hr]
  · exact .stop hl rfl
  · dsimp only
    obtain ⟨p1, p2⟩ := fcgiParams_safe fuel h1 b1 reqId s' (by omega)
    cases hp : fcgiParams flatReader fuel h1 b1 reqId s' with
    | mk pr t =>
      rw [hp] at p1 p2
      simp only at p1 p2
      cases pr with
      | error o => exact .stop (by omega) (p2 o rfl)
      | ok pbody =>
        dsimp only
        unfold fcgiAfterParams
        dsimp only
        split
        · exact (fcgiStdinEof_ok _ t out).mono (by omega)
        · exact .req (by omega)

/-- the second part (a request found has consumed a record header) makes the fuel of `fcgiConn_ok` go down -/
theorem fcgiHeaders_ok (conc : Bytes) : ∀ (fuel : Nat) (s : Bytes × Bool) (out : List Outcome), s.1.length < fuel →
    HdrOk s out (fcgiHeaders flatReader conc fuel s out) ∧
    ((fcgiHeaders flatReader conc fuel s out).2.1.isSome →
      (fcgiHeaders flatReader conc fuel s out).2.2.1.length + Gen.hdrSize ≤ s.1.length) := by
  intro fuel
  induction fuel with
  | zero => intro s out hf; omega
  | succ fuel ih =>
    intro s out hf
    unfold fcgiHeaders
    rcases flatReader_read s [] with ⟨e, s', hr, hl⟩ | ⟨h, body, s', hr, hl⟩ <;> rw [hr]
    · exact ⟨.stop hl rfl, by intro h; simp at h⟩
    · dsimp only
      have hpos : 0 < Gen.hdrSize := by decide
      have hc := fcgiOnStart_cases conc (flatReader.alloc s') h body
      cases hst : fcgiOnStart conc (flatReader.alloc s') h body with
      | stop o =>
        rw [hst] at hc
        exact ⟨.stop (by omega) (hc ▸ rfl), by intro h; simp at h⟩
      | again reply =>
        cases reply with
        | none =>
          dsimp only
          obtain ⟨i1, i2⟩ := ih s' out (by omega)
          exact ⟨i1.mono (by omega), fun hh => by have := i2 hh; omega⟩
        | some o =>
          rw [hst] at hc
          obtain ⟨t, c, f, rfl⟩ := hc
          dsimp only
          obtain ⟨i1, i2⟩ := ih s' (out ++ [.mgmt t c f]) (by omega)
          exact ⟨(i1.reply rfl).mono (by omega), fun hh => by have := i2 hh; omega⟩
      | begin reqId keep =>
        dsimp only
        have := fcgiAfterBegin_ok (fuel + 1) reqId keep s' out (by omega)
        exact ⟨this.mono (by omega), fun _ => by have := this.1; omega⟩

theorem fcgiReadSome_len (want : Nat) (b : FcgiBody (Bytes × Bool)) (g : Bytes) (b' : FcgiBody (Bytes × Bool))
    (h : fcgiReadSome flatReader want b = .ok (g, b')) : b'.st.1.length ≤ b.st.1.length := by
  have key : ∀ s body, (flatReader.read s body).2.1.length ≤ s.1.length := by
    intro s body
    rcases flatReader_read s body with ⟨_, _, hr, hl⟩ | ⟨_, _, _, hr, hl⟩ <;> rw [hr] <;> dsimp only <;> omega
  obtain ⟨b1, _, ht, h1⟩ := fcgiReadSome_ok h
  obtain ⟨_, h2⟩ := fcgiTake_ok ht
  have hb1 : b1.st.1.length ≤ b.st.1.length := by
    rcases h1 with h1 | h1 <;> rw [h1]
    · exact Nat.le_refl _
    · exact key _ _
  rcases h2 with h2 | ⟨body, h2⟩ <;> rw [h2]
  · exact hb1
  · exact Nat.le_trans (key _ _) hb1

theorem contentLoop_fcgi_len (chunk : Option Nat) (fuel n : Nat) (acc : Bytes) (b : FcgiBody (Bytes × Bool)) :
    (contentLoop (fcgiReadSome flatReader) chunk fuel n acc b).2.st.1.length ≤ b.st.1.length := by
  fun_induction contentLoop (fcgiReadSome flatReader) chunk fuel n acc b with
  | case4 _ _ _ b _ g b' hr ih => exact Nat.le_trans ih (fcgiReadSome_len _ b g b' hr)
  | _ => exact Nat.le_refl _

theorem runRequest_fcgi_len (lim : Limits) (h : Head) (b : FcgiBody (Bytes × Bool)) :
    (runRequest lim (fcgiReadSome flatReader) h b).2.st.1.length ≤ b.st.1.length := by
  unfold runRequest
  split
  · exact Nat.le_refl _
  · rename_i n chunk pre fin _
    have hlen := contentLoop_fcgi_len chunk (n + 1) n [] b
    split <;> (rename_i hloop; rw [hloop] at hlen; exact hlen)

theorem no_crash_of_goesOn {o : Outcome} (h : goesOn o = true) : isCrash o = false := by
  cases o <;> first | rfl | cases h

theorem fcgiConn_ok (lim : Limits) (conc : Bytes) : ∀ (fuel : Nat) (s : Bytes × Bool), s.1.length < fuel →
    fcgiConn flatReader lim conc fuel s ≠ [] ∧ ClosesAfterError (fcgiConn flatReader lim conc fuel s) ∧
    (LimitsOk lim → ∀ o ∈ fcgiConn flatReader lim conc fuel s, isCrash o = false) := by
  intro fuel
  induction fuel with
  | zero => intro s hf; omega
  | succ fuel ih =>
    intro s hf
    unfold fcgiConn
    obtain ⟨⟨hlen, ms, hms, hshape⟩, hreq⟩ := fcgiHeaders_ok conc (fuel + 1) s [] hf
    cases hh : fcgiHeaders flatReader conc (fuel + 1) s [] with
    | mk out rest =>
      obtain ⟨req, t⟩ := rest
      rw [hh] at hlen hshape hreq
      simp only [List.nil_append] at hlen hshape hreq ⊢
      rcases hshape with ⟨rfl, o, ho, rfl⟩ | ⟨hsome, rfl⟩
      · -- the header phase ends the connection: replies `ms`, then one final outcome `o`
        refine ⟨by simp, closes_append hms (closes_single o) (by simp), fun _ x hx => ?_⟩
        rcases List.mem_append.mp hx with hx | hx
        · exact no_crash_of_goesOn (hms x hx)
        · simp only [List.mem_singleton] at hx
          exact hx ▸ ho
      · cases req with
        | none => cases hsome
        | some r =>
          have hpos : 0 < Gen.hdrSize := by decide
          have hrun := runRequest_fcgi_len lim (Head.ofEnv r.env) { st := t, cl := r.cl, reqId := r.requestId }
          have hsafe := fun hl => runRequest_no_crash lim hl (fcgiReadSome flatReader) (Head.ofEnv r.env)
            { st := t, cl := r.cl, reqId := r.requestId }
          simp only at hrun ⊢
          split
          · -- answered and kept alive: the rest runs on a shorter stream
            rename_i hk
            obtain ⟨ihne, ihcloses, ihsafe⟩ := ih _ (Nat.lt_of_le_of_lt hrun (by have := hreq rfl; omega))
            refine ⟨by simp, closes_append hms (closes_cons (goesOn_of_isApp ?_) ihcloses ihne) (by simp),
              fun hl x hx => ?_⟩
            · simp only [Bool.and_eq_true] at hk
              exact hk.1
            · rcases List.mem_append.mp hx with hx | hx
              · exact no_crash_of_goesOn (hms x hx)
              · rcases List.mem_cons.mp hx with rfl | hx
                · exact hsafe hl
                · exact ihsafe hl x hx
          · -- the request ends the connection
            refine ⟨by simp, closes_append hms (closes_single _) (by simp), fun hl x hx => ?_⟩
            rcases List.mem_append.mp hx with hx | hx
            · exact no_crash_of_goesOn (hms x hx)
            · simp only [List.mem_singleton] at hx
              exact hx ▸ hsafe hl

theorem fcgiFlat_closes (lim : Limits) (conc : Bytes) (s : Bytes) : ClosesAfterError (fcgiFlat lim conc s) :=
  (fcgiConn_ok lim conc (s.length + 2) (s, false) (by simp)).2.1

theorem fcgiFlat_no_crash (lim : Limits) (hl : LimitsOk lim) (conc : Bytes) (s : Bytes) :
    ∀ o ∈ fcgiFlat lim conc s, isCrash o = false :=
  (fcgiConn_ok lim conc (s.length + 2) (s, false) (by simp)).2.2 hl

end Cppcms.C01
