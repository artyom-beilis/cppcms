import Cppcms.C01.Scgi
import Cppcms.C01.Http
/-! A connection is not used any more after a request that failed: only the last of its outcomes can be anything else
than an answered request or a FastCGI management reply.  SCGI and HTTP here; FastCGI is `fcgiFlat_closes`. -/
namespace Cppcms.C02
open Cppcms Cppcms.C01

def goesOn : Outcome → Bool
  | .app .. => true
  | .mgmt .. => true
  | _ => false

def ClosesAfterError (l : List Outcome) : Prop := ∀ o ∈ l.dropLast, goesOn o = true

theorem goesOn_of_isApp {o : Outcome} (h : isApp o = true) : goesOn o = true := by
  cases o <;> first | rfl | cases h

theorem closes_single (o : Outcome) : ClosesAfterError [o] := by
  intro x hx; simp at hx

theorem closes_cons {o : Outcome} {l : List Outcome} (ho : goesOn o = true) (hl : ClosesAfterError l) (hne : l ≠ []) :
    ClosesAfterError (o :: l) := by
  intro x hx
  cases l with
  | nil => exact absurd rfl hne
  | cons a r =>
    simp only [List.dropLast_cons_cons, List.mem_cons] at hx
    rcases hx with rfl | hx
    · exact ho
    · exact hl x hx

theorem closes_append {l1 l2 : List Outcome} (h1 : ∀ o ∈ l1, goesOn o = true) (h2 : ClosesAfterError l2) (hne : l2 ≠ []) :
    ClosesAfterError (l1 ++ l2) := by
  induction l1 with
  | nil => simpa using h2
  | cons a r ih =>
    have : r ++ l2 ≠ [] := by simp [hne]
    exact closes_cons (h1 a (by simp)) (ih (fun o ho => h1 o (by simp [ho]))) this

/-- `scgiConn` is a singleton on every path -/
theorem scgi_closes (lim : Limits) (segs : Segs) : ClosesAfterError (scgiConn lim segs) := by
  unfold scgiConn
  simp only
  repeat' split
  all_goals exact closes_single _

theorem httpConn_ne (lim : Limits) (cfg : HttpCfg) (fuel : Nat) (hints : List Bool) (t0 : Nat) (st : HttpSt) :
    httpConn lim cfg fuel hints t0 st ≠ [] := by
  fun_induction httpConn lim cfg fuel hints t0 st <;> simp

theorem http_closes (lim : Limits) (cfg : HttpCfg) (fuel : Nat) (hints : List Bool) (t0 : Nat) (st : HttpSt) :
    ClosesAfterError (httpConn lim cfg fuel hints t0 st) := by
  fun_induction httpConn lim cfg fuel hints t0 st with
  -- answered and kept alive (`hk`)
  | case3 _ _ _ _ _ _ _ _ _ _ _ hk ih =>
    simp only [Bool.and_eq_true] at hk
    exact closes_cons (goesOn_of_isApp hk.1) ih (httpConn_ne _ _ _ _ _ _)
  | _ => exact closes_single _
end Cppcms.C02
