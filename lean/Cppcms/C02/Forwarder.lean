import Cppcms.C01.Gen
/-!
# C02 — `connection::cgi_forwarder` (`forwarding.rules`): the buffer a request body is relayed through

`on_header_sent` sizes `post_` from `CONTENT_LENGTH` (`Gen.fwdPostBuffer`, regenerated), `write_post` shrinks it to
what is left and reads into `&post_.front()`, `on_post_data_written` subtracts what was relayed.  The model is a checked
interpreter of that bookkeeping: `none` = a `resize` with a negative / absurd size (`std::length_error`, `bad_alloc`
inside a completion handler) or `front()` of an empty vector.
-/
namespace Cppcms.C02
open Cppcms Cppcms.C01

structure FwdSt where
  /-- `content_length_`: bytes still to relay -/
  remaining : Int
  /-- `post_.size()` -/
  buf : Nat
deriving Repr

/-- the bound is the model's choice: any from 8192 up gives the same theorems (`forwarder_buffer_bounded`) -/
def resizeOk (n : Int) : Bool := 0 ≤ n && n ≤ 2 ^ 31

/-- `on_header_sent` for `content_length_ > 0` -/
def fwdStart (cl : Int) : Option FwdSt :=
  if resizeOk (Gen.fwdPostBuffer cl) then some { remaining := cl, buf := (Gen.fwdPostBuffer cl).toNat } else none

/-- `write_post` for `content_length_ > 0`: the size of the read it starts (`none`: `&post_.front()` of an empty vector) -/
def fwdWritePost (s : FwdSt) : Option FwdSt :=
  let s := if s.remaining < (s.buf : Int) then { s with buf := s.remaining.toNat } else s
  if s.buf == 0 then none else some s

/-- a relay: the lengths the reads deliver, each cut to the buffer offered (a 0 is accepted and relays nothing);
`none` = undefined operation -/
def fwdRelay : FwdSt → List Nat → Option FwdSt
  | s, [] => some s
  | s, len :: rest =>
    if s.remaining ≤ 0 then some s
    else match fwdWritePost s with
      | none => none
      | some s' => fwdRelay { s' with remaining := s'.remaining - (min len s'.buf : Nat) } rest

/-- size of the relay buffer -/
theorem forwarder_buffer_bounded (cl : Int) (h : 0 < cl) :
    ∃ s, fwdStart cl = some s ∧ 1 ≤ s.buf ∧ s.buf ≤ 8192 ∧ (s.buf : Int) ≤ s.remaining := by
  -- the one place the regenerated expression is read
  have hb : Gen.fwdPostBuffer cl = if cl > 8192 then 8192 else cl := by simp [Gen.fwdPostBuffer]
  unfold fwdStart resizeOk
  rw [hb]
  by_cases hc : cl > 8192
  · simp only [hc, if_true]
    refine ⟨{ remaining := cl, buf := 8192 }, ?_, by simp, by simp, ?_⟩
    · simp
    · show ((8192 : Nat) : Int) ≤ cl
      omega
  · simp only [hc, if_false]
    have : (decide (0 ≤ cl) && decide (cl ≤ 2 ^ 31)) = true := by simp; omega
    simp only [this, if_true]
    exact ⟨_, rfl, by simp; omega, by simp; omega, by simp; omega⟩

/-- `fwdStart` establishes it (`forwarder_buffer_bounded`), the relay keeps it -/
structure FwdInv (s : FwdSt) : Prop where
  pos : 1 ≤ s.buf
  cap : s.buf ≤ 8192

/-- `Props.forwarder_relay_safe` is this from `fwdStart` -/
theorem forwarder_relay_safe : ∀ (lens : List Nat) (s : FwdSt), FwdInv s →
    ∃ s', fwdRelay s lens = some s' ∧ s'.buf ≤ 8192 := by
  intro lens
  induction lens with
  | nil => intro s hi; exact ⟨s, rfl, hi.cap⟩
  | cons len rest ih =>
    intro s hi
    unfold fwdRelay
    by_cases hr : s.remaining ≤ 0
    · simp only [hr, if_true]; exact ⟨s, rfl, hi.cap⟩
    · simp only [hr, if_false]
      unfold fwdWritePost
      by_cases hlt : s.remaining < (s.buf : Int)
      · simp only [hlt, if_true]
        have hpos : s.remaining.toNat ≠ 0 := by omega
        have : (s.remaining.toNat == 0) = false := by simpa using hpos
        simp only [this, Bool.false_eq_true, if_false]
        apply ih
        have := hi.cap
        exact ⟨by simp; omega, by simp; omega⟩
      · simp only [hlt, if_false]
        have hb := hi.pos
        have : (s.buf == 0) = false := by simp; omega
        simp only [this, Bool.false_eq_true, if_false]
        apply ih
        exact ⟨hi.pos, hi.cap⟩

end Cppcms.C02
