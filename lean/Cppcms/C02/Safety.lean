import Cppcms.C01.ScgiProofs
/-! The checked interpreters never reach an undefined operation (`.crash`): the request layer and SCGI here, FastCGI
in `SafetyFcgi`, HTTP in C01 `httpRun_spec`.  Namespace `Cppcms.C01`: that of the models these facts speak of. -/
namespace Cppcms.C01
open Cppcms

def isCrash : Outcome → Bool
  | .crash _ => true
  | _ => false

theorem isCrash_eq_false {o : Outcome} : isCrash o = false ↔ ∀ w, o ≠ .crash w := by
  cases o <;> simp [isCrash]

/-- configuration sanity: the limits are far below `size_t`/`long long` wrap-around and the input
buffer is not empty -/
structure LimitsOk (lim : Limits) : Prop where
  buf : 0 < lim.bufSize
  content : (lim.contentLimit : Int) < 2 ^ 62

/-- the only undefined operation a plan can end in is excluded by `LimitsOk.content` -/
theorem requestPlan_no_crash (lim : Limits) (hl : LimitsOk lim) (h : Head) :
    match requestPlan lim h with
    | .done o => isCrash o = false
    | .read _ _ _ fin => ∀ body, isCrash (fin body) = false := by
  have hc := requestPlan_case lim h
  generalize requestPlan lim h = p at hc
  cases hc with
  | resize w hle hbig => have := hl.content; omega
  | read k _ a _ hcl hfin => intro body; rcases hfin body with ⟨v, hv⟩ | ⟨_, c, _, hv⟩ <;> rw [hv] <;> rfl
  | _ => rfl

theorem runRequest_no_crash {σ : Type} (lim : Limits) (hl : LimitsOk lim) (rd : Nat → σ → Except Err (Bytes × σ))
    (h : Head) (st : σ) : isCrash (runRequest lim rd h st).1 = false := by
  have hp := requestPlan_no_crash lim hl h
  unfold runRequest
  generalize requestPlan lim h = p at hp ⊢
  cases p with
  | done o => exact hp
  | read n chunk pre fin =>
    simp only
    split
    · rfl
    · exact hp _

theorem reqOutcome_no_crash (lim : Limits) (hl : LimitsOk lim) (h : Head) (s : Bytes) :
    isCrash (reqOutcome lim h s).1 = false :=
  (runRequest_reads flatRead_stream.readsView lim hl.buf h s trivial (.inl rfl)).1 ▸ runRequest_no_crash lim hl flatRead h s

/-- `strlen` stays inside a buffer that ends in NUL, which `buffer_.back() = 0` (`Gen.scgiNulTerminated`) provides -/
theorem scgiWalk_some (fuel : Nat) (p : Bytes) (env : Env) (h : p.length ≤ 1 ∨ p.getLast? = some 0) :
    (scgiWalk fuel p env).isSome := by
  induction fuel generalizing p env with
  | zero => simp [scgiWalk]
  | succ fuel ih =>
    unfold scgiWalk
    split
    · rfl
    · rename_i hlen
      have hnul : p.getLast? = some 0 := by rcases h with h | h; exact absurd h hlen; exact h
      have hc : p.contains 0 = true := by
        have := List.mem_of_getLast? hnul
        simpa using this
      simp only [hc, Bool.not_true, Bool.false_eq_true, if_false]
      split
      · rfl
      · rename_i hlen1
        have hlast : (p.drop ((cstr p).length + 1)).getLast? = some 0 := by
          rw [List.getLast?_drop]
          split
          · rename_i hle
            simp only [List.length_drop] at hlen1
            omega
          · exact hnul
        have hc1 : (p.drop ((cstr p).length + 1)).contains 0 = true := by
          have := List.mem_of_getLast? hlast
          simpa using this
        simp only [hc1, Bool.not_true, Bool.false_eq_true, if_false]
        apply ih
        rw [List.getLast?_drop]
        split
        · rename_i hle
          left
          simp only [List.length_drop] at hle ⊢
          omega
        · right; exact hlast

theorem scgiOnHeaders_safe (buf : Bytes) (sep : Nat) (hs : sep + 1 < buf.length) :
    ∀ o, scgiOnHeaders buf sep = .error o → isCrash o = false := by
  intro o h
  unfold scgiOnHeaders at h
  split at h
  · -- empty buffer: excluded by `hs`
    rename_i hnone
    have : buf = [] := List.getLast?_eq_none_iff.mp hnone
    rw [this] at hs; simp at hs
  · rename_i last hlast
    split at h
    · simp only [Except.error.injEq] at h; subst h; rfl  -- no `,` at the end
    · have hnul : Gen.scgiNulTerminated = true := rfl
      simp only [hnul, if_true] at h
      have hlen : (buf.dropLast ++ [0]).length = buf.length := by
        simp; omega
      split at h
      · rename_i hge; rw [hlen] at hge; exfalso; omega  -- excluded by `hs`
      · have hw := scgiWalk_some (buf.dropLast ++ [0]).length ((buf.dropLast ++ [0]).drop (sep + 1)) Env.empty
          (Or.inr (by
            rw [List.getLast?_drop]
            split
            · rename_i hle; rw [hlen] at hle; exfalso; omega
            · simp))
        cases hwk : scgiWalk (buf.dropLast ++ [0]).length ((buf.dropLast ++ [0]).drop (sep + 1)) Env.empty with
        | none => rw [hwk] at hw; simp at hw
        | some env => rw [hwk] at h; simp at h

theorem scgiFlat_no_crash (lim : Limits) (hl : LimitsOk lim) (s : Bytes) :
    ∀ o ∈ scgiFlat lim s, isCrash o = false := by
  intro o ho
  unfold scgiFlat at ho
  split at ho
  · simp at ho; subst ho; rfl  -- fewer than the 16 eager bytes
  · rename_i hlen
    have hl16 : (s.take Gen.scgiFirstRead).length = Gen.scgiFirstRead := by
      rw [List.length_take]; omega
    have hfirst := scgiOnFirstRead_cases (s.take Gen.scgiFirstRead)
    split at ho
    · simp at ho; subst ho; rfl
    · -- crashes only on fewer than 16 bytes
      rename_i w hw
      rw [hw, hl16] at hfirst
      exact absurd hfirst (Nat.lt_irrefl _)
    · rename_i sep size hm
      rw [hm, hl16] at hfirst
      obtain ⟨hsep, hsize⟩ := hfirst
      split at ho
      · simp at ho; subst ho; rfl  -- eof inside the header block
      · rename_i hsz
        cases hh : scgiOnHeaders (s.take size) sep with
        | error o' =>
          rw [hh] at ho
          simp at ho; rw [ho]
          apply scgiOnHeaders_safe (s.take size) sep _ o' hh
          rw [List.length_take]; omega
        | ok env =>
          rw [hh] at ho
          simp at ho; subst ho
          exact reqOutcome_no_crash lim hl _ _

end Cppcms.C01
