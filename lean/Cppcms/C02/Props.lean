import Cppcms.C01.HttpProofs
import Cppcms.C02.SafetyFcgi
import Cppcms.C02.Pool
import Cppcms.C02.Actions
import Cppcms.C02.Closing
import Cppcms.C02.Forwarder
/-!
# C02 — property theorems

"No request, however malformed, crashes the service or disturbs other requests."

The front-end models of C01 are *checked interpreters*: wherever the C++ would index out of range,
resize to a negative size, call `front()` on an empty vector or run `strlen` off a buffer, the model
yields the outcome `.crash`.  The theorems say that no byte stream reaches such an operation.
-/
namespace Cppcms.C02.Props
open Cppcms Cppcms.C01

/-- Exit discipline of the protocol callbacks, as a syntactic check: `Gen.exitViolations` (regenerated from the
source) lists, for each of the 16 protocol callbacks, the calls of the completion handler `h(...)`, starts of the next
asynchronous operation and hand-overs to another callback that are not followed by `return` or the end of their path;
the statement is that every such list is empty.  That each started operation then completes its handler exactly once
is the reading of this discipline, not part of the statement. -/
theorem handler_exactly_once : Gen.exitViolations.all (fun p => p.2.isEmpty) = true := by decide

/-- operations whose *result* must not be used after a failure (an endpoint that was never filled in, a byte count) -/
def resultNeedsCheck (m : String) : Bool := m == "remote_endpoint" || m == "local_endpoint" || m == "bytes_readable"

/-- the accept path (`socket_acceptor::on_accept` / `accept`) sets `TCP_NODELAY` / buffer sizes with the throwing overload on
the descriptor `accept()` has just returned; on Linux `setsockopt` of these options cannot fail for an open TCP descriptor
whatever the peer does (listed, not proved; on systems where it fails after a peer reset this is the same defect as D17) -/
def acceptPathOption (c : String × String × String × Bool × Bool × Bool) : Bool :=
  c.1 == "private/cgi_acceptor.h" && (c.2.1 == "on_accept" || c.2.1 == "accept") && c.2.2.1 == "set_option"

/-- **nothing may be allowed to throw from a protocol callback**, the system-error part: every `booster::aio` socket
operation that can fail with a system error (`remote_endpoint`, `local_endpoint`, `set_option`, `shutdown`, `close`,
`read_some`, `write_some`, `bytes_readable`, `set_non_blocking…`, `open`, `bind`, `listen`, …) in `http_api.cpp`,
`scgi_api.cpp`, `fastcgi_api.cpp` and `cgi_acceptor.h` (table regenerated from the source: `Gen.sysCallSites`) that is
not in a constructor/destructor uses the overload taking `booster::system::error_code &`, and where the result is
meaningless after a failure the statement that follows tests the error code.  Replacing one by the throwing overload
(seeded C02-7: `socket_.remote_endpoint()` — a peer that resets right after sending its request makes `getpeername` fail)
or dropping the test (D17) breaks this.  (Row layout: `Gen.sysCallSites`.) -/
theorem protocol_callbacks_use_nothrow_overloads :
    Gen.sysCallSites.all (fun c =>
      c.2.2.2.2.2 || acceptPathOption c || (c.2.2.2.1 && (!resultNeedsCheck c.2.2.1 || c.2.2.2.2.1))) = true ∧
    Gen.sysCallSites.any (fun c => c.2.2.1 == "remote_endpoint" && c.2.1 == "process_request") = true := by
  constructor <;> decide

/-- SCGI: for every byte stream and every segmentation the connection model never reaches an
undefined operation (index out of range, resize to a negative/huge size, `strlen` past the buffer).
`no_throw` and `bounds_ok` of DESIGN.md in one statement. -/
theorem no_crash_scgi (lim : Limits) (hl : LimitsOk lim) (segs : Segs) :
    ∀ o ∈ scgiConn lim segs, isCrash o = false := by
  rw [scgiConn_eq_flat lim hl.buf]
  exact scgiFlat_no_crash lim hl _

/-- FastCGI: likewise (`front()` only on non-empty vectors, the unknown-role body is large enough for the END_REQUEST
written through it, negative `CONTENT_LENGTH` never reaches `resize`), and every recursion budget of the model suffices.
While STDIN is read the model turns a record-reader crash into a violation, so this statement is silent on it; that
no read starts into a full cache and no `resize` wraps is C01 `fcgiReadRecord_sim`. -/
theorem no_crash_fcgi (lim : Limits) (hl : LimitsOk lim) (conc : Bytes) (segs : Segs) :
    ∀ o ∈ fcgiRun lim conc segs, isCrash o = false := by
  rw [fcgiRun_eq_flat]
  exact fcgiFlat_no_crash lim hl conc _

/-- HTTP: likewise; includes "`header_.resize(size()-2)` and `bracket_counter_--` never wrap" (parser
invariant `PInv`) for every input, with or without the 16 KiB cap firing. -/
theorem no_crash_http (lim : Limits) (hl : LimitsOk lim) (cfg : HttpCfg) (hints : List Bool) (segs : Segs) :
    ∀ o ∈ httpRun lim cfg hints segs, isCrash o = false :=
  fun o ho => isCrash_eq_false.2
    ((httpRun_spec cfg lim hl.buf hints segs).1 (fun h s => isCrash_eq_false.1 (reqOutcome_no_crash lim hl h s)) o ho)

/-- the parser invariant `PInv` is kept by every non-returning step of the generated transition (it holds of the
initial registers by `pinv_init`) -/
theorem parser_invariant (ps s : Gen.PState) (c : Nat) (hi : PInv ps) (h : Gen.stepSwitch ps c = .cont s) :
    PInv { s with rhdr := c :: s.rhdr } := pinv_cont hi h

/-- non-vacuity of `LimitsOk`: the harness' configuration -/
example : LimitsOk {} := ⟨by decide, by decide⟩

/-- the FastCGI record reader computes `rec_size = content_length + padding_length` in the declared type of the
variable (regenerated for both paths, `on_header_read` and `non_blocking_read_record`): for every header the wire can
carry (content ≤ 65535, padding ≤ 255) the sum does not wrap, so `body_.resize(cur_size + rec_size)`,
the read of `rec_size` bytes and `body_.resize(body_.size() - padding_length)` stay within bounds (the buffer-level
model is a checked interpreter there, `no_crash_fcgi`).  Breaks when `rec_size` is narrowed below 17 bits. -/
theorem record_sizes_exact (hb : Bytes) :
    Gen.fcgiRecSizeAsync (parseFcgiHdr hb).contentLength (parseFcgiHdr hb).paddingLength =
      (parseFcgiHdr hb).contentLength + (parseFcgiHdr hb).paddingLength ∧
    Gen.fcgiRecSizeCached (parseFcgiHdr hb).contentLength (parseFcgiHdr hb).paddingLength =
      (parseFcgiHdr hb).contentLength + (parseFcgiHdr hb).paddingLength :=
  recSize_no_wrap hb

/-- `connection::cgi_forwarder` (requests matching `forwarding.rules`): the buffer the request body is relayed through is
sized from `CONTENT_LENGTH` by the regenerated expression `Gen.fwdPostBuffer`; for every positive `CONTENT_LENGTH`
(however absurd) it is between 1 and 8192 bytes and not larger than what is left, so `post_.resize` cannot throw inside
the completion handler.  Breaks when the `min` becomes a `max`. -/
theorem forwarder_buffer_bounded (cl : Int) (h : 0 < cl) :
    ∃ s, fwdStart cl = some s ∧ 1 ≤ s.buf ∧ s.buf ≤ 8192 ∧ (s.buf : Int) ≤ s.remaining :=
  Cppcms.C02.forwarder_buffer_bounded cl h

/-- the relay loop (`write_post` / `on_post_data_written`) never resizes beyond 8 KiB and never takes `front()` of an
empty vector, for any lengths the reads deliver -/
theorem forwarder_relay_safe (cl : Int) (h : 0 < cl) (lens : List Nat) :
    ∃ s s', fwdStart cl = some s ∧ fwdRelay s lens = some s' ∧ s'.buf ≤ 8192 := by
  obtain ⟨s, hstart, hpos, hcap, _⟩ := Cppcms.C02.forwarder_buffer_bounded cl h
  obtain ⟨s', hrelay, hcap'⟩ := Cppcms.C02.forwarder_relay_safe lens s ⟨hpos, hcap⟩
  exact ⟨s, s', hstart, hrelay, hcap'⟩

/-- `string_pool` (the storage behind every request's variables): for every sequence of allocations of any
sizes and `clear()`s — the requests of a kept-alive connection — no allocation is handed bytes outside its
`malloc` block.  The page size, the conditions of `allocate_space` and which block `clear()` keeps are
regenerated from `private/string_map.h`; the statement is false when `clear()` keeps another block than the
head (`pool_overflows_when_last_kept`, finding D18). -/
theorem pool_no_overflow (ops : List PoolOp) : (Pool.init.run Gen.poolClearKeepsHead ops).isSome = true :=
  Cppcms.C02.pool_no_overflow ops

/-! ## the protocol independent layer, action by action

`cgiRun` (C01/Cgi.lean) runs one request through the translated callbacks of the layer and records the actions
(application calls, filter notifications, error page, completion handler).  The theorems hold for every request head, every content reader that makes progress
(a successful read of `want > 0` bytes delivers 1..`want` bytes; the three front-ends' readers do:
`readers_progress`), every behaviour of the peer (read errors anywhere, the write of the error page failing
or not) and both ways the header phase can end (`hdrErr`). -/

/-- the only way the machine stops early is a multipart upload (property C12).  The interpreter of `Cgi.lean` halts
with `.crash` when a callback does anything after it has handed the request on (completion handler, next asynchronous
operation, next callback of the chain), when one ends without handing it on, when two operations are pending at once,
and when call depth or fuel run out (`execWith`, `callHandOver`, `primSem`, `execD`, `runCallback`, `cgiLoop`); so
`halt ≠ some (.crash _)` says that none of these happens. -/
theorem cgi_layer_no_crash {σ : Type} (lim : Limits) (hl : LimitsOk lim) (rd : Nat → σ → Except Err (Bytes × σ))
    (hrd : Progress rd) (wfail : Bool) (hdrErr : Option Err) (h : Head) (st : σ) :
    (cgiRun lim rd wfail hdrErr h st).halt = none ∨ (cgiRun lim rd wfail hdrErr h st).halt = some .multipart := by
  cases hdrErr with
  | some e =>
    obtain ⟨hhalt, _⟩ := cgi_run_hdr_err lim rd wfail e h st
    exact Or.inl hhalt
  | none =>
    -- the machine halts only where `requestPlan` itself stops, and `runRequest` reports no undefined operation
    rcases (cgi_run_spec lim hl.buf rd hrd wfail h st).run with ⟨hh, ho | ⟨w, ho⟩⟩ | ⟨hh, _⟩
    · exact Or.inr (ho ▸ hh)
    · have := runRequest_no_crash lim hl rd h st
      rw [ho] at this
      cases this
    · exact Or.inl hh

/-- the action list of every request that runs to its end is `ActsOk` (the list itself is `actsOf` of the outcome:
`cgi_run_spec`) -/
theorem request_actions_ok {σ : Type} (lim : Limits) (hl : LimitsOk lim) (rd : Nat → σ → Except Err (Bytes × σ))
    (hrd : Progress rd) (wfail : Bool) (hdrErr : Option Err) (h : Head) (st : σ)
    (hh : (cgiRun lim rd wfail hdrErr h st).halt = none) : ActsOk (cgiRun lim rd wfail hdrErr h st).acts := by
  cases hdrErr with
  | some e =>
    obtain ⟨_, hacts, _⟩ := cgi_run_hdr_err lim rd wfail e h st
    rw [hacts]
    exact actsOf_ok wfail (o := .aborted e false false) (fun x => x)
  | none =>
    obtain ⟨ho, ha⟩ := (cgi_run_spec lim hl.buf rd hrd wfail h st).ran hh
    exact ha ▸ actsOf_ok wfail ho

/-- `app_at_most_once`: the application's `main()` runs on the ready request at most once — exactly when the
completion handler was called without error, which happens exactly once per request, on every path — and the
early `main()` of a content filter application runs at most once (and first: `request_actions_ok`). -/
theorem app_at_most_once {σ : Type} (lim : Limits) (hl : LimitsOk lim) (rd : Nat → σ → Except Err (Bytes × σ))
    (hrd : Progress rd) (wfail : Bool) (hdrErr : Option Err) (h : Head) (st : σ)
    (hh : (cgiRun lim rd wfail hdrErr h st).halt = none) :
    let acts := (cgiRun lim rd wfail hdrErr h st).acts
    acts.count .dispatch ≤ 1 ∧ acts.count .mainEarly ≤ 1 ∧ (acts.filter isDone).length = 1 ∧
    (.dispatch ∈ acts ↔ .done false ∈ acts) ∧ (.done true ∈ acts → .dispatch ∉ acts) := by
  have a := request_actions_ok lim hl rd hrd wfail hdrErr h st hh
  exact ⟨a.dispatch_once, a.early_once, a.handler_once, a.dispatch_iff, fun x => (a.error_closed x).1⟩

/-- `on_error_at_most_once`: the content filter's upload-error notification is delivered at most once, only to a
filter whose application was called early, only for a request that failed, never together with
`on_end_of_content` and never when the application gets the request. -/
theorem on_error_at_most_once {σ : Type} (lim : Limits) (hl : LimitsOk lim) (rd : Nat → σ → Except Err (Bytes × σ))
    (hrd : Progress rd) (wfail : Bool) (hdrErr : Option Err) (h : Head) (st : σ)
    (hh : (cgiRun lim rd wfail hdrErr h st).halt = none) :
    let acts := (cgiRun lim rd wfail hdrErr h st).acts
    acts.count .onError ≤ 1 ∧ acts.count .endOfContent ≤ 1 ∧
    (.onError ∈ acts → .mainEarly ∈ acts ∧ .done true ∈ acts ∧ .dispatch ∉ acts ∧ .endOfContent ∉ acts) ∧
    (.endOfContent ∈ acts → .mainEarly ∈ acts ∧ .dispatch ∈ acts) := by
  have a := request_actions_ok lim hl rd hrd wfail hdrErr h st hh
  exact ⟨a.on_error_once, a.eoc_once, a.on_error_when, a.eoc_when⟩

/-- `error_is_answered_or_closed`: a request that fails is either dropped without an answer or answered by at most
one error page — status 400..599, written with `eof` set — and in both cases the handler is told about the error (so
the connection is not reused: `error_` is set before `h`, see `connection_closes_after_error`), and the application
never sees the request.  (The order of write and handler call is in `actsOf`, not in this statement.) -/
theorem error_is_answered_or_closed {σ : Type} (lim : Limits) (hl : LimitsOk lim)
    (rd : Nat → σ → Except Err (Bytes × σ)) (hrd : Progress rd) (wfail : Bool) (hdrErr : Option Err) (h : Head) (st : σ)
    (hh : (cgiRun lim rd wfail hdrErr h st).halt = none) :
    let acts := (cgiRun lim rd wfail hdrErr h st).acts
    (.done true ∈ acts → .dispatch ∉ acts ∧ (acts.filter isWrite).length ≤ 1) ∧
    (∀ c e, .write c e ∈ acts → 400 ≤ c ∧ c ≤ 599 ∧ e = true ∧ .done true ∈ acts ∧ .dispatch ∉ acts) := by
  have a := request_actions_ok lim hl rd hrd wfail hdrErr h st hh
  exact ⟨a.error_closed, a.write_is_error⟩

/-- the `Outcome` the front-end models work with (`runRequest`) is what the actions amount to: `.app` iff the
application was dispatched (on `fin body`), `.status c pre onError` iff the page with status `c` was written, with
`pre`/`onError` telling whether the early `main()` / the filter's `on_error` ran, `.aborted` iff nothing was
written; the content reader is left in the same state. -/
theorem actions_refine_outcome {σ : Type} (lim : Limits) (hl : LimitsOk lim) (rd : Nat → σ → Except Err (Bytes × σ))
    (hrd : Progress rd) (wfail : Bool) (h : Head) (st : σ) :
    (cgiRun lim rd wfail none h st).summary = (runRequest lim rd h st).1 ∧
    (cgiRun lim rd wfail none h st).st = (runRequest lim rd h st).2 :=
  ⟨(cgi_run_spec lim hl.buf rd hrd wfail h st).summary, (cgi_run_spec lim hl.buf rd hrd wfail h st).st⟩

/-- the counters the correspondence compares with the real application's (early `main()`, `main()` on the ready
request, filter `on_error`, filter `on_end_of_content`), as the model's `Outcome` determines them (`countersOf`), are
the numbers of the corresponding actions of the machine -/
theorem counters_are_actions {σ : Type} (lim : Limits) (hl : LimitsOk lim) (rd : Nat → σ → Except Err (Bytes × σ))
    (hrd : Progress rd) (wfail : Bool) (h : Head) (st : σ) (hh : (cgiRun lim rd wfail none h st).halt = none) :
    let acts := (cgiRun lim rd wfail none h st).acts
    (acts.count .mainEarly, acts.count .dispatch, acts.count .onError, acts.count .endOfContent) =
      countersOf (runRequest lim rd h st).1 :=
  by
  rw [((cgi_run_spec lim hl.buf rd hrd wfail h st).ran hh).2]
  exact count_actsOf wfail _

/-- the content readers of the three front-ends make progress (SCGI: the socket; FastCGI: STDIN records over any
record reader; HTTP: read-ahead buffer, then the socket) -/
theorem readers_progress : Progress sockRead ∧ (∀ {σ : Type} (R : RecReader σ), Progress (fcgiReadSome R)) ∧
    Progress httpReadSome :=
  ⟨progress_scgi, fun R => progress_fcgi R, progress_http⟩

/-- connection level: on every connection of every front-end, for every byte stream and segmentation, only the
*last* outcome can be anything else than an answered request or a FastCGI management reply — after an error
status, the embedded server's own 400 or a dropped request the connection is not read any more (no further
request is decoded from it; `keep_alive` only continues after the application answered). -/
theorem connection_closes_after_error (lim : Limits) :
    (∀ segs, ClosesAfterError (scgiConn lim segs)) ∧
    (∀ conc segs, ClosesAfterError (fcgiRun lim conc segs)) ∧
    (∀ cfg hints segs, ClosesAfterError (httpRun lim cfg hints segs)) :=
  ⟨scgi_closes lim, fun conc segs => fcgiRun_eq_flat lim conc segs ▸ fcgiFlat_closes lim conc _,
    fun cfg _ _ => http_closes lim cfg _ _ _ _⟩

/-- non-vacuity of `ClosesAfterError`: it does reject a connection that goes on after an error -/
example : ¬ ClosesAfterError [.raw400, .raw400] := by
  intro h; have := h .raw400 (by simp); simp [goesOn] at this

/-- non-vacuity of the hypotheses: the default limits, the socket reader, a run that does not halt -/
example : LimitsOk {} ∧ Progress sockRead ∧
    ∀ (h : Head) (st : Segs), (cgiRun {} sockRead false (some .eof) h st).halt = none ∧
      (cgiRun {} sockRead false (some .eof) h st).acts = [.done true] :=
  ⟨⟨by decide, by decide⟩, progress_scgi, fun h st =>
    let ⟨hhalt, hacts, _⟩ := cgi_run_hdr_err {} sockRead false .eof h st
    ⟨hhalt, hacts⟩⟩

end Cppcms.C02.Props
