import Cppcms.C01.Cgi
import Cppcms.C01.HttpProofs
import Cppcms.C01.FcgiProofs
/-! Closed forms of the translated callbacks (`Gen.cgi_*`, `Gen.ctx_on_request_ready`, `Gen.req_on_error`) under the
interpreter of `Cgi.lean`, computed by `simp`, callee before caller; then the event loop against `contentLoop` and
`cgiRun` against `runRequest`.  A trap: `execWith` on `.seq` uses the intermediate result twice, so `simp` only gets
through when it can decide `live` after every statement; each simp set contains the facts that decide it. -/
namespace Cppcms.C02
open Cppcms Cppcms.C01

/-- `context::on_request_ready(err)` as a function of the world -/
def ready {σ : Type} (err : Bool) (w : World σ) : World σ :=
  if err then
    { w with appAttached := false,
             acts := w.acts ++ (if w.appAttached && !w.noOnError && w.filterSet then [.onError] else []) }
  else { w with appAttached := false, acts := w.acts ++ [.dispatch] }

theorem ready_halt {σ : Type} (err : Bool) (w : World σ) : (ready err w).halt = w.halt := by
  unfold ready; split <;> rfl

/-- the closed forms are stated at depth `d + k` and unfold exactly the `k` levels they need with this -/
theorem execD_succ {σ : Type} (lim : Limits) (h : Head) (d : Nat) :
    (execD lim h (d + 1) : CStmt → Frame → World σ → Frame × World σ) = execWith (primSem lim h (execD lim h d)) := rfl

theorem exec_on_error {σ : Type} (lim : Limits) (h : Head) (d : Nat) (n fl : Bool) (w : World σ) (hh : w.halt = none) :
    (execD lim h (d + 1) Gen.req_on_error { v := { noOnError := n, filter := fl } } w).2 =
      { w with acts := w.acts ++ (if !n && fl then [.onError] else []) } := by
  rw [execD_succ]
  cases w
  cases hh
  cases n <;> cases fl <;> simp [execWith, primSem, Gen.req_on_error, live, World.emit]

theorem exec_ready {σ : Type} (lim : Limits) (h : Head) (d : Nat) (err : Bool) (w : World σ) (hh : w.halt = none) :
    (execD lim h (d + 2) Gen.ctx_on_request_ready { v := { error := err } } w).2 = ready err w := by
  rw [execD_succ]
  cases err <;> cases ha : w.appAttached <;>
    simp [execWith, primSem, Gen.ctx_on_request_ready, callPlain, exec_on_error, live, World.emit, ready, hh, ha]

section
variable {σ : Type} (lim : Limits) (h : Head)

theorem exec_set_error (d : Nat) (v : CVars) (w : World σ) (hh : w.halt = none) :
    execD lim h (d + 3) Gen.cgi_set_error { v := v } w = ({ v := v, handed := true }, ready true (w.emit (.done true))) := by
  rw [execD_succ]
  simp [execWith, primSem, Gen.cgi_set_error, exec_ready, live, World.emit, hh]

/-- the error page: `handle_http_error(status,context,h)` with nothing written so far -/
def errorPage {σ : Type} (status : Int) (w : World σ) : World σ :=
  { w with pageStatus := status, acts := w.acts ++ [.write status true], pending := some .write }

theorem errorPage_halt {σ : Type} (c : Int) (w : World σ) : (errorPage c w).halt = w.halt := rfl

theorem exec_handle_http_error (d : Nat) (c : Int) (w : World σ)
    (hh : w.halt = none) (hp : w.pending = none) :
    execD lim h (d + 1) Gen.cgi_handle_http_error { v := { code := c } } w =
      ({ v := { code := c }, handed := true }, errorPage c w) := by
  rw [execD_succ]
  simp [execWith, primSem, Gen.cgi_handle_http_error, live, hh, hp, World.emit, errorPage]

theorem run_eof (wfail : Bool) (w : World σ) (hh : w.halt = none) :
    runCallback lim h "handle_http_error_eof" Gen.cgi_handle_http_error_eof { e := wfail } w =
      ready true ((if wfail then w else w.emit .eof).emit (.done true)) := by
  unfold runCallback callDepth
  rw [execD_succ]
  cases wfail <;>
    simp [execWith, primSem, Gen.cgi_handle_http_error_eof, callHandOver, exec_set_error, live, hh, World.emit,
      ready_halt]

theorem run_read_err (w : World σ) (hh : w.halt = none) :
    runCallback lim h "on_some_content_read" Gen.cgi_on_some_content_read { e := true } w =
      ready true (w.emit (.done true)) := by
  unfold runCallback callDepth
  rw [execD_succ]
  simp [execWith, primSem, Gen.cgi_on_some_content_read, callHandOver, exec_set_error, live, hh, World.emit,
    ready_halt]

theorem semContentProgress_halt_pending {σ : Type} (w : World σ) :
    (semContentProgress w).2.halt = w.halt ∧ (semContentProgress w).2.pending = w.pending := by
  unfold semContentProgress
  split
  · exact ⟨rfl, rfl⟩
  · dsimp only
    split
    · split <;> exact ⟨rfl, rfl⟩
    · exact ⟨rfl, rfl⟩

theorem run_read_ok (w : World σ) (hh : w.halt = none) (hp : w.pending = none) :
    runCallback lim h "on_some_content_read" Gen.cgi_on_some_content_read { e := false } w =
      (let r := semContentProgress w
       if r.1 ≠ 0 then errorPage r.1 r.2
       else if wantOf r.2.chunkMode r.2.remaining = 0 then ready false ((r.2.emit .readComplete).emit (.done false))
       else { r.2 with pending := some (.read (wantOf r.2.chunkMode r.2.remaining)) }) := by
  obtain ⟨h1, h2⟩ := semContentProgress_halt_pending w
  rw [hh] at h1
  rw [hp] at h2
  unfold runCallback callDepth
  rw [execD_succ]
  cases hs : semContentProgress w with
  | mk status w1 =>
    rw [hs] at h1 h2
    simp only at h1 h2
    by_cases h0 : status = 0 <;> by_cases hw : wantOf w1.chunkMode w1.remaining = 0 <;>
      simp [execWith, primSem, Gen.cgi_on_some_content_read, callHandOver, exec_handle_http_error, exec_ready, live, hh, hs,
        World.emit, ready_halt, errorPage_halt, h0, hw, h1, h2]

theorem start_err (e : Err) (st : σ) :
    cgiStart lim (some e) h st = ready true (({ st := st, lastErr := e } : World σ).emit (.done true)) := by
  unfold cgiStart runCallback callDepth
  rw [execD_succ]
  simp [execWith, primSem, Gen.cgi_on_headers_read, callHandOver, exec_set_error, live, World.emit, ready_halt]

/-- the world `on_headers_read` leaves, by what `context::on_headers_ready` decided -/
def startWorld (st : σ) : Plan → World σ
  | .done (.app k pre vw) =>
    ready false ((({ st := st, acts := earlyActs pre, appAttached := pre, filterSet := pre,
                     result := some (.app k pre vw) } : World σ).emit .readComplete).emit (.done false))
  | .done (.status code pre oe) =>
    errorPage (code : Int) { st := st, acts := earlyActs pre, appAttached := oe, filterSet := oe }
  | .done o => { st := st, halt := some o }
  | .read n chunk pre fin =>
    { st := st, acts := earlyActs pre, appAttached := pre, filterSet := pre, remaining := n, chunkMode := chunk,
      fin := fin, pending := some (.read (wantOf chunk n)) }

theorem start_plan (st : σ) : cgiStart lim none h st = startWorld st (requestPlan lim h) := by
  have hc := requestPlan_case lim h
  generalize hp : requestPlan lim h = p at hc
  unfold cgiStart runCallback callDepth
  rw [execD_succ]
  -- `execD_succ lim h 4`: of the `callDepth = 6` levels, `on_headers_read` and `load_content` have used two
  cases hc with
  | abort c hc | refused c _ hc =>
    have h0 : c ≠ 0 := by omega
    simp [execWith, primSem, Gen.cgi_on_headers_read, callHandOver, execD_succ lim h 4, Gen.cgi_load_content,
      semHeadersReady, hp, h0, exec_handle_http_error, errorPage_halt, live, startWorld]
  | noContent _ _ hcl | read _ _ _ _ hcl _ =>
    simp [execWith, primSem, Gen.cgi_on_headers_read, callHandOver, execD_succ lim h 4, Gen.cgi_load_content,
      semHeadersReady, hp, hcl, exec_ready, live, World.emit, ready_halt, startWorld]
  | multipart | resize _ =>
    simp [execWith, primSem, Gen.cgi_on_headers_read, callHandOver, execD_succ lim h 4, Gen.cgi_load_content,
      semHeadersReady, hp, live, startWorld]

end

/-- `read_some` semantics -/
def Progress {σ : Type} (rd : Nat → σ → Except Err (Bytes × σ)) : Prop :=
  ∀ want st got st', 0 < want → rd want st = .ok (got, st') → got ≠ [] ∧ got.length ≤ want

theorem cgiLoop_idle {σ : Type} (lim : Limits) (h : Head) (rd : Nat → σ → Except Err (Bytes × σ)) (wfail : Bool)
    (fuel : Nat) (w : World σ) (hp : w.pending = none) : cgiLoop lim h rd wfail fuel w = w := by
  cases fuel with
  | zero => simp [cgiLoop, hp]
  | succ f =>
    unfold cgiLoop
    split
    · rfl
    · simp [hp]

def isStatus : Outcome → Bool
  | .status .. => true
  | _ => false

def onErrActs (pre : Bool) : List Act := if pre then [.onError] else []

/-- `actsOf wfail` of the outcome that `runRequest` makes of the content loop's result (`LoopPost.runsAs`) -/
def finalActs (pre wfail : Bool) (fin : Bytes → Outcome) : Except Err Bytes → List Act
  | .error _ => earlyActs pre ++ [.done true] ++ onErrActs pre
  | .ok body =>
    match fin body with
    | .status c _ _ =>
      earlyActs pre ++ [.write c true] ++ (if wfail then [] else [.eof]) ++ [.done true] ++ onErrActs pre
    | _ => earlyActs pre ++ (if pre then [.endOfContent] else []) ++ [.readComplete, .done false, .dispatch]

/-- the world while a content read is pending: `rem` bytes outstanding, `acc` delivered so far -/
structure ReadInv {σ : Type} (w : World σ) (pre : Bool) (chunk : Option Nat) (fin : Bytes → Outcome) (rem : Nat)
    (acc : Bytes) : Prop where
  halt : w.halt = none
  pending : w.pending = some (.read (wantOf chunk rem))
  acts : w.acts = earlyActs pre
  app : w.appAttached = pre
  filter : w.filterSet = pre
  noerr : w.noOnError = false
  remaining : w.remaining = rem
  chunkMode : w.chunkMode = chunk
  body : w.body = acc
  fin : w.fin = fin

/-- the world when the event loop has come to rest, against the result `r` of the content loop -/
structure LoopPost {σ : Type} (wf : World σ) (pre wfail : Bool) (fin : Bytes → Outcome) (r : Except Err Bytes × σ) :
    Prop where
  halt : wf.halt = none
  pending : wf.pending = none
  acts : wf.acts = finalActs pre wfail fin r.1
  st : wf.st = r.2
  err : ∀ e, r.1 = .error e → wf.lastErr = e
  result : ∀ body, r.1 = .ok body → isStatus (fin body) = false → wf.result = some (fin body)

/-- `ReadInv` when `on_some_content_read` runs: nothing pending, `got` the last chunk -/
structure StepPre {σ : Type} (w1 : World σ) (pre : Bool) (chunk : Option Nat) (fin : Bytes → Outcome) (rem : Nat)
    (acc got : Bytes) : Prop where
  halt : w1.halt = none
  pending : w1.pending = none
  last : w1.chunk = got
  acts : w1.acts = earlyActs pre
  app : w1.appAttached = pre
  filter : w1.filterSet = pre
  noerr : w1.noOnError = false
  remaining : w1.remaining = rem
  chunkMode : w1.chunkMode = chunk
  body : w1.body = acc
  fin : w1.fin = fin

section
variable {σ : Type} (lim : Limits) (h : Head) (w1 : World σ) {pre : Bool} {chunk : Option Nat} {fin : Bytes → Outcome}
  {rem : Nat} {acc got : Bytes}

/-- content complete and the form in it does not parse (error page) / complete and ready / more to read -/
theorem step_spec (hs : StepPre w1 pre chunk fin rem acc got) (hemp : got.isEmpty = false)
    (hchunk : ∀ b, chunk = some b → 0 < b) (hcode : ∀ c p o, fin (acc ++ got) = .status c p o → c ≠ 0) :
    runCallback lim h "on_some_content_read" Gen.cgi_on_some_content_read { e := false } w1 =
      if rem - got.length = 0 then
        match fin (acc ++ got) with
        | .status c _ _ => errorPage (c : Int) { w1 with body := acc ++ got, remaining := 0 }
        | o =>
          ready false ((({ w1 with body := acc ++ got, remaining := 0, result := some o,
                                   acts := w1.acts ++ (if pre then [.endOfContent] else []) } : World σ).emit
            .readComplete).emit (.done false))
      else { w1 with body := acc ++ got, remaining := rem - got.length,
                     pending := some (.read (wantOf chunk (rem - got.length))) } := by
  rw [run_read_ok _ _ _ hs.halt hs.pending]
  by_cases hz : rem - got.length = 0
  · have hw : wantOf w1.chunkMode 0 = 0 := by cases w1.chunkMode <;> simp [wantOf]
    cases hf : fin (acc ++ got) with
    | status c p o =>
      have := hcode c p o hf
      simp [semContentProgress, hs.last, hemp, hs.body, hs.remaining, hs.fin, hz, hf, this]
    | _ => simp [semContentProgress, hs.last, hemp, hs.body, hs.remaining, hs.fin, hs.filter, hz, hf, hw]
  · have hw : ¬ wantOf chunk (rem - got.length) = 0 := by
      have := wantOf_pos hchunk (Nat.pos_of_ne_zero hz)
      omega
    simp [semContentProgress, hs.last, hemp, hs.body, hs.remaining, hs.chunkMode, hz, hw]

end

/-- The event loop from a pending content read is the content loop.  Each loop has its own fuel: `fuelC` is
`contentLoop`'s (one turn per read), `fuelM` the machine's, which needs one turn more than there are reads for the write
of the error page when the form in the content does not parse (`cgiRun`: `remaining + 2`). -/
theorem loop_read {σ : Type} (lim : Limits) (h : Head) (rd : Nat → σ → Except Err (Bytes × σ)) (wfail : Bool)
    (hrd : Progress rd) (pre : Bool) (chunk : Option Nat) (fin : Bytes → Outcome)
    (hchunk : ∀ b, chunk = some b → 0 < b)
    (hstatus : ∀ body c p o, fin body = .status c p o → pre = false ∧ c ≠ 0) :
    ∀ (fuelC fuelM rem : Nat) (acc : Bytes) (w : World σ), 0 < rem → rem < fuelC → rem + 1 ≤ fuelM →
      ReadInv w pre chunk fin rem acc →
      LoopPost (cgiLoop lim h rd wfail fuelM w) pre wfail fin (contentLoop rd chunk fuelC rem acc w.st) := by
  intro fuelC
  induction fuelC with
  | zero => intro fuelM rem acc w _ h1; omega
  | succ fc ih =>
    intro fuelM rem acc w hrem hfc hfm hi
    have hwant := wantOf_pos hchunk hrem
    obtain ⟨fm, rfl⟩ : ∃ fm, fuelM = fm + 1 := ⟨fuelM - 1, by omega⟩
    unfold contentLoop cgiLoop
    have hr0 : (rem == 0) = false := by simp; omega
    have hh0 : w.halt.isSome = false := by rw [hi.halt]; rfl
    rw [hi.pending]
    simp only [hr0, hh0, Bool.false_eq_true, if_false]
    cases hread : rd (wantOf chunk rem) w.st with
    | error e =>
      simp only
      rw [run_read_err _ _ _ (by simp [hi.halt])]
      rw [cgiLoop_idle _ _ _ _ _ _ (by simp [ready, World.emit])]
      -- the final world is explicit: each field of `LoopPost` is read off it
      cases pre <;> constructor <;>
        simp [ready, World.emit, hi.halt, hi.acts, hi.app, hi.filter, hi.noerr, finalActs, onErrActs]
    | ok p =>
      obtain ⟨got, st'⟩ := p
      obtain ⟨hne, hle⟩ := hrd _ _ _ _ hwant hread
      have hgl : 0 < got.length := List.length_pos_iff.mpr hne
      have hwle := wantOf_le chunk rem
      simp only
      generalize hw1 : ({ w with pending := none, st := st', chunk := got } : World σ) = w1
      have hs : StepPre w1 pre chunk fin rem acc got := by
        subst hw1
        exact { halt := hi.halt, pending := rfl, last := rfl, acts := hi.acts, app := hi.app, filter := hi.filter,
                noerr := hi.noerr, remaining := hi.remaining, chunkMode := hi.chunkMode, body := hi.body, fin := hi.fin }
      have hst : w1.st = st' := by subst hw1; rfl
      rw [step_spec lim h w1 hs (by simpa using hne) hchunk (fun c p o hf => (hstatus _ c p o hf).2)]
      split
      · -- the content is complete
        rename_i hz
        have hcl : contentLoop rd chunk fc (rem - got.length) (acc ++ got) st' = (.ok (acc ++ got), st') := by
          rw [hz]; cases fc <;> simp [contentLoop]
        rw [hcl]
        split
        · -- the form does not parse: error page, one more turn for its write
          rename_i c p o hf
          obtain ⟨rfl, hc0⟩ := hstatus _ _ _ _ hf
          obtain ⟨fm', rfl⟩ : ∃ fm', fm = fm' + 1 := ⟨fm - 1, by omega⟩
          unfold cgiLoop
          simp only [errorPage, hs.halt, Option.isSome_none, Bool.false_eq_true, if_false]
          rw [run_eof _ _ _ _ (by simp [])]
          rw [cgiLoop_idle _ _ _ _ _ _ (by cases wfail <;> simp [ready, World.emit])]
          cases wfail <;> constructor <;>
            simp [ready, World.emit, hst, hs.acts, hs.app, hs.filter, hs.noerr, finalActs, onErrActs, hf,
              earlyActs, isStatus]
        · -- the request is ready
          rename_i hns
          rw [cgiLoop_idle _ _ _ _ _ _ (by simp [ready, World.emit, hs.pending])]
          have hfa : finalActs pre wfail fin (Except.ok (acc ++ got)) =
              earlyActs pre ++ (if pre then [.endOfContent] else []) ++ [.readComplete, .done false, .dispatch] := by
            simp only [finalActs]
          constructor <;> simp [ready, World.emit, hs.halt, hs.pending, hst, hs.acts, hfa]
      · -- more content is due: `ReadInv` holds again
        rename_i hz
        have := ih fm (rem - got.length) (acc ++ got)
          { w1 with body := acc ++ got, remaining := rem - got.length, pending := some (.read (wantOf chunk (rem - got.length))) }
          (by omega) (by omega) (by omega)
          { halt := hs.halt, pending := rfl, acts := hs.acts, app := hs.app, filter := hs.filter, noerr := hs.noerr,
            remaining := rfl, chunkMode := hs.chunkMode, body := rfl, fin := hs.fin }
        simpa [hst] using this

def isDone : Act → Bool
  | .done _ => true
  | _ => false

def isWrite : Act → Bool
  | .write .. => true
  | _ => false

structure ActsOk (acts : List Act) : Prop where
  handler_once : (acts.filter isDone).length = 1
  dispatch_once : acts.count .dispatch ≤ 1
  dispatch_iff : .dispatch ∈ acts ↔ .done false ∈ acts
  early_once : acts.count .mainEarly ≤ 1
  early_first : .mainEarly ∈ acts → acts.head? = some .mainEarly
  on_error_once : acts.count .onError ≤ 1
  on_error_when : .onError ∈ acts → .mainEarly ∈ acts ∧ .done true ∈ acts ∧ .dispatch ∉ acts ∧ .endOfContent ∉ acts
  eoc_once : acts.count .endOfContent ≤ 1
  eoc_when : .endOfContent ∈ acts → .mainEarly ∈ acts ∧ .dispatch ∈ acts
  error_closed : .done true ∈ acts → .dispatch ∉ acts ∧ (acts.filter isWrite).length ≤ 1
  write_is_error : ∀ c e, .write c e ∈ acts → 400 ≤ c ∧ c ≤ 599 ∧ e = true ∧ .done true ∈ acts ∧ .dispatch ∉ acts

/-- the harness' four counters (early `main()`, `main()`, `on_error`, `on_end_of_content`) as the `Outcome` determines
them; the check forms the same sums from the printed outcomes (`model_canon`, gen/c01lib.py) -/
def countersOf : Outcome → Nat × Nat × Nat × Nat
  | .app _ pre _ => (if pre then 1 else 0, 1, 0, if pre then 1 else 0)
  | .status _ pre oe => (if pre then 1 else 0, 0, if oe then 1 else 0, 0)
  | .aborted _ pre oe => (if pre then 1 else 0, 0, if oe then 1 else 0, 0)
  | _ => (0, 0, 0, 0)

/-- the actions of a request that runs to its end, as a function of the `Outcome` that `runRequest` reports
(`wfail`: the write of the error page fails, `do_eof` is skipped) -/
def actsOf (wfail : Bool) : Outcome → List Act
  | .app _ pre _ => earlyActs pre ++ (if pre then [.endOfContent] else []) ++ [.readComplete, .done false, .dispatch]
  | .status c pre oe =>
    earlyActs pre ++ [.write (c : Int) true] ++ (if wfail then [] else [.eof]) ++ [.done true] ++ onErrActs oe
  | .aborted _ pre oe => earlyActs pre ++ [.done true] ++ onErrActs oe
  | _ => []

/-- the outcomes of a request that runs to its end; `on_error` is only delivered to a filter that was called early -/
def Reported : Outcome → Prop
  | .app .. => True
  | .status c pre oe => 400 ≤ c ∧ c ≤ 599 ∧ (oe = true → pre = true)
  | .aborted _ pre oe => oe = true → pre = true
  | _ => False

theorem actsOf_ok (wfail : Bool) {o : Outcome} (ho : Reported o) : ActsOk (actsOf wfail o) := by
  -- the action list is made a literal first; without an error page it is a closed term and the fields are
  -- evaluated, except for the quantified `write_is_error`
  cases o with
  | app k pre v =>
    cases pre <;> simp only [actsOf, earlyActs, Bool.false_eq_true, if_true, if_false, List.nil_append, List.cons_append] <;>
      constructor <;> first | decide | simp
  | status c pre oe =>
    obtain ⟨h1, h2, h3⟩ := ho
    cases pre <;> cases oe <;> cases wfail <;> first
      | (exfalso; simp at h3; done)
      | (simp only [actsOf, earlyActs, onErrActs, Bool.false_eq_true, if_true, if_false, List.nil_append,
          List.cons_append, List.append_nil]
         constructor <;> simp [isDone, isWrite, List.filter] <;> omega)
  | aborted e pre oe =>
    cases pre <;> cases oe <;> first
      | (exfalso; simp [Reported] at ho; done)
      | (simp only [actsOf, earlyActs, onErrActs, Bool.false_eq_true, if_true, if_false, List.nil_append,
          List.cons_append, List.append_nil]
         constructor <;> first | decide | simp)
  | _ => exact ho.elim

theorem count_actsOf (wfail : Bool) (o : Outcome) :
    ((actsOf wfail o).count .mainEarly, (actsOf wfail o).count .dispatch, (actsOf wfail o).count .onError,
      (actsOf wfail o).count .endOfContent) = countersOf o := by
  cases o with
  | app k pre v => cases pre <;> rfl
  | status c pre oe => cases pre <;> cases oe <;> cases wfail <;> simp [actsOf, earlyActs, onErrActs, countersOf]
  | aborted e pre oe => cases pre <;> cases oe <;> rfl
  | _ => rfl

/-- the machine stops early exactly where the plan stops (multipart, or an undefined operation); otherwise its
actions are those of the outcome; in both cases the outcome is what the actions amount to (`cgi_run_spec`, which every
C02 theorem about actions is read off) -/
structure RunsAs {σ : Type} (wfail : Bool) (wf : World σ) (r : Outcome × σ) : Prop where
  st : wf.st = r.2
  summary : wf.summary = r.1
  run : wf.halt = some r.1 ∧ (r.1 = .multipart ∨ ∃ w, r.1 = .crash w) ∨
    wf.halt = none ∧ Reported r.1 ∧ wf.acts = actsOf wfail r.1

theorem RunsAs.ran {σ : Type} {wfail : Bool} {wf : World σ} {r : Outcome × σ} (hr : RunsAs wfail wf r)
    (hh : wf.halt = none) : Reported r.1 ∧ wf.acts = actsOf wfail r.1 := by
  rcases hr.run with ⟨hs, _⟩ | ⟨_, ho, ha⟩
  · rw [hs] at hh; cases hh
  · exact ⟨ho, ha⟩

theorem LoopPost.runsAs {σ : Type} {wf : World σ} {pre wfail : Bool} {fin : Bytes → Outcome} {k : Kind}
    {r : Except Err Bytes × σ} (post : LoopPost wf pre wfail fin r)
    (hfin : ∀ body, (∃ v, fin body = .app k pre v) ∨
      (pre = false ∧ ∃ c, (400 ≤ c ∧ c ≤ 599) ∧ fin body = .status c false false)) :
    RunsAs wfail wf (match r with
      | (.error e, st') => (.aborted e pre pre, st')
      | (.ok body, st') => (fin body, st')) := by
  obtain ⟨res, st'⟩ := r
  refine ⟨?_, ?_, .inr ⟨post.halt, ?_⟩⟩
  · cases res <;> exact post.st
  · rw [World.summary, post.halt, post.acts]
    cases res with
    | error e => cases pre <;> simp [summaryOf, finalActs, earlyActs, onErrActs, post.err e rfl]
    | ok body =>
      rcases hfin body with ⟨v, hf⟩ | ⟨rfl, c, hc, hf⟩
      · have := post.result body rfl (by simp [hf, isStatus])
        cases pre <;> simp [summaryOf, finalActs, hf, earlyActs, this]
      · cases wfail <;> simp [summaryOf, finalActs, hf, earlyActs, onErrActs]
  · rw [post.acts]
    cases res with
    | error e => exact ⟨fun x => x, rfl⟩
    | ok body =>
      rcases hfin body with ⟨v, hf⟩ | ⟨rfl, c, hc, hf⟩
      · simp only [hf]
        exact ⟨trivial, by simp [finalActs, hf, actsOf]⟩
      · simp only [hf]
        exact ⟨⟨hc.1, hc.2, fun x => x⟩, by simp [finalActs, hf, actsOf]⟩

theorem cgi_run_spec {σ : Type} (lim : Limits) (hb : 0 < lim.bufSize) (rd : Nat → σ → Except Err (Bytes × σ))
    (hrd : Progress rd) (wfail : Bool) (h : Head) (st : σ) :
    RunsAs wfail (cgiRun lim rd wfail none h st) (runRequest lim rd h st) := by
  unfold cgiRun runRequest
  rw [start_plan]
  have hc := requestPlan_case lim h
  generalize requestPlan lim h = plan at hc ⊢
  -- an error page: the write completes (or fails), `handle_http_error_eof` runs
  have status : ∀ c p o, 400 ≤ c ∧ c ≤ 599 → (o = true → p = true) →
      RunsAs wfail (cgiLoop lim h rd wfail ((startWorld st (.done (.status c p o))).remaining + 2)
        (startWorld st (.done (.status c p o)))) (.status c p o, st) := by
    intro c p o hc hpo
    simp only [startWorld, errorPage]
    unfold cgiLoop
    simp only [Option.isSome_none, Bool.false_eq_true, if_false]
    rw [run_eof _ _ _ _ (by simp), cgiLoop_idle _ _ _ _ _ _ (by cases wfail <;> simp [ready, World.emit])]
    refine ⟨by cases wfail <;> simp [ready, World.emit], ?_,
      .inr ⟨by cases wfail <;> simp [ready, World.emit], ⟨hc.1, hc.2, hpo⟩, ?_⟩⟩
    · cases wfail <;> cases p <;> cases o <;> simp [World.summary, summaryOf, ready, World.emit, earlyActs]
    · cases wfail <;> cases o <;> simp [ready, World.emit, onErrActs, actsOf]
  cases hc with
  | abort c hc => exact status c true false hc (fun _ => rfl)
  | refused c pre hc => exact status c pre pre hc (fun x => x)
  | multipart => unfold cgiLoop; exact ⟨rfl, rfl, .inl ⟨rfl, .inl rfl⟩⟩
  | resize w => unfold cgiLoop; exact ⟨rfl, rfl, .inl ⟨rfl, .inr ⟨w, rfl⟩⟩⟩
  | noContent k vw hcl =>
    rw [startWorld, cgiLoop_idle _ _ _ _ _ _ (by simp [ready, World.emit])]
    refine ⟨?_, ?_, .inr ⟨?_, trivial, ?_⟩⟩ <;> simp [World.summary, summaryOf, ready, World.emit, earlyActs, actsOf]
  | read k pre a fin hcl hfin =>
    have hstatus : ∀ body c p o, fin body = .status c p o → pre = false ∧ c ≠ 0 := by
      intro body c p o hf
      rcases hfin body with ⟨v, hv⟩ | ⟨hpre, c', hc', hv⟩
      · rw [hv] at hf; cases hf
      · rw [hv] at hf; cases hf; exact ⟨hpre, by omega⟩
    exact (loop_read lim h rd wfail hrd pre _ fin (chunkOf_pos lim hb _ _) hstatus (h.contentLength.toNat + 1) _
      h.contentLength.toNat [] _ (by omega) (by omega) (by simp [startWorld])
      { halt := rfl, pending := rfl, acts := rfl, app := rfl, filter := rfl, noerr := rfl, remaining := rfl,
        chunkMode := rfl, body := rfl, fin := rfl }).runsAs hfin

theorem cgi_run_hdr_err {σ : Type} (lim : Limits) (rd : Nat → σ → Except Err (Bytes × σ)) (wfail : Bool) (e : Err)
    (h : Head) (st : σ) :
    (cgiRun lim rd wfail (some e) h st).halt = none ∧ (cgiRun lim rd wfail (some e) h st).acts = [.done true] ∧
    (cgiRun lim rd wfail (some e) h st).st = st ∧ (cgiRun lim rd wfail (some e) h st).lastErr = e := by
  unfold cgiRun
  rw [start_err]
  rw [cgiLoop_idle _ _ _ _ _ _ (by simp [ready, World.emit])]
  simp [ready, World.emit]

theorem progress_of_stream {σ : Type} {rd : Nat → σ → Except Err (Bytes × σ)} {view : σ → Bytes}
    (hrd : StreamReader rd view) : Progress rd := by
  intro want st got st' hw hr
  by_cases hv : view st = []
  · rw [hrd.eof want st hv] at hr; cases hr
  · obtain ⟨g, s', h1, h2, h3, _⟩ := hrd.some want st hw hv
    rw [h1] at hr
    cases hr
    exact ⟨h2, h3⟩

theorem progress_scgi : Progress sockRead := progress_of_stream sockRead_stream

theorem progress_http : Progress httpReadSome := progress_of_stream httpReadSome_stream

theorem progress_fcgi {σ : Type} (R : RecReader σ) : Progress (fcgiReadSome R) := by
  intro want b got b' hw hr
  obtain ⟨b1, hp, ht, _⟩ := fcgiReadSome_ok hr
  obtain ⟨rfl, _⟩ := fcgiTake_ok ht
  have hlen : (fcgiAdvance want b1).1.length = min want (b1.body.length - b1.ptr) := by
    unfold fcgiAdvance
    simp only
    split <;> simp <;> omega
  exact ⟨List.ne_nil_of_length_pos (by omega), by omega⟩

end Cppcms.C02
