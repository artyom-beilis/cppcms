import Cppcms.C14.LemmasStr
import Cppcms.C14.Widget
/-!
C14: "text validators accept exactly the well-formed strings of their encoding."  The model (`Model.lean`) takes
its conditions, constants and bit expressions from `Gen.lean`, regenerated from the C++ source; the RFC 3629 tables
of `Spec.lean` are written independently.  `Out.cp v`: the decoder returned code point `v`; the second component is
the iterator position afterwards.  `next_iff_rfc3629`, `decode_iff_rfc3629` (`Lemmas.lean`) and `rfc3629_scalar_shortest`
(`Rfc.lean`) are stated where they are proved, because the lemmas about whole strings use them.
-/
namespace Cppcms.C14.Props
open Cppcms Cppcms.C14 Cppcms.C14.Spec

/-- every other outcome of `utf8::next` is `illegal` (it has no `incomplete`) -/
theorem next_illegal_otherwise (html : Bool) (bs : Bytes) :
    (∃ v, (Cms.next html bs).1 = .cp v) ∨ (Cms.next html bs).1 = .illegal := by
  rw [Cms.next_eq_step]
  cases (step html bs).1 with
  | cp v => exact Or.inl ⟨v, rfl⟩
  | illegal => exact Or.inr rfl
  | incomplete => exact Or.inr rfl

/-- The two decoders compute the same function — value *and* iterator position, on every input,
also on rejected ones — except that booster says `incomplete` for a truncated sequence. -/
theorem decoders_agree (bs : Bytes) :
    Cms.next false bs = (collapse (Boost.decode bs).1, (Boost.decode bs).2) := by
  rw [Cms.next_eq_step, Boost.decode_eq_step]

/-- booster reports `incomplete` exactly for truncated input: nothing at all, or a lead byte
followed only by trail bytes, fewer than the lead announces -/
theorem decode_incomplete_iff (bs : Bytes) : (Boost.decode bs).1 = .incomplete ↔ Truncated bs := by
  rw [Boost.decode_eq_step]
  cases bs with
  | nil => simp [step, Truncated]
  | cons a p =>
    simp only [step_incomplete_iff, Truncated, seqLen_eq, isTr_iff_tail, reduceCtorEq, false_or, List.cons.injEq]
    constructor
    · rintro ⟨k, hk, hl, ht⟩
      exact ⟨a, p, k + 1, ⟨rfl, rfl⟩, by rw [hk]; rfl, by omega, ht⟩
    · rintro ⟨_, _, n, ⟨rfl, rfl⟩, hn, hl, ht⟩
      cases hk : leadClass a.toNat with
      | none => rw [hk] at hn; cases hn
      | some k =>
        rw [hk, Option.map_some, Option.some.injEq] at hn
        exact ⟨k, rfl, by omega, ht⟩

/-- every scalar value has exactly one RFC 3629 encoding (converse of `rfc3629_scalar_shortest`) -/
theorem rfc3629_total_unique (v : Nat) (h : Scalar v) :
    ∃ enc, Rfc3629 v enc ∧ ∀ e, Rfc3629 v e → e = enc :=
  ⟨encode v, rfc_encode h, fun _ he => rfc_eq_encode he⟩

/-- `utf8::validate(p,e,count,html)` with `count = 0` on entry reports success with `count = n`
**iff** the string is a concatenation of exactly `n` RFC 3629 encodings of (mode-admissible) code
points. -/
theorem validate_iff_wellformed (html : Bool) (s : Bytes) (n : Nat) :
    validate html s 0 = (true, n) ↔ WellFormed html s n := by
  simp [validate_spec]

theorem validate_accepts_iff (html : Bool) (s : Bytes) :
    (validate html s 0).1 = true ↔ ∃ n, WellFormed html s n := by
  constructor
  · intro h
    refine ⟨(validate html s 0).2, (validate_iff_wellformed html s _).1 ?_⟩
    rw [← h]
  · rintro ⟨n, h⟩
    rw [(validate_iff_wellformed html s n).2 h]

/-- the count is added to the caller's value (form.cpp passes a member that starts at 0) -/
theorem validate_count_accumulates (html : Bool) (s : Bytes) (c n : Nat) :
    validate html s c = (true, c + n) ↔ WellFormed html s n := by
  rw [validate_spec]
  constructor
  · rintro ⟨k, hk, h⟩; have : k = n := by omega
    subst this; exact h
  · intro h; exact ⟨n, rfl, h⟩

/-- on rejection the count is the number of characters read before the first position at which
no character (of the mode) can be decoded -/
theorem validate_count_on_failure (html : Bool) (s : Bytes) (n : Nat) (h : validate html s 0 = (false, n)) :
    ∃ pre suf, s = pre ++ suf ∧ WellFormed html pre n ∧ Undecodable html suf := by
  obtain ⟨pre, suf, k, e, hk, hw, hu⟩ := validateFuel_false_spec html s.length s 0 n (Nat.le_refl _) h
  have : k = n := by omega
  subst this
  exact ⟨pre, suf, e, hw, hu⟩

/-- `encoding::valid_utf8` / `valid("utf-8",…)`: HTML-safe mode -/
theorem validUtf8_iff_wellformed_htmlsafe (s : Bytes) (n : Nat) :
    validUtf8 s 0 = (true, n) ↔ WellFormed true s n :=
  validate_iff_wellformed true s n

/-- `utf_to_utf<char>(…, stop)` throws `conversion_error` **iff** the text is not well-formed
UTF-8 (truncated final sequences included: the decoder's `incomplete` is an error too) -/
theorem utf_to_utf_stop_rejects_iff_invalid (s : Bytes) :
    Boost.utf8ToUtf8 Gen.methodStop s = none ↔ ¬ ∃ n, WellFormed false s n := by
  unfold Boost.utf8ToUtf8 Boost.utf8ToCps
  constructor
  · rintro h ⟨n, hw⟩
    obtain ⟨cps, _, hs, rfl⟩ := (wf_false_iff_encode ..).1 hw
    rw [u2uFuel_encode _ cps _ hs (Nat.le_refl _)] at h
    cases h
  · intro h
    cases hc : Boost.u2uFuel Gen.methodStop s.length s with
    | none => rfl
    | some cs =>
      obtain ⟨hs, e⟩ := u2uFuel_stop _ s cs (Nat.le_refl _) hc
      exact absurd ⟨_, (wf_false_iff_encode ..).2 ⟨cs, rfl, hs, e⟩⟩ h

/-- well-formed text passes through `utf_to_utf<char>` unchanged, whatever the method -/
theorem utf_to_utf_id_on_valid (how : Nat) (s : Bytes) (n : Nat) (h : WellFormed false s n) :
    Boost.utf8ToUtf8 how s = some s := by
  obtain ⟨cps, _, hs, rfl⟩ := (wf_false_iff_encode ..).1 h
  unfold Boost.utf8ToUtf8 Boost.utf8ToCps
  rw [u2uFuel_encode how cps _ hs (Nat.le_refl _), Option.map_some, map_boost_encode hs]

theorem utf_to_utf_stop_returns_input (s out : Bytes) (h : Boost.utf8ToUtf8 Gen.methodStop s = some out) :
    out = s := by
  by_cases hw : ∃ n, WellFormed false s n
  · obtain ⟨n, hw⟩ := hw
    rw [utf_to_utf_id_on_valid _ s n hw] at h
    cases h; rfl
  · rw [(utf_to_utf_stop_rejects_iff_invalid s).2 hw] at h
    cases h

/-- `utf_to_utf<char>(…, skip)` never throws and its result is well-formed UTF-8, for every input -/
theorem utf_to_utf_skip_yields_valid (s : Bytes) :
    ∃ out, Boost.utf8ToUtf8 Gen.methodSkip s = some out ∧ ∃ n, WellFormed false out n := by
  obtain ⟨cs, hcs, hsc⟩ := u2uFuel_skip_scalars s.length s (Nat.le_refl _)
  refine ⟨(cs.map encode).flatten, ?_, cs.length, (wf_false_iff_encode ..).2 ⟨cs, rfl, hsc, rfl⟩⟩
  unfold Boost.utf8ToUtf8 Boost.utf8ToCps
  rw [hcs, Option.map_some, map_boost_encode hsc]

/-- the code points `utf_to_utf<wchar_t>(char const*,…, stop)` produces: `cps` comes out iff the
text is the concatenation of the RFC 3629 encodings of the scalar values `cps` -/
theorem utf_to_utf_code_points (s : Bytes) (cps : List Nat) :
    Boost.utf8ToCps Gen.methodStop s = some cps ↔
      (∀ c ∈ cps, Scalar c) ∧ s = (cps.map Spec.encode).flatten :=
  ⟨u2uFuel_stop _ s cps (Nat.le_refl _), fun ⟨hs, e⟩ => e ▸ u2uFuel_encode _ cps _ hs (Nat.le_refl _)⟩

/-- the other direction, `utf_to_utf<char>(wchar_t const*,…)` with 32-bit units: `stop` succeeds
iff every unit is a scalar value and then yields their RFC 3629 encodings; `skip` always
succeeds with a well-formed result -/
theorem utf32_to_utf8 (us : List Nat) :
    (∀ out, Boost.utf32ToUtf8 Gen.methodStop us = some out ↔
      (∀ u ∈ us, Scalar u) ∧ out = (us.map Spec.encode).flatten) ∧
    (∃ out, Boost.utf32ToUtf8 Gen.methodSkip us = some out ∧ ∃ n, WellFormed false out n) := by
  induction us with
  | nil => exact ⟨fun out => by simp [Boost.utf32ToUtf8, eq_comm], [], rfl, 0, (wf_nil false 0).2 rfl⟩
  | cons u us ih =>
    obtain ⟨ih1, outk, ih2, nk, ih3⟩ := ih
    by_cases hu : Scalar u
    · have he : Gen.u2uIsError u = false := isError_cp hu.1
      simp only [Boost.utf32ToUtf8, decode32_scalar hu, Boost.code, he, Bool.false_eq_true, if_false,
        boost_encode_eq_spec hu, ih2, Option.map_some, Option.map_eq_some_iff, ih1, List.forall_mem_cons,
        List.map_cons, List.flatten_cons]
      exact ⟨fun out => ⟨fun ⟨o, ⟨h1, h2⟩, h3⟩ => ⟨⟨hu, h1⟩, by rw [← h3, h2]⟩, fun ⟨h1, h2⟩ => ⟨_, ⟨h1.2, rfl⟩, h2.symm⟩⟩,
        _, rfl, nk + 1, wf_cons (rfc_encode hu) rfl ih3⟩
    · simp only [Boost.utf32ToUtf8, decode32_not_scalar hu, isError_illegal, if_true, throws_stop, throws_skip,
        Bool.false_eq_true, reduceCtorEq, List.forall_mem_cons, hu, false_and, iff_self, implies_true, true_and, ih2]
      exact ⟨_, rfl, nk, ih3⟩

/-- every generated byte predicate accepts all printable ASCII and rejects C0 (except tab, LF,
CR) and DEL -/
theorem single_byte_demands : ∀ e ∈ Gen.sbPreds, ∀ c : UInt8,
    (printableAscii c.toNat = true → e.2 c.toNat = true) ∧
    (c0Forbidden c.toNat = true → e.2 c.toNat = false) ∧
    (c.toNat = 0x7F → e.2 c.toNat = false) := by
  intro e he c
  obtain ⟨h1, h2, h3, _⟩ := (byteDemands_iff ..).1 (range_all_byte (List.all_eq_true.1 sbDemandsAll_ok e he) c)
  exact ⟨h1, h2, h3⟩

/-- every registered encoding name resolves to a validator; the names `is_utf8` recognises are
exactly those mapped to the UTF-8 validator; any other name resolves to a predicate meeting
`Spec.nameDemands`: the general demands, for the ISO-8859 family (and `latin1`) every C1 byte
`0x80–0x9F` rejected, for `ascii` / `us-ascii` every byte ≥ 0x80 rejected. -/
theorem registered_names : ∀ e ∈ Gen.nameTable,
    match getTester e.1 with
    | none => False
    | some .utf8 => isUtf8 e.1 = true
    | some (.single i) =>
      i < Gen.sbPreds.length ∧ isUtf8 e.1 = false ∧
      ∀ c : UInt8, nameDemands (normalize e.1) (sbPred i) c.toNat = true := by
  intro e he
  have htab := List.all_eq_true.1 nameTableOk_ok e he
  cases hg : getTester e.1 with
  | none => rw [hg] at htab; cases htab
  | some t =>
    rw [hg] at htab
    cases t with
    | utf8 => exact htab
    | single i =>
      simp only [Bool.and_eq_true, decide_eq_true_eq, Bool.not_eq_true', Bool.or_eq_true, List.all_eq_true,
        List.mem_range'_1] at htab ⊢
      obtain ⟨⟨⟨hi, hu⟩, hiso⟩, hasc⟩ := htab
      refine ⟨hi, hu, fun c => ?_⟩
      -- the general demands come from the sweep over the predicates, the family's from the one over the names
      have hd := range_all_byte (List.all_eq_true.1 sbDemandsAll_ok _ (List.getElem_mem hi)) c
      have hp : Gen.sbPreds[i].2 = sbPred i := by unfold sbPred; rw [← List.getElem_eq_getD]
      have hc := c.toNat_lt
      rw [hp, byteDemands_iff] at hd
      obtain ⟨hprint, hc0, hdel, _⟩ := hd
      simp only [nameDemands, Bool.and_eq_true, byteDemands_iff]
      refine ⟨⟨hprint, hc0, hdel, fun hfam hc1 => ?_⟩, ?_⟩
      · -- ISO-8859 family: C1 is rejected
        rcases hiso with h | h
        · rw [h] at hfam; cases hfam
        · simp only [c1, Bool.and_eq_true, decide_eq_true_eq] at hc1
          exact h _ ⟨hc1.1, by omega⟩
      · -- ASCII names: every byte ≥ 0x80 is rejected
        rcases hasc with h | h
        · simp [h]
        · by_cases h80 : 0x80 ≤ c.toNat
          · simp [h _ ⟨h80, by omega⟩]
          · simp [h80]

/-- lookup of a validator, and the UTF-8 test, depend only on the significant part of the name:
ASCII letters and digits before the first NUL, case-insensitively (`Spec.normName`) -/
theorem name_lookup_normalises (n1 n2 : List Nat) (h : normName n1 = normName n2) :
    getTester n1 = getTester n2 ∧ isUtf8 n1 = isUtf8 n2 := by
  unfold getTester lookupIn isUtf8
  rw [normalize_eq_normName n1, normalize_eq_normName n2, h]
  exact ⟨rfl, rfl⟩

/-- a single-byte validator judges each byte on its own; on success `count` is the length, on
failure the 1-based position of the first rejected byte -/
theorem single_byte_bytewise (pred : Nat → Bool) (s : Bytes) :
    (sbValidate pred s 0).1 = s.all (fun c => pred c.toNat) ∧
    ((sbValidate pred s 0).1 = true → (sbValidate pred s 0).2 = s.length) ∧
    ((sbValidate pred s 0).1 = false →
      (sbValidate pred s 0).2 = (s.takeWhile (fun c => pred c.toNat)).length + 1) := by
  refine ⟨sbValidate_fst pred s 0, fun h => ?_, fun h => ?_⟩
  · simpa using sbValidate_count_ok pred s 0 h
  · simpa using sbValidate_count_bad pred s 0 h

theorem single_byte_context_free (pred : Nat → Bool) (s t : Bytes) :
    (sbValidate pred (s ++ t) 0).1 = ((sbValidate pred s 0).1 && (sbValidate pred t 0).1) := by
  simp [sbValidate_fst, List.all_append]

/-- UTF-8: the function reports "valid" (and leaves the output argument alone) iff the text is
HTML-safe well-formed UTF-8 -/
theorem filter_reports_valid_iff (s : Bytes) (repl : UInt8) :
    filterUtf8 s repl = (true, none) ↔ ∃ n, WellFormed true s n := by
  rcases filterUtf8_cases s repl with ⟨h, hw⟩ | ⟨hw, _, _, _, hsplit⟩
  · exact ⟨fun _ => hw, fun _ => h⟩
  · rw [hsplit.output]; exact ⟨nofun, fun h' => absurd h' hw⟩

/-- UTF-8: valid text is left unchanged — the call reports `true` without touching the output,
and the rewriting loop itself is the identity on valid text -/
theorem filter_id_on_valid (s : Bytes) (repl : UInt8) (n : Nat) (h : WellFormed true s n) :
    filterUtf8 s repl = (true, none) ∧ filterLoop repl s = s :=
  ⟨(filter_reports_valid_iff s repl).2 ⟨n, h⟩, filterFuel_id repl s.length s n (Nat.le_refl _) h⟩

/-- UTF-8: whatever the input, the text produced by filtering is HTML-safe well-formed UTF-8,
provided the replacement is 0 (delete) or itself a valid HTML-safe character -/
theorem filter_yields_valid (s out : Bytes) (repl : UInt8) (hr : ReplOk repl)
    (h : filterUtf8 s repl = (false, some out)) : ∃ n, WellFormed true out n := by
  rcases filterUtf8_cases s repl with ⟨e, _⟩ | ⟨_, pre, prev, n, hsplit⟩
  · rw [e] at h; cases h
  · rw [hsplit.output] at h; cases h
    obtain ⟨m, hm⟩ := filterFuel_wf repl hr prev.length prev (Nat.le_refl _)
    exact ⟨n + m, wf_append hsplit.prefix_wf hm⟩

/-- with replacement 0 filtering only deletes bytes -/
theorem filter_only_deletes (s out : Bytes) (h : filterUtf8 s 0 = (false, some out)) : out.Sublist s := by
  rcases filterUtf8_cases s 0 with ⟨e, _⟩ | ⟨_, pre, prev, n, hsplit⟩
  · rw [e] at h; cases h
  · rw [hsplit.output] at h; cases h
    rw [hsplit.input]
    exact List.Sublist.append (List.Sublist.refl pre) (filterFuel_sublist prev.length prev (Nat.le_refl _))

/-- the hypothesis `ReplOk` cannot be dropped: with the replacement byte 0x80 the "filtered" text
is the lone byte 0x80, which is not valid (the caller chose an invalid replacement; replayed on
the real code by the correspondence corpus) -/
theorem filter_bad_replacement_counterexample :
    filterUtf8 [0xFF] 0x80 = (false, some [0x80]) ∧ (validate true [0x80] 0).1 = false := by
  decide

/-- single-byte: the call reports "valid" iff the text is valid, and the filtered text is valid provided the
replacement is 0 or a byte the code page accepts -/
theorem filter_single_byte (pred : Nat → Bool) (s : Bytes) (repl : UInt8) :
    (filterSingle pred s repl = (true, none) ↔ (sbValidate pred s 0).1 = true) ∧
    (∀ out, filterSingle pred s repl = (false, some out) → (repl = 0 ∨ pred repl.toNat = true) →
      (sbValidate pred out 0).1 = true) := by
  unfold filterSingle
  by_cases hv : (sbValidate pred s 0).1 = true
  · simp [hv]
  · simp only [hv, if_false, Prod.mk.injEq, Bool.false_eq_true, false_and,
      true_and, Option.some.injEq]
    rintro out rfl hr
    rw [sbValidate_fst, List.all_eq_true]
    intro c hc
    rw [List.mem_flatMap] at hc
    obtain ⟨x, _, hx⟩ := hc
    rw [sbValidate_single] at hx
    by_cases hp : pred x.toNat = true
    · simp [hp] at hx; subst hx; exact hp
    · simp only [hp, if_false, Bool.false_eq_true] at hx
      unfold replOut at hx
      by_cases h0 : repl = 0
      · simp [h0] at hx
      · simp [h0] at hx
        subst hx
        rcases hr with hr | hr
        · exact absurd hr h0
        · exact hr

/-- `encoding::valid(name,…)` for a name that resolves to the UTF-8 validator -/
theorem valid_utf8_name (name : List Nat) (s : Bytes) (n : Nat) (h : getTester name = some .utf8) :
    valid name s = .ok true n ↔ WellFormed true s n := by
  rw [← validUtf8_iff_wellformed_htmlsafe, valid, h, validWith, Verdict.ok.injEq, Prod.ext_iff]

/-- `encoding::valid(name,…)` for a name that resolves to a single-byte code page -/
theorem valid_single_name (name : List Nat) (s : Bytes) (i : Nat) (h : getTester name = some (.single i)) :
    valid name s = .ok (s.all fun c => sbPred i c.toNat) (sbValidate (sbPred i) s 0).2 := by
  unfold valid validWith
  rw [h]
  simp only [sbValidate_fst]

/-- `encoding::validate_or_filter(name,…)`: a name `is_utf8` recognises goes to the UTF-8 filter, a name resolving to
a single-byte code page to the byte filter with that page's predicate (so the filter theorems apply to it) -/
theorem validate_or_filter_dispatch (name : List Nat) (s : Bytes) (repl : UInt8) :
    (isUtf8 name = true → validateOrFilter name s repl = .done (filterUtf8 s repl).1 (filterUtf8 s repl).2) ∧
    (∀ i, isUtf8 name = false → getTester name = some (.single i) →
      validateOrFilter name s repl = .done (filterSingle (sbPred i) s repl).1 (filterSingle (sbPred i) s repl).2) := by
  constructor
  · intro h; simp [validateOrFilter, h]
  · intro i h hg; simp [validateOrFilter, h, hg]

/-- From any state `st`, `validate()` right after a `load` without iconv/ICU fallback (`Form.Resolves`)
depends only on that load and on the widget's configuration: `Form.verdictOf` mentions neither the
count, the value, nor the flags earlier requests left in the object. -/
theorem text_widget_validate_uses_count_of_loaded_value (st : Form.St) (rq : Form.Req)
    (hr : Form.Resolves st.named st.validateCharset rq) :
    (Form.validate (Form.load st rq)).1 =
      Form.verdictOf st.low st.high st.named st.validateCharset rq := by
  -- the constants `load` writes: count 0, set, valid
  have e1 : Gen.Form.loadResetCount = some 0 := rfl
  have e2 : Gen.Form.loadMarksSet = some true := rfl
  have e3 : Gen.Form.loadMarksValid = some true := rfl
  have e4 : Gen.Form.loadCountBeforeValid = some 0 := rfl
  unfold Form.Resolves at hr
  unfold Form.verdictOf Form.loadedCount Form.load Form.validate
  simp only [e1, e2, e3, e4, Option.getD_some]
  -- both sides branch on `named`, the field, the charset flag and `valid rq.enc v`; in every case the widget is
  -- set (`earlyOk_set`: no early acceptance) and holds the count of this request, so they agree
  grind [Form.earlyOk_set]

/-- the same after any sequence of `Form.Op` from a fresh widget with any initial garbage in `code_points_` -/
theorem text_widget_history_independent (cp0 : Nat) (ops : List Form.Op) (rq : Form.Req)
    (hr : Form.Resolves (Form.run (Form.init cp0) ops).named (Form.run (Form.init cp0) ops).validateCharset rq) :
    (Form.validate (Form.run (Form.init cp0) (ops ++ [.load rq]))).1 =
      Form.verdictOf (Form.run (Form.init cp0) ops).low (Form.run (Form.init cp0) ops).high
        (Form.run (Form.init cp0) ops).named (Form.run (Form.init cp0) ops).validateCharset rq := by
  rw [Form.run_append_load]
  exact text_widget_validate_uses_count_of_loaded_value _ rq hr

/-- what that verdict is for a named widget in a UTF-8 locale with charset validation on and sane
limits: the field absent counts as 0 characters; a present field is accepted iff it is HTML-safe
well-formed UTF-8 whose number of code points is within the limits -/
theorem text_widget_utf8_verdict (st : Form.St) (enc : List Nat) (field : Option Bytes)
    (hn : st.named = true) (hv : st.validateCharset = true) (he : getTester enc = some .utf8)
    (hl : 0 ≤ st.low) (hl2 : st.low < 2147483648) (hh : st.high < 2147483648) :
    (Form.validate (Form.load st ⟨enc, field⟩)).1 = true ↔
      match field with
      | none => withinLimits st.low st.high 0 = true
      | some s => ∃ n, WellFormed true s n ∧ withinLimits st.low st.high n = true := by
  have hext : ∀ s, valid enc s ≠ .external := fun s h => by rw [valid, he] at h; cases h
  have hres : Form.Resolves st.named st.validateCharset ⟨enc, field⟩ := fun _ _ v _ => hext v
  rw [text_widget_validate_uses_count_of_loaded_value st _ hres, hn, hv]
  unfold Form.verdictOf Form.loadedCount
  cases field with
  | none =>
    simp only [Bool.not_true, Bool.false_eq_true, if_false, Form.outOfLimits_eq 0 st.low st.high hl hl2 hh,
      Bool.not_not]
  | some s =>
    simp only [Bool.not_true, Bool.false_eq_true, if_false, if_true]
    cases hvv : valid enc s with
    | external => exact absurd hvv (hext s)
    | ok ok n =>
      -- `valid` is a function: `n` is the only count for which the text is well formed
      have huniq : ∀ m, WellFormed true s m ↔ ok = true ∧ n = m := fun m => by
        rw [← valid_utf8_name enc s m he, hvv, Verdict.ok.injEq]
      cases ok <;>
        simp only [huniq, Form.outOfLimits_eq n st.low st.high hl hl2 hh, Bool.not_not, Bool.false_eq_true,
          true_and, false_and, exists_eq_left', exists_false]

example : Cms.next true [0xC3, 0xA9, 0x41] = (.cp 0xE9, [0x41]) := by decide +kernel
example : Rfc3629 0xE9 [0xC3, 0xA9] := by decide +kernel
example : Rfc3629 0x20AC [0xE2, 0x82, 0xAC] := by decide +kernel
example : Rfc3629 0x10FFFF [0xF4, 0x8F, 0xBF, 0xBF] := by decide +kernel
example : ¬ Rfc3629 0x2F [0xC0, 0xAF] := by decide +kernel                       -- over-long
example : utf8Char [0xED, 0xA0, 0x80] = false := by decide +kernel               -- surrogate: no code point at all
example : (Cms.next false [0xC0, 0xAF]).1 = .illegal := by decide +kernel
example : (Cms.next false [0xED, 0xA0, 0x80]).1 = .illegal := by decide +kernel
example : (Cms.next false [0xF4, 0x90, 0x80, 0x80]).1 = .illegal := by decide +kernel
example : (Cms.next false [0xE2, 0x82]).1 = .illegal ∧ (Boost.decode [0xE2, 0x82]).1 = .incomplete := by decide +kernel
example : Cms.next false [0xC2, 0x85] = (.cp 0x85, []) ∧ (Cms.next true [0xC2, 0x85]).1 = .illegal := by decide +kernel
example : WellFormed true [0x41, 0xC3, 0xA9] 2 :=
  ⟨[(0x41, [0x41]), (0xE9, [0xC3, 0xA9])], by decide, by decide, by decide +kernel⟩
example : validate true [0x41, 0xC3, 0xA9] 0 = (true, 2) := by decide +kernel
example : Truncated [0xE2, 0x82] := Or.inr ⟨0xE2, [0x82], 3, rfl, by decide, by decide, by decide +kernel⟩
example : Scalar 0x1F600 := by unfold Scalar; omega
example : normName [73, 83, 79, 45, 56, 56, 53, 57, 45, 49] = normName [105, 115, 111, 56, 56, 53, 57, 49] := by decide +kernel
example : validate true [0x41, 0xC3, 0xA9, 0xC2, 0x80, 0x42] 0 = (false, 2) := by decide +kernel
example : Boost.utf8ToUtf8 Gen.methodStop [0x61, 0xE2, 0x82] = none := by decide +kernel         -- truncated at the end
example : Boost.utf8ToUtf8 Gen.methodSkip [0x61, 0xE2, 0x82] = some [0x61] := by decide +kernel
example : Boost.utf8ToUtf8 Gen.methodSkip [0xC3] = some [] := by decide +kernel
example : Boost.utf8ToUtf8 Gen.methodSkip [0xE2, 0x41, 0x42] = some [0x42] := by decide +kernel         -- the byte that ended the bad sequence goes with it
example : Boost.utf8ToCps Gen.methodStop [0x41, 0xE2, 0x82, 0xAC] = some [0x41, 0x20AC] := by decide +kernel
example : Boost.utf32ToUtf8 Gen.methodSkip [0x41, 0xD800, 0x20AC, 0x110000] = some [0x41, 0xE2, 0x82, 0xAC] := by decide +kernel
-- a widget that held 4 characters, then a request without the field: 0 characters, below the limits (2,5)
example : (Form.validate (Form.run (Form.init 7)
    [.name true, .limits 2 5, .load ⟨[117, 116, 102, 56], some [97, 98, 99, 100]⟩, .validate,
     .load ⟨[117, 116, 102, 56], none⟩])).1 = false := by decide +kernel
example : (Form.validate (Form.run (Form.init 7)
    [.name true, .limits 2 5, .load ⟨[117, 116, 102, 56], some [0xE2, 0x82, 0xAC, 0xF0, 0x9F, 0x98, 0x80, 0x78]⟩])).1 = true := by decide +kernel
example : Form.Resolves true true ⟨[117, 116, 102, 56], some [97]⟩ := by
  intro _ _ v hv; cases hv; decide
example : ReplOk 63 := Or.inr ⟨1, [(63, [63])], by decide, by decide, by decide +kernel⟩
example : ReplOk 0 := Or.inl rfl
example : filterUtf8 [0x41, 0xC3, 0xFF, 0x01, 0xC2, 0x80, 0x42] 63 = (false, some [0x41, 63, 63, 63, 63, 0x42]) := by decide +kernel
example : filterUtf8 [0x41, 0xC3, 0xFF, 0x01, 0xC2, 0x80, 0x42] 0 = (false, some [0x41, 0x42]) := by decide +kernel
example : getTester [73, 83, 79, 45, 56, 56, 53, 57, 45, 49] = some (.single 1) := by decide +kernel   -- "ISO-8859-1"
example : getTester [85, 84, 70, 45, 56] = some .utf8 ∧ isUtf8 [85, 84, 70, 45, 56] = true := by decide +kernel  -- "UTF-8"
example : getTester [119, 105, 110, 100, 111, 119, 115, 49, 50, 53, 52] = none := by decide +kernel  -- windows1254: not registered
example : valid [108, 97, 116, 105, 110, 49] [0x41, 0xE9] = .ok true 2 := by decide +kernel
example : validateOrFilter [108, 97, 116, 105, 110, 49] [0x41, 0x85, 0x42] 63 = .done false (some [0x41, 63, 0x42]) := by decide +kernel
example : validateOrFilter [85, 84, 70, 45, 56] [0x41, 0xFF] 0 = .done false (some [0x41]) := by decide +kernel
example : valid [108, 97, 116, 105, 110, 49] [0x41, 0x85, 0x42] = .ok false 2 := by decide +kernel

end Cppcms.C14.Props
