import Cppcms.Common
/-!
# C14 — independent specification

Written from RFC 3629 (§3 bit distribution table, §4 ABNF), *not* from the C++ code
and without importing `Gen`/`Model`.  Only `≤`, `=`, `+`, `*`, `-` on `Nat` (and `/`, `%` in `encode`).

```
UTF8-1      = %x00-7F
UTF8-2      = %xC2-DF UTF8-tail
UTF8-3      = %xE0 %xA0-BF UTF8-tail / %xE1-EC 2( UTF8-tail ) /
              %xED %x80-9F UTF8-tail / %xEE-EF 2( UTF8-tail )
UTF8-4      = %xF0 %x90-BF 2( UTF8-tail ) / %xF1-F3 3( UTF8-tail ) /
              %xF4 %x80-8F 2( UTF8-tail )
UTF8-tail   = %x80-BF
```
-/
namespace Cppcms.C14.Spec
open Cppcms

/-- `UTF8-tail = %x80-BF` -/
def tail (b : Nat) : Bool := 0x80 ≤ b && b ≤ 0xBF

/-- RFC 3629 §4: `enc` is exactly one `UTF8-char` (ABNF above). -/
def utf8Char : List Nat → Bool
  | [a] => a ≤ 0x7F
  | [a, b] => 0xC2 ≤ a && a ≤ 0xDF && tail b
  | [a, b, c] =>
    ((a == 0xE0 && 0xA0 ≤ b && b ≤ 0xBF) ||
     (0xE1 ≤ a && a ≤ 0xEC && tail b) ||
     (a == 0xED && 0x80 ≤ b && b ≤ 0x9F) ||
     (0xEE ≤ a && a ≤ 0xEF && tail b)) && tail c
  | [a, b, c, d] =>
    ((a == 0xF0 && 0x90 ≤ b && b ≤ 0xBF) ||
     (0xF1 ≤ a && a ≤ 0xF3 && tail b) ||
     (a == 0xF4 && 0x80 ≤ b && b ≤ 0x8F)) && tail c && tail d
  | _ => false

/-- RFC 3629 §3: the scalar value carried by a sequence of that shape
(`0xxxxxxx`, `110xxxxx 10xxxxxx`, `1110xxxx 10xxxxxx 10xxxxxx`, `11110xxx 10xxxxxx 10xxxxxx 10xxxxxx`),
by positional arithmetic. -/
def scalarOf : List Nat → Nat
  | [a] => a
  | [a, b] => (a - 0xC0) * 64 + (b - 0x80)
  | [a, b, c] => (a - 0xE0) * 4096 + (b - 0x80) * 64 + (c - 0x80)
  | [a, b, c, d] => (a - 0xF0) * 262144 + (b - 0x80) * 4096 + (c - 0x80) * 64 + (d - 0x80)
  | _ => 0

def nats (bs : Bytes) : List Nat := bs.map (·.toNat)

/-- `enc` is the RFC 3629 encoding of the code point `cp`. -/
def Rfc3629 (cp : Nat) (enc : Bytes) : Prop :=
  utf8Char (nats enc) = true ∧ cp = scalarOf (nats enc)

instance (cp : Nat) (enc : Bytes) : Decidable (Rfc3629 cp enc) := by
  unfold Rfc3629; infer_instance

/-- Unicode scalar value: at most U+10FFFF and not a surrogate. -/
def Scalar (cp : Nat) : Prop := cp ≤ 0x10FFFF ∧ ¬ (0xD800 ≤ cp ∧ cp ≤ 0xDFFF)

/-- number of bytes of the shortest UTF-8 form (RFC 3629 §3 table, left column) -/
def shortestLen (cp : Nat) : Nat :=
  if cp ≤ 0x7F then 1 else if cp ≤ 0x7FF then 2 else if cp ≤ 0xFFFF then 3 else 4

/-- RFC 3629 §3, encoding direction, by division (shows that the relation `Rfc3629` is total on scalar
values, and is what the output of the converters is stated with) -/
def encode (cp : Nat) : Bytes :=
  if cp ≤ 0x7F then [UInt8.ofNat cp]
  else if cp ≤ 0x7FF then [UInt8.ofNat (0xC0 + cp / 64), UInt8.ofNat (0x80 + cp % 64)]
  else if cp ≤ 0xFFFF then
    [UInt8.ofNat (0xE0 + cp / 4096), UInt8.ofNat (0x80 + cp / 64 % 64), UInt8.ofNat (0x80 + cp % 64)]
  else
    [UInt8.ofNat (0xF0 + cp / 262144), UInt8.ofNat (0x80 + cp / 4096 % 64),
     UInt8.ofNat (0x80 + cp / 64 % 64), UInt8.ofNat (0x80 + cp % 64)]

/-- total length announced by a first byte (RFC 3629 §4: which `UTF8-n` rule can start with it) -/
def seqLen (lead : Nat) : Option Nat :=
  if lead ≤ 0x7F then some 1
  else if 0xC2 ≤ lead ∧ lead ≤ 0xDF then some 2
  else if 0xE0 ≤ lead ∧ lead ≤ 0xEF then some 3
  else if 0xF0 ≤ lead ∧ lead ≤ 0xF4 then some 4
  else none

/-! ## encoding names: what "the same name" means (IANA-style loose matching) -/

def alnum (c : Nat) : Bool := (48 ≤ c && c ≤ 57) || (65 ≤ c && c ≤ 90) || (97 ≤ c && c ≤ 122)
def lower (c : Nat) : Nat := if 65 ≤ c ∧ c ≤ 90 then c + 32 else c

/-- the significant part of an encoding name: ASCII letters and digits up to the first NUL,
letters lower-cased -/
def normName (name : List Nat) : List Nat := ((name.takeWhile (· != 0)).filter alnum).map lower

/-- Control characters (Unicode general category Cc): C0 `U+0000–U+001F`, DEL `U+007F`,
C1 `U+0080–U+009F`. -/
def isControl (cp : Nat) : Bool := cp ≤ 0x1F || (0x7F ≤ cp && cp ≤ 0x9F)

/-- HTML-safe: no control character other than tab, line feed, carriage return. -/
def htmlSafe (cp : Nat) : Bool := !isControl cp || cp == 9 || cp == 10 || cp == 13

/-- mode predicate: in HTML mode the code point has to be HTML-safe -/
def modeOk (html : Bool) (cp : Nat) : Bool := !html || htmlSafe cp

/-- A whole string is well formed in mode `html` with `n` code points: it is the
concatenation of `n` RFC 3629 encodings of (mode-admissible) code points. -/
def WellFormed (html : Bool) (s : Bytes) (n : Nat) : Prop :=
  ∃ chars : List (Nat × Bytes),
    s = (chars.map (·.2)).flatten ∧ chars.length = n ∧
    ∀ ch ∈ chars, Rfc3629 ch.1 ch.2 ∧ modeOk html ch.1 = true

/-- the shape booster's decoder calls `incomplete`: nothing, or a lead byte followed by fewer
trail bytes than it announces (and nothing else) -/
def Truncated (bs : Bytes) : Prop :=
  bs = [] ∨ ∃ a ts n, bs = a :: ts ∧ seqLen a.toNat = some n ∧ ts.length + 1 < n ∧
    ∀ t ∈ ts, Spec.tail t.toNat = true

/-- no character of the mode can be read at the head of `suf` -/
def Undecodable (html : Bool) (suf : Bytes) : Prop :=
  suf ≠ [] ∧ ¬ ∃ v enc rest, suf = enc ++ rest ∧ Rfc3629 v enc ∧ modeOk html v = true

/-- admissible replacement for `validate_or_filter` (UTF-8): 0 (= delete) or a byte that is by
itself HTML-safe well-formed text -/
def ReplOk (repl : UInt8) : Prop := repl = 0 ∨ ∃ n, WellFormed true [repl] n

/-! ## executable decision procedure for the judge (greedy parse by the table above) -/

/-- first character of `bs` according to the ABNF: `(code point, its length)` -/
def firstChar (bs : List Nat) : Option (Nat × Nat) :=
  if utf8Char (bs.take 1) then some (scalarOf (bs.take 1), 1)
  else if utf8Char (bs.take 2) then some (scalarOf (bs.take 2), 2)
  else if utf8Char (bs.take 3) then some (scalarOf (bs.take 3), 3)
  else if utf8Char (bs.take 4) then some (scalarOf (bs.take 4), 4)
  else none

/-- `some n`: well formed with `n` code points; `none`: not well formed.  `skip` bytes belong to
the character already accepted. -/
def countFrom (html : Bool) : List Nat → Nat → Option Nat
  | [], 0 => some 0
  | [], _ + 1 => none
  | _ :: r, k + 1 => countFrom html r k
  | a :: r, 0 =>
    match firstChar (a :: r) with
    | none => none
    | some (cp, len) =>
      if modeOk html cp then (countFrom html r (len - 1)).map (· + 1) else none

def wellFormedCount (html : Bool) (s : Bytes) : Option Nat := countFrom html (nats s) 0

/-! ## single-byte code pages: what the property demands of every byte predicate -/

def printableAscii (c : Nat) : Bool := 0x20 ≤ c && c ≤ 0x7E
/-- C0 control other than tab / LF / CR -/
def c0Forbidden (c : Nat) : Bool := c ≤ 0x1F && c != 9 && c != 10 && c != 13
def c1 (c : Nat) : Bool := 0x80 ≤ c && c ≤ 0x9F

/-- the demands on a byte predicate `p`; `iso` = ISO-8859 family (C1 must be rejected too) -/
def byteDemands (iso : Bool) (p : Nat → Bool) (c : Nat) : Bool :=
  (!printableAscii c || p c) && (!c0Forbidden c || !p c) && (c != 0x7F || !p c) && (!(iso && c1 c) || !p c)

/-- the name (already normalised: lower-case alphanumerics) denotes an ISO-8859 code page -/
def isoFamily (name : List Nat) : Bool :=
  name.take 7 == [105, 115, 111, 56, 56, 53, 57] || name == [108, 97, 116, 105, 110, 49]

/-- the name (already normalised) denotes 7-bit ASCII: no byte ≥ 0x80 is text in it -/
def asciiFamily (name : List Nat) : Bool :=
  name == [97, 115, 99, 105, 105] || name == [117, 115, 97, 115, 99, 105, 105]

/-- the demands on the predicate a *name* resolves to: the general ones, C1 rejection for the
ISO-8859 family, and for ASCII rejection of every byte ≥ 0x80 -/
def nameDemands (name : List Nat) (p : Nat → Bool) (c : Nat) : Bool :=
  byteDemands (isoFamily name) p c && (!(asciiFamily name && 0x80 ≤ c) || !p c)

/-! ## text widget: length limits are about code points of the value just loaded -/

/-- the documented meaning of `limits(low,high)`: at least `low` characters, at most `high`
unless `high` is negative (no maximum) -/
def withinLimits (low high : Int) (n : Nat) : Bool := low ≤ (n : Int) && (high < 0 || (n : Int) ≤ high)

end Cppcms.C14.Spec
