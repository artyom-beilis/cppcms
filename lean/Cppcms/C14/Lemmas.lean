import Cppcms.C14.Model
import Cppcms.C14.Rfc
/-!
Both UTF-8 decoders against RFC 3629.  `step` is the decoding step both perform, stated with the notions of `Rfc.lean`:
booster's `decode` is `step false`, cppcms's `next html` is `step html` with `incomplete` read as `illegal`.  Each
decoder is shown to compute it from the generated (`Gen`) pieces.
-/
namespace Cppcms.C14
open Cppcms Spec

theorem push_eq (c t : Nat) : (c <<< 6) ||| (t &&& 63) = c * 64 + t % 64 := by
  rw [and_63, ← Nat.shiftLeft_add_eq_or_of_lt (by omega), Nat.shiftLeft_eq]

theorem mask_eq (n k : Nat) : n &&& ((1 <<< (6 - k)) - 1) = n % 2 ^ (6 - k) := by
  rw [Nat.one_shiftLeft]; exact Nat.and_two_pow_sub_one_eq_mod n _

/-- the body of `is_trail`, on a byte -/
theorem trailTest_fin : ∀ n : Fin 256, ((n.val &&& 192) == 128) = decide (128 ≤ n.val ∧ n.val < 192) := by
  decide +kernel

theorem u32_small (n : Nat) (h : n < 4294967296) : u32 n = n := by unfold u32; omega

/-- `2 ^ 26` is what `arm_eq` asks for: `2 ^ 26 · 64 = 2 ^ 32`, so `u32` is the identity on the next accumulation -/
theorem acc_lt {c j : Nat} (hc : c < 64 ^ j) (hj : j ≤ 3) : c < 2 ^ 26 :=
  Nat.lt_of_lt_of_le hc (Nat.le_trans (Nat.pow_le_pow_right (by decide) hj) (by decide))

/-- booster's two failure codes seen through cppcms's single one -/
def collapse : Out → Out
  | .incomplete => .illegal
  | o => o

theorem collapse_cp_iff {o : Out} {v : Nat} : collapse o = .cp v ↔ o = .cp v := by
  cases o <;> simp [collapse]

/-- reads `k` trail bytes into the accumulator and answers `fin` of the value -/
def readTrails (fin : Nat → Out) : Nat → Nat → Bytes → Out × Bytes
  | 0, c, p => (fin c, p)
  | _ + 1, _, [] => (.incomplete, [])
  | k + 1, c, t :: p => if isTr t then readTrails fin k (push c t) p else (.illegal, p)

def verdict (html : Bool) (k c : Nat) : Out := if accept html k c then .cp c else .illegal

/-- One decoding step, `(answer, position afterwards)`: it answers as booster's `decode` does (`incomplete` only when
the input is empty or ends inside a sequence) and accepts as cppcms's `next html` does (`accept` includes the mode test). -/
def step (html : Bool) : Bytes → Out × Bytes
  | [] => (.incomplete, [])
  | a :: p =>
    match leadClass a.toNat with
    | none => (.illegal, p)
    | some k => readTrails (verdict html k) k (a.toNat - marker k) p

theorem verdict_cp_iff {html : Bool} {k c v : Nat} : verdict html k c = .cp v ↔ c = v ∧ accept html k v := by
  unfold verdict
  split
  · rename_i h; exact ⟨fun e => by cases e; exact ⟨rfl, h⟩, fun e => by rw [e.1]⟩
  · rename_i h; exact ⟨nofun, fun e => absurd (e.1 ▸ e.2) h⟩

theorem collapse_verdict (html : Bool) (k c : Nat) : collapse (verdict html k c) = verdict html k c := by
  unfold verdict; split <;> rfl

theorem verdict_ne_incomplete (html : Bool) (k c : Nat) : verdict html k c ≠ .incomplete := by
  unfold verdict; split <;> nofun

theorem readTrails_append (fin : Nat → Out) : ∀ (ts : Bytes) (c : Nat) (rest : Bytes), (∀ t ∈ ts, isTr t) →
    readTrails fin ts.length c (ts ++ rest) = (fin (ts.foldl push c), rest)
  | [], _, _, _ => rfl
  | t :: ts, c, rest, h => by
    simp only [List.length_cons, List.cons_append, readTrails, if_pos (h t (by simp)), List.foldl_cons]
    exact readTrails_append fin ts _ rest fun u hu => h u (by simp [hu])

theorem readTrails_cp {fin : Nat → Out} {k c : Nat} {p rest : Bytes} {v : Nat}
    (h : readTrails fin k c p = (.cp v, rest)) :
    ∃ ts, p = ts ++ rest ∧ ts.length = k ∧ (∀ t ∈ ts, isTr t) ∧ fin (ts.foldl push c) = .cp v := by
  fun_induction readTrails fin k c p with
  | case1 => obtain ⟨hf, rfl⟩ := Prod.mk.inj h; exact ⟨[], rfl, rfl, nofun, hf⟩
  | case2 => cases h
  | case3 k c t p ht ih =>
    obtain ⟨ts, rfl, rfl, htr, hf⟩ := ih h
    exact ⟨t :: ts, rfl, rfl, List.forall_mem_cons.2 ⟨ht, htr⟩, (List.foldl_cons ..).symm ▸ hf⟩
  | case4 => cases h

theorem readTrails_rest_le (fin : Nat → Out) (k c : Nat) (p : Bytes) : (readTrails fin k c p).2.length ≤ p.length := by
  fun_induction readTrails fin k c p with
  | case1 => exact Nat.le_refl _
  | case2 => exact Nat.le_refl _
  | case3 _ _ _ _ _ ih => exact Nat.le_succ_of_le ih
  | case4 => exact Nat.le_succ _

/-- the input ran out before `k` bytes, all of them trail bytes -/
theorem readTrails_incomplete_iff {fin : Nat → Out} (hf : ∀ c, fin c ≠ .incomplete) (k c : Nat) (p : Bytes) :
    (readTrails fin k c p).1 = .incomplete ↔ p.length < k ∧ ∀ t ∈ p, isTr t := by
  fun_induction readTrails fin k c p <;> simp_all

theorem step_cp_iff (html : Bool) (bs rest : Bytes) (v : Nat) :
    step html bs = (.cp v, rest) ↔ ∃ enc, bs = enc ++ rest ∧ Rfc3629 v enc ∧ modeOk html v = true := by
  constructor
  · intro h
    cases bs with
    | nil => cases h
    | cons a p =>
      simp only [step] at h
      cases hk : leadClass a.toNat with
      | none => rw [hk] at h; cases h
      | some k =>
        rw [hk] at h
        obtain ⟨ts, rfl, rfl, htr, hf⟩ := readTrails_cp h
        obtain ⟨hc, hs, hl, hm⟩ := verdict_cp_iff.1 hf
        exact ⟨a :: ts, rfl, (rfc3629_cons_iff _ a ts).2 ⟨hk, htr, hc.symm, hs, hl, rfl⟩, hm⟩
  · rintro ⟨enc, rfl, hr, hm⟩
    cases enc with
    | nil => exact absurd rfl (rfc_nonempty hr)
    | cons a ts =>
      obtain ⟨hk, htr, hv, hs, hl, _⟩ := (rfc3629_cons_iff v a ts).1 hr
      simp only [List.cons_append, step, hk, readTrails_append _ ts _ rest htr, ← hv]
      rw [verdict_cp_iff.2 ⟨rfl, hs, hl, hm⟩]

theorem step_rest_le (html : Bool) (a : UInt8) (p : Bytes) : (step html (a :: p)).2.length ≤ p.length := by
  simp only [step]
  cases leadClass a.toNat with
  | none => exact Nat.le_refl _
  | some k => exact readTrails_rest_le ..

theorem step_incomplete_iff (html : Bool) (a : UInt8) (p : Bytes) :
    (step html (a :: p)).1 = .incomplete ↔ ∃ k, leadClass a.toNat = some k ∧ p.length < k ∧ ∀ t ∈ p, isTr t := by
  simp only [step]
  cases leadClass a.toNat with
  | none => simp
  | some k => simp [readTrails_incomplete_iff (verdict_ne_incomplete html k)]

theorem leadBits_eq {n k : Nat} (h : leadClass n = some k) (hk : 1 ≤ k) :
    n &&& ((1 <<< (6 - k)) - 1) = n - marker k ∧ n - marker k < 64 := by
  rw [mask_eq]
  rcases leadClass_eq_some_iff.1 h with ⟨rfl, _⟩ | ⟨rfl, _, _⟩ | ⟨rfl, _, _⟩ | ⟨rfl, _, _⟩
  · omega
  · show n % 32 = n - 192 ∧ n - 192 < 64; omega
  · show n % 16 = n - 224 ∧ n - 224 < 64; omega
  · show n % 8 = n - 240 ∧ n - 240 < 64; omega

theorem cms_asciiOk_fin : ∀ (html : Bool) (n : Fin 128), Gen.Cms.asciiOk html n.val = modeOk html n.val := by
  decide +kernel

namespace Cms

theorem trailLength_eq (n : Nat) : Gen.Cms.trailLength n = leadClass n := by
  simp only [Gen.Cms.trailLength, leadClass, decide_eq_true_eq]

/-- the three generated `case k:` arms are the same expression -/
theorem arm_eq (k c : Nat) (t : UInt8) (hc : c < 2 ^ 26) :
    arm k c t.toNat = if isTr t then some (push c t) else none := by
  have key : (if (!decide ((t.toNat &&& 192) == 128)) = true then none
      else some (u32 ((c <<< 6) ||| (t.toNat &&& 63)))) = if isTr t then some (push c t) else none := by
    rw [push_eq, u32_small _ (by omega), trailTest_fin ⟨t.toNat, t.toNat_lt⟩, push_def]
    simp only [Bool.decide_eq_true, isTr]
    by_cases h : 128 ≤ t.toNat ∧ t.toNat < 192
    · have : t.toNat % 64 = t.toNat - 128 := by omega
      simp only [h, and_self, decide_true, Bool.not_true, Bool.false_eq_true, if_false, if_true, this]
    · simp only [h, decide_false, Bool.not_false, if_true, if_false]
  unfold arm
  split <;> exact key

theorem invalidCp_iff (c : Nat) : Gen.Cms.invalidCp c = true ↔ ¬ Scalar c := by
  simp only [Gen.Cms.invalidCp, Gen.Cms.validCp, Scalar]; grind

theorem width_eq (c : Nat) : Gen.Cms.width c = shortestLen c := by
  simp only [Gen.Cms.width, shortestLen, decide_eq_true_eq]

theorem htmlMulti_eq (html : Bool) (c : Nat) (h : 128 ≤ c) : Gen.Cms.htmlMulti html c = !modeOk html c := by
  cases html
  · rfl
  · simp only [Gen.Cms.htmlMulti, modeOk, htmlSafe, isControl, Bool.true_and, Bool.not_true, Bool.false_or]
    rw [Bool.eq_iff_iff]; simp; omega

theorem notShortest_iff (c k : Nat) : Gen.Cms.notShortest c k = true ↔ shortestLen c ≠ k + 1 := by
  simp [Gen.Cms.notShortest, width_eq]

theorem finish_eq (html : Bool) (k : Nat) (hk : 1 ≤ k) : finish html k = verdict html k := by
  funext c
  unfold finish verdict
  -- the three tests in order: not a scalar value, not the shortest form, (multi-byte) not admissible in the mode
  by_cases hs : Scalar c
  · rw [if_neg (fun h => (invalidCp_iff c).1 h hs)]
    by_cases hl : shortestLen c = k + 1
    · rw [if_neg (fun h => (notShortest_iff c k).1 h hl)]
      have h128 : 128 ≤ c := by have := (shortestLen_eq_iff c).1; omega
      rw [htmlMulti_eq html c h128]
      by_cases hm : modeOk html c = true
      · rw [if_neg (by simp [hm]), if_pos ⟨hs, hl, hm⟩]
      · rw [if_pos (by simp [hm]), if_neg (fun h => hm h.2.2)]
    · rw [if_pos ((notShortest_iff c k).2 hl), if_neg (fun h => hl h.2.1)]
  · rw [if_pos ((invalidCp_iff c).2 hs), if_neg (fun h => hs h.1)]

/-- `j` counts the bytes read so far, the lead byte included: the accumulator is below `64 ^ j`, so `u32` never wraps
it.  cppcms does not tell the two failures of `readTrails` apart. -/
theorem trails_eq {fin : Nat → Out} (hfin : ∀ c, collapse (fin c) = fin c) :
    ∀ (k j c : Nat) (p : Bytes), c < 64 ^ j → j + k ≤ 4 →
    (collapse (readTrails fin k c p).1, (readTrails fin k c p).2) =
      match trails k c p with
      | (none, p') => (Out.illegal, p')
      | (some c, p') => (fin c, p') := by
  intro k
  induction k with
  | zero => intro j c p _ _; simp only [readTrails, hfin]; rfl
  | succ k ih =>
    intro j c p hc hj
    cases p with
    | nil => rfl
    | cons t p =>
      simp only [trails, readTrails, arm_eq _ c t (acc_lt hc (by omega))]
      by_cases ht : isTr t
      · simp only [ht, if_true]
        exact ih (j + 1) _ p (by rw [Nat.pow_succ]; exact push_lt hc ht) (by omega)
      · simp only [ht, if_false]; rfl

theorem next_nil (html : Bool) : next html [] = (.illegal, []) := rfl

theorem next_eq_step (html : Bool) (bs : Bytes) : next html bs = (collapse (step html bs).1, (step html bs).2) := by
  cases bs with
  | nil => rfl
  | cons a p =>
    simp only [next, step, trailLength_eq]
    cases hk : leadClass a.toNat with
    | none => rfl
    | some k =>
      cases k with
      | zero =>
        have h128 : a.toNat < 128 := by have := leadClass_eq_some_iff.1 hk; omega
        simp only [readTrails, verdict, marker, Nat.sub_zero, cms_asciiOk_fin html ⟨a.toNat, h128⟩]
        by_cases hm : modeOk html a.toNat = true
        · rw [if_pos hm, if_pos ((accept_ascii h128).2 hm)]; rfl
        · rw [if_neg hm, if_neg (fun h => hm ((accept_ascii h128).1 h))]; rfl
      | succ k =>
        have hk3 : k + 1 ≤ 3 := by have := leadClass_eq_some_iff.1 hk; omega
        obtain ⟨hm, hlt⟩ := leadBits_eq hk (Nat.succ_pos k)
        -- `hm` is stated on the body of the generated `leadMask`
        simp only [show Gen.Cms.leadMask a.toNat (k + 1) = _ from hm]
        rw [u32_small _ (by omega), finish_eq html _ (Nat.succ_pos k),
          trails_eq (collapse_verdict html (k + 1)) _ 1 _ p hlt (by omega)]
        rfl

end Cms

namespace Boost

/-! Booster's classification, arms and final checks are the same expressions as cppcms's, so cppcms's lemmas apply by
definitional equality (and a change to either source breaks the build here). -/

theorem trailLength_eq (n : Nat) : Gen.Boost.trailLength n = leadClass n := Cms.trailLength_eq n

theorem arm_eq (k c : Nat) (t : UInt8) (hc : c < 2 ^ 26) :
    arm k c t.toNat = if isTr t then some (push c t) else none :=
  Cms.arm_eq k c t hc

theorem finish_eq (k : Nat) (hk : 1 ≤ k) : finish k = verdict false k := Cms.finish_eq false k hk

theorem trails_eq (fin : Nat → Out) : ∀ (k j c : Nat) (p : Bytes), c < 64 ^ j → j + k ≤ 4 →
    readTrails fin k c p =
      match trails k c p with
      | (.error o, p') => (o, p')
      | (.ok c, p') => (fin c, p') := by
  intro k
  induction k with
  | zero => intros; rfl
  | succ k ih =>
    intro j c p hc hj
    cases p with
    | nil => rfl
    | cons t p =>
      simp only [trails, readTrails, arm_eq _ c t (acc_lt hc (by omega))]
      by_cases ht : isTr t
      · simp only [ht, if_true]
        exact ih (j + 1) _ p (by rw [Nat.pow_succ]; exact push_lt hc ht) (by omega)
      · simp only [ht, if_false]

theorem decode_nil : decode [] = (.incomplete, []) := rfl

theorem decode_eq_step (bs : Bytes) : decode bs = step false bs := by
  cases bs with
  | nil => rfl
  | cons a p =>
    simp only [decode, step, trailLength_eq]
    cases hk : leadClass a.toNat with
    | none => rfl
    | some k =>
      cases k with
      | zero =>
        have h128 : a.toNat < 128 := by have := leadClass_eq_some_iff.1 hk; omega
        simp only [readTrails, verdict, marker, Nat.sub_zero, if_pos ((accept_ascii (html := false) h128).2 rfl)]
      | succ k =>
        have hk3 : k + 1 ≤ 3 := by have := leadClass_eq_some_iff.1 hk; omega
        obtain ⟨hm, hlt⟩ := leadBits_eq hk (Nat.succ_pos k)
        simp only [show Gen.Boost.leadMask a.toNat (k + 1) = _ from hm]
        rw [u32_small _ (by omega), finish_eq _ (Nat.succ_pos k), trails_eq _ _ 1 _ p hlt (by omega)]
        rfl

end Boost

/-- `cppcms::utf8::next` returns code point `v` and leaves `rest` **iff** the input is an RFC 3629
encoding of `v` followed by `rest` (and, in HTML mode, `v` is not a forbidden control character). -/
theorem Props.next_iff_rfc3629 (html : Bool) (bs rest : Bytes) (v : Nat) :
    Cms.next html bs = (.cp v, rest) ↔
      ∃ enc, bs = enc ++ rest ∧ Rfc3629 v enc ∧ modeOk html v = true := by
  rw [Cms.next_eq_step, ← step_cp_iff, Prod.ext_iff, Prod.ext_iff, collapse_cp_iff]

/-- `booster::locale::utf::utf_traits<char>::decode` against RFC 3629 -/
theorem Props.decode_iff_rfc3629 (bs rest : Bytes) (v : Nat) :
    Boost.decode bs = (.cp v, rest) ↔ ∃ enc, bs = enc ++ rest ∧ Rfc3629 v enc := by
  rw [Boost.decode_eq_step, step_cp_iff]
  simp only [modeOk, Bool.not_false, Bool.true_or, and_true]

end Cppcms.C14
