import Cppcms.Common
import Cppcms.C14.Gen
/-!
# C14 model: the two UTF-8 decoders, the whole-string validators, `conv::utf_to_utf`, the single-byte
code-page validators with their name dispatch, `validate_or_filter`, the text widget.

Every condition, constant and bit expression comes from `Gen.lean` (regenerated from the
C++ source on each run).  Transcribed by hand here, and tied to the code by the translator's
statement-sequence templates plus the correspondence run: the order of the statements of
`utf8::next` / `utf_traits<char,1>::decode` (end-of-input tests, the fall-through `switch`),
the `validate` loops, the per-byte loop of the single-byte validators (`count++` *before* the
test), `std::map` lookup with `encodings_comparator`, and the two filter loops.

An iterator position is the list of bytes not yet consumed.
-/
namespace Cppcms.C14
open Cppcms

/-- result of one decoding step (`utf::illegal = 0xFFFFFFFF`, booster's `incomplete = 0xFFFFFFFE`) -/
inductive Out where
  | cp (v : Nat)
  | illegal
  | incomplete
  deriving DecidableEq, Repr

/-- `uint32_t` / `code_point` accumulator -/
def u32 (n : Nat) : Nat := n % 4294967296

/-! ## `cppcms::utf8::next` (private/utf_iterator.h) -/
namespace Cms

/-- one `case k:` arm after the end test: `none` = `return illegal` -/
def arm (k c tmp : Nat) : Option Nat :=
  match k with
  | 3 => if Gen.Cms.bad3 tmp then none else some (u32 (Gen.Cms.push3 c tmp))
  | 2 => if Gen.Cms.bad2 tmp then none else some (u32 (Gen.Cms.push2 c tmp))
  | _ => if Gen.Cms.bad1 tmp then none else some (u32 (Gen.Cms.push1 c tmp))

/-- the fall-through `switch(trail_size)` entered at `case k`: `(some c | none = illegal, position)` -/
def trails : Nat → Nat → Bytes → Option Nat × Bytes
  | 0, c, p => (some c, p)
  | _ + 1, _, [] => (none, [])                      -- `if(p==e) return illegal;`
  | k + 1, c, t :: p =>                             -- `tmp = *p++;`
    match arm (k + 1) c t.toNat with
    | none => (none, p)
    | some c' => trails k c' p

/-- the three checks after the switch -/
def finish (html : Bool) (ts c : Nat) : Out :=
  if Gen.Cms.invalidCp c then .illegal
  else if Gen.Cms.notShortest c ts then .illegal
  else if Gen.Cms.htmlMulti html c then .illegal
  else .cp c

/-- `uint32_t next(Iterator &p, Iterator e, bool html)`: `(returned value, p afterwards)` -/
def next (html : Bool) : Bytes → Out × Bytes
  | [] => (.illegal, [])
  | lead :: p =>
    match Gen.Cms.trailLength lead.toNat with
    | none => (.illegal, p)
    | some 0 => (if Gen.Cms.asciiOk html lead.toNat then .cp lead.toNat else .illegal, p)
    | some ts =>
      match trails ts (u32 (Gen.Cms.leadMask lead.toNat ts)) p with
      | (none, p') => (.illegal, p')
      | (some c, p') => (finish html ts c, p')

end Cms

/-! ## `booster::locale::utf::utf_traits<char,1>::decode` (booster/booster/locale/utf.h) -/
namespace Boost

def arm (k c tmp : Nat) : Option Nat :=
  match k with
  | 3 => if Gen.Boost.bad3 tmp then none else some (u32 (Gen.Boost.push3 c tmp))
  | 2 => if Gen.Boost.bad2 tmp then none else some (u32 (Gen.Boost.push2 c tmp))
  | _ => if Gen.Boost.bad1 tmp then none else some (u32 (Gen.Boost.push1 c tmp))

/-- as `Cms.trails`, but running out of input is `incomplete`, a non-trail byte `illegal` -/
def trails : Nat → Nat → Bytes → Except Out Nat × Bytes
  | 0, c, p => (.ok c, p)
  | _ + 1, _, [] => (.error .incomplete, [])
  | k + 1, c, t :: p =>
    match arm (k + 1) c t.toNat with
    | none => (.error .illegal, p)
    | some c' => trails k c' p

def finish (ts c : Nat) : Out :=
  if Gen.Boost.invalidCp c then .illegal
  else if Gen.Boost.notShortest c ts then .illegal
  else .cp c

def decode : Bytes → Out × Bytes
  | [] => (.incomplete, [])
  | lead :: p =>
    match Gen.Boost.trailLength lead.toNat with
    | none => (.illegal, p)
    | some 0 => (.cp lead.toNat, p)
    | some ts =>
      match trails ts (u32 (Gen.Boost.leadMask lead.toNat ts)) p with
      | (.error o, p') => (o, p')
      | (.ok c, p') => (finish ts c, p')

end Boost

/-! ## `booster::locale::conv::utf_to_utf` (booster/booster/locale/encoding_utf.h) -/
namespace Boost

/-- `utf_traits<char>::encode(value,out)`: the bytes appended (`static_cast<char>` = low 8 bits).
Defined on every 32-bit value, as the C++ is: the caller is expected to pass code points only. -/
def encode (value : Nat) : Bytes :=
  if Gen.Boost.encC1 value then [UInt8.ofNat (Gen.Boost.encE11 value)]
  else if Gen.Boost.encC2 value then [UInt8.ofNat (Gen.Boost.encE21 value), UInt8.ofNat (Gen.Boost.encE22 value)]
  else if Gen.Boost.encC3 value then
    [UInt8.ofNat (Gen.Boost.encE31 value), UInt8.ofNat (Gen.Boost.encE32 value), UInt8.ofNat (Gen.Boost.encE33 value)]
  else
    [UInt8.ofNat (Gen.Boost.encE41 value), UInt8.ofNat (Gen.Boost.encE42 value),
     UInt8.ofNat (Gen.Boost.encE43 value), UInt8.ofNat (Gen.Boost.encE44 value)]

/-- the `code_point` a decoder call returns -/
def code : Out → Nat
  | .cp v => v
  | .illegal => Gen.boostIllegal
  | .incomplete => Gen.boostIncomplete

/-- the loop of `utf_to_utf<CharOut,char>`: `none` = `throw conversion_error()`, otherwise the
values handed to `utf_traits<CharOut>::encode`, in order.  After a rejected sequence the input
position is wherever `decode` left it (so a non-trail byte that ended a sequence is swallowed
with it).  Fuel = input length (`decode` consumes at least one byte of a non-empty input). -/
def u2uFuel (how : Nat) : Nat → Bytes → Option (List Nat)
  | _, [] => some []
  | 0, _ :: _ => some []                                  -- unreachable
  | fuel + 1, p@(_ :: _) =>
    let r := decode p
    let c := code r.1
    if Gen.u2uIsError c then
      if Gen.u2uThrows how then none else u2uFuel how fuel r.2
    else (u2uFuel how fuel r.2).map (c :: ·)

/-- code points produced from UTF-8 input (`utf_to_utf<wchar_t>(char const*,…)`: UTF-32 `encode`
stores the value itself) -/
def utf8ToCps (how : Nat) (s : Bytes) : Option (List Nat) := u2uFuel how s.length s

/-- `utf_to_utf<char>(char const *begin,char const *end,how)` -/
def utf8ToUtf8 (how : Nat) (s : Bytes) : Option Bytes :=
  (utf8ToCps how s).map fun cs => (cs.map encode).flatten

/-- `utf_traits<wchar_t>::decode` on one 32-bit unit -/
def decode32 (c : Nat) : Out := if Gen.utf32Bad c then .illegal else .cp c

/-- `utf_to_utf<char>(wchar_t const *begin,wchar_t const *end,how)` (32-bit `wchar_t`) -/
def utf32ToUtf8 (how : Nat) : List Nat → Option Bytes
  | [] => some []
  | u :: rest =>
    let c := code (decode32 u)
    if Gen.u2uIsError c then
      if Gen.u2uThrows how then none else utf32ToUtf8 how rest
    else (utf32ToUtf8 how rest).map (encode c ++ ·)

end Boost

/-! ## whole strings -/

/-- number of bytes one call of `next` consumes from a non-empty position is at least one;
the loops below recurse on the position `next` leaves, with fuel = input length. -/
def validateFuel (html : Bool) : Nat → Bytes → Nat → Bool × Nat
  | _, [], count => (true, count)
  | 0, _ :: _, count => (false, count)             -- unreachable: fuel = length suffices (`validateFuel_spec`)
  | fuel + 1, p@(_ :: _), count =>
    match Cms.next html p with
    | (.cp _, p') => validateFuel html fuel p' (count + 1)
    | _ => (false, count)

/-- `bool utf8::validate(p,e,count,html)`: `(result, count afterwards)`, `count` = value on entry -/
def validate (html : Bool) (s : Bytes) (count : Nat) : Bool × Nat := validateFuel html s.length s count

/-- `encoding::valid_utf8` = `utf8_valid` = `validate(p,e,count,true)` -/
def validUtf8 (s : Bytes) (count : Nat) : Bool × Nat := validate Gen.utf8ValidHtml s count

/-! ## single-byte code pages -/

/-- the loop of every `*_valid` template: `count++` happens before the byte is judged -/
def sbValidate (pred : Nat → Bool) : Bytes → Nat → Bool × Nat
  | [], count => (true, count)
  | c :: p, count => if pred c.toNat then sbValidate pred p (count + 1) else (false, count + 1)

/-! ## encoding names -/

/-- `encodings_comparator::next` applied until the terminating NUL: the sequence of characters
the comparator sees (digits and letters, letters lower-cased; the `char const*` ends at the first NUL) -/
def normalize : List Nat → List Nat
  | [] => []
  | c :: r =>
    if c == 0 then []
    else if Gen.cmpDigit c then c :: normalize r
    else if Gen.cmpLower c then c :: normalize r
    else if Gen.cmpUpper c then Gen.cmpToLower c % 256 :: normalize r
    else normalize r

/-- what a tester pointer is -/
inductive Tester where
  | utf8
  | single (idx : Nat)
  deriving DecidableEq, Repr

/-- the map after the constructor ran: a later assignment to an equivalent key overwrites, so the
*last* matching entry wins (`std::map::operator[]` with `encodings_comparator`) -/
def lookupIn (tbl : List (List Nat × Option Nat)) (name : List Nat) : Option Tester :=
  match (tbl.reverse.find? fun e => normalize e.1 == normalize name) with
  | none => none
  | some (_, none) => some .utf8
  | some (_, some i) => some (.single i)

/-- `validators_set::get(name)`; `none` = null pointer -/
def getTester (name : List Nat) : Option Tester := lookupIn Gen.nameTable name

def sbPred (i : Nat) : Nat → Bool := (Gen.sbPreds.getD i ("", fun _ => false)).2

/-- `is_utf8(name)`: neither `cmp(name,"utf8")` nor `cmp("utf8",name)` -/
def isUtf8 (name : List Nat) : Bool := normalize name == normalize Gen.utf8Name

/-- result of the public entry points -/
inductive Verdict where
  | ok (valid : Bool) (count : Nat)
  | external           -- no built-in validator: iconv/ICU conversion (not modelled)
  deriving DecidableEq, Repr

/-- what `valid` does once the tester pointer is known -/
def validWith (t : Option Tester) (s : Bytes) : Verdict :=
  match t with
  | some .utf8 => let r := validUtf8 s 0; .ok r.1 r.2
  | some (.single i) => let r := sbValidate (sbPred i) s 0; .ok r.1 r.2
  | none => .external

/-- `encoding::valid(std::string const &encoding, begin, end, count)` with `count = 0` on entry -/
def valid (name : List Nat) (s : Bytes) : Verdict := validWith (getTester name) s

/-! ## `validate_or_filter` -/

/-- bytes consumed between two positions -/
def consumed (before after : Bytes) : Bytes := before.take (before.length - after.length)

def replOut (repl : UInt8) : Bytes := if repl != 0 then [repl] else []

/-- first loop of `validate_or_filter_utf8`: `none` = all valid, `some prev` = position of the
first character that does not decode -/
def scanFuel : Nat → Bytes → Option Bytes
  | _, [] => none
  | 0, p@(_ :: _) => some p                          -- unreachable (fuel = length)
  | fuel + 1, p@(_ :: _) =>
    match Cms.next Gen.filterScanHtml p with
    | (.cp _, p') => scanFuel fuel p'
    | _ => some p

/-- second loop of `validate_or_filter_utf8` from position `p` -/
def filterFuel (repl : UInt8) : Nat → Bytes → Bytes
  | _, [] => []
  | 0, _ :: _ => []                                  -- unreachable (fuel = length)
  | fuel + 1, p@(_ :: p1) =>
    match Cms.next Gen.filterKeepHtml p with
    | (.cp _, p') => consumed p p' ++ filterFuel repl fuel p'        -- `output.append(prev,ptr)`
    | _ =>
      match Cms.next Gen.filterRetryHtml p with
      | (.cp _, p') => replOut repl ++ filterFuel repl fuel p'       -- well formed but not HTML-safe: one replacement
      | _ => replOut repl ++ filterFuel repl fuel p1                 -- `ptr = prev + 1`

def filterLoop (repl : UInt8) (p : Bytes) : Bytes := filterFuel repl p.length p

/-- `validate_or_filter_utf8(begin,end,output,replace)`: `(return value, some new output | none = output untouched)` -/
def filterUtf8 (s : Bytes) (repl : UInt8) : Bool × Option Bytes :=
  match scanFuel s.length s with
  | none => (true, none)
  | some prev => (false, some (consumed s prev ++ filterLoop repl prev))

/-- `validate_or_filter_single_byte_charset` -/
def filterSingle (pred : Nat → Bool) (s : Bytes) (repl : UInt8) : Bool × Option Bytes :=
  if (sbValidate pred s 0).1 then (true, none)
  else (false, some (s.flatMap fun c => if (sbValidate pred [c] 0).1 then [c] else replOut repl))

inductive FilterVerdict where
  | done (valid : Bool) (output : Option Bytes)
  | external
  deriving DecidableEq, Repr

/-- `encoding::validate_or_filter(encoding, begin, end, output, replace)` -/
def validateOrFilter (name : List Nat) (s : Bytes) (repl : UInt8) : FilterVerdict :=
  if isUtf8 name then let r := filterUtf8 s repl; .done r.1 r.2
  else match getTester name with
    | some (.single i) => let r := filterSingle (sbPred i) s repl; .done r.1 r.2
    | some .utf8 => let r := filterSingle (fun _ => false) s repl; .done r.1 r.2  -- unreachable: utf8 keys satisfy `isUtf8`
    | none => .external


/-! ## `cppcms::widgets::base_text` (src/form.cpp): the text widget as a state machine over requests -/
namespace Form

/-- the members `load`/`validate` read and write -/
structure St where
  value : Bytes
  isSet : Bool
  isValid : Bool
  codePoints : Nat          -- `size_t code_points_`
  low : Int
  high : Int
  validateCharset : Bool
  named : Bool              -- `!name().empty()`
  external : Bool           -- the last load went through the iconv/ICU fallback of `encoding::valid` (not modelled)
  deriving Repr, DecidableEq

/-- a freshly constructed widget; `cp0` stands for the indeterminate value of an uninitialised
`code_points_` (used only when the constructor does not initialise it) -/
def init (cp0 : Nat) : St :=
  { value := [], isSet := false, isValid := true, codePoints := Gen.Form.ctorCount.getD cp0,
    low := Gen.Form.ctorLow, high := Gen.Form.ctorHigh, validateCharset := Gen.Form.ctorValidateCharset,
    named := false, external := false }

/-- what one request offers to the widget: the locale's encoding name and the field
(`none` = no such field in the request) -/
structure Req where
  enc : List Nat
  field : Option Bytes

/-- `void base_text::load(http::context &)` -/
def load (st : St) (rq : Req) : St :=
  let st1 : St := { st with
    value := if Gen.Form.loadClearsValue then [] else st.value,
    codePoints := Gen.Form.loadResetCount.getD st.codePoints,
    isSet := Gen.Form.loadMarksSet.getD st.isSet,
    isValid := Gen.Form.loadMarksValid.getD st.isValid,
    external := false }
  if !st1.named then st1
  else match rq.field with
    | none => st1
    | some v =>
      if st1.validateCharset then
        let start := Gen.Form.loadCountBeforeValid.getD st1.codePoints
        match valid rq.enc v with               -- `encoding::valid(locale, …, code_points_)` adds to the count
        | .ok ok n => { st1 with value := v, codePoints := start + n, isValid := st1.isValid && ok }
        | .external => { st1 with value := v, codePoints := start, external := true }
      else { st1 with value := v, codePoints := v.length }

/-- `bool base_text::validate()`: `(return value, state afterwards)` -/
def validate (st : St) : Bool × St :=
  if !st.isValid then (false, st)
  else if Gen.Form.validateEarlyOk st.isSet st.low st.high then (true, { st with isValid := true })
  else if Gen.Form.validateOutOfLimits (st.codePoints : Int) st.low st.high then (false, { st with isValid := false })
  else (true, st)

/-- everything an application can do to the widget between and around requests -/
inductive Op where
  | load (rq : Req)
  | validate
  | limits (min max : Int)
  | nonEmpty
  | validateCharset (v : Bool)
  | setValue (v : Bytes)       -- `value(std::string)`
  | clear
  | name (nonEmpty : Bool)

def apply (st : St) : Op → St
  | .load rq => load st rq
  | .validate => (validate st).2
  | .limits a b => { st with low := a, high := b }
  | .nonEmpty => { st with low := Gen.Form.nonEmptyLow, high := Gen.Form.nonEmptyHigh }
  | .validateCharset v => { st with validateCharset := v }
  | .setValue v => { st with isSet := true, value := v }
  | .clear => { st with isSet := false }
  | .name b => { st with named := b }

def run (st : St) (ops : List Op) : St := ops.foldl apply st

end Form

end Cppcms.C14
