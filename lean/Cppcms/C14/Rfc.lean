import Cppcms.C14.Spec
import Cppcms.Lib.Bytes
/-!
RFC 3629 read the way a decoder proceeds: a lead byte of class `k`, `k` trail bytes pushed into an accumulator, and
the value accepted if it is a scalar value in shortest form.  `rfc3629_cons_iff` is the only place where the ABNF rows
meet arithmetic.  Nothing here depends on the model of the C++ code.
-/
namespace Cppcms.C14
open Cppcms

theorem utf8Char0 : Spec.utf8Char [] = false := rfl
theorem utf8Char5 (a b c d e : Nat) (r : List Nat) : Spec.utf8Char (a :: b :: c :: d :: e :: r) = false := rfl

open Spec

theorem utf8Char1 (a : Nat) : utf8Char [a] = decide (a ≤ 0x7F) := rfl
theorem scalarOf1 (a : Nat) : scalarOf [a] = a := rfl
theorem scalarOf2 (a b : Nat) : scalarOf [a, b] = (a - 0xC0) * 64 + (b - 0x80) := rfl
theorem scalarOf3 (a b c : Nat) : scalarOf [a, b, c] = (a - 0xE0) * 4096 + (b - 0x80) * 64 + (c - 0x80) := rfl
theorem scalarOf4 (a b c d : Nat) : scalarOf [a, b, c, d] =
    (a - 0xF0) * 262144 + (b - 0x80) * 4096 + (c - 0x80) * 64 + (d - 0x80) := rfl

theorem utf8Char2_iff (a b : Nat) : utf8Char [a, b] = true ↔ 194 ≤ a ∧ a ≤ 223 ∧ 128 ≤ b ∧ b ≤ 191 := by
  simp only [utf8Char, Spec.tail, Bool.and_eq_true, decide_eq_true_eq, and_assoc]
theorem utf8Char3_iff (a b c : Nat) : utf8Char [a, b, c] = true ↔
    ((a = 224 ∧ 160 ≤ b ∧ b ≤ 191) ∨ (225 ≤ a ∧ a ≤ 236 ∧ 128 ≤ b ∧ b ≤ 191) ∨ (a = 237 ∧ 128 ≤ b ∧ b ≤ 159) ∨
     (238 ≤ a ∧ a ≤ 239 ∧ 128 ≤ b ∧ b ≤ 191)) ∧ 128 ≤ c ∧ c ≤ 191 := by
  simp only [utf8Char, Spec.tail, Bool.and_eq_true, Bool.or_eq_true, decide_eq_true_eq, beq_iff_eq, and_assoc, or_assoc]
theorem utf8Char4_iff (a b c d : Nat) : utf8Char [a, b, c, d] = true ↔
    ((a = 240 ∧ 144 ≤ b ∧ b ≤ 191) ∨ (241 ≤ a ∧ a ≤ 243 ∧ 128 ≤ b ∧ b ≤ 191) ∨ (a = 244 ∧ 128 ≤ b ∧ b ≤ 143)) ∧
    128 ≤ c ∧ c ≤ 191 ∧ 128 ≤ d ∧ d ≤ 191 := by
  simp only [utf8Char, Spec.tail, Bool.and_eq_true, Bool.or_eq_true, decide_eq_true_eq, beq_iff_eq, and_assoc, or_assoc]

theorem shortestLen_eq_iff (c : Nat) :
    (shortestLen c = 1 ↔ c ≤ 127) ∧ (shortestLen c = 2 ↔ 128 ≤ c ∧ c ≤ 2047) ∧
    (shortestLen c = 3 ↔ 2048 ≤ c ∧ c ≤ 65535) ∧ (shortestLen c = 4 ↔ 65536 ≤ c) := by
  unfold shortestLen; grind

/-- RFC 3629 §4: the number of trail bytes a first byte announces -/
def leadClass (n : Nat) : Option Nat :=
  if n < 128 then some 0 else if n < 194 then none else if n < 224 then some 1
  else if n < 240 then some 2 else if n ≤ 244 then some 3 else none

theorem leadClass_eq_some_iff {n k : Nat} : leadClass n = some k ↔
    (k = 0 ∧ n < 128) ∨ (k = 1 ∧ 194 ≤ n ∧ n < 224) ∨ (k = 2 ∧ 224 ≤ n ∧ n < 240) ∨ (k = 3 ∧ 240 ≤ n ∧ n ≤ 244) := by
  unfold leadClass; grind

theorem seqLen_eq (n : Nat) : seqLen n = (leadClass n).map (· + 1) := by
  unfold seqLen leadClass; grind

/-- marker bits of a lead byte of class `k`: `0…`, `110…`, `1110…`, `11110…` -/
def marker : Nat → Nat
  | 0 => 0
  | 1 => 0xC0
  | 2 => 0xE0
  | _ => 0xF0

theorem marker_le {n k : Nat} (h : leadClass n = some k) : marker k ≤ n := by
  rcases leadClass_eq_some_iff.1 h with ⟨rfl, _⟩ | ⟨rfl, _, _⟩ | ⟨rfl, _, _⟩ | ⟨rfl, _, _⟩
  · exact Nat.zero_le n
  · show 192 ≤ n; omega
  · show 224 ≤ n; omega
  · show 240 ≤ n; omega

/-- `Spec.tail` on a byte, as a `Prop` with a strict upper bound: the form `omega` reads -/
def isTr (t : UInt8) : Prop := 128 ≤ t.toNat ∧ t.toNat < 192
instance (t : UInt8) : Decidable (isTr t) := by unfold isTr; infer_instance

theorem isTr_iff_tail (t : UInt8) : isTr t ↔ Spec.tail t.toNat = true := by
  simp only [isTr, Spec.tail, Bool.and_eq_true, decide_eq_true_eq]; omega

/-- One trail byte's six bits appended to the accumulator.  Unfold with `push_def`: `simp only [push]`, and `rfl`
between terms containing it, make Lean unfold `Nat.sub` on the literal numeral by numeral. -/
def push (c : Nat) (t : UInt8) : Nat := c * 64 + (t.toNat - 128)
theorem push_def (c : Nat) (t : UInt8) : push c t = c * 64 + (t.toNat - 128) := rfl

theorem push_lt {c B : Nat} {t : UInt8} (hc : c < B) (ht : isTr t) : push c t < B * 64 := by
  rw [push_def]; unfold isTr at ht; omega

/-- what both decoders test after the trail bytes -/
def accept (html : Bool) (k c : Nat) : Prop := Scalar c ∧ shortestLen c = k + 1 ∧ modeOk html c = true
instance (html : Bool) (k c : Nat) : Decidable (accept html k c) := by unfold accept Scalar; infer_instance

theorem accept_ascii {html : Bool} {n : Nat} (h : n < 128) : accept html 0 n ↔ modeOk html n = true := by
  have := (shortestLen_eq_iff n).1
  exact ⟨fun h => h.2.2, fun h => ⟨⟨by omega, by omega⟩, by omega, h⟩⟩

/-- The ABNF's restrictions on the second byte exclude just the over-long forms, the surrogates and the values
above U+10FFFF.  `accept false`: no mode test; `foldl push` is `scalarOf` byte by byte. -/
theorem rfc3629_cons_iff (v : Nat) (a : UInt8) (ts : Bytes) :
    Rfc3629 v (a :: ts) ↔ leadClass a.toNat = some ts.length ∧ (∀ t ∈ ts, isTr t) ∧
      v = ts.foldl push (a.toNat - marker ts.length) ∧ accept false ts.length v := by
  obtain ⟨hs1, hs2, hs3, hs4⟩ := shortestLen_eq_iff v
  rcases ts with _ | ⟨b, _ | ⟨c, _ | ⟨d, _ | ⟨e, r⟩⟩⟩⟩
  -- both sides in arithmetic on the bytes, one length at a time; five or more bytes: both false
  all_goals
    simp only [Rfc3629, nats, accept, Scalar, modeOk, leadClass_eq_some_iff, isTr, List.map, List.foldl, List.length,
      List.forall_mem_cons, List.not_mem_nil, marker, push_def, utf8Char1, utf8Char2_iff, utf8Char3_iff, utf8Char4_iff,
      utf8Char5, scalarOf1, scalarOf2, scalarOf3, scalarOf4, hs1, hs2, hs3, hs4, Nat.add_mul, Nat.mul_assoc,
      Nat.reduceMul, Nat.reduceAdd, Nat.reduceEqDiff, decide_eq_true_eq, Bool.not_false, Bool.true_or, Bool.false_eq_true,
      false_implies, implies_true, and_true, true_and, false_and, or_false, false_or]
  all_goals omega

theorem rfc_nonempty {v : Nat} {enc : Bytes} (h : Rfc3629 v enc) : enc ≠ [] := by
  intro he; subst he; cases h.1

/-- an RFC 3629 encoding carries a Unicode scalar value (≤ U+10FFFF, not a surrogate) and is
the shortest form for it -/
theorem Props.rfc3629_scalar_shortest (v : Nat) (enc : Bytes) (h : Rfc3629 v enc) :
    Scalar v ∧ enc.length = shortestLen v := by
  cases enc with
  | nil => exact absurd rfl (rfc_nonempty h)
  | cons a ts =>
    obtain ⟨_, _, _, hs, hl, _⟩ := (rfc3629_cons_iff v a ts).1 h
    exact ⟨hs, hl.symm⟩

theorem rfc_encode {v : Nat} (h : Scalar v) : Rfc3629 v (encode v) := by
  obtain ⟨hs1, hs2, hs3, hs4⟩ := shortestLen_eq_iff v
  have h' := h
  unfold Scalar at h'
  unfold encode
  -- one branch per length: the bound on `v` makes every byte < 256 and puts the first in its class, the others in
  -- `80..BF`; that the digits `v / 64^i % 64` give `v` back is `omega`'s
  repeat' split
  all_goals
    simp (disch := omega) only [rfc3629_cons_iff, accept, h, hs1, hs2, hs3, hs4, modeOk, leadClass_eq_some_iff, isTr,
      toNat_ofNat_lt, List.foldl, List.length, List.forall_mem_cons, List.not_mem_nil, marker, push_def,
      Nat.reduceAdd, Nat.reduceEqDiff, Nat.add_sub_cancel_left, Nat.le_add_right, Nat.sub_zero, Bool.not_false,
      Bool.true_or, false_implies, implies_true, and_true, true_and, false_and, or_false, false_or]
    omega

/-- trail bytes are digits to base 64: the accumulated value determines them -/
theorem foldl_push_inj : ∀ (ts ts' : Bytes) (x x' : Nat), ts.length = ts'.length →
    (∀ t ∈ ts, isTr t) → (∀ t ∈ ts', isTr t) → ts.foldl push x = ts'.foldl push x' → x = x' ∧ ts = ts' := by
  intro ts
  induction ts with
  | nil =>
    intro ts' x x' hl _ _ h
    cases ts' with
    | nil => exact ⟨h, rfl⟩
    | cons _ _ => cases hl
  | cons t ts ih =>
    intro ts' x x' hl htr htr' h
    cases ts' with
    | nil => cases hl
    | cons t' ts' =>
      obtain ⟨h1, htr⟩ := List.forall_mem_cons.1 htr
      obtain ⟨h2, htr'⟩ := List.forall_mem_cons.1 htr'
      rw [List.foldl_cons, List.foldl_cons] at h
      obtain ⟨hp, rfl⟩ := ih ts' (push x t) (push x' t') (Nat.succ.inj hl) htr htr' h
      rw [push_def, push_def] at hp
      unfold isTr at h1 h2
      exact ⟨by omega, by rw [UInt8.toNat_inj.1 (by omega : t.toNat = t'.toNat)]⟩

theorem rfc_unique {v : Nat} {e e' : Bytes} (h : Rfc3629 v e) (h' : Rfc3629 v e') : e = e' := by
  match e, e', h, h' with
  | [], _, h, _ => exact absurd rfl (rfc_nonempty h)
  | _, [], _, h' => exact absurd rfl (rfc_nonempty h')
  | a :: ts, a' :: ts', h, h' =>
    obtain ⟨hk, htr, hv, _, hl, _⟩ := (rfc3629_cons_iff v a ts).1 h
    obtain ⟨hk', htr', hv', _, hl', _⟩ := (rfc3629_cons_iff v a' ts').1 h'
    have hlen : ts.length = ts'.length := by omega
    obtain ⟨hx, rfl⟩ := foldl_push_inj ts ts' _ _ hlen htr htr' (hv.symm.trans hv')
    have h1 := marker_le hk
    have h2 := marker_le (hlen ▸ hk')
    rw [UInt8.toNat_inj.1 (by omega : a.toNat = a'.toNat)]

theorem rfc3629_iff_encode (v : Nat) (e : Bytes) : Rfc3629 v e ↔ Scalar v ∧ e = encode v :=
  ⟨fun h => ⟨(Props.rfc3629_scalar_shortest v e h).1, rfc_unique h (rfc_encode (Props.rfc3629_scalar_shortest v e h).1)⟩,
    fun ⟨hs, he⟩ => he ▸ rfc_encode hs⟩

theorem rfc_eq_encode {v : Nat} {e : Bytes} (h : Rfc3629 v e) : e = encode v :=
  ((rfc3629_iff_encode v e).1 h).2

end Cppcms.C14
