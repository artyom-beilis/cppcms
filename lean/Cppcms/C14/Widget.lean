import Cppcms.C14.Model
import Cppcms.C14.Spec
/-!
The text widget (`widgets::base_text`): what its theorems are stated with (`loadedCount`, `verdictOf`, `Resolves`) and
facts about `load`, `validate` and the limits test.
-/
namespace Cppcms.C14
open Cppcms Spec

namespace Form

/-- number of characters the widget should hold after a request, from the request and the configuration only;
`none` = the text is not valid in the locale's encoding (`validate` must then fail whatever the limits are) -/
def loadedCount (named vc : Bool) (rq : Req) : Option Nat :=
  if !named then some 0
  else match rq.field with
    | none => some 0
    | some v =>
      if vc then
        match valid rq.enc v with
        | .ok true n => some n
        | .ok false _ => none
        | .external => none
      else some v.length

/-- verdict of `validate()` right after a load, from configuration and request only -/
def verdictOf (low high : Int) (named vc : Bool) (rq : Req) : Bool :=
  match loadedCount named vc rq with
  | none => false
  | some n => !Gen.Form.validateOutOfLimits (n : Int) low high

/-- the request does not need the iconv/ICU fallback -/
def Resolves (named vc : Bool) (rq : Req) : Prop :=
  named = true → vc = true → ∀ v, rq.field = some v → valid rq.enc v ≠ .external

theorem load_config (st : St) (rq : Req) :
    (load st rq).low = st.low ∧ (load st rq).high = st.high ∧
    (load st rq).validateCharset = st.validateCharset ∧ (load st rq).named = st.named := by
  unfold load; grind

theorem earlyOk_set (low high : Int) : Gen.Form.validateEarlyOk true low high = false := by
  simp [Gen.Form.validateEarlyOk]

theorem run_append_load (st : St) (ops : List Op) (rq : Req) :
    run st (ops ++ [.load rq]) = load (run st ops) rq := by
  simp [run, List.foldl_append, apply]

/-- the comparison against `size_t(low_)`, `size_t(high_)` means what `limits` documents, for sane arguments -/
theorem outOfLimits_eq (n : Nat) (low high : Int) (hl : 0 ≤ low) (hl2 : low < 2147483648)
    (hh : high < 2147483648) :
    Gen.Form.validateOutOfLimits (n : Int) low high = !withinLimits low high n := by
  -- `size_t(x) = x` for `0 ≤ x < 2^31`; a negative `high_` is not compared
  have h1 : Gen.Form.toSizeT low = low := Int.emod_eq_of_lt hl (by omega)
  have h2 : 0 ≤ high → Gen.Form.toSizeT high = high := fun hp => Int.emod_eq_of_lt hp (by omega)
  rw [Bool.eq_iff_iff]
  simp only [Gen.Form.validateOutOfLimits, withinLimits, h1, Bool.or_eq_true, Bool.and_eq_true, decide_eq_true_eq,
    Bool.not_eq_true', Bool.and_eq_false_imp, Bool.or_eq_false_iff, decide_eq_false_iff_not]
  by_cases hp : 0 ≤ high
  · rw [h2 hp]; omega
  · omega

end Form
end Cppcms.C14
