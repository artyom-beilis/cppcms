import Cppcms.C09.Lemmas
/-!
# C09 — every step preserves `Inv` and decreases the measure

A step replaces one thread's record, ticks the clock and either leaves state and log alone or
enters the running operation in the log; `Inv.set` settles what that means for the other threads.
-/
namespace Cppcms.C09
open Cppcms Cppcms.C07

variable {s₀ s' : XState} {c : Config} {t : Nat} {th th' : Thread} {op : XOp} {l : LockId} {m : Mode} {a : Action}
  {now : Time} {k : Key} {out : XOut} {rest : List Instr} {log' : List Lin}

theorem conflict_comm (a b : LockId × Mode) : conflict a b = conflict b a := by
  simp only [conflict, Bool.or_comm, BEq.comm]

theorem not_access_of_compat {g : LockId × Mode} (h : conflict (.access, .exclusive) g = false) :
    g.1 ≠ LockId.access := by
  intro hg
  rw [conflict, ← hg] at h
  simp at h

theorem canAcq_iff : canAcq c l m = true ↔ ∀ th ∈ c.threads, ∀ g ∈ th.held, conflict (l, m) g = false := by
  simp only [canAcq, List.all_eq_true, Bool.not_eq_true']

/-- every guard of `th'` was held by `th` or can be acquired now -/
def HeldOk (c : Config) (th th' : Thread) : Prop :=
  ∀ a ∈ th'.held, a ∈ th.held ∨ canAcq c a.1 a.2 = true

theorem HeldOk.sub (h : ∀ a ∈ th'.held, a ∈ th.held) : HeldOk c th th' :=
  fun a ha => Or.inl (h a ha)

/-- steps an operation takes: its instructions, one step to invoke and one to respond -/
def opCost (op : XOp) : Nat := (Gen.prog (methodOf op)).length + 2

def Thread.measure (th : Thread) : Nat :=
  (th.todo.map opCost).sum + (if th.cur.isSome then th.code.length + 1 else 0)

def Config.measure (c : Config) : Nat := (c.threads.map Thread.measure).sum

theorem sum_set_lt {l : List Thread} (hget : l[t]? = some th) (hlt : th'.measure < th.measure) :
    ((l.set t th').map Thread.measure).sum < (l.map Thread.measure).sum := by
  induction l generalizing t with
  | nil => cases hget
  | cons x xs ih =>
    cases t with
    | zero =>
      cases hget
      simp only [List.set_cons_zero, List.map_cons, List.sum_cons]
      omega
    | succ t =>
      have := ih (t := t) hget
      simp only [List.set_cons_succ, List.map_cons, List.sum_cons]
      omega

theorem SameOp.measure_lt (hs : SameOp th th') (hop : th.cur = some op)
    (hlen : th'.code.length < th.code.length) : th'.measure < th.measure := by
  simp only [Thread.measure, hs.1, hs.2.1, hop, Option.isSome_some, if_true]
  omega

theorem getElem?_set_some {α : Type} {l : List α} {i j : Nat} {a b : α} (h : (l.set i a)[j]? = some b) :
    (i = j ∧ b = a) ∨ (i ≠ j ∧ l[j]? = some b) := by
  rw [List.getElem?_set] at h
  split at h
  · next hij =>
    split at h
    · exact Or.inl ⟨hij, (Option.some.inj h).symm⟩
    · cases h
  · next hij => exact Or.inr ⟨hij, h⟩

theorem Inv.set (h : Inv s₀ c) (hth : c.threads[t]? = some th)
    (state_eq : s' = xrun s₀ (log'.reverse.map (·.op)))
    (legal : seqOuts s₀ (log'.reverse.map (·.op)) = log'.reverse.map (·.out))
    (stamps : ∀ e ∈ log', e.stamp < c.clock + 1)
    (sorted : log'.Pairwise (fun a b => b.stamp < a.stamp))
    (nodup : (log'.map fun e => (e.tid, e.idx)).Nodup)
    (hsub : c.log ⊆ log') (hnew : ∀ e ∈ log', e ∉ c.log → e.tid = t)
    (hframe : s'.cache.primary = c.s.cache.primary ∨ (LockId.access, Mode.exclusive) ∈ th.held)
    (htok : TOk ⟨s', c.threads.set t th', c.clock + 1, log'⟩ t th')
    (hheld : HeldOk c th th')
    (hacc : ∀ e ∈ log', e.tid = t → Accounts th' e) :
    Inv s₀ ⟨s', c.threads.set t th', c.clock + 1, log'⟩ := by
  have compat' : ∀ j thj, j ≠ t → c.threads[j]? = some thj →
      ∀ a ∈ th'.held, ∀ b ∈ thj.held, conflict a b = false := fun j thj hj hget a ha b hb =>
    (hheld a ha).elim (fun ha' => h.compat t j th thj (Ne.symm hj) hth hget a ha' b hb)
      (fun hq => canAcq_iff.mp hq thj (List.mem_of_getElem? hget) b hb)
  refine { state_eq, legal, stamps, sorted, nodup, thr := ?thr, compat := ?compat, sound := ?sound }
  case thr =>
    intro t' th'' hget
    rcases getElem?_set_some hget with ⟨rfl, rfl⟩ | ⟨hne, hget'⟩
    · exact htok
    · have tok := h.thr t' th'' hget'
      refine tok.step ⟨rfl, rfl, rfl, rfl⟩ (tok.phase.frame ?_ hsub fun e he hn heq =>
        hne ((hnew e he hn).symm.trans heq)) hsub (Nat.le_succ _)
      -- `t` holds `access_lock` exclusively, so nobody else holds it
      exact hframe.imp id fun hx g hg => not_access_of_compat (h.compat t t' th th'' hne hth hget' _ hx g hg)
  case compat =>
    intro i j thi thj hij hi hj a ha b hb
    rcases getElem?_set_some hi with ⟨rfl, rfl⟩ | ⟨_, hi'⟩
    · rcases getElem?_set_some hj with ⟨rfl, _⟩ | ⟨_, hj'⟩
      · exact absurd rfl hij
      · exact compat' j thj (Ne.symm hij) hj' a ha b hb
    · rcases getElem?_set_some hj with ⟨rfl, rfl⟩ | ⟨_, hj'⟩
      · rw [conflict_comm]
        exact compat' i thi hij hi' b hb a ha
      · exact h.compat i j thi thj hij hi' hj' a ha b hb
  case sound =>
    intro e he
    by_cases het : e.tid = t
    · refine ⟨th', ?_, hacc e he het⟩
      rw [het]
      exact List.getElem?_set_self (List.getElem?_eq_some_iff.mp hth).1
    · obtain ⟨the, hget, hor⟩ := h.sound e (Classical.byContradiction fun hn => het (hnew e he hn))
      exact ⟨the, (List.getElem?_set_ne (Ne.symm het)).trans hget, hor⟩

/-- a step that touches neither state nor log -/
theorem Inv.put (h : Inv s₀ c) (hth : c.threads[t]? = some th)
    (htok : TOk (c.put t th') t th') (hheld : HeldOk c th th')
    (hacc : ∀ e ∈ c.log, e.tid = t → Accounts th' e) : Inv s₀ (c.put t th') :=
  h.set hth h.state_eq h.legal (fun e he => Nat.lt_succ_of_lt (h.stamps e he)) h.sorted h.nodup
    (List.Subset.refl _) (fun _ he hn => absurd he hn) (Or.inl rfl) htok hheld hacc

/-- the configuration after a step at which the hook fires -/
def linStep (c : Config) (t : Nat) (th : Thread) (op : XOp) (th' : Thread) : Config :=
  { s := (xstep c.s op).1, threads := c.threads.set t th', clock := c.clock + 1, log := c.hook t th op }

/-- a step that linearizes the running operation: its new phase may assume the log entry; `primary` is unchanged,
or the thread holds the exclusive guard (`hframe`) -/
theorem Inv.lin (h : Inv s₀ c) (hth : c.threads[t]? = some th) (hop : th.cur = some op)
    (hx : xstep c.s op = (s', out)) (hs : SameOp th th') {i : Instr} (hcode : th.code = i :: rest) (hlen : th'.code.length ≤ rest.length)
    (hn : NotLind c.log t th.done.length)
    (hphase : Lind (c.hook t th op) t th.done.length op out th.inv → Phase s' (c.hook t th op) t th')
    (hheld : th'.held = th.held)
    (hframe : s'.cache.primary = c.s.cache.primary ∨ (LockId.access, Mode.exclusive) ∈ th.held) :
    Inv s₀ (linStep c t th op th') ∧ (linStep c t th op th').measure < c.measure := by
  refine ⟨?_, sum_set_lt hth (hs.measure_lt hop (hcode ▸ Nat.lt_succ_of_le hlen))⟩
  obtain ⟨rfl, rfl⟩ : (xstep c.s op).1 = s' ∧ (xstep c.s op).2 = out := by rw [hx]; exact ⟨rfl, rfl⟩
  have tok := h.thr t th hth
  have hinvlt : th.inv < c.clock := tok.inv_lt (by rw [hop]; exact Option.some_ne_none _)
  have hsub : c.log ⊆ c.hook t th op := List.subset_cons_self _ _
  refine h.set hth (state_eq := ?state_eq) (legal := ?legal) (stamps := ?stamps)
    (sorted := List.pairwise_cons.mpr ⟨h.stamps, h.sorted⟩) (nodup := ?nodup) (hsub := hsub) (hnew := ?hnew) (hframe := hframe)
    (htok := tok.step hs (hphase ⟨_, List.mem_cons_self, rfl, rfl, rfl, rfl, hinvlt⟩) hsub (Nat.le_succ _))
    (hheld := .sub fun _ ha => hheld ▸ ha) (hacc := ?hacc)
  case state_eq =>
    simp only [Config.hook, List.reverse_cons, List.map_append, List.map_cons, List.map_nil, xrun_snoc, ← h.state_eq]
  case legal =>
    simp only [Config.hook, List.reverse_cons, List.map_append, List.map_cons, List.map_nil, seqOuts_append,
      h.legal, ← h.state_eq, seqOuts]
  case stamps => exact List.forall_mem_cons.mpr ⟨Nat.lt_succ_self _, fun e he => Nat.lt_succ_of_lt (h.stamps e he)⟩
  case nodup =>
    refine List.nodup_cons.mpr ⟨fun hm => ?_, h.nodup⟩
    obtain ⟨e, he, heq⟩ := List.mem_map.mp hm
    exact hn e he ⟨congrArg Prod.fst heq, congrArg Prod.snd heq⟩
  case hnew =>
    intro e he hne
    rcases List.mem_cons.mp he with rfl | he
    · rfl
    · exact absurd he hne
  case hacc =>
    intro e he ht
    rcases List.mem_cons.mp he with rfl | he
    · exact hs.accounts (Or.inr ⟨rfl, hop, hinvlt⟩)
    · exact hs.accounts (h.accounts hth he ht)

theorem stepThread_idle (hth : c.threads[t]? = some th) (hc : th.cur = none) :
    stepThread c t = match th.todo with
      | [] => none
      | op :: more => some (c.put t { th with todo := more, cur := some op, code := Gen.prog (methodOf op),
                                              ptr := none, ret := none, inv := c.clock }) := by
  simp only [stepThread, hth, hc]
  rfl

theorem stepThread_busy (hth : c.threads[t]? = some th) (hc : th.cur = some op) :
    stepThread c t = match th.code with
      | [] => some (c.put t { th with cur := none,
                                      done := ⟨t, th.done.length, op, th.inv, some (c.clock, th.ret.getD .undefined)⟩ :: th.done })
      | .acq l m :: rest =>
        if canAcq c l m then some (c.put t { th with code := rest, held := (l, m) :: th.held }) else none
      | .rel l :: rest => some (c.put t { th with code := rest, held := release l th.held })
      | .act a :: rest => some (execAct c t th op a rest) := by
  simp only [stepThread, hth, hc]
  rfl

theorem execAct_simple (h : simpleOp op = some (m, a)) (c : Config) (t : Nat) (th : Thread) (rest : List Instr) :
    execAct c t th op a rest =
      linStep c t th op { th with code := rest, ret := some (.ok (xstep c.s op).2) } := by
  rcases op with (_ | _ | _ | _ | _ | _) | _ | _ <;> cases h <;> rfl

theorem execAct_lookup_miss (h : ¬ ∃ out, Live c.s now k out) :
    execAct c t th (.cache (.fetch now k)) .lookup rest =
      linStep c t th (.cache (.fetch now k)) { th with code := th.held.map fun g => .rel g.1, ret := some (.ok (.cache .miss)) } := by
  simp only [execAct, linStep, Config.put, step_fetch_miss h]
  split
  · rfl
  · next hlk => rw [expired_of_not_live h hlk]; rfl

theorem execAct_lookup_live (h : Live c.s now k out) :
    execAct c t th (.cache (.fetch now k)) .lookup rest = c.put t { th with code := rest, ptr := some k } := by
  obtain ⟨cont, h, he, _⟩ := h
  simp [execAct, h, he]

theorem execAct_splice (hp : th.ptr = some k) (h : Live c.s now k out) :
    execAct c t th (.cache (.fetch now k)) .splice rest = linStep c t th (.cache (.fetch now k)) { th with code := rest } := by
  simp only [execAct, hp, linStep, Config.put, step_fetch_live h]

theorem execAct_copyOut (hp : th.ptr = some k) (h : Live c.s now k out) :
    execAct c t th (.cache (.fetch now k)) .copyOut rest = c.put t { th with code := rest, ret := some (.ok out) } := by
  obtain ⟨cont, h, _, rfl⟩ := h
  simp [execAct, hp, h]

/-- `Inv.put` inside an operation, with the measure -/
theorem Inv.internal {i : Instr} (h : Inv s₀ c) (hth : c.threads[t]? = some th) (hop : th.cur = some op)
    (hs : SameOp th th') (hcode : th.code = i :: th'.code) (hphase : Phase c.s c.log t th')
    (hheld : HeldOk c th th') : Inv s₀ (c.put t th') ∧ (c.put t th').measure < c.measure :=
  ⟨h.put hth ((h.thr t th hth).step hs hphase (List.Subset.refl _) (Nat.le_succ _)) hheld
    fun _ he ht => hs.accounts (h.accounts hth he ht),
   sum_set_lt hth (hs.measure_lt hop (hcode ▸ Nat.lt_succ_self _))⟩

theorem Inv.acq {c' : Config} (h : Inv s₀ c) (hth : c.threads[t]? = some th) (hop : th.cur = some op)
    (hcode : th.code = .acq l m :: rest) (hs : stepThread c t = some c')
    (hphase : Phase c.s c.log t { th with code := rest, held := (l, m) :: th.held }) :
    Inv s₀ c' ∧ c'.measure < c.measure := by
  rw [stepThread_busy hth hop, hcode] at hs
  obtain ⟨hacq, hs⟩ := Option.ite_none_right_eq_some.mp hs
  cases hs
  exact h.internal hth hop .upd hcode hphase fun a ha =>
    (List.mem_cons.mp ha).elim (fun e => Or.inr (e ▸ hacq)) Or.inl

theorem Inv.rel {c' : Config} (h : Inv s₀ c) (hth : c.threads[t]? = some th) (hop : th.cur = some op)
    (hcode : th.code = .rel l :: rest) (hs : stepThread c t = some c')
    (hphase : Phase c.s c.log t { th with code := rest, held := release l th.held }) :
    Inv s₀ c' ∧ c'.measure < c.measure := by
  rw [stepThread_busy hth hop, hcode] at hs
  cases hs
  exact h.internal hth hop .upd hcode hphase (.sub fun _ ha => List.mem_of_mem_eraseP ha)

theorem Inv.step {s₀ : XState} {c c' : Config} {t : Nat} (h : Inv s₀ c) (hs : stepThread c t = some c') :
    Inv s₀ c' ∧ c'.measure < c.measure := by
  cases hth : c.threads[t]? with
  | none => simp [stepThread, hth] at hs
  | some th =>
  have tok := h.thr t th hth
  cases tok.phase with
  | idle hc hcode hheld =>
    rw [stepThread_idle hth hc] at hs
    cases htodo : th.todo with
    | nil => rw [htodo] at hs; cases hs
    | cons op more =>
      rw [htodo] at hs
      cases hs
      refine ⟨h.put hth
          { phase := .invoked hheld (h.notLind_of_idle hth hc)
            inv_lt := fun _ => Nat.lt_succ_self _
            done_ok := fun r hr => (tok.done_ok r hr).mono (Nat.le_succ _) (List.Subset.refl _) (Nat.le_refl _)
            done_idx := tok.done_idx }
          (.sub fun _ ha => ha) (fun e he ht => ?_),
        sum_set_lt hth (by simp [Thread.measure, hc, htodo, opCost]; omega)⟩
      -- the log entries of an idle thread belong to completed operations
      rcases h.accounts hth he ht with hor | ⟨_, hcur, _⟩
      · exact Or.inl hor
      · rw [hc] at hcur; cases hcur
  | f0 now k hc hcode hheld hn => exact h.acq hth hc hcode hs (.f1 now k hc rfl (by rw [hheld]) hn)
  | f1 now k hc hcode hheld hn =>
    rw [stepThread_busy hth hc, hcode] at hs
    cases hs
    by_cases hl : ∃ out, Live c.s now k out
    · obtain ⟨out, hl⟩ := hl
      rw [execAct_lookup_live hl]
      exact h.internal hth hc .upd hcode (.f2 now k out hc rfl hheld rfl hl hn) (.sub fun _ ha => ha)
    · rw [execAct_lookup_miss hl]
      -- one `rel` per guard held is left, of five instructions
      exact h.lin hth hc (step_fetch_miss hl) .upd hcode (by rw [hheld]; show 1 ≤ 5; decide) hn
        (fun hlin => .rel1 _ .shared _ hc (by rw [hheld]; rfl) hheld rfl hlin) rfl (Or.inl rfl)
  | f2 now k out hc hcode hheld hp hl hn =>
    exact h.acq hth hc hcode hs (.f3 now k out hc rfl (by rw [hheld]) hp hl hn)
  | f3 now k out hc hcode hheld hp hl hn =>
    rw [stepThread_busy hth hc, hcode] at hs
    cases hs
    rw [execAct_splice hp hl]
    exact h.lin hth hc (step_fetch_live hl) .upd hcode (Nat.le_refl _) hn
      (fun hlin => .f4 now k out hc rfl hheld hp (hl.of_primary_eq rfl) hlin) rfl (Or.inl rfl)
  | f4 now k out hc hcode hheld hp hl hlin =>
    exact h.rel hth hc hcode hs (.f5 now k out hc rfl (by rw [hheld]; rfl) hp hl hlin)
  | f5 now k out hc hcode hheld hp hl hlin =>
    rw [stepThread_busy hth hc, hcode] at hs
    cases hs
    rw [execAct_copyOut hp hl]
    exact h.internal hth hc .upd hcode (.rel1 _ .shared out hc rfl hheld rfl hlin) (.sub fun _ ha => ha)
  | s0 op m a hsimple hc hcode hheld hn =>
    exact h.acq hth hc hcode hs (.s1 op m a hsimple hc rfl (by rw [hheld]) hn)
  | s1 op m a hsimple hc hcode hheld hn =>
    rw [stepThread_busy hth hc, hcode] at hs
    cases hs
    rw [execAct_simple hsimple]
    refine h.lin hth hc rfl .upd hcode (Nat.le_refl _) hn (fun hlin => .rel1 op m _ hc rfl hheld rfl hlin) rfl ?_
    cases m with
    | shared => exact Or.inl (congrArg (·.cache.primary) (xstep_shared_simpleOp hsimple c.s))
    | exclusive => exact Or.inr (by rw [hheld]; exact List.mem_singleton.mpr rfl)
  | rel1 op m out hc hcode hheld hret hlin =>
    exact h.rel hth hc hcode hs (.fin op out hc rfl (by rw [hheld]; simp [release]) hret hlin)
  | fin op out hc hcode hheld hret hlin =>
    rw [stepThread_busy hth hc, hcode] at hs
    cases hs
    refine ⟨h.put hth
        { phase := .idle rfl rfl hheld
          inv_lt := fun hcn => absurd rfl hcn
          done_ok := fun r hr => ?_
          done_idx := List.pairwise_cons.mpr ⟨fun r hr => (tok.done_ok r hr).idx, tok.done_idx⟩ }
        (.sub fun _ ha => ha) (fun e he ht => Or.inl ?_),
      sum_set_lt hth (by simp [Thread.measure, hc])⟩
    · -- the new record is matched by the log entry that `hlin` promises
      rcases List.mem_cons.mp hr with rfl | hr'
      · obtain ⟨e, he, etid, eidx, eop, eout, inv_lt⟩ := hlin
        refine { tid := rfl, idx := Nat.lt_succ_self _,
                 lin := ⟨e, he, etid, eidx, eop, c.clock, ?_, inv_lt, h.stamps e he, Nat.lt_succ_self _⟩ }
        show some (c.clock, th.ret.getD .undefined) = some (c.clock, .ok e.out)
        rw [hret, eout]
        rfl
      · exact (tok.done_ok r hr').mono (Nat.le_succ _) (List.Subset.refl _) (Nat.le_succ _)
    · -- the entry of the operation that was in flight now belongs to the new record
      rcases h.accounts hth he ht with ⟨r, hr, h12⟩ | ⟨h1, hcur, _⟩
      · exact ⟨r, List.mem_cons_of_mem _ hr, h12⟩
      · rw [hc] at hcur
        cases hcur
        exact ⟨_, List.mem_cons_self, h1.symm, rfl⟩

theorem inv_step {s₀ : XState} {c c' : Config} {t : Nat} (h : Inv s₀ c) (hs : stepThread c t = some c') :
    Inv s₀ c' := (Inv.step h hs).1

theorem inv_init (s₀ : XState) (progs : List (List XOp)) : Inv s₀ (Config.init s₀ progs) := by
  have hget : ∀ {t : Nat} {th : Thread}, (Config.init s₀ progs).threads[t]? = some th → ∃ p, th = { todo := p } :=
    fun h => (Option.map_eq_some_iff.mp (List.getElem?_map.symm.trans h)).imp fun _ hp => hp.2.symm
  refine ⟨rfl, rfl, fun _ he => (nomatch he), .nil, .nil, fun t th h => ?_, fun i j thi thj _ hi _ a ha => ?_,
    fun _ he => (nomatch he)⟩
  · obtain ⟨p, rfl⟩ := hget h
    exact ⟨.idle rfl rfl rfl, fun hc => absurd rfl hc, fun _ hr => (nomatch hr), .nil⟩
  · obtain ⟨p, rfl⟩ := hget hi
    exact nomatch ha

theorem inv_run (h : Inv s₀ c) (sched : List Nat) : Inv s₀ (run c sched) :=
  sched.foldlRecOn sched1 h fun c h t _ => by
    unfold sched1
    cases hs : stepThread c t with
    | none => exact h
    | some c' => exact inv_step h hs

theorem inv_reachable (s₀ : XState) (progs : List (List XOp)) (sched : List Nat) :
    Inv s₀ (run (Config.init s₀ progs) sched) := inv_run (inv_init s₀ progs) sched

end Cppcms.C09
