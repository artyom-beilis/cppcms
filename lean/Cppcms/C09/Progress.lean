import Cppcms.C09.Reach
/-!
# C09 — progress: no deadlock, every operation completes
-/
namespace Cppcms.C09
open Cppcms Cppcms.C07

variable {s₀ : XState} {c : Config} {t : Nat} {th : Thread} {l : LockId} {m : Mode}

def Waits (th : Thread) (l : LockId) (m : Mode) : Prop :=
  ∃ op rest, th.cur = some op ∧ th.code = .acq l m :: rest

theorem step_waits (hth : c.threads[t]? = some th) (hw : Waits th l m) (hacq : canAcq c l m = true) :
    ∃ c', stepThread c t = some c' := by
  obtain ⟨op, rest, hc, hcode⟩ := hw
  rw [stepThread_busy hth hc, hcode]
  exact ⟨_, if_pos hacq⟩

theorem Phase.classify (h : Phase c.s c.log t th) (hth : c.threads[t]? = some th) :
    (∃ c', stepThread c t = some c') ∨ (th.finished = true ∧ th.held = []) ∨
    (∃ m, Waits th .access m ∧ th.held = []) ∨ (Waits th .lru .exclusive ∧ th.held = [(.access, .shared)]) := by
  cases h with
  | idle hc hcode hheld =>
    cases ht : th.todo with
    | nil => exact Or.inr (Or.inl ⟨by simp [Thread.finished, hc, ht], hheld⟩)
    | cons op more => exact Or.inl ⟨_, by rw [stepThread_idle hth hc, ht]⟩
  | f0 now k hc hcode hheld hn => exact Or.inr (Or.inr (Or.inl ⟨_, ⟨_, _, hc, hcode⟩, hheld⟩))
  | f1 now k hc hcode hheld hn => exact Or.inl ⟨_, by rw [stepThread_busy hth hc, hcode]⟩
  | f2 now k out hc hcode hheld hp hl hn => exact Or.inr (Or.inr (Or.inr ⟨⟨_, _, hc, hcode⟩, hheld⟩))
  | f3 now k out hc hcode hheld hp hl hn => exact Or.inl ⟨_, by rw [stepThread_busy hth hc, hcode]⟩
  | f4 now k out hc hcode hheld hp hl hlin => exact Or.inl ⟨_, by rw [stepThread_busy hth hc, hcode]⟩
  | f5 now k out hc hcode hheld hp hl hlin => exact Or.inl ⟨_, by rw [stepThread_busy hth hc, hcode]⟩
  | s0 op m a hs hc hcode hheld hn => exact Or.inr (Or.inr (Or.inl ⟨_, ⟨_, _, hc, hcode⟩, hheld⟩))
  | s1 op m a hs hc hcode hheld hn => exact Or.inl ⟨_, by rw [stepThread_busy hth hc, hcode]⟩
  | rel1 op m out hc hcode hheld hret hlin => exact Or.inl ⟨_, by rw [stepThread_busy hth hc, hcode]⟩
  | fin op out hc hcode hheld hret hlin => exact Or.inl ⟨_, by rw [stepThread_busy hth hc, hcode]⟩

theorem deadlock_free_of_inv (h : Inv s₀ c) (hnd : c.allDone = false) : ∃ t c', stepThread c t = some c' := by
  refine Classical.byContradiction fun hstuck => ?_
  have cls := fun t th hget => ((h.thr t th hget).phase.classify hget).resolve_left fun hc' => hstuck ⟨t, hc'⟩
  obtain ⟨th₀, hmem₀, hunf⟩ := List.all_eq_false.mp hnd
  obtain ⟨t₀, hget₀⟩ := List.getElem?_of_mem hmem₀
  -- nobody can move: whoever holds a guard holds the shared `access_lock` and waits for `lru_mutex`
  have held : ∀ th ∈ c.threads, ∀ g ∈ th.held, g = (LockId.access, Mode.shared) ∧ Waits th .lru .exclusive := by
    intro th hth g hg
    obtain ⟨t, hget⟩ := List.getElem?_of_mem hth
    rcases cls t th hget with ⟨_, hh⟩ | ⟨_, _, hh⟩ | ⟨hw, hh⟩
    · rw [hh] at hg; cases hg
    · rw [hh] at hg; cases hg
    · rw [hh] at hg; exact ⟨List.mem_singleton.mp hg, hw⟩
  by_cases hwl : ∃ th ∈ c.threads, Waits th .lru .exclusive
  · -- but then it gets `lru_mutex`
    obtain ⟨th, hth, hw⟩ := hwl
    obtain ⟨t, hget⟩ := List.getElem?_of_mem hth
    exact hstuck ⟨t, step_waits hget hw (canAcq_iff.mpr fun th' hth' g hg => by rw [(held th' hth' g hg).1]; rfl)⟩
  · -- so nobody holds anything, and the unfinished thread gets `access_lock`
    rcases cls t₀ th₀ hget₀ with ⟨hf, _⟩ | ⟨m, hw, _⟩ | ⟨hw, _⟩
    · exact hunf hf
    · exact hstuck ⟨t₀, step_waits hget₀ hw
        (canAcq_iff.mpr fun th' hth' g hg => absurd ⟨th', hth', (held th' hth' g hg).2⟩ hwl)⟩
    · exact hwl ⟨th₀, hmem₀, hw⟩

theorem completes_of_inv (h : Inv s₀ c) : ∃ sched, (run c sched).allDone = true := by
  generalize hn : c.measure = n
  induction n using Nat.strongRecOn generalizing c with
  | _ n ih =>
    cases hd : c.allDone with
    | true => exact ⟨[], hd⟩
    | false =>
      obtain ⟨t, c', hs⟩ := deadlock_free_of_inv h hd
      obtain ⟨sched, hdone⟩ := ih _ (hn ▸ (Inv.step h hs).2) (Inv.step h hs).1 rfl
      refine ⟨t :: sched, ?_⟩
      rw [run, List.foldl_cons, sched1, hs]
      exact hdone

end Cppcms.C09
