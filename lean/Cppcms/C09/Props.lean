import Cppcms.C09.Linz
import Cppcms.C09.Progress
import Cppcms.C09.Judge
/-!
# C09 — property theorems

Concurrent use of `mem_cache` behaves like some sequential order (consistent with real time) of
the same operations; no deadlock; every operation completes.  All statements are about the
interleaving model of `Model.lean`, whose instruction lists are **generated** from the source
(`Gen.prog`).  What is and is not covered (data-race freedom of the compiled accesses and the
pthread primitives: TSan on explored schedules only — PARTIAL): design.d/C09.md.
-/
namespace Cppcms.C09.Props
open Cppcms Cppcms.C07 Cppcms.C09

/-- **Linearizability.**  For every initial cache state, every family of thread programs and every
schedule: the hook log (in chronological order) is a linearization of the observable history —
it contains each completed operation exactly once (plus the pending ones that already took
effect), replaying it through the sequential cache gives exactly the answers the operations
returned, it respects real-time order — and the final shared state **equals** the state of that
sequential replay, LRU order included (the linearisation point of a fetch that hits is its
`lru_mutex` section). -/
theorem linearizable (s₀ : XState) (progs : List (List XOp)) (sched : List Nat) :
    LinearizedBy s₀ (run (Config.init s₀ progs) sched).history (run (Config.init s₀ progs) sched).order ∧
    (run (Config.init s₀ progs) sched).s =
      xrun s₀ ((run (Config.init s₀ progs) sched).order.map (·.op)) :=
  ⟨linearizedBy_of_inv (inv_reachable s₀ progs sched), (inv_reachable s₀ progs sched).state_eq⟩

/-- the observable history of every run is linearizable (Herlihy–Wing) w.r.t. the sequential cache -/
theorem history_linearizable (s₀ : XState) (progs : List (List XOp)) (sched : List Nat) :
    Linearizable s₀ (run (Config.init s₀ progs) sched).history :=
  ⟨_, (linearizable s₀ progs sched).1⟩

/-- operation ids of a run's history are unique (so `LinearizedBy` speaks about one record per id) -/
theorem history_well_formed (s₀ : XState) (progs : List (List XOp)) (sched : List Nat) :
    WellFormed (run (Config.init s₀ progs) sched).history :=
  wellFormed_of_inv (inv_reachable s₀ progs sched)

/-- the judge run by the check on histories recorded from the real code (`c09_model`, `end` lines)
evaluates exactly the predicate of `linearizable` -/
theorem judge_is_predicate (s₀ : XState) (recs : List Rec) (order : List Lin) :
    checkLin s₀ recs order = none ↔ LinearizedBy s₀ recs order := checkLin_iff s₀ recs order

/-- no operation ever returns the model's `undefined` (a read through an iterator whose element
is gone, or no result): every completed operation returned `.ok` -/
theorem no_undefined_result (s₀ : XState) (progs : List (List XOp)) (sched : List Nat)
    (r : Rec) (hr : r ∈ (run (Config.init s₀ progs) sched).history) (t : Nat) (ret : Ret)
    (hresp : r.resp = some (t, ret)) : ∃ o, ret = .ok o := by
  obtain ⟨pre, e, post, -, -, -, -, hret⟩ := (linearizable s₀ progs sched).1.answer hr hresp
  exact ⟨_, hret⟩

def isAdd (e : Lin) : Bool := e.op == .addRef
def isDel (e : Lin) : Bool := e.op == .delRef

theorem xrun_refs (s : XState) (l : List Lin) :
    (xrun s (l.map (·.op))).refs = s.refs + (l.filter isAdd).length - (l.filter isDel).length := by
  induction l generalizing s with
  | nil => simp [xrun]
  | cons e es ih =>
    rw [List.map_cons, xrun, List.foldl_cons, ← xrun, ih]
    cases h : e.op <;> simp [xstep, isAdd, isDel, h] <;> omega

/-- **The reference count counts the handles.**  In every reachable configuration `refs` is the
initial count plus the number of `add_ref`s minus the number of `del_ref`s that have taken effect. -/
theorem refs_counts_handles (s₀ : XState) (progs : List (List XOp)) (sched : List Nat) :
    (run (Config.init s₀ progs) sched).s.refs =
      s₀.refs + ((run (Config.init s₀ progs) sched).order.filter isAdd).length
              - ((run (Config.init s₀ progs) sched).order.filter isDel).length := by
  rw [(linearizable s₀ progs sched).2, xrun_refs]

/-- **The object is destroyed only by the last handle.**  A completed `del_ref()` that returned
`true` (the caller then deletes the cache): at its linearization point the number of handles taken
so far (initial count + `add_ref`s linearized before it) equals the number dropped, this one
included — no handle exists any more; one that returned `false` left `refs ≠ 0`. -/
theorem del_ref_true_iff_last (s₀ : XState) (progs : List (List XOp)) (sched : List Nat)
    (r : Rec) (hr : r ∈ (run (Config.init s₀ progs) sched).history) (hop : r.op = .delRef)
    (tr : Nat) (last : Bool) (hresp : r.resp = some (tr, .ok (.dropped last))) :
    ∃ pre e post, (run (Config.init s₀ progs) sched).order = pre ++ e :: post ∧ e.tid = r.tid ∧ e.idx = r.idx ∧
      (last = true ↔ s₀.refs + (pre.filter isAdd).length = (pre.filter isDel).length + 1) := by
  obtain ⟨pre, e, post, hsplit, h1, h2, _, h4⟩ := (linearizable s₀ progs sched).1.answer hr hresp
  refine ⟨pre, e, post, hsplit, h1, h2, ?_⟩
  rw [hop] at h4
  simp only [xstep, Ret.ok.injEq, XOut.dropped.injEq] at h4
  rw [h4, xrun_refs, decide_eq_true_eq]
  omega

/-- **Deadlock freedom.**  In every reachable configuration in which some operation is still to be
invoked or in flight, some thread can move. -/
theorem deadlock_free (s₀ : XState) (progs : List (List XOp)) (sched : List Nat)
    (hnd : (run (Config.init s₀ progs) sched).allDone = false) :
    ∃ t c', stepThread (run (Config.init s₀ progs) sched) t = some c' :=
  deadlock_free_of_inv (inv_reachable s₀ progs sched) hnd

/-- every effective step from a reachable configuration decreases `Config.measure`
(remaining instructions + remaining invocations/responses): no livelock, runs are finite -/
theorem step_decreases_measure (s₀ : XState) (progs : List (List XOp)) (sched : List Nat) (t : Nat) (c' : Config)
    (hs : stepThread (run (Config.init s₀ progs) sched) t = some c') :
    c'.measure < (run (Config.init s₀ progs) sched).measure :=
  (Inv.step (inv_reachable s₀ progs sched) hs).2

/-- **Every operation completes.**  From every reachable configuration (i) some continuation of
the schedule completes every operation of every thread program, and (ii) a run that cannot be
continued — no thread can move — has completed all of them. -/
theorem every_op_completes (s₀ : XState) (progs : List (List XOp)) (sched : List Nat) :
    (∃ more, (run (Config.init s₀ progs) (sched ++ more)).allDone = true) ∧
    ((∀ t, stepThread (run (Config.init s₀ progs) sched) t = none) →
      (run (Config.init s₀ progs) sched).allDone = true) := by
  constructor
  · obtain ⟨more, h⟩ := completes_of_inv (inv_reachable s₀ progs sched)
    exact ⟨more, by rw [run, List.foldl_append]; exact h⟩
  · intro hstuck
    cases hd : (run (Config.init s₀ progs) sched).allDone with
    | true => rfl
    | false =>
      obtain ⟨t, c', hs⟩ := deadlock_free s₀ progs sched hd
      rw [hstuck t] at hs; cases hs

section Examples

private def kA : Key := [97]
private def tT : Key := [116]
private def s0 : XState := ⟨State.init 0, 0⟩
/-- thread 0: store k (trigger t), fetch k; thread 1: fetch k, rise t, fetch k -/
private def demoProgs : List (List XOp) :=
  [[.cache (.store 1000 kA [1, 2, 3] [tT] 2000), .cache (.fetch 1000 kA)],
   [.cache (.fetch 1000 kA), .cache (.rise tT), .cache (.fetch 1000 kA)]]

/-- an interleaving in which thread 1's first fetch overlaps thread 0's store (picking a blocked
thread is a no-op, so the tail just lets everybody finish) -/
private def demoSched : List Nat :=
  [0, 1, 0, 1, 0, 1, 0, 0, 0, 1, 0, 1, 0, 1, 0, 1, 0, 1, 0, 1] ++ (List.replicate 12 [0, 1]).flatten ++ List.replicate 12 1

private def demo : Config := run (Config.init s0 demoProgs) demoSched

/-- everything completed; five operations were linearized, the threads interleaved -/
example : demo.allDone = true ∧ demo.order.map (fun e => (e.tid, e.idx, e.stamp)) =
    [(0, 0, 3), (1, 0, 12), (0, 1, 16), (1, 1, 25), (1, 2, 30)] := by decide +kernel
/-- the executable judge accepts the model's own history (as `linearizable` says it must) -/
example : checkLin s0 demo.history demo.order = none := by decide +kernel
/-- hypotheses of `fetch_hit_is_latest_store` are met: thread 1's first fetch — invoked (stamp 1)
before thread 0's store responded (stamp 5) — hit with the stored value -/
example : (⟨1, 0, .cache (.fetch 1000 kA), 1, some (19, .ok (.cache (.hit [1, 2, 3] [kA, tT] 2000 0)))⟩ : Rec) ∈ demo.history ∧
    (⟨0, 0, .cache (.store 1000 kA [1, 2, 3] [tT] 2000), 0, some (5, .ok (.cache .done))⟩ : Rec) ∈ demo.history := by decide +kernel
/-- … and the fetch after the rise misses -/
example : (⟨1, 2, .cache (.fetch 1000 kA), 28, some (32, .ok (.cache .miss))⟩ : Rec) ∈ demo.history := by decide +kernel

private def demo2 : Config :=
  run (Config.init s0 [[.cache (.store 1000 kA [1] [tT] 2000), .cache (.store 1000 kA [2] [tT] 2000)],
                       [.cache (.rise tT), .cache (.fetch 1000 kA)]])
    (List.replicate 5 0 ++ List.replicate 5 1 ++ List.replicate 5 0 ++ List.replicate 10 1)
/-- hypotheses of `no_value_after_trigger_rise` are met: rise of `t` responded (9) before the fetch
was invoked (15); the fetch hit with `t` among its triggers — the value of the store invoked at
10, after the rise -/
example : (⟨1, 0, .cache (.rise tT), 5, some (9, .ok (.cache .done))⟩ : Rec) ∈ demo2.history ∧
    (⟨1, 1, .cache (.fetch 1000 kA), 15, some (23, .ok (.cache (.hit [2] [kA, tT] 2000 1)))⟩ : Rec) ∈ demo2.history ∧
    (⟨0, 1, .cache (.store 1000 kA [2] [tT] 2000), 10, some (14, .ok (.cache .done))⟩ : Rec) ∈ demo2.history := by decide +kernel

/-- a reachable configuration that is not finished (hypothesis of `deadlock_free`): thread 0 holds
`access_lock` exclusively, thread 1 is blocked on it, thread 0 can move -/
example : (run (Config.init s0 demoProgs) [0, 0, 1]).allDone = false ∧
    (stepThread (run (Config.init s0 demoProgs) [0, 0, 1]) 1).isNone = true ∧
    (stepThread (run (Config.init s0 demoProgs) [0, 0, 1]) 0).isSome = true := by decide +kernel

/-- handles: the owner holds one reference (`refs = 1`); two threads copy and drop a handle around
a fetch, interleaved: no `del_ref` returns `true`, the count is back to 1 (hypotheses of
`del_ref_true_iff_last` / an instance of `refs_counts_handles`) -/
private def demo3 : Config :=
  run (Config.init ⟨State.init 0, 1⟩ [[.addRef, .cache (.fetch 1000 kA), .delRef], [.addRef, .cache .stats, .delRef]])
    ((List.replicate 20 [0, 1]).flatten ++ List.replicate 20 0 ++ List.replicate 20 1)
example : demo3.allDone = true ∧ demo3.s.refs = 1 ∧
    (demo3.history.filter fun r => r.op == .delRef).map (fun r => r.resp.map (·.2)) =
      [some (.ok (.dropped false)), some (.ok (.dropped false))] := by decide +kernel

end Examples

end Cppcms.C09.Props
