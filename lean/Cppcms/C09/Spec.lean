import Cppcms.C07.Model
import Cppcms.C09.Types
/-!
# C09 — specification side: recorded concurrent histories and linearizability

Independent of the interleaving model (`Model.lean`) and of the generated lock table (`Gen.lean`).
The *sequential specification* is the cache of C07 (`Cppcms.C07.step`, which property C07 relates
to the abstract key→entry map).

A history is what a multi-threaded client can observe: for every operation the thread that issued
it, its position in that thread's program, a stamp taken before the call, and — once it returned —
a stamp taken after the call and the result.  Stamps come from one global counter, so "A responded
before B was invoked" is `A.res < B.inv`.

`LinearizedBy s₀ recs order` says that `order` — a list of (operation, claimed sequential answer)
— is a *linearization* of the history `recs` (Herlihy & Wing): it contains every completed
operation (and possibly some pending ones), each once; executing it sequentially from `s₀` gives
exactly the claimed answers; every completed operation returned exactly its claimed answer; and
the order respects real time.  This very predicate is evaluated by the driver's judge on the
histories recorded from the real code, with `order` = the order of the hook's stamps.
-/
namespace Cppcms.C09
open Cppcms Cppcms.C07

/-! ### the sequential object: C07's cache plus the intrusive reference count

`mem_cache` is handed around as `booster::intrusive_ptr<base_cache>`: copying a handle calls
`add_ref()`, dropping one calls `del_ref()` and deletes the object when that returns `true`.
`refs` is shared state like the indexes; the two functions are operations like the others. -/

inductive XOp
  | cache (op : Op)
  | addRef
  | delRef
deriving DecidableEq, Repr

inductive XOut
  | cache (o : Out)
  | added
  /-- `del_ref()` returned `last`: `true` = the caller must delete the object -/
  | dropped (last : Bool)
deriving DecidableEq, Repr

structure XState where
  cache : State
  /-- `int refs` -/
  refs : Int := 0
deriving Repr

def xstep (s : XState) : XOp → XState × XOut
  | .cache op => ({ s with cache := (step s.cache op).1 }, .cache (step s.cache op).2)
  | .addRef => ({ s with refs := s.refs + 1 }, .added)
  | .delRef => ({ s with refs := s.refs - 1 }, .dropped (decide (s.refs - 1 = 0)))

def xrun (s : XState) (ops : List XOp) : XState := ops.foldl (fun s op => (xstep s op).1) s

/-- what a call returned: an answer of the sequential vocabulary, or `undefined` — the model's
marker for "read through an iterator whose element is gone" / "no result was produced" (the real
code would exhibit undefined behaviour there) -/
inductive Ret
  | ok (o : XOut)
  | undefined
deriving DecidableEq, Repr

/-- one operation of a recorded history; `resp = none` while it has not returned -/
structure Rec where
  tid : Nat
  idx : Nat
  op : XOp
  inv : Nat
  resp : Option (Nat × Ret) := none
deriving DecidableEq, Repr

/-- one element of a claimed linearization: which operation, at which stamp it took effect, and
the answer the sequential specification gives at that point -/
structure Lin where
  tid : Nat
  idx : Nat
  op : XOp
  stamp : Nat
  out : XOut
deriving DecidableEq, Repr

/-- answers of the sequential execution of `ops` from `s` -/
def seqOuts (s : XState) : List XOp → List XOut
  | [] => []
  | op :: ops => (xstep s op).2 :: seqOuts (xstep s op).1 ops

/-- every completed record appears in `order` with the answer it returned -/
def CompleteIn (order : List Lin) (r : Rec) : Prop :=
  match r.resp with
  | none => True
  | some (_, ret) => ∃ e ∈ order, e.tid = r.tid ∧ e.idx = r.idx ∧ e.op = r.op ∧ ret = .ok e.out

/-- `b` (later in the order) did not respond before `a` (earlier in the order) was invoked -/
def RealTimeOk (recs : List Rec) (a b : Lin) : Prop :=
  ∀ ra ∈ recs, ∀ rb ∈ recs, ra.tid = a.tid → ra.idx = a.idx → rb.tid = b.tid → rb.idx = b.idx →
    match rb.resp with
    | none => True
    | some (t, _) => ¬ t < ra.inv

structure LinearizedBy (s₀ : XState) (recs : List Rec) (order : List Lin) : Prop where
  /-- every operation occurs at most once -/
  nodup : (order.map fun e => (e.tid, e.idx)).Nodup
  /-- every completed operation is in the order, and returned the claimed answer -/
  complete : ∀ r ∈ recs, CompleteIn order r
  /-- only operations of the history (completed or pending) are in the order -/
  sound : ∀ e ∈ order, ∃ r ∈ recs, r.tid = e.tid ∧ r.idx = e.idx ∧ r.op = e.op
  /-- the claimed answers are those of the sequential cache -/
  legal : seqOuts s₀ (order.map (·.op)) = order.map (·.out)
  /-- real-time order is respected -/
  realtime : order.Pairwise (RealTimeOk recs)

/-- the history is linearizable w.r.t. the sequential cache started in `s₀` -/
def Linearizable (s₀ : XState) (recs : List Rec) : Prop := ∃ order, LinearizedBy s₀ recs order

/-- histories are well formed: an operation id names one record -/
def WellFormed (recs : List Rec) : Prop := (recs.map fun r => (r.tid, r.idx)).Nodup

/-! ### executable version (used by the driver's judge on histories recorded from the real code);
`checkLin_iff` (Judge.lean) `: checkLin s₀ recs order = none ↔ LinearizedBy s₀ recs order` -/

def completeInB (order : List Lin) (r : Rec) : Bool :=
  match r.resp with
  | none => true
  | some (_, ret) => order.any fun e => e.tid == r.tid && e.idx == r.idx && e.op == r.op && ret == .ok e.out

def realTimeOkB (recs : List Rec) (a b : Lin) : Bool :=
  (recs.filter fun ra => ra.tid == a.tid && ra.idx == a.idx).all fun ra =>
    (recs.filter fun rb => rb.tid == b.tid && rb.idx == b.idx).all fun rb =>
      match rb.resp with
      | none => true
      | some (t, _) => !(decide (t < ra.inv))

def pairwiseB {α : Type} (r : α → α → Bool) : List α → Bool
  | [] => true
  | a :: l => l.all (r a) && pairwiseB r l

def nodupB {α : Type} [BEq α] : List α → Bool
  | [] => true
  | a :: l => !l.contains a && nodupB l

/-- which clause of `LinearizedBy` fails first (`none` = all hold) -/
def checkLin (s₀ : XState) (recs : List Rec) (order : List Lin) : Option String :=
  if !nodupB (order.map fun e => (e.tid, e.idx)) then some "operation-linearized-twice"
  else if !recs.all (completeInB order) then some "completed-operation-missing-or-wrong-answer"
  else if !order.all (fun e => recs.any fun r => r.tid == e.tid && r.idx == e.idx && r.op == e.op) then some "unknown-operation-in-order"
  else if seqOuts s₀ (order.map (·.op)) != order.map (·.out) then some "not-a-sequential-execution"
  else if !pairwiseB (realTimeOkB recs) order then some "real-time-order-violated"
  else none

/-! ### the lock discipline (rule that the generated access table must satisfy) -/

def holds (h : Held) (l : LockId) (m : Mode) : Bool := h.contains (l, m)

/-- the exclusive lock on `access_lock` is held -/
def exclusiveOk (h : Held) : Bool := holds h .access .exclusive
/-- at least the shared lock on `access_lock` is held -/
def sharedOk (h : Held) : Bool := holds h .access .shared || holds h .access .exclusive
/-- exclusive lock, or shared lock together with `lru_mutex` -/
def lruOk (h : Held) : Bool := exclusiveOk h || (holds h .access .shared && holds h .lru .exclusive)

/-- the LRU list and the containers' iterators into it: the only state written by readers -/
def Field.isLru : Field → Bool
  | .lru | .cLru => true
  | _ => false

/-- The rule.  Writes need the exclusive lock, reads at least the shared lock — except `lru` and
`container.lru`, which may be written (and then must also be *read*) under the shared lock
together with `lru_mutex`. -/
def Access.ok (a : Access) : Bool :=
  if a.field.isLru then lruOk a.held
  else if a.write then exclusiveOk a.held
  else sharedOk a.held

/-- two guards that cannot be alive on two different threads at the same time -/
def guardsConflict (a b : LockId × Mode) : Bool :=
  a.1 == b.1 && (a.2 == .exclusive || b.2 == .exclusive)

/-- two segments holding these guard sets can never overlap in time -/
def mutuallyExcluded (h₁ h₂ : Held) : Bool := h₁.any fun a => h₂.any fun b => guardsConflict a b

def allMethods : List Method := [.fetch, .store, .rise, .remove, .clear, .stats, .addRef, .delRef]

end Cppcms.C09
