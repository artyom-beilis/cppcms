import Cppcms.C09.Model
/-!
# C09 — the invariant of the interleaving model

Linearisation points, where the hook enters the operation in the log: the critical section of a mutator or `stats`, the
lookup of a fetch that misses, the `lru_mutex` section of a fetch that hits.  `Inv`: the shared state is the sequential run
of the log, guards of different threads are compatible, every log entry belongs to an operation of its thread, and every
thread is in a `Phase`.  Between lookup and copy-out a reader carries a `Live` fact about its entry; it survives other
threads' steps because a body needs the exclusive guard, so no reader is in those phases then, and a splice only changes
`lru` (`Phase.frame`).
-/
namespace Cppcms.C09
open Cppcms Cppcms.C07

/-- operations with a single segment: guard mode and the segment -/
def simpleOp : XOp → Option (Mode × Action)
  | .cache (.fetch _ _) => none
  | .cache .stats => some (.shared, .readStats)
  | _ => some (.exclusive, .body)

-- these `rfl`s fail when the guard structure of the source changes
theorem prog_fetch (now : Time) (k : Key) :
    Gen.prog (methodOf (.cache (.fetch now k))) =
      [.acq .access .shared, .act .lookup, .acq .lru .exclusive, .act .splice, .rel .lru, .act .copyOut, .rel .access] := rfl

theorem prog_simple {op : XOp} {m : Mode} {a : Action} (h : simpleOp op = some (m, a)) :
    Gen.prog (methodOf op) = [.acq .access m, .act a, .rel .access] := by
  rcases op with (_ | _ | _ | _ | _ | _) | _ | _ <;> cases h <;> rfl

theorem xstep_shared_simpleOp {op : XOp} {a : Action} (h : simpleOp op = some (.shared, a)) (s : XState) :
    (xstep s op).1 = s := by
  rcases op with (_ | _ | _ | _ | _ | _) | _ | _ <;> cases h
  rfl

/-- operation `n` of thread `t` is not in the hook log yet ("not linearized") -/
def NotLind (log : List Lin) (t n : Nat) : Prop := ∀ e ∈ log, ¬ (e.tid = t ∧ e.idx = n)

/-- … is in the log, as `op` with the sequential answer `out`, stamped after its invocation `inv` -/
def Lind (log : List Lin) (t n : Nat) (op : XOp) (out : XOut) (inv : Nat) : Prop :=
  ∃ e ∈ log, e.tid = t ∧ e.idx = n ∧ e.op = op ∧ e.out = out ∧ inv < e.stamp

/-- what a reader knows between lookup and copy-out: a fetch of `k` at `now` hits and answers `out` -/
def Live (s : XState) (now : Time) (k : Key) (out : XOut) : Prop :=
  ∃ cont, alookup k s.cache.primary = some cont ∧ C07.Gen.fetchExpired cont.deadline now = false ∧
    out = .cache (.hit cont.data cont.trigs cont.deadline cont.gen)

/-- Where thread `t` stands in the generated instruction list (`code`) and what it holds there (`held`).  A fetch: `f0` before
`access_lock`, `f1` before the lookup, `f2` found live, before `lru_mutex`, `f3` before the splice, `f4` spliced (from here
on in the log), `f5` before the copy-out; a miss goes from `f1` to `rel1`.  A single-segment operation: `s0`, `s1`.
`rel1`: result there, one guard left; `fin`: about to respond. -/
inductive Phase (s : XState) (log : List Lin) (t : Nat) (th : Thread) : Prop
  | idle (hc : th.cur = none) (hcode : th.code = []) (hheld : th.held = [])
  | f0 (now : Time) (k : Key) (hc : th.cur = some (.cache (.fetch now k)))
      (hcode : th.code = [.acq .access .shared, .act .lookup, .acq .lru .exclusive, .act .splice, .rel .lru, .act .copyOut, .rel .access])
      (hheld : th.held = []) (hn : NotLind log t th.done.length)
  | f1 (now : Time) (k : Key) (hc : th.cur = some (.cache (.fetch now k)))
      (hcode : th.code = [.act .lookup, .acq .lru .exclusive, .act .splice, .rel .lru, .act .copyOut, .rel .access])
      (hheld : th.held = [(.access, .shared)]) (hn : NotLind log t th.done.length)
  | f2 (now : Time) (k : Key) (out : XOut) (hc : th.cur = some (.cache (.fetch now k)))
      (hcode : th.code = [.acq .lru .exclusive, .act .splice, .rel .lru, .act .copyOut, .rel .access])
      (hheld : th.held = [(.access, .shared)]) (hp : th.ptr = some k) (hl : Live s now k out)
      (hn : NotLind log t th.done.length)
  | f3 (now : Time) (k : Key) (out : XOut) (hc : th.cur = some (.cache (.fetch now k)))
      (hcode : th.code = [.act .splice, .rel .lru, .act .copyOut, .rel .access])
      (hheld : th.held = [(.lru, .exclusive), (.access, .shared)]) (hp : th.ptr = some k) (hl : Live s now k out)
      (hn : NotLind log t th.done.length)
  | f4 (now : Time) (k : Key) (out : XOut) (hc : th.cur = some (.cache (.fetch now k)))
      (hcode : th.code = [.rel .lru, .act .copyOut, .rel .access])
      (hheld : th.held = [(.lru, .exclusive), (.access, .shared)]) (hp : th.ptr = some k) (hl : Live s now k out)
      (hlin : Lind log t th.done.length (.cache (.fetch now k)) out th.inv)
  | f5 (now : Time) (k : Key) (out : XOut) (hc : th.cur = some (.cache (.fetch now k)))
      (hcode : th.code = [.act .copyOut, .rel .access])
      (hheld : th.held = [(.access, .shared)]) (hp : th.ptr = some k) (hl : Live s now k out)
      (hlin : Lind log t th.done.length (.cache (.fetch now k)) out th.inv)
  | s0 (op : XOp) (m : Mode) (a : Action) (hs : simpleOp op = some (m, a)) (hc : th.cur = some op)
      (hcode : th.code = [.acq .access m, .act a, .rel .access]) (hheld : th.held = [])
      (hn : NotLind log t th.done.length)
  | s1 (op : XOp) (m : Mode) (a : Action) (hs : simpleOp op = some (m, a)) (hc : th.cur = some op)
      (hcode : th.code = [.act a, .rel .access]) (hheld : th.held = [(.access, m)])
      (hn : NotLind log t th.done.length)
  | rel1 (op : XOp) (m : Mode) (out : XOut) (hc : th.cur = some op)
      (hcode : th.code = [.rel .access]) (hheld : th.held = [(.access, m)]) (hret : th.ret = some (.ok out))
      (hlin : Lind log t th.done.length op out th.inv)
  | fin (op : XOp) (out : XOut) (hc : th.cur = some op)
      (hcode : th.code = []) (hheld : th.held = []) (hret : th.ret = some (.ok out))
      (hlin : Lind log t th.done.length op out th.inv)

/-- a completed record: in the log, returned the log's answer, invocation < linearisation < response < now -/
structure DoneOk (clock : Nat) (log : List Lin) (t n : Nat) (r : Rec) : Prop where
  tid : r.tid = t
  idx : r.idx < n
  lin : ∃ e ∈ log, e.tid = t ∧ e.idx = r.idx ∧ e.op = r.op ∧
    ∃ tr, r.resp = some (tr, .ok e.out) ∧ r.inv < e.stamp ∧ e.stamp < tr ∧ tr < clock

/-- what the invariant says of one thread -/
structure TOk (c : Config) (t : Nat) (th : Thread) : Prop where
  phase : Phase c.s c.log t th
  inv_lt : th.cur ≠ none → th.inv < c.clock
  done_ok : ∀ r ∈ th.done, DoneOk c.clock c.log t th.done.length r
  done_idx : th.done.Pairwise (fun a b => b.idx < a.idx)

structure Inv (s₀ : XState) (c : Config) : Prop where
  state_eq : c.s = xrun s₀ (c.log.reverse.map (·.op))
  legal : seqOuts s₀ (c.log.reverse.map (·.op)) = c.log.reverse.map (·.out)
  stamps : ∀ e ∈ c.log, e.stamp < c.clock
  sorted : c.log.Pairwise (fun a b => b.stamp < a.stamp)
  nodup : (c.log.map fun e => (e.tid, e.idx)).Nodup
  thr : ∀ (t : Nat) (th : Thread), c.threads[t]? = some th → TOk c t th
  /-- the lock state of the model: there is no other -/
  compat : ∀ (i j : Nat) (thi thj : Thread), i ≠ j → c.threads[i]? = some thi → c.threads[j]? = some thj →
    ∀ a ∈ thi.held, ∀ b ∈ thj.held, conflict a b = false
  sound : ∀ e ∈ c.log, ∃ th, c.threads[e.tid]? = some th ∧
    ((∃ r ∈ th.done, r.idx = e.idx ∧ r.op = e.op) ∨
     (e.idx = th.done.length ∧ th.cur = some e.op ∧ th.inv < e.stamp))

/-- the disjunction of `Inv.sound`: `e` belongs to a completed operation of `th` or to the one in flight -/
def Accounts (th : Thread) (e : Lin) : Prop :=
  (∃ r ∈ th.done, r.idx = e.idx ∧ r.op = e.op) ∨ (e.idx = th.done.length ∧ th.cur = some e.op ∧ th.inv < e.stamp)

variable {s₀ s s' : XState} {c c' : Config} {log log' : List Lin} {t n inv : Nat} {th th' : Thread} {e : Lin}
  {op : XOp} {out : XOut} {now : Time} {k : Key}

theorem Inv.accounts (h : Inv s₀ c)
    (hth : c.threads[t]? = some th) (he : e ∈ c.log) (ht : e.tid = t) : Accounts th e := by
  obtain ⟨the, hget, hor⟩ := h.sound e he
  rw [ht, hth] at hget
  cases hget
  exact hor

theorem Inv.notLind_of_idle (h : Inv s₀ c)
    (hth : c.threads[t]? = some th) (hc : th.cur = none) : NotLind c.log t th.done.length := by
  intro e he ⟨h1, h2⟩
  rcases h.accounts hth he h1 with ⟨r, hr, hri, _⟩ | ⟨_, hcur, _⟩
  · exact absurd ((h.thr t th hth).done_ok r hr).idx (by rw [hri, h2]; exact Nat.lt_irrefl _)
  · rw [hc] at hcur; cases hcur

theorem Phase.invoked {more : List XOp} {clock : Nat} (hheld : th.held = []) (hn : NotLind log t th.done.length) :
    Phase s log t { th with todo := more, cur := some op, code := Gen.prog (methodOf op),
                            ptr := none, ret := none, inv := clock } := by
  cases hs : simpleOp op with
  | some p => exact .s0 op p.1 p.2 hs rfl (prog_simple hs) hheld hn
  | none =>
    rcases op with (⟨now, k⟩ | _ | _ | _ | _ | _) | _ | _ <;> cases hs
    exact .f0 now k rfl (prog_fetch now k) hheld hn

theorem xrun_snoc (s : XState) (ops : List XOp) (op : XOp) :
    xrun s (ops ++ [op]) = (xstep (xrun s ops) op).1 := by
  simp [xrun, List.foldl_append]

theorem seqOuts_append (s : XState) (l₁ l₂ : List XOp) :
    seqOuts s (l₁ ++ l₂) = seqOuts s l₁ ++ seqOuts (xrun s l₁) l₂ := by
  induction l₁ generalizing s with
  | nil => rfl
  | cons o os ih => exact congrArg (_ :: ·) (ih _)

theorem step_fetch_live (h : Live s now k out) :
    xstep s (.cache (.fetch now k)) = ({ s with cache := { s.cache with lru := k :: s.cache.lru.erase k } }, out) := by
  obtain ⟨cont, h, he, rfl⟩ := h
  simp [xstep, C07.step, C07.fetch, h, he]

theorem expired_of_not_live (h : ¬ ∃ out, Live s now k out) {cont : Container}
    (hlk : alookup k s.cache.primary = some cont) : C07.Gen.fetchExpired cont.deadline now = true := by
  cases he : C07.Gen.fetchExpired cont.deadline now
  · exact absurd ⟨_, cont, hlk, he, rfl⟩ h
  · rfl

theorem step_fetch_miss (h : ¬ ∃ out, Live s now k out) :
    xstep s (.cache (.fetch now k)) = (s, .cache .miss) := by
  simp only [xstep, C07.step, C07.fetch]
  split
  · rfl
  · next hlk => rw [expired_of_not_live h hlk]; rfl

theorem NotLind.mono (h : NotLind log t n)
    (hnew : ∀ e ∈ log', e ∉ log → e.tid ≠ t) : NotLind log' t n := by
  intro e he hid
  by_cases hin : e ∈ log
  · exact h e hin hid
  · exact hnew e he hin hid.1

theorem Lind.mono (h : Lind log t n op out inv) (hsub : log ⊆ log') : Lind log' t n op out inv := by
  obtain ⟨e, he, h'⟩ := h
  exact ⟨e, hsub he, h'⟩

theorem Live.of_primary_eq (h : Live s now k out)
    (hp : s'.cache.primary = s.cache.primary) : Live s' now k out := by
  unfold Live
  rw [hp]
  exact h

/-- A phase survives another thread's step: either `primary` is untouched, or this thread holds no `access_lock` guard (the
other held it exclusively) and so is in a phase without a `Live` fact. -/
theorem Phase.frame (h : Phase s log t th)
    (hs : s'.cache.primary = s.cache.primary ∨ ∀ g ∈ th.held, g.1 ≠ LockId.access)
    (hsub : log ⊆ log')
    (hnew : ∀ e ∈ log', e ∉ log → e.tid ≠ t) : Phase s' log' t th := by
  have live : ∀ {now k out}, Live s now k out → (LockId.access, Mode.shared) ∈ th.held → Live s' now k out :=
    fun hl hm => hs.elim hl.of_primary_eq fun hs => absurd rfl (hs _ hm)
  cases h with
  | idle hc hcode hheld => exact .idle hc hcode hheld
  | f0 now k hc hcode hheld hn => exact .f0 now k hc hcode hheld (hn.mono hnew)
  | f1 now k hc hcode hheld hn => exact .f1 now k hc hcode hheld (hn.mono hnew)
  | f2 now k out hc hcode hheld hp hl hn =>
    exact .f2 now k out hc hcode hheld hp (live hl (by simp [hheld])) (hn.mono hnew)
  | f3 now k out hc hcode hheld hp hl hn =>
    exact .f3 now k out hc hcode hheld hp (live hl (by simp [hheld])) (hn.mono hnew)
  | f4 now k out hc hcode hheld hp hl hlin =>
    exact .f4 now k out hc hcode hheld hp (live hl (by simp [hheld])) (hlin.mono hsub)
  | f5 now k out hc hcode hheld hp hl hlin =>
    exact .f5 now k out hc hcode hheld hp (live hl (by simp [hheld])) (hlin.mono hsub)
  | s0 op m a hs' hc hcode hheld hn => exact .s0 op m a hs' hc hcode hheld (hn.mono hnew)
  | s1 op m a hs' hc hcode hheld hn => exact .s1 op m a hs' hc hcode hheld (hn.mono hnew)
  | rel1 op m out hc hcode hheld hret hlin => exact .rel1 op m out hc hcode hheld hret (hlin.mono hsub)
  | fin op out hc hcode hheld hret hlin => exact .fin op out hc hcode hheld hret (hlin.mono hsub)

theorem DoneOk.mono {clock clock' n' : Nat} {r : Rec}
    (h : DoneOk clock log t n r) (hc : clock ≤ clock') (hsub : log ⊆ log') (hn : n ≤ n') :
    DoneOk clock' log' t n' r := by
  obtain ⟨e, he, etid, eidx, eop, tr, hresp, inv_lt, lin_lt, resp_lt⟩ := h.lin
  exact { tid := h.tid, idx := Nat.lt_of_lt_of_le h.idx hn,
          lin := ⟨e, hsub he, etid, eidx, eop, tr, hresp, inv_lt, lin_lt, Nat.lt_of_lt_of_le resp_lt hc⟩ }

/-- `th'` is `th` further on in the same operation -/
def SameOp (th th' : Thread) : Prop :=
  th'.todo = th.todo ∧ th'.cur = th.cur ∧ th'.inv = th.inv ∧ th'.done = th.done

theorem SameOp.upd {code : List Instr} {held : Held} {ptr : Option Key} {ret : Option Ret} :
    SameOp th { th with code := code, held := held, ptr := ptr, ret := ret } := ⟨rfl, rfl, rfl, rfl⟩

theorem SameOp.accounts (hs : SameOp th th') (h : Accounts th e) : Accounts th' e := by
  obtain ⟨_, h1, h2, h3⟩ := hs
  unfold Accounts
  rw [h1, h2, h3]
  exact h

theorem TOk.step (h : TOk c t th) (hs : SameOp th th')
    (hphase : Phase c'.s c'.log t th') (hsub : c.log ⊆ c'.log) (hclock : c.clock ≤ c'.clock) :
    TOk c' t th' := by
  obtain ⟨_, h1, h2, h3⟩ := hs
  refine ⟨hphase, fun hc => ?_, fun r hr => ?_, h3 ▸ h.done_idx⟩
  · rw [h2]
    exact Nat.lt_of_lt_of_le (h.inv_lt (h1 ▸ hc)) hclock
  · rw [h3] at hr ⊢
    exact (h.done_ok r hr).mono hclock hsub (Nat.le_refl _)

end Cppcms.C09
