import Cppcms.C09.Model
/-!
# C09 — property theorems about the generated lock table

Evaluated over `Gen.lean`, which `translate/c09.py` regenerates from `src/cache_storage.cpp` on
every run: removing or downgrading a guard in the source changes the table and makes the
corresponding statement false.  `race_free` follows from `discipline_ok`.
-/
namespace Cppcms.C09.Props
open Cppcms Cppcms.C07 Cppcms.C09

/-- Lock discipline of the source (`Gen.accesses` is regenerated on every run):
every write to shared state happens under the exclusive lock, except `lru`/`container.lru`, which
are written — and read — only under the exclusive lock or under the shared lock **and**
`lru_mutex`; every read happens under at least the shared lock. -/
theorem discipline_ok : ∀ m ∈ allMethods, ∀ a ∈ Gen.accesses m, a.ok = true := by decide +kernel

theorem holds_iff {h : Held} {l : LockId} {m : Mode} : holds h l m = true ↔ (l, m) ∈ h := List.contains_iff_mem

theorem Access.ok_cases {a : Access} (h : a.ok = true) :
    (∃ m, (LockId.access, m) ∈ a.held) ∧
    ((LockId.access, Mode.exclusive) ∈ a.held ∨ (a.field.isLru = true ∧ (LockId.lru, Mode.exclusive) ∈ a.held) ∨
      (a.field.isLru = false ∧ a.write = false)) := by
  unfold Access.ok at h
  split at h
  · rename_i hl
    simp only [lruOk, exclusiveOk, Bool.or_eq_true, Bool.and_eq_true, holds_iff] at h
    rcases h with h | ⟨h, h'⟩
    · exact ⟨⟨_, h⟩, Or.inl h⟩
    · exact ⟨⟨_, h⟩, Or.inr (Or.inl ⟨hl, h'⟩)⟩
  · rename_i hl
    split at h
    · rw [exclusiveOk, holds_iff] at h
      exact ⟨⟨_, h⟩, Or.inl h⟩
    · rename_i hw
      simp only [sharedOk, Bool.or_eq_true, holds_iff] at h
      refine ⟨?_, Or.inr (Or.inr ⟨by simpa using hl, by simpa using hw⟩)⟩
      rcases h with h | h <;> exact ⟨_, h⟩

/-- `race_free` speaks of `guardsConflict`, the model's `canAcq` and `Inv.compat` of `conflict` -/
theorem conflict_eq_guardsConflict : conflict = guardsConflict := rfl

theorem mutuallyExcluded_of_mem {h₁ h₂ : Held} {a b : LockId × Mode} (ha : a ∈ h₁) (hb : b ∈ h₂)
    (hc : guardsConflict a b = true) : mutuallyExcluded h₁ h₂ = true :=
  List.any_eq_true.mpr ⟨a, ha, List.any_eq_true.mpr ⟨b, hb, hc⟩⟩

/-- An exclusive `access_lock` conflicts with the other side's `access_lock` in whatever mode; two
accesses without it are either both LRU accesses holding `lru_mutex` or both reads. -/
theorem excluded_of_ok {a₁ a₂ : Access} (h₁ : a₁.ok = true) (h₂ : a₂.ok = true) (hf : a₁.field = a₂.field)
    (hw : (a₁.write || a₂.write) = true) : mutuallyExcluded a₁.held a₂.held = true := by
  obtain ⟨⟨m₁, access₁⟩, c₁⟩ := Access.ok_cases h₁
  obtain ⟨⟨m₂, access₂⟩, c₂⟩ := Access.ok_cases h₂
  rcases c₁ with excl₁ | ⟨lruField₁, mutex₁⟩ | ⟨plain₁, read₁⟩
  · exact mutuallyExcluded_of_mem excl₁ access₂ rfl
  · rcases c₂ with excl₂ | ⟨_, mutex₂⟩ | ⟨plain₂, _⟩
    · exact mutuallyExcluded_of_mem access₁ excl₂ (by cases m₁ <;> rfl)
    · exact mutuallyExcluded_of_mem mutex₁ mutex₂ rfl
    · rw [hf, plain₂] at lruField₁; cases lruField₁
  · rcases c₂ with excl₂ | ⟨lruField₂, _⟩ | ⟨_, read₂⟩
    · exact mutuallyExcluded_of_mem access₁ excl₂ (by cases m₁ <;> rfl)
    · rw [hf, lruField₂] at plain₁; cases plain₁
    · rw [read₁, read₂] at hw; cases hw

/-- Consequence, stated directly on the table: two accesses (of any two virtual methods, helpers
inlined) to the same field, one of them a write, are made under guard sets that cannot be held by
two threads at once.  (About the table; that the model's threads never hold conflicting guards is `Inv.compat`, and the
two are not composed.) -/
theorem race_free : ∀ m₁ ∈ allMethods, ∀ m₂ ∈ allMethods, ∀ a₁ ∈ Gen.accesses m₁, ∀ a₂ ∈ Gen.accesses m₂,
    a₁.field = a₂.field → (a₁.write || a₂.write) = true → mutuallyExcluded a₁.held a₂.held = true :=
  fun m₁ hm₁ m₂ hm₂ a₁ ha₁ a₂ ha₂ => excluded_of_ok (discipline_ok m₁ hm₁ a₁ ha₁) (discipline_ok m₂ hm₂ a₂ ha₂)

/-- **The reference count.**  `refs` is written (`refs++`, `refs--`) and read only by `add_ref` and
`del_ref`, always under the **exclusive** lock — two handle copies/drops can never overlap — and no
cache operation touches it (so the cache operations and the handle operations of a recorded history
can be judged separately). -/
theorem refs_exclusive :
    (∀ m ∈ allMethods, ∀ a ∈ Gen.accesses m, a.field = .refs → exclusiveOk a.held = true) ∧
    (∀ m ∈ [Method.fetch, .store, .rise, .remove, .clear, .stats], ∀ a ∈ Gen.accesses m, a.field ≠ .refs) ∧
    (⟨.refs, true, [(.access, .exclusive)]⟩ ∈ Gen.accesses .addRef) ∧
    (⟨.refs, true, [(.access, .exclusive)]⟩ ∈ Gen.accesses .delRef) := by decide +kernel

/-- no virtual method calls another virtual (locking) method while it holds a guard
(`booster::shared_mutex`/`mutex` are not recursive) -/
theorem no_nested_locking : ∀ x ∈ Gen.nested, x.2.2 = [] := by decide

/-- the hook calls sit exactly at the linearisation points of the model's cache operations, under that segment's guards -/
theorem hooks_at_linearization_points : Gen.hooks = linPoints := by decide

/-- `mem_cache<process_settings>` has the same lock table -/
theorem process_variant_same : Gen.processVariantSame = true := by decide

/-- `private/hash_map.h`: the lookups `mem_cache` performs on its hash maps (`find`, `end`) write nothing
but local variables — decided by the translator from the *bodies* of `hash_map::find`,
`basic_map::find`, `find_in_range`, `get` (and whatever they call), not from their names.  The access
table (`Gen.accesses`, hence `discipline_ok`/`race_free`) classifies every `hash_map` call the same
way: a lookup that re-links its bucket chain would appear there as a write to `primary` under the
shared lock. -/
theorem hash_map_lookup_read_only :
    ("find", false) ∈ Gen.hashMapCalls ∧
    ∀ x ∈ Gen.hashMapCalls, (x.1 = "find" ∨ x.1 = "end" ∨ x.1 = "begin" ∨ x.1 = "size") → x.2 = false := by decide +kernel

/-- static lock order of a guard skeleton: `access_lock` is only ever requested with nothing held,
`lru_mutex` only while holding `access_lock` (and nothing else), and nothing is held at the end -/
def orderOk : Held → List Instr → Bool
  | held, [] => held.isEmpty
  | held, .acq l m :: r =>
    (match l with
     | .access => held.isEmpty
     | .lru => held == [(.access, .shared)] || held == [(.access, .exclusive)]) && orderOk ((l, m) :: held) r
  | held, .rel l :: r => orderOk (release l held) r
  | held, .act _ :: r => orderOk held r

/-- lock order `access_lock → lru_mutex` only, and no guard survives the end of a method -/
theorem lock_order : ∀ m ∈ allMethods, orderOk [] (Gen.prog m) = true := by decide

end Cppcms.C09.Props
