import Cppcms.C09.Props
import Cppcms.C07.Props
/-!
# C09 — what a fetch can return (corollaries of `linearizable` through C07's theorems)

In a module of their own because they are the only part of C09 that depends on `Cppcms.C07.Props`.
-/
namespace Cppcms.C09.Props
open Cppcms Cppcms.C07 Cppcms.C09

/-- the cache operations among a list of operations (`add_ref`/`del_ref` do not touch the cache) -/
def cacheOp : XOp → Option Op
  | .cache op => some op
  | _ => none

theorem cacheOp_eq_some {x : XOp} {op : Op} (h : cacheOp x = some op) : x = .cache op := by
  cases x <;> cases h
  rfl

theorem xrun_cache (s : XState) (ops : List XOp) :
    (xrun s ops).cache = C07.run s.cache (ops.filterMap cacheOp) := by
  induction ops generalizing s with
  | nil => rfl
  | cons o os ih =>
    rw [xrun, List.foldl_cons, ← xrun, ih]
    cases o <;> rfl

theorem filterMap_eq_append_cons {α β : Type} {f : α → Option β} {l : List α} {a : List β} {x : β} {b : List β}
    (h : l.filterMap f = a ++ x :: b) :
    ∃ l₁ e l₂, l = l₁ ++ e :: l₂ ∧ f e = some x ∧ l₁.filterMap f = a ∧ l₂.filterMap f = b := by
  obtain ⟨l₁, l', rfl, h1, h2⟩ := List.filterMap_eq_append_iff.mp h
  obtain ⟨m, e, l₂, rfl, hm, he, h3⟩ := List.filterMap_eq_cons_iff.mp h2
  refine ⟨l₁ ++ m, e, l₂, (List.append_assoc ..).symm, he, ?_, h3⟩
  rw [List.filterMap_append, h1, List.filterMap_eq_nil_iff.mpr hm, List.append_nil]

theorem fetch_hit_of_linearized {limit : Nat} {refs₀ : Int} {recs : List Rec} {order : List Lin}
    (lin : LinearizedBy ⟨State.init limit, refs₀⟩ recs order) {r : Rec} (hr : r ∈ recs)
    {now : Time} {k : Key} (hop : r.op = .cache (.fetch now k))
    {tr : Nat} {v : Val} {trg : List Key} {d : Time} {g : Gen}
    (hresp : r.resp = some (tr, .ok (.cache (.hit v trg d g)))) :
    ∃ P₁ es P₂ ef post,
      order = P₁ ++ es :: (P₂ ++ ef :: post) ∧ ef.tid = r.tid ∧ ef.idx = r.idx ∧ ef.op = r.op ∧
      ∃ now₀ trigs gen env,
        es.op = .cache (Op.store now₀ k v trigs d gen env) ∧
        trg = ownTrigs k trigs ∧
        stamp (xrun ⟨State.init limit, refs₀⟩ (P₁.map (·.op))).cache (Op.store now₀ k v trigs d gen env) = some g ∧
        (∀ e ∈ P₂, ∀ op, e.op = .cache op → op.invalidates k trg = false) ∧ ¬ d < now := by
  obtain ⟨pre, ef, post, rfl, h1, h2, h3, h4⟩ := lin.answer hr hresp
  rw [hop] at h4
  simp only [xstep, Ret.ok.injEq, XOut.cache.injEq] at h4
  rw [xrun_cache, List.filterMap_map] at h4
  obtain ⟨pre', post', now₀, trigs, gen, env, e1, e2, e3, e4, e5⟩ :=
    C07.Props.fetch_returns_latest_store limit none _ now k v trg d g h4.symm
  obtain ⟨P₁, es, P₂, rfl, hes, rfl, rfl⟩ := filterMap_eq_append_cons e1
  refine ⟨P₁, es, P₂, ef, post, by rw [List.append_assoc, List.cons_append], h1, h2, h3,
    now₀, trigs, gen, env, cacheOp_eq_some hes, e2, ?_, fun e' he' op hop' => e4 op ?_, e5⟩
  · rw [xrun_cache, List.filterMap_map]
    exact e3
  · exact List.mem_filterMap.mpr ⟨e', he', congrArg cacheOp hop'⟩

/-- **No torn value, no value of another key, nothing stale.**  A completed `fetch now k` that
returned a hit `(v, trg, d, g)` on a cache started empty (any reference count): the linearization
is `P₁ ++ store :: P₂ ++ fetch :: post` where `store` is a store of *that key* with exactly that
value and deadline, with trigger set `trg` (the given triggers plus the key), stamped `g`, and no
cache operation in `P₂` stores or removes `k`, clears, or raises a member of `trg`; and the
deadline had not passed. -/
theorem fetch_hit_is_latest_store (limit : Nat) (refs₀ : Int) (progs : List (List XOp)) (sched : List Nat)
    (r : Rec) (hr : r ∈ (run (Config.init ⟨State.init limit, refs₀⟩ progs) sched).history)
    (now : Time) (k : Key) (hop : r.op = .cache (.fetch now k))
    (tr : Nat) (v : Val) (trg : List Key) (d : Time) (g : Gen)
    (hresp : r.resp = some (tr, .ok (.cache (.hit v trg d g)))) :
    ∃ P₁ es P₂ ef post,
      (run (Config.init ⟨State.init limit, refs₀⟩ progs) sched).order = P₁ ++ es :: (P₂ ++ ef :: post) ∧
      ef.tid = r.tid ∧ ef.idx = r.idx ∧
      ∃ now₀ trigs gen env,
        es.op = .cache (Op.store now₀ k v trigs d gen env) ∧
        trg = ownTrigs k trigs ∧
        stamp (xrun ⟨State.init limit, refs₀⟩ (P₁.map (·.op))).cache (Op.store now₀ k v trigs d gen env) = some g ∧
        (∀ e ∈ P₂, ∀ op, e.op = .cache op → op.invalidates k trg = false) ∧ ¬ d < now := by
  obtain ⟨P₁, es, P₂, ef, post, hsplit, h1, h2, _, h⟩ :=
    fetch_hit_of_linearized (linearizable ⟨State.init limit, refs₀⟩ progs sched).1 hr hop hresp
  exact ⟨P₁, es, P₂, ef, post, hsplit, h1, h2, h⟩

/-- **No value whose trigger was raised before the fetch began.**  On a cache started empty: if a
`rise t` responded before a fetch was invoked, and the fetch hit with `t` among the returned
triggers, then the value comes from a `store` of that key (same value, deadline, trigger set) that
had **not** responded before that rise was invoked: a value stored before the rise began is never
returned. -/
theorem no_value_after_trigger_rise (limit : Nat) (refs₀ : Int) (progs : List (List XOp)) (sched : List Nat)
    (rf rr : Rec)
    (hrf : rf ∈ (run (Config.init ⟨State.init limit, refs₀⟩ progs) sched).history)
    (hrr : rr ∈ (run (Config.init ⟨State.init limit, refs₀⟩ progs) sched).history)
    (now : Time) (k t : Key) (hopf : rf.op = .cache (.fetch now k)) (hopr : rr.op = .cache (.rise t))
    (trf trr : Nat) (v : Val) (trg : List Key) (d : Time) (g : Gen) (retr : Ret)
    (hrespf : rf.resp = some (trf, .ok (.cache (.hit v trg d g))))
    (hrespr : rr.resp = some (trr, retr))
    (ht : t ∈ trg) (hbefore : trr < rf.inv) :
    ∃ rs ∈ (run (Config.init ⟨State.init limit, refs₀⟩ progs) sched).history,
      (∃ now₀ trigs gen env, rs.op = .cache (Op.store now₀ k v trigs d gen env) ∧ trg = ownTrigs k trigs) ∧
      ∀ ts ret, rs.resp = some (ts, ret) → ¬ ts < rr.inv := by
  have lin := (linearizable ⟨State.init limit, refs₀⟩ progs sched).1
  obtain ⟨P₁, es, P₂, ef, post, hsplit, hf1, hf2, hf3, now₀, trigs, gen, env, hes, e2, _, e4, _⟩ :=
    fetch_hit_of_linearized lin hrf hopf hrespf
  have hrt := lin.realtime
  rw [hsplit] at hrt
  obtain ⟨-, hrt₂, hP₁⟩ := List.pairwise_append.mp hrt
  -- `ef` stands before everything in `post`
  have hpost := (List.pairwise_cons.mp (List.pairwise_append.mp (List.pairwise_cons.mp hrt₂).2).2.1).1
  -- the rise's entry is none of `es`, `ef` (other operations), is not in `P₂` (it would invalidate
  -- the value) and not in `post` (it would have responded before the fetch was invoked): it is in `P₁`
  have hcr := lin.complete rr hrr
  unfold CompleteIn at hcr
  rw [hrespr, hsplit] at hcr
  obtain ⟨er, her, hr1, hr2, hr3, _⟩ := hcr
  rw [hopr] at hr3
  have her_P1 : er ∈ P₁ := by
    simp only [List.mem_append, List.mem_cons] at her
    rcases her with hin | rfl | hin | rfl | hin
    · exact hin
    · rw [hes] at hr3; cases hr3
    · have := e4 er hin _ hr3
      simp [Op.invalidates, ht] at this
    · rw [hf3, hopf] at hr3; cases hr3
    · have := hpost er hin rf hrf rr hrr hf1.symm hf2.symm hr1.symm hr2.symm
      rw [hrespr] at this
      exact absurd hbefore this
  -- so the store's record did not respond before the rise was invoked
  obtain ⟨rs, hrs, hs1, hs2, hs3⟩ := lin.sound es (by rw [hsplit]; simp)
  refine ⟨rs, hrs, ⟨now₀, trigs, gen, env, by rw [hs3, hes], e2⟩, fun ts ret hresps => ?_⟩
  have := hP₁ er her_P1 es List.mem_cons_self rr hrr rs hrs hr1.symm hr2.symm hs1 hs2
  rw [hresps] at this
  exact this

end Cppcms.C09.Props
