import Cppcms.C09.Spec
/-!
# C09 — the executable judge is the property predicate

`checkLin s₀ recs order = none ↔ LinearizedBy s₀ recs order`: what the driver evaluates on the
histories recorded from the real code is exactly the predicate the theorems are about.
-/
namespace Cppcms.C09
open Cppcms Cppcms.C07

theorem nodupB_iff {α : Type} [BEq α] [LawfulBEq α] (l : List α) : nodupB l = true ↔ l.Nodup := by
  induction l with
  | nil => simp [nodupB]
  | cons a l ih => simp [nodupB, ih, List.nodup_cons]

theorem pairwiseB_iff {α : Type} {r : α → α → Bool} {R : α → α → Prop} (h : ∀ a b, r a b = true ↔ R a b)
    (l : List α) : pairwiseB r l = true ↔ l.Pairwise R := by
  induction l with
  | nil => simp [pairwiseB]
  | cons a l ih => simp [pairwiseB, ih, List.pairwise_cons, h]

theorem completeInB_iff (order : List Lin) (r : Rec) : completeInB order r = true ↔ CompleteIn order r := by
  unfold completeInB CompleteIn
  cases r.resp with
  | none => simp
  | some p => simp only [List.any_eq_true, Bool.and_eq_true, beq_iff_eq, and_assoc]

theorem realTimeOkB_iff (recs : List Rec) (a b : Lin) : realTimeOkB recs a b = true ↔ RealTimeOk recs a b := by
  have resp : ∀ (o : Option (Nat × Ret)) (n : Nat),
      (match o with | none => true | some (t, _) => !decide (t < n)) = true ↔
        (match o with | none => True | some (t, _) => ¬ t < n) := by
    intro o n
    rcases o with _ | ⟨t, _⟩ <;> simp
  unfold realTimeOkB RealTimeOk
  simp only [List.all_eq_true, List.mem_filter, Bool.and_eq_true, beq_iff_eq, and_imp]
  exact ⟨fun h ra hra rb hrb h1 h2 h3 h4 => (resp rb.resp ra.inv).mp (h ra hra h1 h2 rb hrb h3 h4),
    fun h ra hra h1 h2 rb hrb h3 h4 => (resp rb.resp ra.inv).mpr (h ra hra rb hrb h1 h2 h3 h4)⟩

theorem ite_some_eq_none {α : Type} {p : Prop} [Decidable p] {x : α} {r : Option α} :
    (if p then some x else r) = none ↔ ¬ p ∧ r = none := by
  split <;> simp [*]

theorem checkLin_iff (s₀ : XState) (recs : List Rec) (order : List Lin) :
    checkLin s₀ recs order = none ↔ LinearizedBy s₀ recs order := by
  unfold checkLin
  simp only [ite_some_eq_none, Bool.not_eq_true', Bool.not_eq_false, bne_iff_ne, ne_eq, Decidable.not_not,
    nodupB_iff, List.all_eq_true, completeInB_iff, List.any_eq_true, Bool.and_eq_true, beq_iff_eq,
    pairwiseB_iff (realTimeOkB_iff recs), and_true, and_assoc]
  exact ⟨fun ⟨h1, h2, h3, h4, h5⟩ => ⟨h1, h2, h3, h4, h5⟩, fun h => ⟨h.nodup, h.complete, h.sound, h.legal, h.realtime⟩⟩
end Cppcms.C09
