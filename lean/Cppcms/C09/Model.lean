import Cppcms.Common
import Cppcms.C07.Model
import Cppcms.C09.Gen
import Cppcms.C09.Spec
/-!
# C09 — interleaving model of `mem_cache` used from several threads

Small-step semantics over the *concrete* cache state of C07 (`Cppcms.C07.State`: the four indexes
and the counters).  Every thread runs a program (a list of `XOp`: `C07.Op` or `add_ref`/`del_ref`).  An operation is executed as
the instruction list `Gen.prog (methodOf op)` — the guard skeleton **generated from the source**:

* `acq l m` — construction of a guard object: enabled iff no thread holds `l` in a conflicting
  way (`shared_mutex`: readers exclude writers, writers exclude everybody; `mutex`: one holder);
  a disabled thread does not move (the scheduler's choice of it is a no-op);
* `rel l`   — end of the guard's scope;
* `act a`   — one *atomic segment*: the statements between two lock operations.  Atomicity of a
  segment is justified by `Props.race_free` (from `Props.discipline_ok`: no two segments that may overlap in time touch
  the same field unless both only read it); it is an assumption of this model, observed on the
  real code by ThreadSanitizer only (partial claim, see design.d/C09.md).

Segments of `fetch now k` (the order is the generated one):
`lookup` reads `primary` (and the deadline): on a miss / expired entry the result is `miss` and
the function returns — RAII releases the guards held, modelled by replacing the remaining code
with `rel`s; otherwise the iterator `p` (= the key, as in C07) is kept in `ptr`.
`splice` moves `p`'s LRU node to the front (under `lru_mutex`).
`copyOut` reads *through the iterator at that moment*: value, triggers, deadline, generation of
whatever `primary` holds under `p` now; `undefined` when the element is gone.
Mutators (`store`, `rise`, `remove`, `clear`) have one segment `body` = the C07 step; `stats` one
segment `readStats`.  `add_ref`/`del_ref` (copying / dropping an `intrusive_ptr` handle) are operations
too: one segment `body` = `refs++` / `refs--; return refs==0` (`Spec.xstep`).

Instrumentation (models the `CPPCMS_VERIF_HOOKS` callback and the harness): a global `clock`
ticks at every step; an operation records the clock at its invocation (`inv`) and response;
the hook — at `lookup` on a miss, at `splice`, at `body`, at `readStats` (placement generated:
`Gen.hooks`) — appends the operation to the global `log` with the clock value.  The `out` field of
a log entry is a *ghost*: the answer of the sequential cache at that moment; nothing reads it, and
`Spec.LinearizedBy.legal`/`.complete` check it against `xstep` (`C07.step` and the reference count) and the real results.
-/
namespace Cppcms.C09
open Cppcms Cppcms.C07

def methodOf : XOp → Method
  | .cache (.fetch _ _) => .fetch
  | .cache (.store _ _ _ _ _ _ _) => .store
  | .cache (.rise _) => .rise
  | .cache (.remove _) => .remove
  | .cache .clear => .clear
  | .cache .stats => .stats
  | .addRef => .addRef
  | .delRef => .delRef

structure Thread where
  /-- operations not yet invoked -/
  todo : List XOp := []
  /-- the operation in flight -/
  cur : Option XOp := none
  /-- its remaining instructions -/
  code : List Instr := []
  /-- guard objects alive on this thread's stack, innermost first -/
  held : Held := []
  /-- fetch: the iterator `p` after a successful lookup -/
  ptr : Option Key := none
  /-- result produced so far -/
  ret : Option Ret := none
  /-- stamp of the invocation -/
  inv : Nat := 0
  /-- completed operations, newest first -/
  done : List Rec := []
deriving Repr

structure Config where
  s : XState
  threads : List Thread
  clock : Nat := 0
  /-- hook log, newest first -/
  log : List Lin := []
deriving Repr

/-- all threads idle, no lock held, empty log -/
def Config.init (s : XState) (progs : List (List XOp)) : Config :=
  { s := s, threads := progs.map fun p => { todo := p } }

/-- two guards cannot coexist on different threads -/
def conflict (a b : LockId × Mode) : Bool :=
  a.1 == b.1 && (a.2 == .exclusive || b.2 == .exclusive)

/-- `pthread_rwlock_rdlock/wrlock`, `pthread_mutex_lock` would return now -/
def canAcq (c : Config) (l : LockId) (m : Mode) : Bool :=
  c.threads.all fun th => th.held.all fun h => !conflict (l, m) h

def release (l : LockId) (h : Held) : Held := h.eraseP fun g => g.1 == l

def Config.put (c : Config) (t : Nat) (th : Thread) : Config :=
  { c with threads := c.threads.set t th, clock := c.clock + 1 }

/-- the hook callback: append the running operation to the global log -/
def Config.hook (c : Config) (t : Nat) (th : Thread) (op : XOp) : List Lin :=
  ⟨t, th.done.length, op, c.clock, (xstep c.s op).2⟩ :: c.log

/-- one atomic segment of thread `t` (its state `th`, running `op`, remaining code `rest`) -/
def execAct (c : Config) (t : Nat) (th : Thread) (op : XOp) (a : Action) (rest : List Instr) : Config :=
  match a, op with
  | .lookup, .cache (.fetch now k) =>
    let missed : Config :=
      { (c.put t { th with code := th.held.map fun h => .rel h.1, ret := some (.ok (.cache .miss)) })
        with log := c.hook t th op }
    match alookup k c.s.cache.primary with
    | none => missed
    | some cont =>
      if C07.Gen.fetchExpired cont.deadline now then missed
      else c.put t { th with code := rest, ptr := some k }
  | .splice, .cache (.fetch _ _) =>
    match th.ptr with
    | some p =>
      { (c.put t { th with code := rest }) with
        s := { c.s with cache := { c.s.cache with lru := p :: c.s.cache.lru.erase p } }, log := c.hook t th op }
    | none => c.put t { th with code := rest, ret := some .undefined }
  | .copyOut, .cache (.fetch _ _) =>
    let r : Ret := match th.ptr.bind fun p => alookup p c.s.cache.primary with
      | some cont => .ok (.cache (.hit cont.data cont.trigs cont.deadline cont.gen))
      | none => .undefined
    c.put t { th with code := rest, ret := some r }
  | .readStats, .cache .stats =>
    { (c.put t { th with code := rest, ret := some (.ok (.cache (.stats c.s.cache.size c.s.cache.trigCount))) })
      with log := c.hook t th op }
  | .body, .cache (.fetch _ _) => c.put t { th with code := rest, ret := some .undefined }
  | .body, .cache .stats => c.put t { th with code := rest, ret := some .undefined }
  | .body, op =>
    { (c.put t { th with code := rest, ret := some (.ok (xstep c.s op).2) })
      with s := (xstep c.s op).1, log := c.hook t th op }
  | _, _ => c.put t { th with code := rest, ret := some .undefined }

/-- one step of thread `t`; `none` = the thread cannot move (finished, or blocked on a lock) -/
def stepThread (c : Config) (t : Nat) : Option Config :=
  match c.threads[t]? with
  | none => none
  | some th =>
    match th.cur with
    | none =>
      match th.todo with
      | [] => none
      | op :: more =>
        some (c.put t { th with todo := more, cur := some op, code := Gen.prog (methodOf op),
                                ptr := none, ret := none, inv := c.clock })
    | some op =>
      match th.code with
      | [] =>
        some (c.put t { th with cur := none,
                                done := ⟨t, th.done.length, op, th.inv, some (c.clock, th.ret.getD .undefined)⟩ :: th.done })
      | .acq l m :: rest =>
        if canAcq c l m then some (c.put t { th with code := rest, held := (l, m) :: th.held }) else none
      | .rel l :: rest => some (c.put t { th with code := rest, held := release l th.held })
      | .act a :: rest => some (execAct c t th op a rest)

/-- the scheduler picks thread `t`; picking a thread that cannot move changes nothing -/
def sched1 (c : Config) (t : Nat) : Config := (stepThread c t).getD c

/-- a schedule is a list of thread ids -/
def run (c : Config) (sched : List Nat) : Config := sched.foldl sched1 c

/-- the history observable at a configuration: completed operations and those in flight -/
def pendingRec (t : Nat) (th : Thread) : List Rec :=
  match th.cur with
  | some op => [⟨t, th.done.length, op, th.inv, none⟩]
  | none => []

def threadRecs (t : Nat) (th : Thread) : List Rec := pendingRec t th ++ th.done

def recsFrom : Nat → List Thread → List Rec
  | _, [] => []
  | t, th :: ths => threadRecs t th ++ recsFrom (t + 1) ths

def Config.history (c : Config) : List Rec := recsFrom 0 c.threads

/-- the claimed linearization: the hook log in chronological order -/
def Config.order (c : Config) : List Lin := c.log.reverse

/-- where the cache operations append to the hook log (compared with `Gen.hooks` by
`Props.hooks_at_linearization_points`) -/
def linPoints : List Hook := [
  ⟨.fetch, 1, .lookup, [(.access, .shared)]⟩,
  ⟨.fetch, 2, .splice, [(.access, .shared), (.lru, .exclusive)]⟩,
  ⟨.store, 7, .body, [(.access, .exclusive)]⟩,
  ⟨.rise, 3, .body, [(.access, .exclusive)]⟩,
  ⟨.remove, 6, .body, [(.access, .exclusive)]⟩,
  ⟨.clear, 4, .body, [(.access, .exclusive)]⟩,
  ⟨.stats, 5, .readStats, [(.access, .shared)]⟩]

def Thread.finished (th : Thread) : Bool := th.cur.isNone && th.todo.isEmpty

def Config.allDone (c : Config) : Bool := c.threads.all Thread.finished

end Cppcms.C09
